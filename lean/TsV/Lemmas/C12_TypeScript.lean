import TsV.Lemmas.Lang.TypeScript
/-!
# C12, TypeScript: every custom-translated field type has its clause in the `ReviverFunc` /
`ReplacerFunc` footer
-/
namespace TsV.C12L.TypeScript
open TsV TsV.Lang TsV.Lang.TypeScript TsV.C12L TsV.C01R

def keys (m : CustomMap) : List Str := m.map (·.1)

/-- keys are never removed -/
def Sub (st st' : CustomMap) : Prop := ∀ x ∈ keys st, x ∈ keys st'

theorem Sub.refl (st : CustomMap) : Sub st st := fun _ h => h
theorem Sub.trans {a b c : CustomMap} (h1 : Sub a b) (h2 : Sub b c) : Sub a c := fun x hx => h2 x (h1 x hx)
theorem key_cmInsert (st : CustomMap) (k : Str) (v : List Str) : k ∈ keys (cmInsert st k v) :=
  List.mem_map.2 ⟨_, (mem_cmInsert k v (k, v) st).1, rfl⟩

theorem Sub.insert (st : CustomMap) (k : Str) (v : List Str) : Sub st (cmInsert st k v) := fun x hx => by
  obtain ⟨p, hp, rfl⟩ := List.mem_map.1 hx
  by_cases e : p.1 = k
  · exact e ▸ key_cmInsert st k v
  · exact List.mem_map.2 ⟨p, (mem_cmInsert k v p st).2.2 hp e, rfl⟩

theorem sub_run (evs : List Ev) (st : CustomMap) : Sub st (run st evs) :=
  Outcome.foldl_rel Sub.refl Sub.trans Ev.apply evs st fun e _ st => by cases e <;> exact Sub.insert st _ _

/-- the type of an `add` is a key from then on -/
theorem added_key {t k : Str} {evs : List Ev} (h : Ev.add t k ∈ evs) (st : CustomMap) : t ∈ keys (run st evs) := by
  obtain ⟨pre, post, rfl⟩ := List.append_of_mem h
  rw [run_append, run_cons]
  exact sub_run post _ t (key_cmInsert _ _ _)

theorem formatTypes_sub (cfg : Cfg) (gens : List Str) : ∀ (ts : List RustType) (st : CustomMap) (ss : List Str)
    (st' : CustomMap), formatTypes cfg gens ts st = .ok (ss, st') → Sub st st' :=
  fun ts => (formatTypes_threads cfg gens ts).along (sub_run _)

theorem formatTypes_indep (cfg : Cfg) (gens : List Str) : ∀ (ts : List RustType) (st : CustomMap) (ss : List Str)
    (st' : CustomMap), formatTypes cfg gens ts st = .ok (ss, st') →
    ∀ st2, ∃ st2', formatTypes cfg gens ts st2 = .ok (ss, st2') :=
  fun ts => (formatTypes_threads cfg gens ts).indep

theorem writeItems_spec (U : UnicodeOps) (cfg : Cfg) (its : List RustItem) (st : CustomMap) (text : Str)
    (st' : CustomMap) (h : writeItems U cfg its st = .ok (text, st')) :
    Sub st st' ∧ ∀ t ∈ its.flatMap (itemNeeds cfg), t ∈ keys st' := by
  rw [(writeItems_threads U cfg its).state h]
  refine ⟨sub_run _ st, fun t ht => ?_⟩
  obtain ⟨it, hit, hn⟩ := List.mem_flatMap.1 ht
  obtain ⟨k, hk⟩ := itemNeeds_added hn
  exact added_key (List.mem_flatMap.2 ⟨it, hit, hk⟩) st

/-- **helpersUsed (TypeScript)**: the custom-translated types the fields of the file are printed with -/
def used (cfg : Cfg) (d : ParsedData) : List Str := (itemsOf d).flatMap (itemNeeds cfg)

theorem used_custom (cfg : Cfg) (d : ParsedData) : ∀ t ∈ used cfg d, hasCustom t = true := by
  intro t ht
  simp only [used, List.mem_flatMap] at ht
  obtain ⟨it, _, hit⟩ := ht
  have hf : ∀ gens (f : RustField), t ∈ fieldNeeds cfg gens f → hasCustom t = true := by
    intro gens f h
    unfold fieldNeeds at h
    split at h
    · split at h
      · rename_i hc; simp only [List.mem_singleton] at h; rw [h]; exact hc
      · simp at h
    · simp at h
  cases it with
  | struct rs =>
    simp only [itemNeeds, List.mem_flatMap] at hit
    obtain ⟨f, _, h⟩ := hit
    exact hf _ f h
  | «enum» e =>
    simp only [itemNeeds] at hit
    cases hk : e.keys with
    | none => rw [hk] at hit; simp at hit
    | some k =>
      rw [hk] at hit
      simp only [List.mem_flatMap] at hit
      obtain ⟨v, _, h⟩ := hit
      cases v with
      | unit i c => simp [variantNeeds] at h
      | tuple i c ty => simp [variantNeeds] at h
      | anonymousStruct i c fs =>
        simp only [variantNeeds, List.mem_flatMap] at h
        obtain ⟨f, _, h⟩ := h
        exact hf _ f h
  | alias a => simp [itemNeeds] at hit
  | const c => simp [itemNeeds] at hit

theorem generate_spec (U : UnicodeOps) (cfg : Cfg) (d : ParsedData) (imports : Option Pipeline.ScopedCrateTypes)
    (st0 : CustomMap) (text : Str) (st : CustomMap) (h : generate U cfg d imports st0 = .ok (text, st)) :
    (∀ t ∈ used cfg d, t ∈ keys st) ∧ Sub st0 st ∧ ∃ pre, text = pre ++ endFile st := by
  obtain ⟨items, body, ho, hb, rfl⟩ := generate_ok h
  obtain ⟨hs, hn⟩ := writeItems_spec U cfg items st0 body st hb
  refine ⟨fun t ht => hn t ?_, hs, _, rfl⟩
  obtain ⟨it, hit, h⟩ := List.mem_flatMap.1 ht
  exact List.mem_flatMap.2 ⟨it, (generateOrder_perm d items ho).symm.subset hit, h⟩

/-- the clauses `end_file` puts into `ReviverFunc` / `ReplacerFunc` -/
def clauses (st : CustomMap) : List (Str × Str) :=
  st.filterMap fun (t, _) =>
    if t == s%"Uint8Array" then some (reviverUint8, replacerUint8)
    else if t == s%"Date" then some (reviverDate ((cmGet st s%"Date").getD []), replacerDate)
    else none

/-- the clause that handles values of the custom-translated type `t` -/
def clauseFor (st : CustomMap) (t : Str) : Str × Str :=
  if t == s%"Uint8Array" then (reviverUint8, replacerUint8)
  else (reviverDate ((cmGet st s%"Date").getD []), replacerDate)

/-- **helpersProvided (TypeScript)**: a key of the final map that has a custom translation gets its
clause, and the footer with both functions is written -/
theorem endFile_provides (st : CustomMap) (t : Str) (ht : t ∈ keys st) (hc : hasCustom t = true) :
    clauseFor st t ∈ clauses st ∧
    ∃ pre, endFile st = pre ++
      s%"export const ReviverFunc = (key: string, value: unknown): unknown => {\n    " ++
      Str.intercalate s%"\n    " ((clauses st).map (·.1)) ++
      s%"\n    return value;\n};\n\nexport const ReplacerFunc = (key: string, value: unknown): unknown => {\n    " ++
      Str.intercalate s%"\n    " ((clauses st).map (·.2)) ++ s%"\n    return value;\n};\n" := by
  constructor
  · simp only [keys, List.mem_map] at ht
    obtain ⟨⟨t', v⟩, hm, rfl⟩ := ht
    simp only [clauses, List.mem_filterMap]
    refine ⟨(t', v), hm, ?_⟩
    simp only [hasCustom, Bool.or_eq_true] at hc
    simp only [clauseFor]
    rcases hc with hc | hc
    · simp [hc]
    · by_cases h8 : (t' == s%"Uint8Array") = true
      · simp [h8]
      · simp [h8, hc]
  · cases st with
    | nil => cases ht
    | cons a b => exact ⟨_, rfl⟩

end TsV.C12L.TypeScript
