import TsV.Lemmas.C12_Scala
/-!
# C12_ScalaMapped, lemmas — which entries of `type_mappings` Scala's `format_type` can see

`Scala::format_special_type` does not look at the table (unlike TypeScript / Go / Python); the table is
consulted for the *names* of a type expression only — the id of a `Simple` and the head of a `Generic`.
`names t` collects them; `formatType_agree` / `unsignedIn_agree`: two tables that agree on `names t` give
the same text and the same "prints an unsigned alias" answer.  A tree without names (`names t = []`: built
from primitives, `Vec`, `Option`, `HashMap`, arrays, slices) is therefore printed the same under every table.
-/
namespace TsV.C12_ScalaMapped
open TsV TsV.Lang TsV.Lang.Scala TsV.C12L.Scala TsV.Outcome

mutual
  /-- the user-type names of a type expression: the only keys `format_type` looks up for it -/
  def names : RustType → List Str
    | .simple id => [id]
    | .generic id ps => id :: namesList ps
    | .vec t | .array t _ | .slice t | .option t => names t
    | .hashMap k v => names k ++ names v
    | .prim _ => []
  def namesList : List RustType → List Str
    | [] => []
    | t :: ts => names t ++ namesList ts
end

theorem mem_namesList {n : Str} : ∀ {ts : List RustType}, n ∈ namesList ts ↔ ∃ t ∈ ts, n ∈ names t := by
  intro ts
  induction ts with
  | nil => simp [namesList]
  | cons t ts ih => simp [namesList, ih]

theorem formatTypes_congr {cfg cfg' : Cfg} {gens gens' : List Str} : ∀ ts : List RustType,
    (∀ t ∈ ts, formatType cfg gens t = formatType cfg' gens' t) → formatTypes cfg gens ts = formatTypes cfg' gens' ts := by
  intro ts h
  induction ts with
  | nil => rfl
  | cons t ts ih =>
    show (formatType cfg gens t).bind _ = (formatType cfg' gens' t).bind _
    rw [h t List.mem_cons_self, ih fun t ht => h t (List.mem_cons_of_mem _ ht)]

theorem unsignedInList_congr {cfg cfg' : Cfg} : ∀ ts : List RustType,
    (∀ t ∈ ts, unsignedIn cfg t = unsignedIn cfg' t) → unsignedInList cfg ts = unsignedInList cfg' ts := by
  intro ts h
  rw [unsignedInList_eq_any, unsignedInList_eq_any]
  exact C12L.any_congr_mem h

theorem formatType_agree (cfg cfg' : Cfg) (gens gens' : List Str) (t : RustType) :
    (∀ n ∈ names t, mapGet cfg.typeMappings n = mapGet cfg'.typeMappings n) →
    formatType cfg gens t = formatType cfg' gens' t := by
  induction t using rustType_induct with
  | simple id =>
    intro h
    show Outcome.ok ((mapGet cfg.typeMappings id).getD id) = Outcome.ok ((mapGet cfg'.typeMappings id).getD id)
    rw [h id List.mem_cons_self]
  | generic id ps ih =>
    intro h
    rw [formatType, formatType, h id List.mem_cons_self, formatTypes_congr ps fun t ht =>
      ih t ht fun n hn => h n (List.mem_cons_of_mem _ (mem_namesList.2 ⟨t, ht, hn⟩))]
  | vec r ih | slice r ih | array r n ih | option r ih =>
    intro h
    show (formatType cfg gens r).bind _ = (formatType cfg' gens' r).bind _
    rw [ih h]
  | hashMap k v ihk ihv =>
    intro h
    show (formatType cfg gens k).bind _ = (formatType cfg' gens' k).bind _
    rw [ihk fun n hn => h n (List.mem_append_left _ hn), ihv fun n hn => h n (List.mem_append_right _ hn)]
  | prim p => intro _; cases p <;> rfl

theorem formatTypes_agree (cfg cfg' : Cfg) (gens gens' : List Str) : ∀ ts : List RustType,
    (∀ n ∈ namesList ts, mapGet cfg.typeMappings n = mapGet cfg'.typeMappings n) →
    formatTypes cfg gens ts = formatTypes cfg' gens' ts := fun ts h =>
  formatTypes_congr ts fun t ht => formatType_agree cfg cfg' gens gens' t fun n hn => h n (mem_namesList.2 ⟨t, ht, hn⟩)

theorem unsignedIn_agree (cfg cfg' : Cfg) (t : RustType) :
    (∀ n ∈ names t, mapGet cfg.typeMappings n = mapGet cfg'.typeMappings n) →
    unsignedIn cfg t = unsignedIn cfg' t := by
  induction t using rustType_induct with
  | simple id | prim p => intro _; rfl
  | generic id ps ih =>
    intro h
    show (if (mapGet cfg.typeMappings id).isSome then false else unsignedInList cfg ps) =
      if (mapGet cfg'.typeMappings id).isSome then false else unsignedInList cfg' ps
    rw [h id List.mem_cons_self, unsignedInList_congr ps fun t ht =>
      ih t ht fun n hn => h n (List.mem_cons_of_mem _ (mem_namesList.2 ⟨t, ht, hn⟩))]
  | vec r ih | slice r ih | array r n ih | option r ih => exact ih
  | hashMap k v ihk ihv =>
    intro h
    show (unsignedIn cfg k || unsignedIn cfg v) = (unsignedIn cfg' k || unsignedIn cfg' v)
    rw [ihk fun n hn => h n (List.mem_append_left _ hn), ihv fun n hn => h n (List.mem_append_right _ hn)]

theorem unsignedInList_agree (cfg cfg' : Cfg) : ∀ ts : List RustType,
    (∀ n ∈ namesList ts, mapGet cfg.typeMappings n = mapGet cfg'.typeMappings n) →
    unsignedInList cfg ts = unsignedInList cfg' ts := fun ts h =>
  unsignedInList_congr ts fun t ht => unsignedIn_agree cfg cfg' t fun n hn => h n (mem_namesList.2 ⟨t, ht, hn⟩)

/-- a tree without names: printing reaches an unsigned primitive iff the scan does, under every table -/
theorem unsignedIn_of_no_names (cfg : Cfg) (t : RustType) (h : names t = []) : unsignedIn cfg t = usesUnsigned t := by
  rw [usesUnsigned_eq_unsignedIn { typeMappings := [] } rfl t]
  exact unsignedIn_agree cfg _ t (by rw [h]; intro n hn; cases hn)

end TsV.C12_ScalaMapped
