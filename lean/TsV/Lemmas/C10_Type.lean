import TsV.Lemmas.C10_Scope
import TsV.Lemmas.C05_Langs
import TsV.Lemmas.C05_Struct
import TsV.Lemmas.RustTypes
/-!
# C10 — a printed type is a neutral, balanced piece: once, on `show L ∘ translate L`

Every bracket a type expression opens (`<…>`, `[…]`) is closed by the same clause of `show`, and
the leaves are names: identifiers from the source, entries of the primitive table, right-hand sides
of type mappings.  So the text is neutral for *any* lexer configuration `lx` in which the type
mappings are balanced, and the six `formatType_nb` are instances.
-/
namespace TsV.C05L
open TsV TsV.Lang TsV.C10Lex

/-- what a set of texts has to contain, and be closed under, for every printed type to be in it -/
structure TypeClosed (P : Str → Prop) : Prop where
  nil : P []
  append : ∀ {x y}, P x → P y → P (x ++ y)
  square : ∀ {x}, P x → P (s%"[" ++ x ++ s%"]")
  angle : ∀ {x}, P x → P (s%"<" ++ x ++ s%">")
  key : ∀ {s}, KeyStr s → P s
  nat : ∀ n, P (Str.natToStr n)
  mark : ∀ c ∈ [',', ' ', '?', '*', ':'], P [c]
  prim : ∀ L p n, primTarget L p = .ok n → P n

/-- the neutral pieces of any configuration of the lexer are such a set -/
theorem nb_closed (lx : LexCfg) : TypeClosed (NB lx) where
  nil := NB.nil
  append := NB.append
  square := NB.square
  angle := NB.angle
  key := KeyStr.nb
  nat := fun n => (natToStr_plain lx n).nb
  mark := fun c hc => by
    have table : ∀ a r : Bool, ∀ c ∈ [',', ' ', '?', '*', ':'], wellBracketed ⟨a, r⟩ [c] = true := by decide +kernel
    cases lx with | mk a r => exact nb_of_wb (table a r c hc)
  prim := fun L p n h => by
    have table : ∀ L ∈ allLangs, ∀ p ∈ allPrims, ∀ a r : Bool,
        (match primTarget L p with | .ok n => wellBracketed ⟨a, r⟩ n | _ => true) = true := by decide +kernel
    cases lx with | mk a r =>
    have hn := table L (mem_allLangs L) p (mem_allPrims p) a r
    rw [h] at hn
    exact nb_of_wb hn

section
variable {P : Str → Prop} (C : TypeClosed P)
include C

theorem TypeClosed.commaSep : P s%", " := C.append (C.mark ',' (by decide)) (C.mark ' ' (by decide))

theorem TypeClosed.br (L : TsV.Lang) {x : Str} (h : P x) : P (brOpen L ++ x ++ brClose L) := by
  cases L with
  | typescript | kotlin | swift => exact C.angle h
  | scala | go | python => exact C.square h

/-- an identifier and a bracketed piece behind it: `List<…>`, `Vector[…]`, `map[…]` -/
theorem TypeClosed.sq {n x : Str} (hn : IdentStr n) (h : P x) : P (n ++ (s%"[" ++ x ++ s%"]")) :=
  C.append (C.key hn.key) (C.square h)
theorem TypeClosed.an {n x : Str} (hn : IdentStr n) (h : P x) : P (n ++ (s%"<" ++ x ++ s%">")) :=
  C.append (C.key hn.key) (C.angle h)

theorem show_seq_closed (L : TsV.Lang) {x : TTy} (h : P («show» L x)) : P («show» L (.seq x)) := by
  cases L with
  | typescript => exact C.append h (C.square C.nil)
  | kotlin => exact C.an (n := s%"List") (by decide) h
  | swift => exact C.square h
  | scala => exact C.sq (n := s%"Vector") (by decide) h
  | go => exact C.append (C.square C.nil) h
  | python => exact C.sq (n := s%"List") (by decide) h

theorem show_fixedSeq_closed (L : TsV.Lang) {x : TTy} (n : Nat) (h : P («show» L x)) :
    P («show» L (.fixedSeq x n)) := by
  cases L with
  | typescript =>
    exact C.square (intercalate_closed C.nil (fun _ _ => C.append) _ C.commaSep _
      fun a ha => List.eq_of_mem_replicate ha ▸ h)
  | kotlin => exact C.an (n := s%"List") (by decide) h
  | swift => exact C.square h
  | scala => exact C.sq (n := s%"Vector") (by decide) h
  | go => exact C.append (C.square (C.nat n)) h
  | python => exact C.sq (n := s%"List") (by decide) h

theorem show_opt_closed (L : TsV.Lang) {x : TTy} (h : P («show» L x)) : P («show» L (.opt x)) := by
  cases L with
  | typescript => exact h
  | kotlin | swift => exact C.append h (C.mark '?' (by decide))
  | scala => exact C.sq (n := s%"Option") (by decide) h
  | go => exact C.append (C.mark '*' (by decide)) h
  | python => exact C.sq (n := s%"Optional") (by decide) h

theorem show_map_closed (L : TsV.Lang) {k v : TTy} (hk : P («show» L k)) (hv : P («show» L v)) :
    P («show» L (.map k v)) := by
  have kv : P («show» L k ++ s%", " ++ «show» L v) := C.append (C.append hk C.commaSep) hv
  cases L with
  | typescript => exact C.an (n := s%"Record") (by decide) kv
  | kotlin => exact C.an (n := s%"HashMap") (by decide) kv
  | swift => exact C.square (C.append (C.append hk (show P s%": " from
      C.append (C.mark ':' (by decide)) (C.mark ' ' (by decide)))) hv)
  | scala => exact C.sq (n := s%"Map") (by decide) kv
  | go => exact C.append (C.sq (n := s%"map") (by decide) hk) hv
  | python => exact C.sq (n := s%"Dict") (by decide) kv

end

/-- the configuration as `P` needs it: mapped names in `P`, the prefix an identifier fragment -/
structure TCfgIn (P : Str → Prop) (c : TCfg) : Prop where
  pfx : KeyStr c.pfx
  maps : ∀ {k m}, mapGet c.typeMappings k = some m → P m

section
variable {P : Str → Prop} (C : TypeClosed P) (L : TsV.Lang) {c : TCfg} (H : TCfgIn P c) (gens : List Str)
include C H

theorem userName_closed {id : Str} (h : KeyStr id) : P (userName L c gens id) := by
  unfold userName; split
  · exact C.key (H.pfx.append h)
  · exact C.key h

/-- **every text `show L ∘ translate L` produces is in `P`**, given that the names in the type are -/
theorem translate_closed (t : RustType) (ht : TypeOk t) (τ : TTy) (h : translate L c gens t = .ok τ) : P («show» L τ) :=
  translate_induct (motive := fun t τ => TypeOk t → P («show» L τ))
    (mapped := fun _ _ hm _ => let ⟨_, hk⟩ := lookup_mapGet hm; H.maps hk)
    (simple := fun id _ ht => by
      have hid : KeyStr id := ht id (by simp [typeNames])
      split
      · exact C.key hid
      · exact C.append (userName_closed C L H gens hid) C.nil)
    (generic := fun id ps args _ ih ht => by
      rw [show_user]
      refine C.append (userName_closed C L H gens (ht id (by simp [typeNames]))) ?_
      split
      · exact C.nil
      · refine C.br L (intercalate_closed C.nil (fun _ _ => C.append) _ C.commaSep _ fun x hx => ?_)
        rw [showAll_eq_map] at hx
        obtain ⟨a, ha, rfl⟩ := List.mem_map.1 hx
        obtain ⟨p, hp, hpa⟩ := ih.mem_right a ha
        exact hpa (ht.args p hp))
    (vec := fun _ _ _ ih ht => show_seq_closed C L (ih ht))
    (slice := fun _ _ _ ih ht => show_seq_closed C L (ih ht))
    (array := fun _ n _ _ ih ht => by
      split
      · exact show_fixedSeq_closed C L n (ih ht)
      · exact show_seq_closed C L (ih ht))
    (option := fun _ _ _ ih ht => by
      split
      · exact ih ht
      · exact show_opt_closed C L (ih ht))
    (hashMap := fun _ _ _ _ _ _ ihk ihv ht => show_map_closed C L (ihk fun n hn => ht n (by simp [typeNames, hn]))
      (ihv fun n hn => ht n (by simp [typeNames, hn])))
    (prim := fun p n _ hn _ => C.prim L p n hn) t τ h ht

/-- the reading for a printer that threads a state: its text is `show L` of what `translate L` returns -/
theorem text_closed {σ : Type} {x : Outcome (Str × σ)} {t : RustType} {s : Str} {st : σ} (ht : TypeOk t)
    (e : omap Prod.fst x = omap («show» L) (translate L c gens t)) (h : x = .ok (s, st)) : P s := by
  obtain ⟨τ, hτ, rfl⟩ := proj_ok e h
  exact translate_closed C L H gens t ht τ hτ

/-- … and for a pure one -/
theorem pure_closed {x : Outcome Str} {t : RustType} {s : Str} (ht : TypeOk t)
    (e : x = omap («show» L) (translate L c gens t)) (h : x = .ok s) : P s := by
  rw [e] at h
  cases hτ : translate L c gens t with
  | ok τ => rw [hτ] at h; exact Outcome.ok.inj h ▸ translate_closed C L H gens t ht τ hτ
  | err e => rw [hτ] at h; cases h
  | panic m => rw [hτ] at h; cases h

end

/-! ### the lexer of the five brace languages -/

/-- the configuration as the lexer `lx` needs it: mapped names balanced, the prefix an identifier fragment -/
structure TCfgOk (lx : LexCfg) (c : TCfg) : Prop where
  pfx : KeyStr c.pfx
  maps : ∀ p ∈ c.typeMappings, wellBracketed lx p.2 = true

theorem TCfgOk.in {lx : LexCfg} {c : TCfg} (H : TCfgOk lx c) : TCfgIn (NB lx) c := ⟨H.pfx, fun h => mapGet_nb H.maps h⟩

section
variable {lx : LexCfg} (L : TsV.Lang) {c : TCfg} (H : TCfgOk lx c) (gens : List Str)
include H

theorem text_nb {σ : Type} {x : Outcome (Str × σ)} {t : RustType} {s : Str} {st : σ} (ht : TypeOk t)
    (e : omap Prod.fst x = omap («show» L) (translate L c gens t)) (h : x = .ok (s, st)) : NB lx s :=
  text_closed (nb_closed lx) L H.in gens ht e h

theorem pure_nb {x : Outcome Str} {t : RustType} {s : Str} (ht : TypeOk t)
    (e : x = omap («show» L) (translate L c gens t)) (h : x = .ok s) : NB lx s :=
  pure_closed (nb_closed lx) L H.in gens ht e h

end
end TsV.C05L
