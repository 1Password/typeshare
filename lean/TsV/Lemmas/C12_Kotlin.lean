import TsV.Lemmas.C12_Common
import TsV.Lemmas.Lang.Kotlin
/-!
# C12, Kotlin: the two serialization annotations are imported by `begin_file` — which writes
nothing at all when no package is configured
-/
namespace TsV.C12L.Kotlin
open TsV TsV.Lang TsV.Lang.Kotlin TsV.C12L

def kSerializable : Str := s%"Serializable"
def kSerialName : Str := s%"SerialName"

/-- binding semantics: the annotation a constructor parameter carries -/
def paramUses (p : KtParam) : List Str := if p.serialName.isSome then [kSerialName] else []

/-- binding semantics: the kotlinx.serialization names a declaration's text mentions (`renderDecl`,
`renderParam`, `renderEntry`, `renderCase`).  (`@JvmInline` is `kotlin.jvm.JvmInline`, imported by
default on the JVM.) -/
def declUses : KtDecl → List Str
  | .typeAlias _ _ _ _ => []
  | .valueClass _ _ p _ => kSerializable :: paramUses p
  | .object _ _ => [kSerializable]
  | .dataClass _ _ _ ps _ => kSerializable :: ps.flatMap paramUses
  | .enumClass _ _ _ entries => kSerializable :: (if entries.isEmpty then [] else [kSerialName])
  | .sealedClass _ _ _ cases => kSerializable :: (if cases.isEmpty then [] else [kSerialName])

theorem paramUses_sub (p : KtParam) : ∀ n ∈ paramUses p, n = kSerialName := by
  intro n h
  unfold paramUses at h
  split at h
  · exact List.mem_singleton.1 h
  · cases h

theorem declUses_sub (d : KtDecl) : ∀ n ∈ declUses d, n = kSerializable ∨ n = kSerialName := by
  intro n hn
  cases d with
  | typeAlias => cases hn
  | object => exact .inl (List.mem_singleton.1 hn)
  | valueClass c nm p r => exact (List.mem_cons.1 hn).imp_right (paramUses_sub p n)
  | dataClass c nm g ps r =>
    refine (List.mem_cons.1 hn).imp_right fun h => ?_
    obtain ⟨p, _, hp⟩ := List.mem_flatMap.1 h
    exact paramUses_sub p n hp
  | enumClass | sealedClass =>
    refine (List.mem_cons.1 hn).imp_right fun h => ?_
    split at h
    · cases h
    · exact List.mem_singleton.1 h

/-- the two import lines of `begin_file` -/
def importLines : Str := s%"\nimport kotlinx.serialization.Serializable\nimport kotlinx.serialization.SerialName\n\n"

/-- **helpersProvided (Kotlin)** -/
def provided (cfg : Cfg) : List Str := if cfg.package.isEmpty then [] else [kSerializable, kSerialName]

/-- with a package the two import lines end the header -/
theorem beginFile_imports (cfg : Cfg) (d : ParsedData) (h : cfg.package.isEmpty = false) :
    importLines <:+ beginFile cfg d := by
  unfold beginFile
  simp only [h, Bool.false_eq_true, if_false]
  exact ⟨_, rfl⟩

theorem beginFile_empty (cfg : Cfg) (d : ParsedData) (h : cfg.package.isEmpty = true) : beginFile cfg d = [] := by
  simp [beginFile, h]

end TsV.C12L.Kotlin
