import TsV.Lemmas.C01_Backends
import TsV.Lemmas.C05_Langs
import TsV.Lemmas.Lang.Go
import TsV.Lemmas.Lang.Python
import TsV.Model.Lang.Go
import TsV.Model.Lang.Python
import TsV.Model.Lang.Swift
import TsV.Model.Lang.Kotlin
import TsV.Model.Lang.Scala
/-!
# C05_StateIndependence, lemmas — the text a printer returns does not depend on the printer state

A language value lives for a whole run; four of the six printers thread a state through every call
(`TypeScript`: the reviver / replacer registrations, `Python`: imports, `TypeVar`s and the custom-JSON
set, `Swift`: `should_emit_codable_void`, `Go`: the import set).  `txt` forgets the returned state;
`formatType_indep` (one per stateful back end: `TS.`, `Go.`, `Py.`, `Sw.`) says the rest (text, error kind, panic site) is the same from any two states: it is
the text of the pure translation (`TsV.Lemmas.C05_Langs`), in which no state occurs.
`travM` is the shape of every "loop over the fields, threading the state" of the models; `travM_get`
turns per-step independence into "element `i` of the loop's result is the step on field `i` alone".
-/
namespace TsV.C05_StateIndependence
open TsV TsV.Lang TsV.Outcome

theorem txt_eq_ok {α σ} {x : Outcome (α × σ)} {a : α} : txt x = .ok a ↔ ∃ s, x = .ok (a, s) := by
  rcases x with ⟨b, s⟩ | e | p
  · constructor
    · intro h; simp only [txt_ok, Outcome.ok.injEq] at h; exact ⟨s, by rw [h]⟩
    · rintro ⟨s', h⟩; cases h; rfl
  · simp [txt]
  · simp [txt]

theorem txt_eq_fst {α σ} (x : Outcome (α × σ)) : txt x = C05L.omap Prod.fst x := by
  rcases x with ⟨a, s⟩ | e | p <;> rfl

/-- the continuation of a `bind` may be run from any state when its text does not depend on it -/
theorem txt_bind_congr {α β σ τ} {x : Outcome (α × σ)} {x' : Outcome (α × σ)}
    {g g' : α × σ → Outcome (β × τ)}
    (hx : txt x = txt x') (hg : ∀ a s s', txt (g (a, s)) = txt (g' (a, s'))) :
    txt (x.bind g) = txt (x'.bind g') := by
  rcases x with ⟨a, s⟩ | e | p <;> rcases x' with ⟨a', s'⟩ | e' | p' <;> simp only [txt_ok, txt_err, txt_panic] at hx <;>
    first
    | (cases hx; exact hg _ _ _)
    | (cases hx; rfl)
    | cases hx

/-- close `txt (match x …) = txt (match x' …)` from `ih : txt x = txt x'` -/
macro "txt_cases " ih:ident " : " x:term " , " y:term : tactic =>
  `(tactic| (revert $ih:ident; generalize $x = x1; generalize $y = x2; intro ih';
             rcases x1 with ⟨a, s⟩ | e | p <;> rcases x2 with ⟨a', s'⟩ | e' | p' <;>
               simp only [txt_ok, txt_err, txt_panic] at ih' <;>
               first | (cases ih'; rfl) | cases ih'))

/-! ## the loop over a list, threading the state -/

/-- `for x in xs { out.push(step(x, &mut state)?) }` -/
def travM {α β σ} (step : α → σ → Outcome (β × σ)) : List α → σ → Outcome (List β × σ)
  | [], st => .ok ([], st)
  | a :: as, st =>
    (step a st).bind fun (b, st) =>
    (travM step as st).bind fun (bs, st) => .ok (b :: bs, st)

/-- a loop that the model writes out by recursion is `travM` of its step; for the model's functions both
equations hold by `rfl` -/
theorem thread_eq {α β σ : Type} {f : α → σ → Outcome (β × σ)} {fs : List α → σ → Outcome (List β × σ)}
    (nil_eq : ∀ st, fs [] st = .ok ([], st))
    (cons_eq : ∀ a as st, fs (a :: as) st = (f a st).bind fun p => (fs as p.2).bind fun q => .ok (p.1 :: q.1, q.2)) :
    ∀ l st, fs l st = travM f l st := by
  intro l
  induction l with
  | nil => exact nil_eq
  | cons a as ih => intro st; rw [cons_eq, travM]; exact bind_congr_ok fun p _ => by rw [ih]

/-- when the text of a step does not depend on the state, element `i` of the loop's result is the step
on element `i` alone, from any state `s0` one likes (in particular the initial one) -/
theorem travM_get {α β σ : Type} (step : α → σ → Outcome (β × σ))
    (hstep : ∀ a s s', txt (step a s) = txt (step a s')) (s0 : σ)
    {as : List α} {st st' : σ} {bs : List β} (h : travM step as st = .ok (bs, st')) :
    bs.length = as.length ∧
      ∀ (i : Nat) (h : i < as.length) (h' : i < bs.length), txt (step as[i] s0) = .ok bs[i] :=
  have r := (thread_forall₂ (f := step) h (fun _ => rfl) fun _ _ _ => rfl).imp
    (S := fun a b => txt (step a s0) = .ok b) fun a _ ⟨s, _, hb⟩ => by rw [hstep a s0 s, hb]; rfl
  ⟨r.length_eq.symm, r.get⟩

/-- the whole result list of the loop, as text, does not depend on the state either -/
theorem travM_indep {α β σ} (step : α → σ → Outcome (β × σ))
    (hstep : ∀ a s s', txt (step a s) = txt (step a s')) :
    ∀ (as : List α) (st st' : σ), txt (travM step as st) = txt (travM step as st') := by
  intro as
  induction as with
  | nil => intro _ _; rfl
  | cons a as ih =>
    intro st st'
    simp only [travM]
    refine txt_bind_congr (hstep a st st') ?_
    intro b s s'
    refine txt_bind_congr (ih s s') ?_
    intro bs t t'
    rfl

namespace TS
open TsV.Lang.TypeScript

theorem formatType_indep (cfg : Cfg) (gens : List Str) (t : RustType) (st st' : CustomMap) :
    txt (formatType cfg gens t st) = txt (formatType cfg gens t st') := by
  rw [txt_eq_fst, txt_eq_fst, C05L.ts_formatType, C05L.ts_formatType]

theorem formatTypes_indep (cfg : Cfg) (gens : List Str) : ∀ (ts : List RustType) (st st' : CustomMap),
      txt (formatTypes cfg gens ts st) = txt (formatTypes cfg gens ts st') := fun ts st st' => by
  rw [txt_eq_fst, txt_eq_fst, C05L.ts_formatTypes, C05L.ts_formatTypes]

theorem fieldFacts_indep (cfg : Cfg) (gens : List Str) (f : RustField) (st st' : CustomMap) :
    txt (fieldFacts cfg gens f st) = txt (fieldFacts cfg gens f st') :=
  (fieldFacts_threads cfg gens f).txt_eq st st'

theorem fieldsFacts_eq_travM (cfg : Cfg) (gens : List Str) : ∀ (fs : List RustField) (st : CustomMap),
    C01.TypeScript.fieldsFacts cfg gens fs st = travM (fieldFacts cfg gens) fs st :=
  thread_eq (fun _ => rfl) fun _ _ _ => rfl

/-- the items of a file are written one after the other, the state handed on -/
theorem writeItems_snoc (U : UnicodeOps) (cfg : Cfg) (it : RustItem) : ∀ (pre : List RustItem) (st : CustomMap),
    writeItems U cfg (pre ++ [it]) st =
      (writeItems U cfg pre st).bind fun (a, st) =>
      (writeItem U cfg it st).bind fun (b, st) => .ok (a ++ b, st) := by
  intro pre
  induction pre with
  | nil =>
    intro st
    refine (bind_congr_ok fun (b, s) _ => ?_ :
      writeItems U cfg [it] st = (writeItem U cfg it st).bind fun (b, st) => .ok (b, st))
    exact congrArg (fun a => Outcome.ok (a, s)) (List.append_nil b)
  | cons x pre ih =>
    intro st
    -- both sides run `writeItem x` first; after it, the induction hypothesis and associativity of `++`
    refine (bind_congr_ok fun (a, s) _ => ?_ :
      writeItems U cfg (x :: (pre ++ [it])) st = (writeItem U cfg x st).bind _).trans (bind_assoc _ _ _).symm
    dsimp only
    rw [ih s, bind_assoc, bind_assoc]
    refine bind_congr_ok fun (b, s') _ => ?_
    dsimp only
    rw [bind_assoc]
    refine bind_congr_ok fun (d, s'') _ => ?_
    exact congrArg (fun a => Outcome.ok (a, s'')) (List.append_assoc a b d).symm

end TS

namespace Go
open TsV.Lang.Go

theorem formatType_indep (cfg : Cfg) (t : RustType) (st st' : Imports) :
    txt (formatType cfg t st) = txt (formatType cfg t st') :=
  (TsV.C12L.Go.formatType_threads cfg t).txt_eq st st'

theorem formatTypes_indep (cfg : Cfg) : ∀ (ts : List RustType) (st st' : Imports),
      txt (formatTypes cfg ts st) = txt (formatTypes cfg ts st') :=
  fun ts => (TsV.C12L.Go.formatTypes_threads cfg ts).txt_eq

theorem fieldFacts_indep (U : UnicodeOps) (cfg : Cfg) (f : RustField) (st st' : Imports) :
    txt (fieldFacts U cfg f st) = txt (fieldFacts U cfg f st') :=
  (TsV.C12L.Go.fieldFacts_threads U cfg f).txt_eq st st'

theorem fieldsFacts_eq_travM (U : UnicodeOps) (cfg : Cfg) : ∀ (fs : List RustField) (st : Imports),
    fieldsFacts U cfg fs st = travM (fieldFacts U cfg) fs st :=
  thread_eq (fun _ => rfl) fun _ _ _ => rfl

end Go

namespace Py
open TsV.Lang.Python

theorem formatType_indep (cfg : Cfg) (gens : List Str) (t : RustType) (st st' : St) :
    txt (formatType cfg gens t st) = txt (formatType cfg gens t st') :=
  (TsV.C12L.Python.formatType_writes (G := fun _ => False) cfg gens t).txt_eq st st'

theorem formatTypes_indep (cfg : Cfg) (gens : List Str) : ∀ (ts : List RustType) (st st' : St),
      txt (formatTypes cfg gens ts st) = txt (formatTypes cfg gens ts st') :=
  fun ts => (TsV.C12L.Python.formatTypes_writes (G := fun _ => False) cfg gens ts).txt_eq

theorem fieldFacts_indep (E : Ext) (cfg : Cfg) (gens : List Str) (f : RustField) (st st' : St) :
    txt (fieldFacts E cfg gens f st) = txt (fieldFacts E cfg gens f st') :=
  (TsV.C12L.Python.fieldFacts_writes (G := fun _ => False) E cfg gens f).txt_eq st st'

theorem fieldsFacts_eq_travM (E : Ext) (cfg : Cfg) (gens : List Str) : ∀ (fs : List RustField) (st : St),
    fieldsFacts E cfg gens fs st = travM (fieldFacts E cfg gens) fs st :=
  thread_eq (fun _ => rfl) fun _ _ _ => rfl

end Py

namespace Sw
open TsV.Lang.Swift

theorem formatType_indep (cfg : Cfg) (gens : List Str) (t : RustType) (st st' : St) :
    txt (formatType cfg gens t st) = txt (formatType cfg gens t st') := by
  rw [txt_eq_fst, txt_eq_fst, C05L.sw_formatType, C05L.sw_formatType]

theorem formatTypes_indep (cfg : Cfg) (gens : List Str) : ∀ (ts : List RustType) (st st' : St),
      txt (formatTypes cfg gens ts st) = txt (formatTypes cfg gens ts st') := fun ts st st' => by
  rw [txt_eq_fst, txt_eq_fst, C05L.sw_formatTypes, C05L.sw_formatTypes]

theorem fieldType_indep (cfg : Cfg) (gens : List Str) (f : RustField) (st st' : St) :
    txt (fieldType cfg gens f st) = txt (fieldType cfg gens f st') := by
  unfold fieldType
  cases typeOverride f .swift with
  | some t => rfl
  | none => exact formatType_indep cfg gens f.ty st st'

/-- without an override the type text of a field is `formatType` of its type from the initial state -/
theorem fieldType_init (cfg : Cfg) (gens : List Str) (f : RustField) (hov : typeOverride f .swift = none)
    {s0 s2 : St} {ty : Str} (h : fieldType cfg gens f s0 = .ok (ty, s2)) :
    txt (formatType cfg gens f.ty false) = .ok ty := by
  unfold fieldType at h
  rw [hov] at h
  rw [formatType_indep cfg gens f.ty false s0, show formatType cfg gens f.ty s0 = _ from h]
  rfl

/-- one iteration of the first loop of `write_struct` -/
def propStep (cfg : Cfg) (gens : List Str) (f : RustField) (st : St) : Outcome (StoredProp × St) :=
  (fieldType cfg gens f st).bind fun (ty, st) =>
    .ok ({ comments := f.comments, name := memberName f, ty, optional := fieldOptional f }, st)

/-- one iteration of the second loop of `write_struct` -/
def paramStep (cfg : Cfg) (gens : List Str) (f : RustField) (st : St) : Outcome (InitParam × St) :=
  (fieldType cfg gens f st).bind fun (ty, st) =>
    .ok ({ label := removeDash f.id.renamed, ty, optional := fieldOptional f }, st)

theorem propStep_indep (cfg : Cfg) (gens : List Str) (f : RustField) (st st' : St) :
    txt (propStep cfg gens f st) = txt (propStep cfg gens f st') :=
  txt_bind_congr (fieldType_indep cfg gens f st st') (fun _ _ _ => rfl)

theorem paramStep_indep (cfg : Cfg) (gens : List Str) (f : RustField) (st st' : St) :
    txt (paramStep cfg gens f st) = txt (paramStep cfg gens f st') :=
  txt_bind_congr (fieldType_indep cfg gens f st st') (fun _ _ _ => rfl)

theorem storedProps_eq_travM (cfg : Cfg) (gens : List Str) : ∀ (fs : List RustField) (st : St),
    storedProps cfg gens fs st = travM (propStep cfg gens) fs st := by
  intro fs
  induction fs with
  | nil => intro st; rfl
  | cons f fs ih =>
    intro st
    simp only [storedProps, travM, propStep, ← ih]
    cases fieldType cfg gens f st <;> rfl

theorem initParams_eq_travM (cfg : Cfg) (gens : List Str) : ∀ (fs : List RustField) (st : St),
    initParams cfg gens fs st = travM (paramStep cfg gens) fs st := by
  intro fs
  induction fs with
  | nil => intro st; rfl
  | cons f fs ih =>
    intro st
    simp only [initParams, travM, paramStep, ← ih]
    cases fieldType cfg gens f st <;> rfl

end Sw

end TsV.C05_StateIndependence
