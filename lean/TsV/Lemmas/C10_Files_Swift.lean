import TsV.Lemmas.C10_Files_Common
import TsV.Lemmas.C10_Swift
import TsV.Lemmas.C03_Emission_Swift
/-!
# C10, whole files — Swift

Header comment, `import Foundation`, the declarations, the `CodableVoid` tail of a single-file run
and the `Codable.swift` file `post_generation` writes in multi-file mode.
-/
namespace TsV.C10Files.Sw
open TsV TsV.Lang TsV.C10Lex TsV.Lang.Swift TsV.C10Swift TsV.C03E TsV.C10Files

/-! ## decidable forms of the decorator scopes -/

/-- a generic parameter whose name and constraints are balanced strings -/
def gpWb (p : GenericParam) : Bool := wellBracketed W p.name && p.constraints.all (wellBracketed W)

theorem gpWb_ok {p : GenericParam} (h : gpWb p = true) : GPOk p := by
  simp only [gpWb, Bool.and_eq_true, List.all_eq_true] at h
  exact ⟨nb_of_wb h.1, fun c hc => nb_of_wb (h.2 c hc)⟩

/-- `DecorOk` as a boolean -/
def structDecorWb (U : UnicodeOps) (cfg : Cfg) (dm : DecoratorMap) (gens : List Str) : Bool :=
  (genericParams U cfg dm gens).all gpWb && (structConformances cfg dm).all (wellBracketed W)

theorem structDecorWb_ok {U : UnicodeOps} {cfg : Cfg} {dm : DecoratorMap} {gens : List Str}
    (h : structDecorWb U cfg dm gens = true) : DecorOk U cfg dm gens := by
  simp only [structDecorWb, Bool.and_eq_true, List.all_eq_true] at h
  exact ⟨fun p hp => gpWb_ok (h.1 p hp), fun c hc => nb_of_wb (h.2 c hc)⟩

/-- `EnumDecorOk` as a boolean -/
def enumDecorWb (U : UnicodeOps) (cfg : Cfg) (e : RustEnum) : Bool :=
  structDecorWb U cfg e.decorators e.genericTypes && (enumConformances cfg e).all (wellBracketed W)

theorem enumDecorWb_ok {U : UnicodeOps} {cfg : Cfg} {e : RustEnum} (h : enumDecorWb U cfg e = true) :
    EnumDecorOk U cfg e := by
  simp only [enumDecorWb, Bool.and_eq_true, List.all_eq_true] at h
  have := structDecorWb_ok h.1
  exact ⟨this.generics, this.structConf, fun c hc => nb_of_wb (h.2 c hc)⟩

/-- the decorators / generic constraints of an item give balanced lists -/
def itemDecorWb (U : UnicodeOps) (cfg : Cfg) : RustItem → Bool
  | .struct s => structDecorWb U cfg s.decorators s.genericTypes
  | .enum e => enumDecorWb U cfg e
  | _ => true

theorem writeItem_nb (U : UnicodeOps) {cfg : Cfg} (H : CfgOk cfg) (it : RustItem)
    (hs : ItemScope Lang.swift W DocsOk it) (hd : itemDecorWb U cfg it = true) (st : Swift.St) (text : Str)
    (st' : Swift.St) (h : writeItem U cfg it st = .ok (text, st')) : NB W text := by
  cases it with
  | struct s => exact writeStruct_nb U H s hs (structDecorWb_ok hd) st text st' h
  | «enum» e => exact writeEnum_nb U H e hs (enumDecorWb_ok hd) st text st' h
  | alias a => exact writeAlias_nb U H a hs st text st' h
  | const c => simp [writeItem] at h

/-- the settings that reach the text outside the declarations -/
structure FileOk (cfg : Cfg) : Prop where
  version : ∀ v, cfg.versionHeader = some v → Dotted v
  decorators : ∀ c ∈ cfg.defaultDecorators, wellBracketed W c = true
  voidConstraints : ∀ c ∈ cfg.codablevoidConstraints, wellBracketed W c = true

instance (cfg : Cfg) : Decidable (FileOk cfg) :=
  decidable_of_iff ((∀ v, cfg.versionHeader = some v → Dotted v) ∧
      (∀ c ∈ cfg.defaultDecorators, wellBracketed W c = true) ∧
      (∀ c ∈ cfg.codablevoidConstraints, wellBracketed W c = true))
    ⟨fun ⟨a, b, c⟩ => ⟨a, b, c⟩, fun h => ⟨h.version, h.decorators, h.voidConstraints⟩⟩

theorem beginFile_nb (cfg : Cfg) (hv : ∀ v, cfg.versionHeader = some v → Dotted v) : NB W (beginFile cfg) := by
  refine (Tr.h0 ?_).l.nb (by decide +kernel)
  split
  · rename_i v hv'
    exact Tr.l0.b (dotted_block v (hv v hv')) |>.l.nb (by decide +kernel)
  · exact NB.nil

theorem writeCodable_nb (cfg : Cfg) (hf : FileOk cfg) : NB W (writeCodable cfg) := by
  unfold writeCodable codableContents
  have hcod : NB W codable := Tr.l0.nb (by decide +kernel)
  have hdecs : ∀ c ∈ defaultDecorators cfg ++ cfg.codablevoidConstraints, NB W c := by
    intro c hc
    simp only [defaultDecorators, List.cons_append, List.mem_cons, List.mem_append] at hc
    rcases hc with rfl | hc | hc
    · exact hcod
    · exact nb_of_wb (hf.decorators c hc)
    · exact nb_of_wb (hf.voidConstraints c hc)
  refine Tr.l0.h (conformances_nb _ ?_) |>.l.l.nb (by decide +kernel)
  split
  · exact hdecs
  · intro c hc
    rcases List.mem_append.1 hc with hc | hc
    · exact hdecs c hc
    · simp only [List.mem_singleton] at hc; subst hc; exact hcod

theorem endFile_nb (cfg : Cfg) (hf : FileOk cfg) (multi : Bool) (st : Swift.St) : NB W (endFile cfg multi st) := by
  unfold endFile
  split
  · exact writeCodable_nb cfg hf
  · exact NB.nil

/-- the scope of one parsed item for the Swift back end -/
def ItemOk (U : UnicodeOps) (cfg : Cfg) (it : RustItem) : Prop :=
  ItemScope Lang.swift W DocsOk it ∧ itemDecorWb U cfg it = true

theorem generate_nb (U : UnicodeOps) {cfg : Cfg} (H : CfgOk cfg) (hf : FileOk cfg) (multi : Bool) (d : ParsedData)
    (hitems : ∀ it ∈ TsV.C12L.itemsOf d, ItemOk U cfg it) (st0 : Swift.St) (text : Str) (st : Swift.St)
    (h : generate U cfg multi d st0 = .ok (text, st)) : NB W text := by
  obtain ⟨items, blocks, ho, hth, rfl⟩ := TsV.C03E.Sw.generate_blocks U cfg multi d st0 text st h
  obtain ⟨hb, _⟩ := Threaded.inv (P := fun _ => True) (Q := NB W) hth trivial (fun it hit s b s' _ hw =>
    ⟨writeItem_nb U H it (hitems it (mem_of_generateOrder ho hit)).1 (hitems it (mem_of_generateOrder ho hit)).2 s b s' hw,
     trivial⟩)
  exact ((beginFile_nb cfg hf.version).append (NB.flatten _ hb)).append (endFile_nb cfg hf multi st)

def JobsOk (U : UnicodeOps) (cfg : Cfg) (jobs : List (Str × ParsedData × Option Pipeline.ScopedCrateTypes)) : Prop :=
  ∀ j ∈ jobs, ∀ it ∈ TsV.C12L.itemsOf j.2.1, ItemOk U cfg it

theorem generateFrom_nb (U : UnicodeOps) {cfg : Cfg} (H : CfgOk cfg) (hf : FileOk cfg) (multi : Bool) :
    ∀ (jobs : List (Str × ParsedData × Option Pipeline.ScopedCrateTypes)) (st0 : Swift.St), JobsOk U cfg jobs →
      ∀ outs st, generateFrom U cfg multi jobs st0 = .ok (outs, st) → ∀ o ∈ outs, NB W o.2 := by
  intro jobs
  induction jobs with
  | nil => intro _ _ outs st h; simp only [generateFrom] at h; cases h; simp
  | cons j rest ih =>
    obtain ⟨crate, d, imps⟩ := j
    intro st0 hj outs st h
    simp only [generateFrom] at h
    obtain ⟨text, st1, hg, h⟩ := Outcome.of_bind_pair_ok h
    obtain ⟨outs', st2, ho, h⟩ := Outcome.of_bind_pair_ok h
    cases h
    have hnb := generate_nb U H hf multi d (hj (crate, d, imps) (by simp)) st0 text st1 hg
    intro o hoo
    rcases List.mem_cons.1 hoo with rfl | hoo
    · exact hnb
    · exact ih st1 (fun j hjm => hj j (by simp [hjm])) outs' _ ho o hoo

/-- every file of a run, `Codable.swift` included -/
theorem generateAll_nb (E : Ext) {cfg : Cfg} (H : CfgOk cfg) (hf : FileOk cfg) (multi : Bool)
    (jobs : List (Str × ParsedData × Option Pipeline.ScopedCrateTypes)) (hj : JobsOk E.U cfg jobs)
    (outs : List (Str × Str)) (h : generateAll E cfg multi jobs = .ok outs) : ∀ o ∈ outs, NB W o.2 := by
  unfold generateAll at h
  obtain ⟨outs', st, hg, h⟩ := Outcome.of_bind_pair_ok h
  cases h
  intro o ho
  rcases List.mem_append.1 ho with ho | ho
  · exact generateFrom_nb E.U H hf multi jobs false hj outs' st hg o ho
  · unfold postGeneration at ho
    split at ho
    · simp only [List.mem_singleton] at ho; subst ho; exact writeCodable_nb cfg hf
    · simp at ho

end TsV.C10Files.Sw
