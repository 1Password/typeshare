import TsV.Model.Parser
import TsV.Lemmas.RustTypes
import TsV.Lemmas.ParserOk
/-!
# C04, source side: what "the Rust field is `Option<T>` or carries bare `serde(default)`" means,
and the proof that the parser model computes exactly that.

Specification (written independently of the parser model):

* `bareDefault attrs` — some attribute is a well-formed `serde(…)` list that has the *bare path*
  `default` among its arguments (any attribute position, merged with any other serde arguments;
  `default = "path"` is a name-value, not a bare path, and does not count).
* `isOptionSyn t` / `isDoubleOptionSyn t` — after erasing references and the eleven transparent
  smart pointers at the top of the written type, the type is `Option<_>` / `Option<Option<_>>`
  (the inner `Option` again looked at through references and smart pointers).
-/
namespace TsV.C04
open TsV TsV.Syn TsV.Parser TsV.RustTypes

def kDefault : Str := s%"default"

/-- the argument is the bare path `default` -/
def isBareDefaultArg : Meta → Bool
  | .path segs => segs == [kDefault]
  | _ => false

/-- the attribute is `#[serde(…, default, …)]` -/
def attrBareDefault (a : Attr) : Bool :=
  match a.val with
  | .list segs true args => segs == [kSerde] && args.any isBareDefaultArg
  | _ => false

/-- **the field carries the bare `serde(default)` attribute** -/
def bareDefault (attrs : List Attr) : Bool := attrs.any attrBareDefault

/-- the same, spelled as a proposition over the `syn::Meta` structure -/
theorem bareDefault_iff (attrs : List Attr) :
    bareDefault attrs = true ↔
      ∃ a ∈ attrs, ∃ args, a.val = .list [kSerde] true args ∧ Meta.path [kDefault] ∈ args := by
  simp only [bareDefault, List.any_eq_true]
  constructor
  · rintro ⟨a, ha, h⟩
    refine ⟨a, ha, ?_⟩
    unfold attrBareDefault at h
    split at h
    · rename_i segs args hv
      simp only [Bool.and_eq_true, beq_iff_eq, List.any_eq_true] at h
      obtain ⟨hs, m, hm, hb⟩ := h
      refine ⟨args, by rw [hv, hs], ?_⟩
      cases m with
      | path s =>
        simp only [isBareDefaultArg, beq_iff_eq] at hb
        subst hb; exact hm
      | nameValue s v => simp [isBareDefaultArg] at hb
      | list s p as => simp [isBareDefaultArg] at hb
    · simp at h
  · rintro ⟨a, ha, args, hv, hm⟩
    refine ⟨a, ha, ?_⟩
    unfold attrBareDefault
    rw [hv]
    simp only [beq_self_eq_true, Bool.true_and, List.any_eq_true]
    exact ⟨_, hm, by simp [isBareDefaultArg]⟩

mutual
  /-- erase references and transparent smart pointers (`Box<T>`, `Arc<T>`, … stand for their first
  type argument) at the top of a written type -/
  def peel : SynType → SynType
    | .reference e => peel e
    | .path q last args =>
      if smartPointers.contains last then peelHead (.path q last args) args else .path q last args
    | .tuple es => .tuple es
    | .array e n => .array e n
    | .slice e => .slice e
    | .other => .other
  def peelHead (dflt : SynType) : List SynType → SynType
    | [] => dflt
    | a :: _ => peel a
end

def kOption : Str := s%"Option"

/-- **the written type is `Option<_>`** (through references and smart pointers) -/
def isOptionSyn (t : SynType) : Bool :=
  match peel t with
  | .path _ last (_ :: _) => last == kOption
  | _ => false

/-- **the written type is `Option<Option<_>>`** -/
def isDoubleOptionSyn (t : SynType) : Bool :=
  match peel t with
  | .path _ last (a :: _) => last == kOption && isOptionSyn a
  | _ => false

/-- the type a field / payload / alias is generated from: the `serialized_as` string if present
(as `syn` parses it), else the written type -/
def effectiveType (E : Ext) (attrs : List Attr) (ty : SynType) : Option SynType :=
  match getSerializedAsType E attrs with
  | some s => E.parseType s
  | none => some ty

/-! ## `serde_default` is exactly `bareDefault` -/

theorem hasPathArg_serde_default (a : Attr) :
    hasPathArg a kSerde s%"default" = attrBareDefault a := by
  unfold hasPathArg getMetaItems attrBareDefault
  cases hv : a.val with
  | path s => simp
  | nameValue s v => simp
  | list segs parsed args =>
    cases parsed with
    | false => simp
    | true =>
      by_cases hs : (segs == [kSerde]) = true
      · simp only [hs, if_true, Bool.true_and]
        congr 1
      · simp only [hs, Bool.false_eq_true, if_false, List.any_nil]
        simp

/-- **`Parser.serdeDefault` (model of `serde_default` in parser.rs) is the specification** -/
theorem serdeDefault_eq (attrs : List Attr) : serdeDefault attrs = bareDefault attrs := by
  unfold serdeDefault serdeAttr bareDefault
  congr 1
  funext a
  exact hasPathArg_serde_default a

/-! ## transparency of references and smart pointers in `RustType::try_from` -/

/-- `Box<X>` (… `RwLock<X>`) parses to exactly what `X` parses to -/
theorem tryFrom_smart (q : List Str) (sp : Str) (h : sp ∈ smartPointers) (a : SynType) :
    tryFrom (.path q sp [a]) = tryFrom a := by
  simp only [tryFrom, tryFromList]
  cases tryFrom a with
  | ok p => simp [fromPath_smartPointer (List.contains_iff_mem.2 h)]
  | err e => rfl
  | panic s => rfl

/-- e.g. `Box<Option<T>>` and `Option<T>` are the same `RustType` -/
theorem tryFrom_box_option (t : SynType) :
    tryFrom (.path [] s%"Box" [.path [] s%"Option" [t]]) = tryFrom (.path [] s%"Option" [t]) :=
  tryFrom_smart [] _ (by decide) _

/-- a non-empty list of parsed arguments comes from a non-empty list of written ones -/
theorem tryFromList_ok_cons {args : List SynType} {p : RustType} {rest : List RustType}
    (h : tryFromList args = .ok (p :: rest)) :
    ∃ a as, args = a :: as ∧ tryFrom a = .ok p ∧ tryFromList as = .ok rest := by
  cases args with
  | nil => cases h
  | cons a as =>
    rw [tryFromList_cons_eq] at h
    obtain ⟨p', hp, h⟩ := Outcome.of_bind_ok h
    obtain ⟨rest', hr, h⟩ := Outcome.of_bind_ok h
    cases h
    exact ⟨a, as, rfl, hp, hr⟩

theorem tryFromList_nil_ok {ps : List RustType} (h : tryFromList [] = .ok ps) : ps = [] := by
  cases h; rfl

/-- for the `Option` at the top of the result: made by the `Option` arm, passed through by the
smart-pointer arm, absent otherwise -/
theorem fromPath_cases (id : Str) (ps : List RustType) (r : RustType) (h : fromPath id ps = .ok r) :
    (id = kOption ∧ ∃ p rest, ps = p :: rest ∧ r = .option p) ∨
    (id ∈ smartPointers ∧ ∃ p rest, ps = p :: rest ∧ r = p) ∨
    (id ≠ kOption ∧ id ∉ smartPointers ∧ r.isOptional = false) := by
  rcases fromPath_arms id ps with he | ⟨r', hr, arms⟩
  · rw [he] at h; cases h
  cases h.symm.trans hr
  rcases arms with ⟨rfl, _, _, _, rfl⟩ | hopt | ⟨rfl, _, _, _, _, rfl⟩ | hsp | ⟨hno, hns, hr⟩
  · exact .inr (.inr ⟨by decide +kernel, by decide +kernel, rfl⟩)
  · exact .inl hopt
  · exact .inr (.inr ⟨by decide +kernel, by decide +kernel, rfl⟩)
  · exact .inr (.inl hsp)
  · refine .inr (.inr ⟨hno, hns, ?_⟩)
    rcases hr with ⟨_, _, rfl⟩ | rfl | rfl <;> rfl

theorem peel_reference (e : SynType) : peel (.reference e) = peel e := by rw [peel]

theorem peel_path_not_smart (q : List Str) (last : Str) (args : List SynType)
    (h : last ∉ smartPointers) : peel (.path q last args) = .path q last args := by
  simp [peel, h]

theorem peel_path_smart (q : List Str) (last : Str) (a : SynType) (as : List SynType)
    (h : last ∈ smartPointers) : peel (.path q last (a :: as)) = peel a := by
  simp [peel, peelHead, h]

theorem isOptionSyn_reference (e : SynType) : isOptionSyn (.reference e) = isOptionSyn e := by
  rw [isOptionSyn, peel_reference, ← isOptionSyn]

theorem isDoubleOptionSyn_reference (e : SynType) :
    isDoubleOptionSyn (.reference e) = isDoubleOptionSyn e := by
  rw [isDoubleOptionSyn, peel_reference, ← isDoubleOptionSyn]

/-- a type whose top, through references and smart pointers, is not a path is no `Option<_>` -/
theorem isOptionSyn_of_peel {t : SynType} (h : ∀ q last args, peel t ≠ .path q last args) :
    isOptionSyn t = false := by
  unfold isOptionSyn
  split
  · exact absurd ‹_› (h _ _ _)
  · rfl

/-- **what the written type says about an `Option` at the top of the parsed type**: through
references and smart pointers it is `Option<a, …>`, and the parsed type is `Option` of what `a`
parses to; or it is not, and the parsed type is no `Option` -/
theorem tryFrom_option : ∀ (t : SynType) (r : RustType), tryFrom t = .ok r →
    (∃ q a as p, peel t = .path q kOption (a :: as) ∧ r = .option p ∧ tryFrom a = .ok p) ∨
    (isOptionSyn t = false ∧ r.isOptional = false) := by
  intro t
  induction t using SynType.rec (motive_2 := fun l => ∀ a ∈ l, ∀ r, tryFrom a = .ok r →
    (∃ q b bs p, peel a = .path q kOption (b :: bs) ∧ r = .option p ∧ tryFrom b = .ok p) ∨
    (isOptionSyn a = false ∧ r.isOptional = false)) with
  | reference e ih =>
    intro r h
    rw [tryFrom_reference] at h
    rw [peel_reference, isOptionSyn_reference]
    exact ih r h
  | path q last args ih =>
    intro r h
    rw [tryFrom_path_eq] at h
    obtain ⟨ps, hl, h⟩ := Outcome.of_bind_ok h
    rcases fromPath_cases last ps r h with ⟨rfl, p, rest, rfl, rfl⟩ | ⟨hsp, p, rest, rfl, rfl⟩ | ⟨hno, hns, hr⟩
    · obtain ⟨a, as, rfl, ha, _⟩ := tryFromList_ok_cons hl
      exact Or.inl ⟨q, a, as, p, peel_path_not_smart _ _ _ (by decide), rfl, ha⟩
    · obtain ⟨a, as, rfl, ha, _⟩ := tryFromList_ok_cons hl
      rw [isOptionSyn, peel_path_smart _ _ _ _ hsp, ← isOptionSyn]
      exact ih a (List.mem_cons_self ..) r ha
    · refine Or.inr ⟨?_, hr⟩
      rw [isOptionSyn, peel_path_not_smart _ _ _ hns]
      cases args with
      | nil => rfl
      | cons a as => exact beq_eq_false_iff_ne.2 hno
  | tuple es _ =>
    intro r h
    refine Or.inr ⟨isOptionSyn_of_peel (by simp [peel]), ?_⟩
    cases es with
    | nil => cases h; rfl
    | cons e es => simp [tryFrom] at h
  | array e n _ =>
    intro r h
    refine Or.inr ⟨isOptionSyn_of_peel (by simp [peel]), ?_⟩
    cases n with
    | none => rw [tryFrom_array_none] at h; cases h
    | some n =>
      rw [tryFrom_array_some] at h
      obtain ⟨t, _, h⟩ := Outcome.of_bind_ok h
      split at h
      · cases h; rfl
      · cases h
  | slice e _ =>
    intro r h
    refine Or.inr ⟨isOptionSyn_of_peel (by simp [peel]), ?_⟩
    rw [tryFrom_slice_eq] at h
    obtain ⟨t, _, h⟩ := Outcome.of_bind_ok h
    cases h
    rfl
  | other => intro r h; simp [tryFrom] at h
  | nil => rename_i ha _ _; cases ha
  | cons t ts iht ihts =>
    rename_i a ha r h
    rcases List.mem_cons.1 ha with rfl | ha
    · exact iht r h
    · exact ihts a ha r h

/-- **`RustType::is_optional` of the parsed type ⇔ the written type is `Option<_>` after
references and smart pointers are erased** -/
theorem isOptional_spec (t : SynType) (r : RustType) (h : tryFrom t = .ok r) :
    r.isOptional = isOptionSyn t := by
  rcases tryFrom_option t r h with ⟨q, a, as, p, hp, rfl, _⟩ | ⟨h1, h2⟩
  · rw [isOptionSyn, hp]; rfl
  · rw [h1, h2]

/-- `Option<Option<_>>` is in particular `Option<_>` -/
theorem isOptionSyn_of_double {t : SynType} (h : isOptionSyn t = false) : isDoubleOptionSyn t = false := by
  unfold isOptionSyn at h
  unfold isDoubleOptionSyn
  split
  · rename_i q last a as heq
    rw [heq] at h
    have h' : (last == kOption) = false := h
    rw [h']; rfl
  · rfl

/-- **`RustType::is_double_optional` ⇔ the written type is `Option<Option<_>>`** -/
theorem isDoubleOptional_spec (t : SynType) (r : RustType) (h : tryFrom t = .ok r) :
    r.isDoubleOptional = isDoubleOptionSyn t := by
  rcases tryFrom_option t r h with ⟨q, a, as, p, hp, rfl, ha⟩ | ⟨h1, h2⟩
  · have hd : (RustType.option p).isDoubleOptional = p.isOptional := by cases p <;> rfl
    rw [hd, isOptional_spec a p ha, isDoubleOptionSyn, hp]
    show isOptionSyn a = (kOption == kOption && isOptionSyn a)
    rw [beq_self_eq_true, Bool.true_and]
  · rw [isOptionSyn_of_double h1]
    cases r <;> first | rfl | cases h2

/-! ## the parser's fields, payloads and aliases -/

/-- every type the parser attaches to a field, a newtype payload, a newtype struct or an alias
comes from `fieldType`, i.e. from `try_from` of the effective type -/
theorem fieldType_spec (E : Ext) (attrs : List Attr) (ty : SynType) (r : RustType)
    (h : fieldType E attrs ty = .ok r) :
    ∃ t, effectiveType E attrs ty = some t ∧ tryFrom t = .ok r := by
  unfold effectiveType
  rcases fieldType_ok h with ⟨hs, ht⟩ | ⟨s, t, hs, hp, ht⟩ <;> rw [hs]
  · exact ⟨ty, rfl, ht⟩
  · exact ⟨t, hp, ht⟩

/-- `type X = …`: the alias' type comes from `fieldType` -/
theorem parseTypeAlias_ok {E : Ext} {attrs : List Attr} {ident : Str} {gens : List GenericParam}
    {ty : SynType} {it : RustItem} (h : parseTypeAlias E attrs ident gens ty = .ok it) :
    ∃ a, it = .alias a ∧ fieldType E attrs ty = .ok a.ty := by
  obtain ⟨t, ht, h⟩ := Parser.parseTypeAlias_ok h
  obtain ⟨a, ha, _, rfl, _⟩ := mkAlias_ok h
  exact ⟨a, ha, ht⟩

/-- newtype struct `struct X(T);`: an alias whose type comes from `fieldType` of the one field -/
theorem parseStruct_newtype_ok {E : Ext} {tos : List Str} {attrs : List Attr} {ident : Str}
    {gens : List GenericParam} {f : Field} {it : RustItem}
    (hs : getSerializedAsType E attrs = none)
    (h : parseStruct E tos attrs ident gens (.unnamed [f]) = .ok it) :
    ∃ a, it = .alias a ∧ fieldType E f.attrs f.ty = .ok a.ty := by
  cases parseStruct_ok h with
  | serializedAs hs' => cases hs'.symm.trans hs
  | newtype _ ht h =>
    obtain ⟨a, ha, _, rfl, _⟩ := mkAlias_ok h
    exact ⟨a, ha, ht⟩

/-- newtype variant `V(T)`: the payload type comes from `fieldType` of the one field (its
attributes other than `serialized_as` — e.g. `serde(default)` — are not looked at) -/
theorem parseEnumVariant_newtype_ok {E : Ext} {tos : List Str} {ra : Option Str} {attrs : List Attr}
    {ident : Str} {f : Field} {rv : RustEnumVariant}
    (h : parseEnumVariant E tos ra ⟨attrs, ident, .unnamed [f]⟩ = .ok rv) :
    ∃ id cs ty, rv = .tuple id cs ty ∧ fieldType E f.attrs f.ty = .ok ty := by
  cases (parseEnumVariant_ok h).2 with
  | unit hf => cases hf
  | tuple hf ht => cases hf; exact ⟨_, _, _, rfl, ht⟩
  | named hf => cases hf

end TsV.C04
