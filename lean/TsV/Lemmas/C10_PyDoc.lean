import TsV.Model.Lang.Python
/-!
# C10, Python docstrings: the written doc text contains no backslash sequence other than `\\` and `\"`

Since the `fix:` commit af54d85 `write_comments` doubles every backslash of a doc line before it
escapes `"""`.  In a non-raw Python string literal `\x`, `\u`, `\U`, `\N` start escapes that are
errors unless the right number of hex digits / a character name follows, so doc text such as
`see C:\Users\x` made the module uncompilable (finding `python-docstring-escape`).  `pyEscapesOk`
is the specification of "no such sequence"; doubling the backslashes pairs them (`pairedBs_escapeBackslashes`),
and escaping `"""` in a text with paired backslashes leaves only the two valid escapes (`escapesOk_quotes`).
-/
namespace TsV.C10PyDoc
open TsV TsV.Lang

/-- reading left to right, every backslash is followed by a backslash or a `"` (the two escapes the
docstring writer produces; both are valid in a non-raw string literal) -/
def pyEscapesOk : Str → Bool
  | [] => true
  | [c] => c != '\\'
  | c :: d :: r => if c = '\\' then (d = '\\' || d = '"') && pyEscapesOk r else pyEscapesOk (d :: r)

/-- reading left to right, backslashes come in pairs -/
def pairedBs : Str → Bool
  | [] => true
  | [c] => c != '\\'
  | c :: d :: r => if c = '\\' then d = '\\' && pairedBs r else pairedBs (d :: r)

theorem pairedBs_ne (c : Char) (r : Str) (h : c ≠ '\\') : pairedBs (c :: r) = pairedBs r := by
  cases r <;> simp [pairedBs, h]
theorem pairedBs_bs (d : Char) (r : Str) : pairedBs ('\\' :: d :: r) = (decide (d = '\\') && pairedBs r) := by
  simp [pairedBs]
theorem pairedBs_bs_nil : pairedBs ['\\'] = false := by
  simp [pairedBs]
theorem escapesOk_ne (c : Char) (r : Str) (h : c ≠ '\\') : pyEscapesOk (c :: r) = pyEscapesOk r := by
  cases r <;> simp [pyEscapesOk, h]
theorem escapesOk_bs (d : Char) (r : Str) :
    pyEscapesOk ('\\' :: d :: r) = ((decide (d = '\\') || decide (d = '"')) && pyEscapesOk r) := by
  simp [pyEscapesOk]

theorem pairedBs_escapeBackslashes (s : Str) : pairedBs (Python.escapeBackslashes s) = true := by
  induction s with
  | nil => rfl
  | cons c r ih =>
    simp only [Python.escapeBackslashes, Str.replaceChar, List.flatMap_cons] at ih ⊢
    by_cases hc : c = '\\'
    · subst hc; simpa [pairedBs_bs] using ih
    · simpa [hc, pairedBs_ne] using ih

/-- `escapeQuotes` copies a character that does not start a `"""` -/
theorem escapeQuotes_cons (x : Char) (t : Str) (h : ∀ r, ¬ (x = '"' ∧ t = '"' :: '"' :: r)) :
    Python.escapeQuotes (x :: t) = x :: Python.escapeQuotes t := by
  match t with
  | [] => simp [Python.escapeQuotes]
  | [a] => simp [Python.escapeQuotes]
  | a :: b :: r =>
    simp only [Python.escapeQuotes]
    split
    · rename_i hq
      exact absurd ⟨hq.1, by rw [hq.2.1, hq.2.2]⟩ (h r)
    · rfl

theorem escapesOk_quotes : ∀ (n : Nat) (s : Str), s.length ≤ n → pairedBs s = true →
    pyEscapesOk (Python.escapeQuotes s) = true := by
  intro n
  induction n with
  | zero =>
    intro s h _
    cases s with
    | nil => simp [Python.escapeQuotes, pyEscapesOk]
    | cons c t => simp at h
  | succ n ih =>
    intro s hl hp
    match s with
    | [] => simp [Python.escapeQuotes, pyEscapesOk]
    | x :: t =>
      by_cases h3 : ∃ r, x = '"' ∧ t = '"' :: '"' :: r
      · obtain ⟨r, rfl, rfl⟩ := h3
        have hr : r.length ≤ n := by simp at hl; omega
        have hpr : pairedBs r = true := by simpa [pairedBs_ne] using hp
        simpa [Python.escapeQuotes, escapesOk_bs] using ih r hr hpr
      · rw [escapeQuotes_cons x t (fun r hr => h3 ⟨r, hr⟩)]
        have ht : t.length ≤ n := by simp at hl; omega
        by_cases hb : x = '\\'
        · subst hb
          match t with
          | [] => simp [pairedBs_bs_nil] at hp
          | d :: r =>
            simp only [pairedBs_bs, Bool.and_eq_true, decide_eq_true_eq] at hp
            obtain ⟨rfl, hpr⟩ := hp
            rw [escapeQuotes_cons '\\' r (fun r' hr => by simp at hr)]
            have hr : r.length ≤ n := by simp at ht; omega
            simpa [escapesOk_bs] using ih r hr hpr
        · have hpt : pairedBs t = true := by simpa [pairedBs_ne _ _ hb] using hp
          simpa [escapesOk_ne _ _ hb] using ih t ht hpt

end TsV.C10PyDoc
