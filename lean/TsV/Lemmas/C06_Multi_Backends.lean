import TsV.Lemmas.Run
import TsV.Lemmas.Outcome
/-!
# The six back ends read a job only through `jobView`

Every `generateAll` looks at the four item lists (through `Pipeline.generateOrder` or directly), at
`crateName` / `multiFile` (Kotlin's package line) and at the scoped imports; never at the hash sets
`importTypes` / `typeNames`, the recorded errors or the file name.  So two job lists with the same `jobView`s
produce the same output.
-/
namespace TsV.C06M
open TsV TsV.Pipeline TsV.C03E

/-- forget what no back end reads -/
def normD (d : ParsedData) : ParsedData :=
  { structs := d.structs, enums := d.enums, aliases := d.aliases, consts := d.consts,
    crateName := d.crateName, fileName := d.fileName, multiFile := d.multiFile }

def normJob (j : Job) : Job := (j.1, normD j.2.1, j.2.2)

/-- rebuild a (normalised) job from its view -/
def unview (v : Str × List RustStruct × List RustEnum × List RustTypeAlias × List RustConst ×
    Str × Str × Bool × Option ScopedCrateTypes) : Job :=
  (v.1, { structs := v.2.1, enums := v.2.2.1, aliases := v.2.2.2.1, consts := v.2.2.2.2.1,
          crateName := v.2.2.2.2.2.1, fileName := v.2.2.2.2.2.2.1, multiFile := v.2.2.2.2.2.2.2.1 },
   v.2.2.2.2.2.2.2.2)

theorem normJob_eq (j : Job) : normJob j = unview (jobView j) := rfl

theorem map_normJob_congr {jobs jobs' : List Job} (h : jobs.map jobView = jobs'.map jobView) :
    jobs.map normJob = jobs'.map normJob := by
  have : normJob = unview ∘ jobView := funext normJob_eq
  rw [this, ← List.map_map, ← List.map_map, h]

/-! The `generateFrom` of a back end is one `generate` per job; in TypeScript, Go and Python the printer
state is handed from job to job (`threaded_norm`), in Kotlin and Scala there is none (`plain_norm`).  For the
model's functions both defining equations hold by `rfl`. -/

theorem threaded_norm {σ : Type} {step : Job → σ → Outcome (Str × σ)}
    {run : List Job → σ → Outcome (List (Str × Str))}
    (cons : ∀ j rest st, run (j :: rest) st =
      (step j st).bind fun (text, st) => (run rest st).bind fun outs => .ok ((j.1, text) :: outs))
    (hs : ∀ j st, step (normJob j) st = step j st) :
    ∀ (jobs : List Job) (st : σ), run (jobs.map normJob) st = run jobs st := by
  intro jobs
  induction jobs with
  | nil => intro _; rfl
  | cons j rest ih =>
    intro st
    rw [List.map_cons, cons, cons, hs]
    exact Outcome.bind_congr_ok fun (text, st1) _ => by
      show (run (rest.map normJob) st1).bind _ = _
      rw [ih st1]; rfl

theorem plain_norm {step : Job → Outcome Str} {run : List Job → Outcome (List (Str × Str))}
    (cons : ∀ j rest, run (j :: rest) =
      (step j).bind fun text => (run rest).bind fun outs => .ok ((j.1, text) :: outs))
    (hs : ∀ j, step (normJob j) = step j) : ∀ jobs : List Job, run (jobs.map normJob) = run jobs := by
  intro jobs
  induction jobs with
  | nil => rfl
  | cons j rest ih => rw [List.map_cons, cons, cons, hs, ih]; rfl

theorem sw_norm (U : UnicodeOps) (cfg : Lang.Swift.Cfg) (mf : Bool) : ∀ (jobs : List Job) (st : Lang.Swift.St),
    Lang.Swift.generateFrom U cfg mf (jobs.map normJob) st = Lang.Swift.generateFrom U cfg mf jobs st := by
  intro jobs
  induction jobs with
  | nil => intro _; rfl
  | cons j rest ih =>
    intro st
    obtain ⟨c, d, i⟩ := j
    simp only [List.map_cons, normJob, Lang.Swift.generateFrom]
    have : Lang.Swift.generate U cfg mf (normD d) st = Lang.Swift.generate U cfg mf d st := by rfl
    rw [this]
    congr 1; funext x
    rw [ih]

theorem genAll_norm (E : Ext) (lang : Generate.LangCfg) (mf : Bool) (jobs : List Job) :
    genAll E lang mf (jobs.map normJob) = genAll E lang mf jobs := by
  -- `by rfl` for the step: the term `rfl` has type `a = a`, and matching that with the hypothesis unfolds
  -- `generate` a second time
  cases lang with
  | typescript cfg =>
    exact threaded_norm (step := fun j => Lang.TypeScript.generate E.U cfg j.2.1 j.2.2) (fun _ _ _ => rfl)
      (by intros; rfl) jobs []
  | kotlin cfg =>
    exact plain_norm (step := fun j => Lang.Kotlin.generate cfg j.2.1 j.2.2) (fun _ _ => rfl) (by intros; rfl) jobs
  | swift cfg => simp only [genAll, Lang.Swift.generateAll, sw_norm]
  | scala cfg => exact plain_norm (step := fun j => Lang.Scala.generate cfg j.2.1) (fun _ _ => rfl) (by intros; rfl) jobs
  | go cfg =>
    exact threaded_norm (step := fun j => Lang.Go.generate E.U cfg j.2.1) (fun _ _ _ => rfl) (by intros; rfl) jobs []
  | python cfg =>
    exact threaded_norm (step := fun j => Lang.Python.generate E cfg j.2.1) (fun _ _ _ => rfl) (by intros; rfl)
      jobs {}

/-- **every back end is a function of the job views** -/
theorem genAll_congr (E : Ext) (lang : Generate.LangCfg) (mf : Bool) {jobs jobs' : List Job}
    (h : jobs.map jobView = jobs'.map jobView) : genAll E lang mf jobs = genAll E lang mf jobs' := by
  rw [← genAll_norm E lang mf jobs, ← genAll_norm E lang mf jobs', map_normJob_congr h]

end TsV.C06M
