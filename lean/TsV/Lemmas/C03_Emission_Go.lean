import TsV.Lemmas.C03_Emission_Common
import TsV.Lemmas.C02_Go
/-!
# C03, emission clause — Go
-/
namespace TsV.C03E.Go
open TsV TsV.Lang TsV.Lang.Go TsV.C03E

/-- the blocks come after the `package` line and the import block (which lists what the blocks
needed, and what the files before this one needed) -/
theorem generate_blocks (U : UnicodeOps) (cfg : Cfg) (d : ParsedData) (st0 : Imports) (text : Str) (st : Imports)
    (h : generate U cfg d st0 = .ok (text, st)) :
    ∃ items blocks, Pipeline.generateOrder d = some items ∧
      Threaded (writeItem U cfg (typesMappingToStruct items)) items (addImport st0 s%"encoding/json") blocks st ∧
      text = beginFile cfg ++ renderImports st ++ blocks.flatten := by
  obtain ⟨items, body, ho, hb, _, rfl⟩ := C12L.Go.generate_ok h
  obtain ⟨blocks, hth, rfl⟩ :=
    Threaded.of_writeItems (ws := writeItems U cfg _) (fun _ => rfl) (fun _ _ _ => rfl) items _ body st hb
  exact ⟨items, blocks, ho, hth, rfl⟩

theorem comments_lineStart (n : Nat) (cs : List Str) : LineStart (comments n cs) :=
  lineStart_lines _ cs

theorem renderStruct_defines (d : GoStruct) : DefinesHead s%"type " d.name (renderStruct d) := by
  refine definesHead_append _ (definesHead_append _ (definesHead_head₂ _ _ _ (comments_lineStart _ _) ?_))
  split <;> exact nameEnd_cons _ (by decide)

/-- the helper structs of the struct variants: declared under `acr (acr (<Enum><Variant>Inner))` -/
theorem anonStructs_names {U : UnicodeOps} {cfg : Cfg} {e : RustEnum} {vs : List (Id × List RustField)}
    {st st' : Imports} {ds : List GoStruct} (h : anonStructs U cfg e vs st = .ok (ds, st')) :
    Outcome.mapM' (fun (p : Id × List RustField) =>
      (acr U cfg (e.id.original ++ p.1.original ++ s%"Inner")).bind (acr U cfg)) vs = .ok (ds.map (·.name)) :=
  Outcome.thread_ok_rec
    (f := fun (p : Id × List RustField) (st : Imports) => (anonName U cfg e p.1.original).bind fun sn =>
      structFacts U cfg (anonymousStruct e sn p.1.original p.2) st)
    (P := fun vs ds => Outcome.mapM' (fun (p : Id × List RustField) =>
      (acr U cfg (e.id.original ++ p.1.original ++ s%"Inner")).bind (acr U cfg)) vs = .ok (ds.map (·.name)))
    h (fun _ => rfl) (fun _ _ _ => (Outcome.bind_assoc _ _ _).symm) rfl
    fun p d _ _ st st' hd ih => by
      obtain ⟨sn, hsn, hd⟩ := Outcome.of_bind_ok hd
      obtain ⟨_, _, h1, _, rfl⟩ := structFacts_inv hd
      simp only [anonName] at hsn
      simp only [anonymousStruct] at h1
      simp only [Outcome.mapM', hsn, Outcome.bind_ok, h1, ih, List.map_cons]

/-- an algebraic enum: the helper structs, then the string type of the tags with its `const` block,
then the enum struct with its methods and constructors -/
theorem renderAlgEnum_splits (E : GoAlgEnum) :
    SplitsInto ((E.anonymous.map (·.name)).map (fun i => (s%"type ", i)) ++
      [(s%"type ", E.keyType), (s%"type ", E.name)]) (renderAlgEnum E) := by
  rw [List.map_map, show [(s%"type ", E.keyType), (s%"type ", E.name)] = [(s%"type ", E.keyType)] ++ [(s%"type ", E.name)]
    from rfl, ← List.append_assoc]
  unfold renderAlgEnum
  -- the enum struct: its head, followed by twenty more pieces of text
  iterate 20 apply splitsInto_text
  apply splitsInto_snoc_head₀ _ _ (nameEnd_cons _ (by decide))
  -- the tag type: its head, followed by the `const` block
  iterate 3 apply splitsInto_text
  exact splitsInto_snoc_head _ _ (splitsInto_flatMap _ _ _ fun d _ => renderStruct_defines d)
    (comments_lineStart _ _) (nameEnd_cons _ (by decide))

/-- the record written for an algebraic enum carries exactly the names `goDefs` lists -/
theorem algEnumFacts_heads {U : UnicodeOps} {cfg : Cfg} {e : RustEnum} {tag content : Str} {cs : List Str}
    {st st' : Imports} {d : GoAlgEnum} (hk : e.keys = some (tag, content))
    (h : algEnumFacts U cfg e tag content cs st = .ok (d, st')) :
    goDefs U cfg (.enum e) = .ok ((d.anonymous.map (·.name)).map (fun i => (s%"type ", i)) ++
      [(s%"type ", d.keyType), (s%"type ", d.name)]) := by
  obtain ⟨anon, st2, name, _, _, tagAcr, _, ha, hn, _, _, hta, _, rfl⟩ := algEnumFacts_inv h
  simp only [goDefs, structVariantsOf_eq, anonStructs_names ha, Outcome.bind_ok, hn, hk, hta]

/-- **the block of an item splits into exactly the definitions `goDefs` lists** -/
theorem block_defines (U : UnicodeOps) (cfg : Cfg) (cs : List Str) (it : RustItem) (st : Imports) (b : Str)
    (st' : Imports) (h : writeItem U cfg cs it st = .ok (b, st')) :
    ∃ defs, goDefs U cfg it = .ok defs ∧ SplitsInto defs b := by
  cases it with
  | struct s =>
    obtain ⟨d, hd, rfl⟩ := Outcome.bind_ret_ok.1 h
    obtain ⟨name, _, hn, _, rfl⟩ := structFacts_inv hd
    exact ⟨[(s%"type ", name)], by simp [goDefs, hn], splitsInto_single (renderStruct_defines _)⟩
  | alias a =>
    obtain ⟨d, hd, rfl⟩ := Outcome.bind_ret_ok.1 h
    obtain ⟨name, _, hn, _, rfl⟩ := aliasFacts_inv hd
    exact ⟨[(s%"type ", name)], by simp [goDefs, hn], splitsInto_single (definesHead_append _ (definesHead_append _
      (definesHead_head _ _ (comments_lineStart _ _) (nameEnd_cons _ (by decide)))))⟩
  | const c =>
    obtain ⟨d, hd, rfl⟩ := Outcome.bind_ret_ok.1 h
    obtain ⟨_, _, rfl⟩ := constFacts_inv hd
    exact ⟨_, rfl, splitsInto_single (definesHead_append _ (definesHead_append _ (definesHead_append _
      (definesHead_append _ (definesHead_head₀ _ (nameEnd_cons _ (by decide)))))))⟩
  | «enum» e =>
    obtain ⟨d, hd, rfl⟩ := C02.Go.writeEnum_inv h
    rcases C02.Go.enumFacts_inv hd with ⟨hk, anon, name, _, ha, hn, _, rfl⟩ | ⟨tag, content, g, hk, hg, rfl⟩
    · refine ⟨(anon.map (·.name)).map (fun i => (s%"type ", i)) ++ [(s%"type ", name)],
        by simp only [goDefs, structVariantsOf_eq, anonStructs_names ha, Outcome.bind_ok, hn, hk], ?_⟩
      rw [List.map_map]
      exact splitsInto_snoc (splitsInto_flatMap _ _ _ fun d _ => renderStruct_defines d)
        (definesHead_append _ (definesHead_append _ (definesHead_append _
          (definesHead_head _ _ (comments_lineStart _ _) (nameEnd_cons _ (by decide))))))
    · exact ⟨_, algEnumFacts_heads hk hg, renderAlgEnum_splits g⟩

theorem generateAll_single (E : Ext) (cfg : Cfg) (mf : Bool) (c : Str) (d : ParsedData)
    (imps : Option Pipeline.ScopedCrateTypes) :
    generateAll E cfg mf [(c, d, imps)] = (generate E.U cfg d []).bind fun r => .ok [(c, r.1)] := by
  simp only [generateAll, generateFrom]
  generalize generate E.U cfg d [] = g
  cases g <;> rfl

theorem generateAll_nil (E : Ext) (cfg : Cfg) (mf : Bool) : generateAll E cfg mf [] = .ok [] := rfl

end TsV.C03E.Go
