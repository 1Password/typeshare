import TsV.Lemmas.C07_Backends_Base
import TsV.Lemmas.NoPanic
import TsV.Props.C08
import TsV.Lemmas.CollectMulti
import TsV.Lemmas.ParserOk
import TsV.Lemmas.C06_Multi_Parse
/-!
# C07, generation side — what the parser and the glue guarantee about the items they hand on

Two facts that make three panic sites of the back ends unreachable in a whole run:

* `TryFrom<&syn::Type>` rejects `u64`/`i64`/`usize`/`isize` wherever they occur, so no parsed type
  contains a 64-bit primitive (`tryFrom_no64`) — typescript.rs:137;
* `parse_enum` builds a `RustEnum::Unit` only when every variant is a unit variant
  (`parseEnum_wf`) — go.rs:301, python.rs:368.

`DataWf` states both for all items of a `ParsedData`; it is established by `parser::parse`
(`parseFile_wf`) and preserved by the collector fold (`collect_wf`) and by `reconcile_aliases`
(`reconcile_wf`).
-/
namespace TsV.C07BE
open TsV TsV.Syn TsV.Outcome TsV.RustTypes TsV.Parser

theorem lookup_mem {α β} [BEq α] (l : List (α × β)) (k : α) (v : β) (h : l.lookup k = some v) : ∃ k', (k', v) ∈ l := by
  induction l with
  | nil => cases h
  | cons p t ih =>
    obtain ⟨k0, v0⟩ := p
    simp only [List.lookup] at h
    split at h
    · cases h; exact ⟨k0, List.mem_cons_self ..⟩
    · obtain ⟨k', hk⟩ := ih h
      exact ⟨k', List.mem_cons_of_mem _ hk⟩

theorem primTable_vals : ∀ x ∈ primTable, Prim.is64 x.2 = false := by decide +kernel

theorem primLookup_no64 {id : Str} {p : Prim} (h : primTable.lookup id = some p) : Prim.is64 p = false := by
  obtain ⟨k, hk⟩ := lookup_mem _ _ _ h
  exact primTable_vals _ hk

theorem fromPath_no64 (id : Str) (ps : List RustType) (r : RustType) (h : fromPath id ps = .ok r)
    (hps : no64List ps = true) : no64 r = true := by
  rcases fromPath_cases id ps with he | ⟨r', hr, hshape⟩
  · rw [he] at h; cases h
  · cases h.symm.trans hr
    rcases hshape with ⟨p, t, rfl, hs⟩ | ⟨k, v, t, rfl, rfl⟩ | ⟨p, hp, rfl⟩ | rfl | rfl
    · have hp : no64 p = true := (Bool.and_eq_true_iff.1 hps).1
      rcases hs with rfl | rfl | rfl <;> exact hp
    · obtain ⟨hk, hvt⟩ := Bool.and_eq_true_iff.1 hps
      exact Bool.and_eq_true_iff.2 ⟨hk, (Bool.and_eq_true_iff.1 hvt).1⟩
    · simp only [no64, primLookup_no64 hp]; rfl
    · rfl
    · exact hps

theorem tryFromList_no64_of (ts : List SynType) (h : ∀ t ∈ ts, ∀ r, tryFrom t = .ok r → no64 r = true)
    (rs : List RustType) (hl : tryFromList ts = .ok rs) : no64List rs = true :=
  mapM'_ok_rec (P := fun ts rs => (∀ t ∈ ts, ∀ r, tryFrom t = .ok r → no64 r = true) → no64List rs = true)
    (traverse_eq (fs := tryFromList) rfl tryFromList_cons_eq ts ▸ hl) (fun _ => rfl)
    (fun t r _ _ ht _ ih h => Bool.and_eq_true_iff.2
      ⟨h t List.mem_cons_self r ht, ih fun x hx => h x (List.mem_cons_of_mem _ hx)⟩) h

/-- **no parsed type contains a 64-bit primitive** -/
theorem tryFrom_no64 : ∀ (t : SynType) (r : RustType), tryFrom t = .ok r → no64 r = true := by
  intro t
  induction t using SynType.rec (motive_2 := fun ts => ∀ t ∈ ts, ∀ r, tryFrom t = .ok r → no64 r = true) with
  | tuple es _ =>
    intro r h
    cases es with
    | nil => cases h; rfl
    | cons _ _ => cases h
  | reference e ih => exact ih
  | path q last args ih =>
    intro r h
    rw [tryFrom_path_eq] at h
    obtain ⟨ps, hl, h⟩ := of_bind_ok h
    exact fromPath_no64 _ _ _ h (tryFromList_no64_of args ih ps hl)
  | array e n ih =>
    intro r h
    cases n with
    | none => rw [tryFrom_array_none] at h; cases h
    | some n =>
      rw [tryFrom_array_some] at h
      obtain ⟨t, he, h⟩ := of_bind_ok h
      split at h
      · cases h; exact ih t he
      · cases h
  | slice e ih =>
    intro r h
    rw [tryFrom_slice_eq] at h
    obtain ⟨t, he, h⟩ := of_bind_ok h
    cases h; exact ih t he
  | other => intro r h; cases h
  | nil => cases ‹_ ∈ []›
  | cons t ts iht ihts =>
    rcases List.mem_cons.1 ‹_ ∈ t :: ts› with rfl | h
    · exact iht _ ‹_›
    · exact ihts _ h _ ‹_›

theorem tryFromList_no64 : ∀ (ts : List SynType) (rs : List RustType), tryFromList ts = .ok rs →
      no64List rs = true :=
  fun ts => tryFromList_no64_of ts fun t _ => tryFrom_no64 t

theorem fromStr_no64 (pt : Str → Option SynType) (s : Str) (r : RustType) (h : fromStr pt s = .ok r) :
    no64 r = true := by
  unfold fromStr at h
  split at h
  · cases h
  · exact tryFrom_no64 _ _ h

theorem fieldType_no64 (E : Ext) (attrs : List Attr) (ty : SynType) (r : RustType)
    (h : fieldType E attrs ty = .ok r) : no64 r = true := by
  rcases fieldType_ok h with ⟨_, ht⟩ | ⟨_, _, _, _, ht⟩ <;> exact tryFrom_no64 _ _ ht

/-- both facts about one item -/
def ItemWf (it : RustItem) : Prop := itemNo64 it = true ∧ itemUnitOk it = true

theorem parseFields_no64 {E : Ext} {T : List Str} {attrs : List Attr} {fs : List Field} {rfs : List RustField}
    (h : parseFields E T attrs fs = .ok rfs) : rfs.all (fun f => no64 f.ty) = true := by
  rw [List.all_eq_true]
  exact Outcome.mapM'_ok_pred _ (fun rf => no64 rf.ty = true)
    (fun _ _ hf => fieldType_no64 _ _ _ _ (parseField_ok hf).ty) _ rfs h

theorem mkAlias_wf {E : Ext} {ident : Str} {attrs : List Attr} {gens : List GenericParam} {ty : RustType}
    {it : RustItem} (h : mkAlias E ident attrs gens ty = .ok it) (hty : no64 ty = true) : ItemWf it := by
  obtain ⟨a, rfl, _, rfl, _⟩ := mkAlias_ok h
  exact ⟨hty, rfl⟩

theorem mkStruct_wf {E : Ext} {ident : Str} {attrs : List Attr} {gens : List GenericParam}
    {fs : List RustField} {it : RustItem} (h : mkStruct E ident attrs gens fs = .ok it)
    (hfs : fs.all (fun f => no64 f.ty) = true) : ItemWf it := by
  obtain ⟨s, rfl, _, rfl, _⟩ := mkStruct_ok h
  exact ⟨hfs, rfl⟩

theorem parseStruct_wf {E : Ext} {T : List Str} {attrs : List Attr} {ident : Str} {gens : List GenericParam}
    {fields : Fields} {it : RustItem} (h : parseStruct E T attrs ident gens fields = .ok it) : ItemWf it := by
  cases parseStruct_ok h with
  | serializedAs _ hty h => exact mkAlias_wf h (fromStr_no64 _ _ _ hty)
  | named _ hr h => exact mkStruct_wf h (parseFields_no64 hr)
  | newtype _ hty h => exact mkAlias_wf h (fieldType_no64 _ _ _ _ hty)
  | unit _ h => exact mkStruct_wf h rfl

theorem parseEnumVariant_no64 {E : Ext} {T : List Str} {ra : Option Str} {v : Variant} {rv : RustEnumVariant}
    (h : parseEnumVariant E T ra v = .ok rv) : variantNo64 rv = true := by
  cases (parseEnumVariant_ok h).2 with
  | unit => rfl
  | tuple _ hty => exact fieldType_no64 _ _ _ _ hty
  | named _ hr => exact parseFields_no64 hr

/-- **`RustEnum::Unit` is only built from unit variants** -/
theorem parseEnum_wf {E : Ext} {T : List Str} {attrs : List Attr} {ident : Str} {gens : List GenericParam}
    {variants : List Variant} {it : RustItem} (h : parseEnum E T attrs ident gens variants = .ok it) :
    ItemWf it := by
  cases parseEnum_ok h with
  | serializedAs _ hty h => exact mkAlias_wf h (fromStr_no64 _ _ _ hty)
  | «enum» _ hvs _ _ _ _ _ _ hk =>
    refine ⟨List.all_eq_true.2 (Outcome.mapM'_ok_pred _ (fun rv => variantNo64 rv = true)
      (fun _ _ => parseEnumVariant_no64) _ _ hvs), ?_⟩
    rcases hk with ⟨hall, _, _, hk⟩ | ⟨_, t, c, _, _, hk⟩ <;> simp only [itemUnitOk, enumUnitOk, hk]
    exact hall

theorem parseTypeAlias_wf {E : Ext} {attrs : List Attr} {ident : Str} {gens : List GenericParam}
    {ty : SynType} {it : RustItem} (h : parseTypeAlias E attrs ident gens ty = .ok it) : ItemWf it := by
  obtain ⟨t, ht, h⟩ := parseTypeAlias_ok h
  exact mkAlias_wf h (fieldType_no64 _ _ _ _ ht)

theorem parseConst_wf {E : Ext} {attrs : List Attr} {ident : Str} {ty : SynType} {init : Option Lit}
    {it : RustItem} (h : parseConst E attrs ident ty init = .ok it) : ItemWf it := by
  obtain ⟨c, rfl, _, ht, _⟩ := parseConst_ok h
  exact ⟨fieldType_no64 _ _ _ _ ht, rfl⟩

/-- both facts for every item of a `ParsedData` -/
structure DataWf (d : ParsedData) : Prop where
  structs : ∀ s ∈ d.structs, ItemWf (.struct s)
  enums : ∀ e ∈ d.enums, ItemWf (.enum e)
  aliases : ∀ a ∈ d.aliases, ItemWf (.alias a)
  consts : ∀ c ∈ d.consts, ItemWf (.const c)

theorem DataWf.congr {d d' : ParsedData} (h : DataWf d) (hs : d'.structs = d.structs)
    (he : d'.enums = d.enums) (ha : d'.aliases = d.aliases) (hc : d'.consts = d.consts) : DataWf d' :=
  ⟨by rw [hs]; exact h.structs, by rw [he]; exact h.enums, by rw [ha]; exact h.aliases,
   by rw [hc]; exact h.consts⟩

theorem DataWf.empty {d : ParsedData} (hs : d.structs = []) (he : d.enums = []) (ha : d.aliases = [])
    (hc : d.consts = []) : DataWf d :=
  ⟨by simp [hs], by simp [he], by simp [ha], by simp [hc]⟩

theorem DataWf.items {d : ParsedData} (h : DataWf d) : ∀ it ∈ itemsOf d, ItemWf it := by
  intro it hit
  rcases mem_itemsOf.1 hit with ⟨a, ha, rfl⟩ | ⟨a, ha, rfl⟩ | ⟨a, ha, rfl⟩ | ⟨a, ha, rfl⟩
  · exact h.aliases a ha
  · exact h.structs a ha
  · exact h.enums a ha
  · exact h.consts a ha

theorem DataWf.no64 {d : ParsedData} (h : DataWf d) : dataNo64 d = true := by
  rw [dataNo64, List.all_eq_true]; exact fun it hit => (h.items it hit).1

theorem DataWf.unitOk {d : ParsedData} (h : DataWf d) : dataUnitOk d = true := by
  rw [dataUnitOk, List.all_eq_true]; exact fun e he => (h.enums e he).2

open Visitor

theorem push_wf {d : ParsedData} {it : RustItem} (hd : DataWf d) (hi : ItemWf it) : DataWf (push d it) := by
  cases it with
  | struct s =>
    exact ⟨List.forall_mem_append.2 ⟨hd.structs, List.forall_mem_singleton.2 hi⟩, hd.enums, hd.aliases, hd.consts⟩
  | enum e =>
    exact ⟨hd.structs, List.forall_mem_append.2 ⟨hd.enums, List.forall_mem_singleton.2 hi⟩, hd.aliases, hd.consts⟩
  | alias a =>
    exact ⟨hd.structs, hd.enums, List.forall_mem_append.2 ⟨hd.aliases, List.forall_mem_singleton.2 hi⟩, hd.consts⟩
  | const c =>
    exact ⟨hd.structs, hd.enums, hd.aliases, List.forall_mem_append.2 ⟨hd.consts, List.forall_mem_singleton.2 hi⟩⟩

theorem parseItem_wf {E : Ext} {ctx : ParseContext} {it : Item} {ri : RustItem}
    (h : C03.parseItem E ctx it = .ok ri) : ItemWf ri := by
  cases it with
  | struct => exact parseStruct_wf h
  | «enum» => exact parseEnum_wf h
  | alias => exact parseTypeAlias_wf h
  | const => exact parseConst_wf h
  | _ => cases h

/-- `DataWf` does not look at the raw import set, and folding `collect_result` over parse results keeps it -/
theorem collectAll_wf {E : Ext} {ctx : ParseContext} {path : Str} {its : List Item} {d d' : ParsedData}
    (h : C03.collectAll path (C13P.forget d) (its.map (C03.parseItem E ctx)) = .ok (C13P.forget d'))
    (hd : DataWf d) : DataWf d' :=
  (Visit.collectAll_preserves DataWf h
    (fun _ hri _ hd => push_wf hd (by obtain ⟨_, _, h⟩ := List.mem_map.1 hri; exact parseItem_wf h))
    (fun _ _ hd => hd.congr rfl rfl rfl rfl) (hd.congr rfl rfl rfl rfl)).congr rfl rfl rfl rfl

theorem visitItem_wf (E : Ext) (ctx : ParseContext) (path : Str) : ∀ (it : Item) (d d' : ParsedData),
      visitItem E ctx path d it = .ok d' → DataWf d → DataWf d' := fun it d d' h =>
  collectAll_wf (by rw [← Visit.visit_view (Visit.blind_forget ctx), h]; rfl)

theorem visitFile_wf {E : Ext} {ctx : ParseContext} {c fn p : Str} {f : File} {d : ParsedData}
    (h : visitFile E ctx c fn p f = .ok d) : DataWf d := by
  have hv := Visit.visitFile_view (Visit.blind_forget ctx) E c fn p f
  rw [h, ← List.map_nil (f := C03.parseItem E ctx), Visit.outcomes, ← apply_ite (List.map _)] at hv
  exact collectAll_wf hv.symm (DataWf.empty rfl rfl rfl rfl)

theorem reconcileReferencedTypes_wf {U : UnicodeOps} {pick : List ImportedType → Option ImportedType}
    {d : ParsedData} (hd : DataWf d) : DataWf (reconcileReferencedTypes U pick d) := by
  -- unfolded first: `rfl` through the folded definition is slow to check
  unfold reconcileReferencedTypes
  exact ⟨hd.structs, hd.enums, hd.aliases, hd.consts⟩

/-- **every `ParsedData` that `parser::parse` returns is well formed** -/
theorem parseFile_wf {E : Ext} {ctx : ParseContext} {pick : List ImportedType → Option ImportedType}
    {c fn p : Str} {f : File} {d : ParsedData} (h : parseFile E ctx pick c fn p f = .ok (some d)) :
    DataWf d := by
  obtain ⟨_, d0, h0, _, rfl⟩ := Visit.parseFile_some h
  split
  · exact reconcileReferencedTypes_wf (visitFile_wf h0)
  · exact visitFile_wf h0

theorem parseAll_wf (E : Ext) (ctx : ParseContext) (pick : List ImportedType → Option ImportedType)
    (files : List Generate.SourceFile) (r : List ParsedData) (h : Generate.parseAll E ctx pick files = .ok r) :
    ∀ d ∈ r, DataWf d := fun d hd =>
  let ⟨_, _, hf⟩ := (C06M.mem_parseAll E ctx pick files r h d).1 hd
  parseFile_wf hf

open Pipeline

theorem addAssign_wf {a b : ParsedData} (ha : DataWf a) (hb : DataWf b) : DataWf (addAssign a b) :=
  ⟨List.forall_mem_append.2 ⟨ha.structs, hb.structs⟩, List.forall_mem_append.2 ⟨ha.enums, hb.enums⟩,
   List.forall_mem_append.2 ⟨ha.aliases, hb.aliases⟩, List.forall_mem_append.2 ⟨ha.consts, hb.consts⟩⟩

theorem upsert_wf (m : List (Str × ParsedData)) (d : ParsedData) (hm : ∀ p ∈ m, DataWf p.2) (hd : DataWf d) :
    ∀ p ∈ upsert m d, DataWf p.2 := by
  rw [Collect.upsert_eq_alter]
  exact C06M.forall_mem_alter _ _ _ (fun p => DataWf p.2) (addAssign_wf (DataWf.empty rfl rfl rfl rfl) hd)
    (fun _ hv => addAssign_wf hv hd) m hm

theorem foldl_upsert_wf (arrivals : List ParsedData) : ∀ (m : List (Str × ParsedData)),
    (∀ d ∈ arrivals, DataWf d) → (∀ p ∈ m, DataWf p.2) → ∀ p ∈ arrivals.foldl upsert m, DataWf p.2 := by
  induction arrivals with
  | nil => exact fun _ _ hm => hm
  | cons d ds ih =>
    exact fun m ha hm => ih (upsert m d) (fun x hx => ha x (List.mem_cons_of_mem _ hx))
      (upsert_wf m d hm (ha d List.mem_cons_self))

theorem collect_wf (arrivals : List ParsedData) (h : ∀ d ∈ arrivals, DataWf d) :
    ∀ p ∈ collect arrivals, DataWf p.2 :=
  foldl_upsert_wf arrivals [] h (by simp)

theorem checkTypes_no64_of (c : Str) (r : Renames) (i : List ImportedType) (ts : List RustType) :
    (∀ t ∈ ts, no64 (checkType c r i t) = no64 t) → no64List (checkTypes c r i ts) = no64List ts := by
  induction ts with
  | nil => exact fun _ => rfl
  | cons t ts ih =>
    intro h
    simp only [checkTypes, no64List, h t List.mem_cons_self, ih fun x hx => h x (List.mem_cons_of_mem _ hx)]

theorem checkType_no64 (c : Str) (r : Renames) (i : List ImportedType) (t : RustType) :
    no64 (checkType c r i t) = no64 t := by
  induction t using rustType_induct with
  | simple id => simp only [checkType]; split <;> rfl
  | generic id ps ih =>
    simp only [checkType]; split <;> (simp only [no64]; exact checkTypes_no64_of c r i ps ih)
  | vec t ih | array t n ih | slice t ih | option t ih => simp only [checkType, no64]; exact ih
  | hashMap k v ihk ihv => simp only [checkType, no64, ihk, ihv]
  | prim p => simp only [checkType]

theorem checkTypes_no64 (c : Str) (r : Renames) (i : List ImportedType) : ∀ ts : List RustType,
      no64List (checkTypes c r i ts) = no64List ts :=
  fun ts => checkTypes_no64_of c r i ts fun t _ => checkType_no64 c r i t

theorem map_all_congr {α} (g : α → α) (P : α → Bool) (h : ∀ a, P (g a) = P a) (l : List α) :
    (l.map g).all P = l.all P := by
  induction l with
  | nil => rfl
  | cons a t ih => simp only [List.map_cons, List.all_cons, ih, h]

theorem checkFields_no64 (c : Str) (r : Renames) (i : List ImportedType) (fs : List RustField) :
    (fs.map (checkField c r i)).all (fun f => no64 f.ty) = fs.all (fun f => no64 f.ty) :=
  map_all_congr _ _ (fun f => checkType_no64 c r i f.ty) fs

theorem checkVariant_no64 (c : Str) (r : Renames) (i : List ImportedType) (v : RustEnumVariant) :
    variantNo64 (checkVariant c r i v) = variantNo64 v := by
  cases v with
  | unit _ _ => rfl
  | tuple _ _ t => simp only [checkVariant, variantNo64, checkType_no64]
  | anonymousStruct _ _ fs => simp only [checkVariant, variantNo64, checkFields_no64]

theorem checkVariant_isUnit (c : Str) (r : Renames) (i : List ImportedType) (v : RustEnumVariant) :
    variantIsUnit (checkVariant c r i v) = variantIsUnit v := by
  cases v <;> rfl

theorem mem_sortBy {α} (key : α → Str) (l : List α) (x : α) : x ∈ sortBy key l ↔ x ∈ l :=
  (List.mergeSort_perm l _).mem_iff

theorem reconcileOne_wf (r : Renames) (crate : Str) {d : ParsedData} (hd : DataWf d) :
    DataWf (reconcileOne r crate d) := by
  unfold reconcileOne
  refine ⟨fun x hx => ?_, fun x hx => ?_, fun x hx => ?_, fun x hx => hd.consts x ((mem_sortBy _ _ _).1 hx)⟩
  · obtain ⟨s, hs, rfl⟩ := List.mem_map.1 ((mem_sortBy _ _ _).1 hx)
    exact ⟨(checkFields_no64 _ _ _ _).trans (hd.structs s hs).1, rfl⟩
  · obtain ⟨e, he, rfl⟩ := List.mem_map.1 ((mem_sortBy _ _ _).1 hx)
    obtain ⟨h1, h2⟩ := hd.enums e he
    refine ⟨(map_all_congr _ _ (checkVariant_no64 crate r d.importTypes) _).trans h1, ?_⟩
    simp only [itemUnitOk, enumUnitOk] at h2 ⊢
    split
    · rename_i hk
      rw [hk] at h2
      exact (map_all_congr _ _ (checkVariant_isUnit crate r d.importTypes) _).trans h2
    · rfl
  · obtain ⟨a, ha, rfl⟩ := List.mem_map.1 ((mem_sortBy _ _ _).1 hx)
    exact ⟨(checkType_no64 _ _ _ _).trans (hd.aliases a ha).1, rfl⟩

theorem reconcile_wf (m : List (Str × ParsedData)) (hm : ∀ p ∈ m, DataWf p.2) :
    ∀ p ∈ reconcile m, DataWf p.2 := by
  intro p hp
  simp only [reconcile, List.mem_map] at hp
  obtain ⟨⟨c, d⟩, hq, rfl⟩ := hp
  exact reconcileOne_wf _ _ (hm _ hq)

/-- the crates a run generates from are well formed -/
theorem crates_wf (E : Ext) (ctx : ParseContext) (pick : List ImportedType → Option ImportedType)
    (files : List Generate.SourceFile) (arrivals : List ParsedData)
    (h : Generate.parseAll E ctx pick files = .ok arrivals) :
    ∀ p ∈ reconcile (collect arrivals), DataWf p.2 :=
  reconcile_wf _ (collect_wf _ (parseAll_wf E ctx pick files arrivals h))

/-- `parseAll` never panics (from the parser-side theorem `parseFile_np`) -/
theorem parseAll_np (E : Ext) (ctx : ParseContext) (pick : List ImportedType → Option ImportedType)
    (files : List Generate.SourceFile) : NP (Generate.parseAll E ctx pick files) :=
  traverse_np (Generate.parseAll E ctx pick) (np_ok _) (fun _ _ => rfl)
    fun f _ => NoPanic.parseFile_np E ctx pick f.crateName f.fileName f.path f.file

end TsV.C07BE
