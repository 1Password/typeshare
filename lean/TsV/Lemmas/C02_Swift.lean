import TsV.Lemmas.C02_Base
import TsV.Lemmas.Lang.Swift
/-!
# C02, Swift: raw values / `CodingKeys`, and the synthesised `Codable` conformance as a template
-/
namespace TsV.C02.Sw
open TsV TsV.Str TsV.Lang TsV.Lang.Swift TsV.C02

/-! ## the `init(from:)` / `encode(to:)` bodies as templates with key holes -/

def decodeArmSegs (ck : Str) : DecodeArm → List Seg
  | .unit n =>
    [.lit (s%"\n\t\t\tcase ." ++ n ++ s%":\n\t\t\t\tself = ." ++ n ++ s%"\n\t\t\t\treturn")]
  | .content n ty nilFallback =>
    [.lit ((if nilFallback then s%"\n            case ." else s%"\n\t\t\tcase .") ++ n ++
        s%":\n\t\t\t\tif let content = try? container.decode(" ++ ty ++ s%".self, forKey: ."),
     .hole .content .raw ck,
     .lit (s%") {\n\t\t\t\t\tself = ." ++ n ++ s%"(content)\n\t\t\t\t\treturn\n\t\t\t\t}")] ++
    (if nilFallback then
      [.lit s%"\n\t\t\t\telse if let isNil = try? container.decodeNil(forKey: .",
       .hole .content .raw ck,
       .lit (s%"), isNil {\n\t\t\t\t\tself = ." ++ n ++ s%"(nil)\n\t\t\t\t\treturn\n\t\t\t\t}")]
    else [])

def encodeArmSegs (tk ck : Str) : EncodeArm → List Seg
  | .unit n =>
    [.lit (s%"\n\t\tcase ." ++ n ++ s%":\n\t\t\ttry container.encode(CodingKeys." ++ n ++ s%", forKey: ."),
     .hole .tag .raw tk, .lit s%")"]
  | .content n =>
    [.lit (s%"\n\t\tcase ." ++ n ++ s%"(let content):\n\t\t\ttry container.encode(CodingKeys." ++ n ++ s%", forKey: ."),
     .hole .tag .raw tk,
     .lit s%")\n\t\t\ttry container.encode(content, forKey: .",
     .hole .content .raw ck, .lit s%")"]

/-- the whole conformance: `ContainerCodingKeys`, `init(from:)`, `encode(to:)` -/
def codableSegs (a : AlgebraicCodable) : List Seg :=
  [.lit s%"\n\tprivate enum ContainerCodingKeys: String, CodingKey {\n\t\tcase ",
   .hole .tag .raw a.tagKey, .lit s%", ", .hole .content .raw a.contentKey,
   .lit (s%"\n\t}\n\n\tpublic init(from decoder: Decoder) throws {\n" ++
     s%"\t\tlet container = try decoder.container(keyedBy: ContainerCodingKeys.self)\n" ++
     s%"\t\tif let type = try? container.decode(CodingKeys.self, forKey: ."),
   .hole .tag .raw a.tagKey,
   .lit (s%") {\n" ++ s%"\t\t\tswitch type {")] ++
  a.decodeArms.flatMap (decodeArmSegs a.contentKey) ++
  [.lit (s%"\n\t\t\t}\n\t\t}\n" ++ s%"\t\tthrow DecodingError.typeMismatch(" ++ a.typeName ++
     s%".self, DecodingError.Context(codingPath: decoder.codingPath, debugDescription: \"Wrong type for " ++
     a.typeName ++ s%"\"))\n\t}\n\n" ++
     s%"\tpublic func encode(to encoder: Encoder) throws {\n" ++
     s%"\t\tvar container = encoder.container(keyedBy: ContainerCodingKeys.self)\n" ++
     s%"\t\tswitch self {")] ++
  a.encodeArms.flatMap (encodeArmSegs a.tagKey a.contentKey) ++
  [.lit s%"\n\t\t}\n\t}\n"]

theorem decodeArm_flat (ck : Str) : (fun a => flat (decodeArmSegs ck a)) = renderDecodeArm ck := by
  funext a
  cases a with
  | unit n => simp only [decodeArmSegs, renderDecodeArm, flat_cons, flat_nil, Seg.text, List.append_nil]
  | content n ty nf =>
    cases nf <;>
    · simp only [decodeArmSegs, renderDecodeArm, flat_cons, flat_nil, flat_append, Seg.text, Quote.render,
        List.append_nil, if_true, if_false, Bool.false_eq_true]
      simp only [← List.append_assoc]

theorem encodeArm_flat (tk ck : Str) : (fun a => flat (encodeArmSegs tk ck a)) = renderEncodeArm tk ck := by
  funext a
  cases a <;>
  · simp only [encodeArmSegs, renderEncodeArm, flat_cons, flat_nil, Seg.text, Quote.render, List.append_nil]
    simp only [← List.append_assoc]

/-- **the template denotes exactly the text the model (hence the generator) writes** -/
theorem codable_flat (a : AlgebraicCodable) : flat (codableSegs a) = renderCodable a := by
  unfold codableSegs renderCodable
  simp only [flat_append, flat_flatMap, decodeArm_flat, encodeArm_flat, flat_cons, flat_nil, Seg.text,
    Quote.render, List.append_nil]
  simp only [← List.append_assoc]

/- The holes of an arm are read off by evaluation: a literal segment is dropped without being looked at. -/
theorem decodeArm_holes (ck : Str) (a : DecodeArm) : ∀ h ∈ holesOf (decodeArmSegs ck a), h = (.content, ck) := by
  cases a with
  | unit n => exact fun _ hh => nomatch hh
  | content n ty nf =>
    cases nf
    · exact fun h hh => List.mem_singleton.1 hh
    · show ∀ h ∈ [(Role.content, ck), (Role.content, ck)], h = _
      intro h hh
      simp only [List.mem_cons, List.not_mem_nil, or_false, or_self] at hh
      exact hh

theorem encodeArm_holes (tk ck : Str) (a : EncodeArm) :
    ∀ h ∈ holesOf (encodeArmSegs tk ck a), h = (.tag, tk) ∨ h = (.content, ck) := by
  cases a with
  | unit n => exact fun h hh => Or.inl (List.mem_singleton.1 hh)
  | content n =>
    show ∀ h ∈ [(Role.tag, tk), (Role.content, ck)], _
    intro h hh
    simp only [List.mem_cons, List.not_mem_nil, or_false] at hh
    exact hh

/-- **every hole of the conformance is filled from the record's two key fields** -/
theorem codable_holes (a : AlgebraicCodable) :
    ∀ h ∈ holesOf (codableSegs a), h = (.tag, a.tagKey) ∨ h = (.content, a.contentKey) := by
  intro h hh
  simp only [codableSegs, holesOf_append, holesOf_flatMap, holesOf_hole, holesOf_lit, holesOf_nil, List.mem_append,
    List.mem_cons, List.mem_flatMap, List.not_mem_nil, or_false] at hh
  rcases hh with ((((rfl | rfl | rfl) | ⟨x, _, hx⟩)) | ⟨x, _, hx⟩)
  · exact Or.inl rfl
  · exact Or.inr rfl
  · exact Or.inl rfl
  · exact Or.inr (decodeArm_holes _ x h hx)
  · exact encodeArm_holes _ _ x h hx

/-- an identifier written between back-ticks names the identifier without them -/
def stripTicks (s : Str) : Str :=
  match s with
  | [] => []
  | c :: rest => if c = '`' ∧ rest.getLast? = some '`' then rest.dropLast else s

/-- a `case name` / `case name = "raw"` line of a raw-value enum is serialised as its raw value, which
defaults to the case name -/
def unitBound (c : EnumCase) : Str :=
  if c.wireName == c.caseName then stripTicks c.printedName else c.wireName

/-- the same for a case of a `CodingKeys` enum -/
def keyBound (k : CodingKey) : Str := k.rawValue.getD (stripTicks k.caseName)

/-- a raw-value enum: its `case` lines; an enum with associated values: the cases of its nested
`CodingKeys` (the tag values `init(from:)` switches over and `encode(to:)` writes) and the key holes
of the `Codable` conformance -/
def wire (se : SwiftEnum) : EnumWire :=
  match se.codable with
  | none => { cases := se.cases.map fun c => ⟨some c.printedName, some (unitBound c)⟩, holes := [] }
  | some a =>
    { cases := se.codingKeys.map fun k => ⟨some k.caseName, some (keyBound k)⟩,
      holes := holesOf (codableSegs a) }

theorem stripTicks_kw (n : Str) (h : ∀ r, n ≠ '`' :: r) : stripTicks (kw n) = n := by
  unfold kw
  split
  · simp [stripTicks, List.getLast?_append]
  · cases n with
    | nil => rfl
    | cons c rest =>
      have : c ≠ '`' := fun hc => h rest (by rw [hc])
      simp [stripTicks, this]

theorem kw_inj (a b : Str) (ha : ∀ r, a ≠ '`' :: r) (hb : ∀ r, b ≠ '`' :: r) (h : kw a = kw b) : a = b := by
  unfold kw at h
  split at h <;> split at h
  · simp only [List.cons_append, List.nil_append, List.cons.injEq, true_and] at h
    exact List.append_cancel_right h
  · exact absurd h.symm (by simpa using hb _)
  · exact absurd h (by simpa using ha _)
  · exact h

/-- the camel-cased name of an UpperCamelCase variant: starts with a lower-case letter -/
theorem toCamel_head (U : UnicodeOps) (hU : U.AsciiCorrect) (s : Str) (h : C16.UpperCamel s) :
    ∃ c rest, Rename.toCamel U s = c :: rest ∧ isAsciiLower c = true := by
  obtain ⟨c, rest, rfl, hc⟩ := upperCamel_head s h
  exact ⟨asciiLower c, rest, toCamel_upperCamel U hU c rest h, RenameLemmas.upper_lower_isLower c hc⟩

theorem toCamel_noTick (U : UnicodeOps) (hU : U.AsciiCorrect) (s : Str) (h : C16.UpperCamel s) : ∀ r, Rename.toCamel U s ≠ '`' :: r := by
  obtain ⟨c, rest, hcr, hc⟩ := toCamel_head U hU s h
  intro r hr
  rw [hcr] at hr
  simp only [List.cons.injEq] at hr
  rw [hr.1] at hc
  exact absurd hc (by decide)

theorem algebraicCaseName_upperCamel (U : UnicodeOps) (hU : U.AsciiCorrect) (v : RustEnumVariant) (h : C16.UpperCamel v.id.original) :
    algebraicCaseName U v = Rename.toCamel U v.id.original := by
  obtain ⟨c, rest, hcr, hc⟩ := toCamel_head U hU _ h
  simp [algebraicCaseName, hcr, RenameLemmas.lower_notDigit c hc]

theorem algebraicCase_facts (U : UnicodeOps) (cfg : Cfg) (e : RustEnum) (v : RustEnumVariant) (st st' : St) (c : EnumCase)
    (h : algebraicCase U cfg e v st = .ok (c, st')) :
    c.caseName = algebraicCaseName U v ∧ c.printedName = kw (algebraicCaseName U v) ∧ c.wireName = v.id.renamed := by
  cases v with
  | unit id cs => simp [algebraicCase] at h; obtain ⟨rfl, _⟩ := h; exact ⟨rfl, rfl, rfl⟩
  | tuple id cs ty =>
    simp only [algebraicCase] at h
    obtain ⟨p, _, h⟩ := Outcome.of_bind_ok h
    simp at h; obtain ⟨rfl, _⟩ := h; exact ⟨rfl, rfl, rfl⟩
  | anonymousStruct id cs fs => simp [algebraicCase] at h; obtain ⟨rfl, _⟩ := h; exact ⟨rfl, rfl, rfl⟩

theorem algebraicCases_facts (U : UnicodeOps) (cfg : Cfg) (e : RustEnum)
    (vs : List RustEnumVariant) (st st' : St) (cs : List EnumCase)
    (h : algebraicCases U cfg e vs st = .ok (cs, st')) :
    cs.map (·.wireName) = vs.map (·.id.renamed) ∧
    cs.map (·.printedName) = vs.map (fun v => kw (algebraicCaseName U v)) ∧
    ∀ c ∈ cs, ∃ v ∈ vs, c.caseName = algebraicCaseName U v ∧ c.printedName = kw c.caseName :=
  Outcome.thread_ok_rec
    (P := fun vs cs => cs.map (·.wireName) = vs.map (·.id.renamed) ∧
      cs.map (·.printedName) = vs.map (fun v => kw (algebraicCaseName U v)) ∧
      ∀ c ∈ cs, ∃ v ∈ vs, c.caseName = algebraicCaseName U v ∧ c.printedName = kw c.caseName)
    h (fun _ => rfl) (fun _ _ _ => rfl) ⟨rfl, rfl, fun _ hc => nomatch hc⟩
    fun v c vs cs st st' hc ⟨i1, i2, i3⟩ => by
      obtain ⟨h1, h2, h3⟩ := algebraicCase_facts U cfg e v st st' c hc
      refine ⟨by rw [List.map_cons, List.map_cons, h3, i1], by rw [List.map_cons, List.map_cons, h2, i2],
        List.forall_mem_cons.2 ⟨⟨v, List.mem_cons_self, h1, by rw [h2, h1]⟩, fun c' hc' => ?_⟩⟩
      obtain ⟨v', hv', h'⟩ := i3 c' hc'
      exact ⟨v', List.mem_cons_of_mem v hv', h'⟩

theorem caseCodingKey_caseName (c : EnumCase) : (caseCodingKey c).caseName = c.printedName := by
  unfold caseCodingKey; split <;> rfl

/-- the `CodingKeys` case of a variant binds the variant's wire name -/
theorem keyBound_case (c : EnumCase) (hp : c.printedName = kw c.caseName) (hn : ∀ r, c.caseName ≠ '`' :: r) :
    keyBound (caseCodingKey c) = c.wireName := by
  unfold caseCodingKey keyBound
  split
  · rename_i heq
    simp only [Option.getD_none, hp, stripTicks_kw _ hn]
    exact eq_of_beq heq
  · rfl

theorem unitBound_unitCase (U : UnicodeOps) (v : RustEnumVariant) (hn : ∀ r, Rename.toCamel U v.id.original ≠ '`' :: r) :
    unitBound (unitCase U v) = v.id.renamed := by
  unfold unitBound
  split
  · rename_i heq
    have : (unitCase U v).printedName = kw (unitCase U v).caseName := rfl
    rw [this, stripTicks_kw (unitCase U v).caseName hn]
    exact (eq_of_beq heq).symm
  · rfl

/-- **Swift**: whatever `write_enum` emits for an in-scope enum is correct on the wire -/
theorem correct (U : UnicodeOps) (hU : U.AsciiCorrect) (cfg : Cfg) (e : RustEnum) (hs : InScopeEnum e) (st st' : St)
    (structs : List SwiftStruct) (se : SwiftEnum)
    (h : enumFacts U cfg e st = .ok (structs, se, st')) : (wire se).Correct e := by
  obtain ⟨st1, cases, -, hc, rfl⟩ := enumFacts_ok h
  unfold enumOf
  have hinj : ∀ a ∈ e.variants, ∀ b ∈ e.variants,
      kw (Rename.toCamel U a.id.original) = kw (Rename.toCamel U b.id.original) → a.id.original = b.id.original := by
    intro a ha b hb hab
    exact toCamel_inj U hU _ _ (hs.camel a ha) (hs.camel b hb)
      (kw_inj _ _ (toCamel_noTick U hU _ (hs.camel a ha)) (toCamel_noTick U hU _ (hs.camel b hb)) hab)
  have hnodup : (e.variants.map fun v => kw (Rename.toCamel U v.id.original)).Nodup :=
    nodup_map_of_factors hs.distinct hinj
  cases hk : e.keys with
  | none =>
    rw [hk] at hc
    cases hc
    refine .of_named (e.variants.map (unitCase U)) (·.printedName) unitBound ?_ ?_ (.of_none hk rfl)
    · rw [List.map_map]
      exact List.map_congr_left fun v hv => unitBound_unitCase U v (toCamel_noTick U hU _ (hs.camel v hv))
    · rw [List.map_map]; exact hnodup
  | some p =>
    obtain ⟨tag, content⟩ := p
    rw [hk] at hc
    obtain ⟨h1, h2, h3⟩ := algebraicCases_facts U cfg e e.variants _ _ cases hc
    refine .of_named (cases.map caseCodingKey) (·.caseName) keyBound ?_ ?_ (.of_some hk (codable_holes _))
    · rw [List.map_map, ← h1]
      refine List.map_congr_left fun c hcm => ?_
      obtain ⟨v, hv, hn, hp⟩ := h3 c hcm
      refine keyBound_case c hp ?_
      rw [hn, algebraicCaseName_upperCamel U hU v (hs.camel v hv)]
      exact toCamel_noTick U hU _ (hs.camel v hv)
    · have e1 : (cases.map caseCodingKey).map (·.caseName) = cases.map (·.printedName) := by
        rw [List.map_map]; exact List.map_congr_left fun c _ => caseCodingKey_caseName c
      have e2 : e.variants.map (fun v => kw (algebraicCaseName U v)) =
          e.variants.map fun v => kw (Rename.toCamel U v.id.original) :=
        List.map_congr_left fun v hv => by rw [algebraicCaseName_upperCamel U hU v (hs.camel v hv)]
      rw [e1, h2, e2]
      exact hnodup

end TsV.C02.Sw
