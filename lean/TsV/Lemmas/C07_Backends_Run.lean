import TsV.Lemmas.C07_Backends_Langs
import TsV.Lemmas.C07_Backends_Go
import TsV.Lemmas.C07_Backends_Parse
import TsV.Lemmas.Run
/-!
# C07, generation side — composing parser, glue and back ends into `Generate.run`
-/
namespace TsV.C07BE
open TsV TsV.Outcome

/-- the only hypothesis of the whole-run theorem: when the target is Go, the configured
`uppercase_acronyms` satisfy `Go.cfgOk` (decidable; `true` for the five other back ends) -/
def GoOk (E : Ext) : Generate.LangCfg → Bool
  | .go cfg => Go.cfgOk E.U cfg
  | _ => true

theorem jobsNo64_of_wf {jobs : List Job} (h : ∀ j ∈ jobs, DataWf j.2.1) : jobsNo64 jobs = true := by
  rw [jobsNo64, List.all_eq_true]; exact fun j hj => (h j hj).no64

theorem jobsUnitOk_of_wf {jobs : List Job} (h : ∀ j ∈ jobs, DataWf j.2.1) : jobsUnitOk jobs = true := by
  rw [jobsUnitOk, List.all_eq_true]; exact fun j hj => (h j hj).unitOk

/-- every back end on well-formed jobs -/
theorem generate_np (E : Ext) (lang : Generate.LangCfg) (multi : Bool) (jobs : List Job)
    (hgo : GoOk E lang = true) (hw : ∀ j ∈ jobs, DataWf j.2.1) : NP (C03E.genAll E lang multi jobs) := by
  cases lang with
  | typescript cfg => exact TypeScript.generateAll_np E cfg multi jobs (jobsNo64_of_wf hw)
  | kotlin cfg => exact Kotlin.generateAll_np E cfg multi jobs
  | swift cfg => exact Swift.generateAll_np E cfg multi jobs
  | scala cfg => exact Scala.generateAll_np E cfg multi jobs
  | go cfg => exact Go.generateAll_np E cfg multi jobs hgo (jobsUnitOk_of_wf hw)
  | python cfg => exact Python.generateAll_np E cfg multi jobs (jobsUnitOk_of_wf hw)

theorem run_np (E : Ext) (lang : Generate.LangCfg) (multi : Bool) (targetOs : List Str)
    (pick : List ImportedType → Option ImportedType) (files : List Generate.SourceFile)
    (hgo : GoOk E lang = true) : NP (Generate.run E lang multi targetOs pick files) := by
  rw [Run.run_eq]
  refine Outcome.np_bind_ok (parseAll_np E _ pick files) fun arrivals hpa => ?_
  refine np_ite _ _ _ (np_ok _) (np_bind _ _ ?_ fun _ => np_ok _)
  exact generate_np E lang multi _ hgo fun j hj => crates_wf E _ pick files arrivals hpa _ (Run.mem_jobs hj)

end TsV.C07BE
