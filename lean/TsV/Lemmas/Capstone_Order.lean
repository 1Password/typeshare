import TsV.Lemmas.Capstone_Run
/-!
# Capstone — clauses 5 (C09, references) and 6 (C11, dependency order) for the items of one file

* `progOf l` — the `ParsedData` holding the parsed items `l` (what C09 calls the program); its
  `serde(rename)` table is the one the run uses (`renamesOf_progOf`), its type items are the non-const
  parsed items (`mem_typeItems_progOf`).
* `namesDistinct_perm`, `depthOk_perm`, `genericsUsed_perm`, `acyclic_perm` — the hypotheses of `C11_order`
  are invariant under permutation, so they can be stated on the list `emitted` (source order) although
  `reconcile` sorts the items before `topsort` sees them.
-/
namespace TsV.Cap
open TsV TsV.Pipeline TsV.Generate TsV.C03E TsV.Lang TsV.Deps TsV.C11

/-! ## clause 5: the program C09 speaks about -/

/-- the parsed items of a file as a `ParsedData` (a single crate named `""`) -/
def progOf (l : List RustItem) : ParsedData :=
  { structs := structsOf l, enums := enumsOf l, aliases := aliasesOf l, consts := constsOf l }

theorem renamesOf_progOf (l : List RustItem) : C09.renamesOf (progOf l) = renamesFor [] l := rfl

theorem mem_typeItems_progOf {l : List RustItem} {it : RustItem} :
    it ∈ C09.typeItems (progOf l) ↔ it ∈ l ∧ isConst it = false := by
  unfold C09.typeItems progOf structsOf enumsOf aliasesOf
  simp only [List.mem_append, List.mem_map, List.mem_filterMap]
  constructor
  · rintro ((⟨s, ⟨x, hx, hs⟩, rfl⟩ | ⟨e, ⟨x, hx, he⟩, rfl⟩) | ⟨a, ⟨x, hx, ha⟩, rfl⟩)
    · cases x <;> simp at hs; subst hs; exact ⟨hx, rfl⟩
    · cases x <;> simp at he; subst he; exact ⟨hx, rfl⟩
    · cases x <;> simp at ha; subst ha; exact ⟨hx, rfl⟩
  · rintro ⟨hl, hc⟩
    cases it with
    | struct s => exact .inl (.inl ⟨s, ⟨_, hl, rfl⟩, rfl⟩)
    | «enum» e => exact .inl (.inr ⟨e, ⟨_, hl, rfl⟩, rfl⟩)
    | alias a => exact .inr ⟨a, ⟨_, hl, rfl⟩, rfl⟩
    | const k => simp [isConst] at hc

theorem refs_const (lc : LangCfg) (r : Renames) (k : RustConst) : C09.refs lc r (.const k) = [] := rfl

theorem defName_rec (lc : LangCfg) (c : Str) (r : Renames) (it : RustItem) :
    C09.defName lc (recItem c r it) = C09.defName lc it := by
  cases lc <;> cases it <;> rfl

/-- **C09 on the items of one file**: every reference (C09's `refs`, spelled as the back end spells the
leaf `reconcile` left there) outside `KnownRef` is spelled with the name its target is defined under -/
theorem refs_consistent (lc : LangCfg) (l : List RustItem) (hs : C09.InScope (progOf l)) (hc : C09.CfgOk lc)
    (hsh : C09.Known_shadow (progOf l) = false) :
    ∀ it ∈ l, ∀ ref ∈ C09.refs lc (renamesFor [] l) it, C09.KnownRef lc (progOf l) ref = false →
      ∀ n, C09.Defines lc (progOf l) ref.target n → ref.spelling = n := by
  intro it hit ref href hk n hd
  cases hci : isConst it with
  | true =>
    cases it with
    | const k => simp [refs_const] at href
    | _ => simp [isConst] at hci
  | false =>
    rw [← renamesOf_progOf] at href
    exact C09.C09_partial (progOf l) hs lc hc hsh it (mem_typeItems_progOf.2 ⟨hit, hci⟩) ref href hk n hd

/-! ## clause 6: the hypotheses of `C11_order` do not depend on the order of the list -/

theorem namesDistinct_perm {L J : List RustItem} (hp : J.Perm L) (h : NamesDistinct L) : NamesDistinct J :=
  ((hp.map RustItem.originalName).nodup_iff).2 h

theorem depthOk_perm {L J : List RustItem} (hp : J.Perm L) (h : DepthOk L) : DepthOk J := by
  intro it hit t ht
  have := h it (hp.subset hit) t ht
  simpa [fuelFor, hp.length_eq] using this

theorem lookup_isSome_perm {L J : List RustItem} (hp : J.Perm L) (g : Str) (h : (lookup J g).isSome) :
    (lookup L g).isSome := by
  obtain ⟨thing, ht⟩ := Option.isSome_iff_exists.1 h
  have hn := lookup_name ht
  have hm := hp.subset (lookup_mem ht)
  rw [← hn]
  exact lookup_isSome_of_mem hm

theorem genericsUsed_perm {L J : List RustItem} (hp : J.Perm L) (h : GenericsUsed L) : GenericsUsed J := by
  intro it hit g hg hl
  exact h it (hp.subset hit) g hg (lookup_isSome_perm hp g hl)

theorem refReach_perm {L J : List RustItem} (hp : J.Perm L) {i j : Nat} (h : RefReach J i j) :
    ∃ a b, J[i]? = some a ∧ J[j]? = some b ∧
      ∀ (i' j' : Nat), L[i']? = some a → L[j']? = some b → RefReach L i' j' := by
  induction h with
  | single hr =>
    obtain ⟨a, b, ha, hb, hx⟩ := refers_iff.1 hr
    exact ⟨a, b, ha, hb, fun i' j' ha' hb' => .single (refers_iff.2 ⟨a, b, ha', hb', hx⟩)⟩
  | step _ hr ih =>
    obtain ⟨a, m, ha, hm, hall⟩ := ih
    obtain ⟨m', b, hm', hb, hx⟩ := refers_iff.1 hr
    rw [hm] at hm'
    cases hm'
    refine ⟨a, b, ha, hb, fun i' j' ha' hb' => ?_⟩
    obtain ⟨k', hk'⟩ := List.getElem?_of_mem (hp.subset (List.mem_iff_getElem?.2 ⟨_, hm⟩))
    exact .step (hall i' k' ha' hk') (refers_iff.2 ⟨m, b, hk', hb', hx⟩)

theorem acyclic_perm {L J : List RustItem} (hp : J.Perm L) (h : AcyclicRefs L) : AcyclicRefs J := by
  intro i hi
  obtain ⟨a, b, ha, hb, hall⟩ := refReach_perm hp hi
  rw [ha] at hb
  cases hb
  obtain ⟨i', hi'⟩ := List.getElem?_of_mem (hp.subset (List.mem_iff_getElem?.2 ⟨_, ha⟩))
  exact h i' (hall i' i' hi' hi')

/-- **C11 on the blocks of one file**: if the items the back end received (in any order) have distinct
names, bounded depth, used alias parameters and an acyclic reference relation, then the order
`generate_types` writes in puts every definition after the definitions it mentions -/
theorem order_of_generateOrder (d : ParsedData) (items L : List RustItem)
    (ho : Pipeline.generateOrder d = some items) (hp : (C12L.itemsOf d).Perm L)
    (h1 : NamesDistinct L) (h2 : DepthOk L) (h3 : GenericsUsed L) (h4 : AcyclicRefs L) :
    ∀ (pa pb : Nat) (a b : RustItem), items[pa]? = some a → items[pb]? = some b →
      b.originalName ∈ refsItem a → pb < pa := by
  obtain ⟨out, hout, _, hord⟩ := C11_order (C12L.itemsOf d) (namesDistinct_perm hp h1) (depthOk_perm hp h2)
    (genericsUsed_perm hp h3) (acyclic_perm hp h4)
  have : Deps.topsort (C12L.itemsOf d) = some items := ho
  rw [this] at hout
  cases hout
  exact hord

/-! ## the run; clauses 5 and 6 as statements about it -/

/-- a run that produces output parsed every annotated accepted item -/
theorem run_core (E : Ext) (lang : LangCfg) (targetOs : List Str)
    (pick : List ImportedType → Option ImportedType) (f : SourceFile) (outs : List (Str × Str))
    (h : run E lang false targetOs pick [f] = .ok (.outputs outs)) :
    (sourceItems (ctxOf lang targetOs) f.file).map (C03.parseItem E (ctxOf lang targetOs)) =
      (parsedItems E (ctxOf lang targetOs) f.file).map Outcome.ok ∧
    (parsedItems E (ctxOf lang targetOs) f.file = [] → outs = []) := by
  obtain ⟨herr, _, hnil, _⟩ := C03_Emission.run_outputs E lang targetOs pick f outs h
  exact ⟨parsed_aligned E _ _ herr, hnil⟩

/-- no parsed item: no annotated accepted source item -/
theorem sourceItems_nil_of_aligned {E : Ext} {ctx : ParseContext} {f : Syn.File}
    (hal : (sourceItems ctx f).map (C03.parseItem E ctx) = (parsedItems E ctx f).map Outcome.ok)
    (hP : parsedItems E ctx f = []) : sourceItems ctx f = [] := by
  rw [hP] at hal
  simpa using hal

/-- **clause 6**, as a statement about the order `items` of the blocks -/
def OrderClause (emitted items : List RustItem) : Prop :=
  NamesDistinct emitted → DepthOk emitted → GenericsUsed emitted → AcyclicRefs emitted →
    ∀ (pa pb : Nat) (a b : RustItem), items[pa]? = some a → items[pb]? = some b →
      b.originalName ∈ refsItem a → pb < pa

/-- the blocks `items` of a run whose job `d` (if anything was printed) was written in `generateOrder` -/
theorem orderClause_of_run {emitted items : List RustItem} (d : ParsedData) (hperm : items.Perm emitted)
    (h : emitted ≠ [] → (C12L.itemsOf d).Perm emitted ∧ Pipeline.generateOrder d = some items) :
    OrderClause emitted items := by
  intro h1 h2 h3 h4 pa pb a b ha
  by_cases he : emitted = []
  · subst he
    rw [hperm.eq_nil] at ha
    cases ha
  · exact order_of_generateOrder d items emitted (h he).2 (h he).1 h1 h2 h3 h4 pa pb a b ha

/-- **clause 5** (C09's scope: a single crate named `""`, `InScope`, `CfgOk`, no shadowing; per reference:
outside `KnownRef`, i.e. not a reference to a renamed Go enum) -/
def RefsClause (lc : LangCfg) (crate : Str) (parsed : List RustItem) : Prop :=
  crate = [] → C09.InScope (progOf parsed) → C09.CfgOk lc → C09.Known_shadow (progOf parsed) = false →
    ∀ it ∈ parsed, ∀ ref ∈ C09.refs lc (renamesFor crate parsed) it, C09.KnownRef lc (progOf parsed) ref = false →
      ∀ n, C09.Defines lc (progOf parsed) ref.target n → ref.spelling = n

theorem refsClause (lc : LangCfg) (crate : Str) (parsed : List RustItem) : RefsClause lc crate parsed := by
  intro hc hs hcfg hsh
  subst hc
  exact refs_consistent lc parsed hs hcfg hsh

end TsV.Cap
