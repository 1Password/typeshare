import TsV.Lemmas.CollectMulti
import TsV.Lemmas.ListRel
/-!
# General list lemmas for C06 (multi-file mode)

* `Rel₂`: a pointwise relation between two lists of the same length, read through `rel₂_iff` as `C01.Forall₂`;
* `foldl_or`: what a fold that accumulates a set contains; `insertSet` folds.
-/
namespace TsV.C01.Forall₂
variable {α β γ : Type _} {R : α → β → Prop} {l : List α} {r : List β}

theorem refl {R : α → α → Prop} {l : List α} (h : ∀ a ∈ l, R a a) : Forall₂ R l l := by
  induction l with
  | nil => exact .nil
  | cons a l ih => exact .cons (h a List.mem_cons_self) (ih fun x hx => h x (List.mem_cons_of_mem _ hx))

theorem flatMap_perm {f : α → List γ} {g : β → List γ} (h : Forall₂ R l r)
    (hfg : ∀ a ∈ l, ∀ b ∈ r, R a b → (f a).Perm (g b)) : (l.flatMap f).Perm (r.flatMap g) := by
  have := h.imp_mem hfg
  clear h hfg
  induction this with
  | nil => exact .refl _
  | cons hab _ ih => rw [List.flatMap_cons, List.flatMap_cons]; exact hab.append ih

end TsV.C01.Forall₂

namespace TsV.C06M
open TsV

/-- `Rel₂ R l l'`: the lists have the same length and `R` holds position by position -/
def Rel₂ {α β} (R : α → β → Prop) : List α → List β → Prop
  | [], [] => True
  | x :: xs, y :: ys => R x y ∧ Rel₂ R xs ys
  | [], _ :: _ => False
  | _ :: _, [] => False

theorem rel₂_iff {α β} {R : α → β → Prop} {l : List α} {l' : List β} : Rel₂ R l l' ↔ C01.Forall₂ R l l' := by
  induction l generalizing l' with
  | nil =>
    cases l' with
    | nil => exact ⟨fun _ => .nil, fun _ => trivial⟩
    | cons _ _ => exact ⟨False.elim, nofun⟩
  | cons x xs ih =>
    cases l' with
    | nil => exact ⟨False.elim, nofun⟩
    | cons y ys => exact ⟨fun h => .cons h.1 (ih.1 h.2), fun | .cons h t => ⟨h, ih.2 t⟩⟩

theorem flatMap_append_perm {α β} (f g : α → List β) : ∀ l : List α,
    (l.flatMap fun x => f x ++ g x).Perm (l.flatMap f ++ l.flatMap g) := by
  intro l
  induction l with
  | nil => exact .refl _
  | cons x t ih =>
    simp only [List.flatMap_cons, List.append_assoc]
    refine List.Perm.append_left _ ((ih.append_left _).trans ?_)
    rw [← List.append_assoc, ← List.append_assoc]
    exact List.perm_append_comm.append_right _

/-! ### folds that accumulate a set -/

/-- a property that each step of a fold either establishes or inherits holds of the result iff some step
establishes it or it held at the start -/
theorem foldl_or {ι σ} (step : σ → ι → σ) (Q : σ → Prop) (A : ι → Prop)
    (h : ∀ s i, Q (step s i) ↔ A i ∨ Q s) : ∀ (l : List ι) (s : σ),
    Q (l.foldl step s) ↔ (∃ i ∈ l, A i) ∨ Q s := by
  intro l
  induction l with
  | nil => intro s; simp
  | cons i l ih =>
    intro s
    rw [List.foldl_cons, ih, h]
    simp only [List.mem_cons, exists_eq_or_imp]
    exact or_left_comm.trans or_assoc.symm

theorem mem_insertSet {α} [BEq α] [LawfulBEq α] (x y : α) (acc : List α) :
    x ∈ Visitor.insertSet y acc ↔ x = y ∨ x ∈ acc := by
  unfold Visitor.insertSet
  by_cases hy : acc.contains y = true
  · rw [if_pos hy]
    exact ⟨Or.inr, fun h => h.elim (fun e => e ▸ List.contains_iff_mem.1 hy) id⟩
  · rw [if_neg hy, List.mem_append, List.mem_singleton]
    exact or_comm

/-- membership in a fold of `insertSet` -/
theorem mem_foldl_insertSet {α} [BEq α] [LawfulBEq α] (x : α) (l acc : List α) :
    x ∈ l.foldl (fun acc i => Visitor.insertSet i acc) acc ↔ x ∈ acc ∨ x ∈ l := by
  rw [foldl_or (fun acc i => Visitor.insertSet i acc) (x ∈ ·) (x = ·) (fun s i => mem_insertSet x i s)]
  simp [or_comm]

end TsV.C06M
