import TsV.Model.Rename
import TsV.Model.Serde
/-! The ASCII character classes, the case maps on strings, the loops of `rename.rs` -/
namespace TsV.RenameLemmas
open TsV TsV.Str TsV.Rename TsV.Serde

/-- conventional field characters: `[a-z0-9_]` -/
def fcChar (c : Char) : Bool := isAsciiLower c || isAsciiDigit c || c == '_'
def alnum (c : Char) : Bool := isAsciiLower c || isAsciiUpper c || isAsciiDigit c

/-! ### the ASCII classes as code-point ranges

`Str` defines the classes and the two case maps by finite matches.  Each match is opened once, here;
every other fact about the classes is arithmetic on the code point. -/

theorem lower_spec (c : Char) (h : isAsciiLower c = true) :
    97 ≤ c.toNat ∧ c.toNat ≤ 122 ∧ (asciiUpper c).toNat + 32 = c.toNat := by
  revert h; fun_cases isAsciiLower c <;> first | decide +kernel | exact nofun
theorem upper_spec (c : Char) (h : isAsciiUpper c = true) :
    65 ≤ c.toNat ∧ c.toNat ≤ 90 ∧ (asciiLower c).toNat = c.toNat + 32 := by
  revert h; fun_cases isAsciiUpper c <;> first | decide +kernel | exact nofun
theorem digit_range (c : Char) (h : isAsciiDigit c = true) : 48 ≤ c.toNat ∧ c.toNat ≤ 57 := by
  revert h; fun_cases isAsciiDigit c <;> first | decide +kernel | exact nofun

theorem asciiUpper_of_notLower (c : Char) (h : isAsciiLower c = false) : asciiUpper c = c := by
  fun_cases asciiUpper c <;> first | exact absurd h (by decide +kernel) | rfl
theorem asciiLower_of_notUpper (c : Char) (h : isAsciiUpper c = false) : asciiLower c = c := by
  fun_cases asciiLower c <;> first | exact absurd h (by decide +kernel) | rfl

theorem isAsciiLower_iff (c : Char) : isAsciiLower c = true ↔ 97 ≤ c.toNat ∧ c.toNat ≤ 122 := by
  refine ⟨fun h => ⟨(lower_spec c h).1, (lower_spec c h).2.1⟩, fun h => ?_⟩
  have table : ∀ n < 123, 97 ≤ n → isAsciiLower (Char.ofNat n) = true := by decide +kernel
  rw [← Char.ofNat_toNat c]; exact table _ (by omega) h.1
theorem isAsciiUpper_iff (c : Char) : isAsciiUpper c = true ↔ 65 ≤ c.toNat ∧ c.toNat ≤ 90 := by
  refine ⟨fun h => ⟨(upper_spec c h).1, (upper_spec c h).2.1⟩, fun h => ?_⟩
  have table : ∀ n < 91, 65 ≤ n → isAsciiUpper (Char.ofNat n) = true := by decide +kernel
  rw [← Char.ofNat_toNat c]; exact table _ (by omega) h.1

theorem lower_ascii (c : Char) (h : isAsciiLower c = true) : c.toNat < 128 := by
  have := lower_spec c h; omega
theorem upper_ascii (c : Char) (h : isAsciiUpper c = true) : c.toNat < 128 := by
  have := upper_spec c h; omega
theorem digit_ascii (c : Char) (h : isAsciiDigit c = true) : c.toNat < 128 := by
  have := digit_range c h; omega

theorem lower_notUpper (c : Char) (h : isAsciiLower c = true) : isAsciiUpper c = false :=
  Bool.eq_false_iff.2 fun hu => by have := lower_spec c h; have := upper_spec c hu; omega
theorem upper_notLower (c : Char) (h : isAsciiUpper c = true) : isAsciiLower c = false :=
  Bool.eq_false_iff.2 fun hl => by have := lower_spec c hl; have := upper_spec c h; omega
theorem digit_notUpper (c : Char) (h : isAsciiDigit c = true) : isAsciiUpper c = false :=
  Bool.eq_false_iff.2 fun hu => by have := digit_range c h; have := upper_spec c hu; omega
theorem digit_notLower (c : Char) (h : isAsciiDigit c = true) : isAsciiLower c = false :=
  Bool.eq_false_iff.2 fun hl => by have := digit_range c h; have := lower_spec c hl; omega
theorem upper_notDigit (c : Char) (h : isAsciiUpper c = true) : isAsciiDigit c = false :=
  Bool.eq_false_iff.2 fun hd => by have := digit_range c hd; have := upper_spec c h; omega
theorem lower_notDigit (c : Char) (h : isAsciiLower c = true) : isAsciiDigit c = false :=
  Bool.eq_false_iff.2 fun hd => by have := digit_range c hd; have := lower_spec c h; omega

theorem lower_lowerId (c : Char) (h : isAsciiLower c = true) : asciiLower c = c :=
  asciiLower_of_notUpper c (lower_notUpper c h)
theorem digit_lowerId (c : Char) (h : isAsciiDigit c = true) : asciiLower c = c :=
  asciiLower_of_notUpper c (digit_notUpper c h)
theorem digit_upperId (c : Char) (h : isAsciiDigit c = true) : asciiUpper c = c :=
  asciiUpper_of_notLower c (digit_notLower c h)
theorem upper_upperId (c : Char) (h : isAsciiUpper c = true) : asciiUpper c = c :=
  asciiUpper_of_notLower c (upper_notLower c h)

theorem lower_upperNe (c : Char) (h : isAsciiLower c = true) : asciiUpper c ≠ c := fun e => by
  have := (lower_spec c h).2.2; rw [e] at this; omega
theorem lower_upper_isUpper (c : Char) (h : isAsciiLower c = true) : isAsciiUpper (asciiUpper c) = true :=
  (isAsciiUpper_iff _).2 (by have := lower_spec c h; omega)
theorem upper_lower_isLower (c : Char) (h : isAsciiUpper c = true) : isAsciiLower (asciiLower c) = true :=
  (isAsciiLower_iff _).2 (by have := upper_spec c h; omega)
theorem upper_lower_upper (c : Char) (h : isAsciiUpper c = true) : asciiUpper (asciiLower c) = c :=
  Char.toNat_inj.1 (by
    have := upper_spec c h; have := lower_spec _ (upper_lower_isLower c h); omega)
theorem lower_upper_lower (c : Char) (h : isAsciiLower c = true) : asciiLower (asciiUpper c) = c :=
  Char.toNat_inj.1 (by
    have := lower_spec c h; have := upper_spec _ (lower_upper_isUpper c h); omega)

/-- on every character "fixed by upper-casing" is "not a lowercase letter" -/
theorem upperFixed_iff_notLower (c : Char) : asciiUpper c = c ↔ isAsciiLower c = false :=
  ⟨fun h => Bool.eq_false_iff.2 fun hl => lower_upperNe c hl h, asciiUpper_of_notLower c⟩

theorem lower_ne_us (c : Char) (h : isAsciiLower c = true) : c ≠ '_' := by
  rintro rfl; cases h
theorem upper_ne_us (c : Char) (h : isAsciiUpper c = true) : c ≠ '_' := by
  rintro rfl; cases h
theorem digit_ne_us (c : Char) (h : isAsciiDigit c = true) : c ≠ '_' := by
  rintro rfl; cases h

theorem asciiUpper_eq_us (c : Char) : asciiUpper c = '_' ↔ c = '_' := by
  cases hl : isAsciiLower c with
  | false => rw [asciiUpper_of_notLower c hl]
  | true =>
    refine ⟨fun e => ?_, fun e => absurd e (lower_ne_us c hl)⟩
    exact absurd e (upper_ne_us _ (lower_upper_isUpper c hl))

theorem fc_range (c : Char) (h : fcChar c = true) :
    (97 ≤ c.toNat ∧ c.toNat ≤ 122) ∨ (48 ≤ c.toNat ∧ c.toNat ≤ 57) ∨ c.toNat = 95 := by
  simp only [fcChar, Bool.or_eq_true, beq_iff_eq] at h
  rcases h with (h | h) | rfl
  · exact .inl ⟨(lower_spec c h).1, (lower_spec c h).2.1⟩
  · exact .inr (.inl (digit_range c h))
  · exact .inr (.inr rfl)
theorem fc_ascii (c : Char) (h : fcChar c = true) : c.toNat < 128 := by
  have := fc_range c h; omega
theorem fc_notUpper (c : Char) (h : fcChar c = true) : isAsciiUpper c = false :=
  Bool.eq_false_iff.2 fun hu => by have := fc_range c h; have := upper_spec c hu; omega
theorem fc_lowerId (c : Char) (h : fcChar c = true) : asciiLower c = c :=
  asciiLower_of_notUpper c (fc_notUpper c h)

theorem alnum_ascii (c : Char) (h : alnum c = true) : c.toNat < 128 := by
  simp only [alnum, Bool.or_eq_true] at h
  rcases h with (h | h) | h
  · exact lower_ascii c h
  · exact upper_ascii c h
  · exact digit_ascii c h
theorem alnum_ne_us (c : Char) (h : alnum c = true) : c ≠ '_' := by
  simp only [alnum, Bool.or_eq_true] at h
  rcases h with (h | h) | h
  · exact lower_ne_us c h
  · exact upper_ne_us c h
  · exact digit_ne_us c h

theorem map_eq_self_iff {α : Type _} (f : α → α) (s : List α) : s.map f = s ↔ ∀ c ∈ s, f c = c := by
  induction s with
  | nil => simp
  | cons a t ih => simp [ih]

theorem flatMap_singleton {α β : Type _} (f : α → List β) (g : α → β) (s : List α)
    (h : ∀ c ∈ s, f c = [g c]) : s.flatMap f = s.map g := by
  induction s with
  | nil => rfl
  | cons a t ih =>
    rw [List.flatMap_cons, List.map_cons, h a (List.mem_cons_self ..),
      ih fun c hc => h c (List.mem_cons_of_mem _ hc)]
    rfl

theorem lowerStr_ascii (U : UnicodeOps) (hU : U.AsciiCorrect) (s : Str)
    (h : ∀ c ∈ s, c.toNat < 128) : U.lowerStr s = toAsciiLower s :=
  flatMap_singleton _ _ s fun c hc => hU.toLower c (h c hc)

theorem upperStr_ascii (U : UnicodeOps) (hU : U.AsciiCorrect) (s : Str)
    (h : ∀ c ∈ s, c.toNat < 128) : U.upperStr s = toAsciiUpper s :=
  flatMap_singleton _ _ s fun c hc => hU.toUpper c (h c hc)

theorem toAsciiLower_id (s : Str) (h : ∀ c ∈ s, asciiLower c = c) : toAsciiLower s = s :=
  (map_eq_self_iff _ s).2 h

theorem replaceChar_absent (s : Str) (c : Char) (r : Str) (h : c ∉ s) : replaceChar s c r = s := by
  unfold replaceChar
  rw [flatMap_singleton _ id s, List.map_id]
  intro a ha
  have hac : a ≠ c := fun e => h (e ▸ ha)
  exact if_neg hac

/-- `str::replace(pat, rep)` with a `#` in the pattern does nothing to a string without `#`
(`"r#"`, the raw-identifier prefix, is the pattern the parser uses) -/
theorem replaceSub_go_id (pat rep : Str) (hp : '#' ∈ pat) : ∀ (fuel : Nat) (s : Str), '#' ∉ s →
    replaceSub.go pat rep fuel s = s := by
  have hsw : ∀ (s : Str), '#' ∉ s → startsWith s pat = false := by
    intro s
    induction s generalizing pat with
    | nil =>
      intro _
      cases pat with
      | nil => simp at hp
      | cons b p => rfl
    | cons a t ih =>
      intro hs
      cases pat with
      | nil => simp at hp
      | cons b p =>
        simp only [startsWith, Bool.and_eq_false_imp, beq_iff_eq]
        intro hab
        subst hab
        have ha : a ≠ '#' := fun h => hs (by simp [h])
        have hp' : '#' ∈ p := by
          simp only [List.mem_cons] at hp
          rcases hp with h | h
          · exact absurd h.symm ha
          · exact h
        exact ih p hp' (fun h => hs (by simp [h]))
  intro fuel
  induction fuel with
  | zero => intro s _; cases s <;> rfl
  | succ n ih =>
    intro s hs
    cases s with
    | nil => rfl
    | cons c t =>
      simp only [replaceSub.go, hsw (c :: t) hs, Bool.false_eq_true, if_false]
      rw [ih t (fun h => hs (by simp [h]))]

theorem replaceSub_id (pat rep : Str) (hp : '#' ∈ pat) (s : Str) (hs : '#' ∉ s) : replaceSub s pat rep = s := by
  unfold replaceSub
  rw [if_neg (by cases pat with | nil => simp at hp | cons b p => simp)]
  exact replaceSub_go_id pat rep hp _ s hs

theorem trim_id (U : UnicodeOps) (k : Str) (h : ∀ c ∈ k, U.isWhite c = false) : U.trim k = k := by
  have hd : ∀ l : Str, (∀ c ∈ l, U.isWhite c = false) → l.dropWhile U.isWhite = l := by
    intro l hl
    cases l with
    | nil => rfl
    | cons a t => simp [List.dropWhile, hl a (by simp)]
  unfold UnicodeOps.trim
  rw [hd k h, hd k.reverse (fun c hc => h c (by simpa using hc)), List.reverse_reverse]

theorem upper_replace_comm (s : Str) :
    toAsciiUpper (replaceChar s '_' ['-']) = replaceChar (toAsciiUpper s) '_' ['-'] := by
  unfold replaceChar toAsciiUpper
  rw [List.map_flatMap, List.flatMap_map]
  congr 1
  funext c
  by_cases hc : c = '_'
  · subst hc; decide +kernel
  · rw [if_neg hc, if_neg (mt (asciiUpper_eq_us c).1 hc)]; rfl

/-- `toAsciiUpper s == s` means every character is fixed by upper-casing (the all-capitals test
before the `fix:` commit 8290303) -/
theorem allUpper_fixed (s : Str) (h : (toAsciiUpper s == s) = true) : ∀ c ∈ s, asciiUpper c = c :=
  (map_eq_self_iff _ s).1 (eq_of_beq h)

/-! the all-capitals test since the `fix:` commit 8290303: `isAllUpper U s = !(s.any U.isLower)` -/

theorem isAllUpper_iff (U : UnicodeOps) (s : Str) :
    isAllUpper U s = true ↔ ∀ c ∈ s, U.isLower c = false := by
  simp [isAllUpper]

theorem isAllUpper_of_lower (U : UnicodeOps) (s : Str) (c : Char) (hc : c ∈ s) (hl : U.isLower c = true) :
    isAllUpper U s = false :=
  Bool.eq_false_iff.2 fun h => by rw [(isAllUpper_iff U s).1 h c hc] at hl; cases hl

/-- **the bridge**: over ASCII names the repaired test is the old one, `to_ascii_uppercase() == self` -/
theorem isAllUpper_ascii (U : UnicodeOps) (hU : U.AsciiCorrect) (s : Str) (h : ∀ c ∈ s, c.toNat < 128) :
    isAllUpper U s = (toAsciiUpper s == s) := by
  rw [Bool.eq_iff_iff, isAllUpper_iff, beq_iff_eq, toAsciiUpper, map_eq_self_iff]
  refine forall_congr' fun c => forall_congr' fun hc => ?_
  rw [hU.lower c (h c hc), upperFixed_iff_notLower]

/-- over ASCII names `to_pascal_case` does not depend on which (correct) table is used -/
theorem toPascal_asciiTable (U : UnicodeOps) (hU : U.AsciiCorrect) (s : Str) (h : ∀ c ∈ s, c.toNat < 128) :
    toPascal U s = toPascal UnicodeOps.ascii s := by
  unfold toPascal
  rw [isAllUpper_ascii U hU s h, isAllUpper_ascii _ UnicodeOps.ascii_correct s h]

/-- the form used by the scope lemmas: an ASCII lowercase letter in the name switches the test off -/
theorem isAllUpper_asciiLower (U : UnicodeOps) (hU : U.AsciiCorrect) (s : Str) (c : Char) (hc : c ∈ s)
    (hl : isAsciiLower c = true) : isAllUpper U s = false :=
  isAllUpper_of_lower U s c hc (by rw [hU.lower c (lower_ascii c hl)]; exact hl)

theorem pascalGo_field (tl : Bool) (s : Str) (h : ∀ c ∈ s, asciiLower c = c) :
    ∀ cap, pascalGo tl cap s = fieldPascalGo cap s := by
  induction s with
  | nil => intro cap; rfl
  | cons c t ih =>
    intro cap
    have ht : ∀ x ∈ t, asciiLower x = x := fun x hx => h x (by simp [hx])
    simp only [pascalGo, fieldPascalGo, ih ht, h c List.mem_cons_self, ite_self]

theorem pascalGo_id (tl : Bool) (s : Str)
    (h : ∀ c ∈ s, c ≠ '_' ∧ (tl = true → asciiLower c = c)) : pascalGo tl false s = s := by
  induction s with
  | nil => rfl
  | cons c t ih =>
    have ht := ih (fun x hx => h x (by simp [hx]))
    have hc := h c (by simp)
    simp only [pascalGo, hc.1, if_false, Bool.false_eq_true, ht]
    cases tl
    · simp
    · simp [hc.2 rfl]

theorem snakeGo_id (U : UnicodeOps) (au : Bool) (s : Str)
    (h : ∀ c ∈ s, U.isUpper c = false ∧ asciiLower c = c) : ∀ first, snakeGo U au first s = s := by
  induction s with
  | nil => intro first; rfl
  | cons c t ih =>
    intro first
    have hc := h c (by simp)
    simp [snakeGo, hc.1, hc.2, ih (fun x hx => h x (by simp [hx]))]

theorem snakeGo_variant (U : UnicodeOps) (au : Bool) (s : Str)
    (h : au = true → ∀ c ∈ s, U.isUpper c = false) :
    snakeGo U au false s = variantSnakeGo U false s := by
  induction s with
  | nil => rfl
  | cons c t ih =>
    have ht := ih (fun ha x hx => h ha x (by simp [hx]))
    simp only [snakeGo, variantSnakeGo, ht]
    cases au
    · simp
    · simp [h rfl c (by simp)]

end TsV.RenameLemmas
