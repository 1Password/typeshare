import TsV.Lemmas.C10_Tr
import TsV.Lemmas.Printers
import TsV.Model.Lang.Common
import TsV.Lemmas.Outcome
/-!
# C10 — the lexical layer: a character automaton for the C-family targets and its algebra

`scan` runs a small lexer over a text, character by character: code, the state after a `/`, line
comment, block comment (and the state after a `*` inside it), string literal delimited by `"` or
`'` (and the state after a back-slash inside it), Go raw string.  In code state brackets are pushed
and popped on a stack; a closer that does not match the innermost opener, a line break inside a
string literal, or a closer on an empty stack stop the run (`none`).

`wellBracketed cfg s`: the run over `s` from code state with the empty stack ends in code state
with the empty stack — every comment, string literal and bracket opened in `s` is closed in `s`, in
the right order.  `cfg.angles` makes `<`/`>` brackets (TypeScript, Kotlin, Swift declarations);
`cfg.rawTick` makes the back-tick a raw-string delimiter (Go struct tags).

Block comments are not nested here (exact for TypeScript and Go; Kotlin, Swift and Scala nest them,
but those back ends write block comments only in the file header, and line comments elsewhere).

This file is the trusted *specification* of "all delimiters, string literals and comments are
closed" plus the lemmas that make it compositional: the automaton is a `Lexer` (`lx`), so runs
compose and are framed, and texts with holes are walked by `Tr`; `NB` are the neutral pieces, and the
rest of the file says which texts are neutral or loop in a string literal or comment (classes of
characters, brackets, comments, quoted text).
-/
namespace TsV.C10Lex
open TsV TsV.Lang

inductive Mode where
  | code | slash | line | block | blockStar
  | str (q : Char) | strEsc (q : Char) | raw
deriving DecidableEq, Repr

structure LexCfg where
  angles : Bool
  rawTick : Bool
deriving DecidableEq, Repr

structure St where
  mode : Mode
  stack : List Char
deriving DecidableEq, Repr

def isQuote (c : Char) : Bool := c == '"' || c == '\''

def isOpen (cfg : LexCfg) (c : Char) : Bool :=
  c == '(' || c == '[' || c == '{' || (cfg.angles && c == '<')

/-- for a closing bracket: the opener it has to match -/
def opener? (cfg : LexCfg) (c : Char) : Option Char :=
  if c = ')' then some '(' else if c = ']' then some '[' else if c = '}' then some '{'
  else if cfg.angles && c == '>' then some '<' else none

def codeStep (cfg : LexCfg) (stk : List Char) (c : Char) : Option St :=
  if c = '/' then some ⟨.slash, stk⟩
  else if isQuote c then some ⟨.str c, stk⟩
  else if cfg.rawTick && c == '`' then some ⟨.raw, stk⟩
  else if isOpen cfg c then some ⟨.code, c :: stk⟩
  else
    match opener? cfg c with
    | some o =>
      (match stk with
       | top :: rest => if top = o then some ⟨.code, rest⟩ else none
       | [] => none)
    | none => some ⟨.code, stk⟩

def step (cfg : LexCfg) (st : St) (c : Char) : Option St :=
  match st.mode with
  | .code => codeStep cfg st.stack c
  | .slash =>
    if c = '/' then some ⟨.line, st.stack⟩ else if c = '*' then some ⟨.block, st.stack⟩
    else codeStep cfg st.stack c
  | .line => if c = '\n' then some ⟨.code, st.stack⟩ else some ⟨.line, st.stack⟩
  | .block => if c = '*' then some ⟨.blockStar, st.stack⟩ else some ⟨.block, st.stack⟩
  | .blockStar =>
    if c = '/' then some ⟨.code, st.stack⟩ else if c = '*' then some ⟨.blockStar, st.stack⟩
    else some ⟨.block, st.stack⟩
  | .str q =>
    if c = '\\' then some ⟨.strEsc q, st.stack⟩ else if c = q then some ⟨.code, st.stack⟩
    else if c = '\n' then none else some ⟨.str q, st.stack⟩
  | .strEsc q => if c = '\n' then none else some ⟨.str q, st.stack⟩
  | .raw => if c = '`' then some ⟨.code, st.stack⟩ else some ⟨.raw, st.stack⟩

def scan (cfg : LexCfg) : St → Str → Option St
  | st, [] => some st
  | st, c :: cs =>
    match step cfg st c with
    | some st' => scan cfg st' cs
    | none => none

def init : St := ⟨.code, []⟩

/-- **the specification**: everything opened in `s` is closed in `s` -/
def wellBracketed (cfg : LexCfg) (s : Str) : Bool := scan cfg init s == some init

/-! ## properties of texts that hold of `[]` and are kept by `++`

Neutral pieces and runs that come back to the state they started in are such properties, for this
lexer and for the Python one; the list operations of the printers keep them. -/

theorem flatMap_closed {P : Str → Prop} (nil : P []) (append : ∀ x y, P x → P y → P (x ++ y)) {α} (f : α → Str) :
    ∀ (l : List α), (∀ a ∈ l, P (f a)) → P (l.flatMap f) := by
  intro l
  induction l with
  | nil => exact fun _ => nil
  | cons a as ih =>
    intro h
    rw [List.flatMap_cons]
    exact append _ _ (h a List.mem_cons_self) (ih fun b hb => h b (List.mem_cons_of_mem a hb))

theorem intercalate_closed {P : Str → Prop} (nil : P []) (append : ∀ x y, P x → P y → P (x ++ y)) (sep : Str)
    (hs : P sep) : ∀ (l : List Str), (∀ a ∈ l, P a) → P (Str.intercalate sep l) := by
  intro l
  induction l with
  | nil => exact fun _ => nil
  | cons x l ih =>
    intro h
    cases l with
    | nil => exact h x List.mem_cons_self
    | cons y r =>
      show P (x ++ sep ++ Str.intercalate sep (y :: r))
      exact append _ _ (append _ _ (h x List.mem_cons_self) hs) (ih fun a ha => h a (List.mem_cons_of_mem x ha))

/-! ## frame: a run does not look below the part of the stack it touches -/

theorem codeStep_frame {cfg stk c st'} (t : List Char) (h : codeStep cfg stk c = some st') :
    codeStep cfg (stk ++ t) c = some ⟨st'.mode, st'.stack ++ t⟩ := by
  unfold codeStep at h ⊢
  by_cases h1 : c = '/'
  · rw [if_pos h1] at h ⊢; cases h; rfl
  rw [if_neg h1] at h ⊢
  by_cases h2 : isQuote c = true
  · rw [if_pos h2] at h ⊢; cases h; rfl
  rw [if_neg h2] at h ⊢
  by_cases h3 : (cfg.rawTick && c == '`') = true
  · rw [if_pos h3] at h ⊢; cases h; rfl
  rw [if_neg h3] at h ⊢
  by_cases h4 : isOpen cfg c = true
  · rw [if_pos h4] at h ⊢; cases h; rfl
  rw [if_neg h4] at h ⊢
  -- a closer looks at the top of the stack only
  generalize opener? cfg c = op at h ⊢
  cases op with
  | none => cases h; rfl
  | some o =>
    cases stk with
    | nil => cases h
    | cons top rest =>
      by_cases e : top = o
      · simp only [List.cons_append, if_pos e] at h ⊢; cases h; rfl
      · simp only [if_neg e] at h; cases h

theorem step_frame {cfg a c b} (t : List Char) (h : step cfg a c = some b) :
    step cfg ⟨a.mode, a.stack ++ t⟩ c = some ⟨b.mode, b.stack ++ t⟩ := by
  cases a with | mk m s =>
  -- outside code state (and the state after a `/`, which may fall back to it) the stack is handed on untouched
  have e : m ≠ .code → m ≠ .slash →
      step cfg ⟨m, s ++ t⟩ c = (step cfg ⟨m, s⟩ c).map fun b => ⟨b.mode, b.stack ++ t⟩ := by
    intro h1 h2
    cases m <;> first | exact absurd rfl h1 | exact absurd rfl h2 | (simp only [step, apply_ite (Option.map _)]; rfl)
  cases m
  case code => exact codeStep_frame t h
  case slash =>
    simp only [step] at h ⊢
    by_cases h1 : c = '/'
    · rw [if_pos h1] at h ⊢; cases h; rfl
    rw [if_neg h1] at h ⊢
    by_cases h2 : c = '*'
    · rw [if_pos h2] at h ⊢; cases h; rfl
    rw [if_neg h2] at h ⊢
    exact codeStep_frame t h
  all_goals
    rw [e (fun x => nomatch x) (fun x => nomatch x), h]; rfl

/-! ### the step on code points, for the kernel

In code state `codeStep` compares the character with up to twelve character literals.  On the code
point the same tests are comparisons of numerals, which the kernel does in one step each; closed
runs are evaluated with this step (less than half the work). -/

def codeStepN (cfg : LexCfg) (stk : List Char) (c : Char) (n : Nat) : Option St :=
  if n = '/'.toNat then some ⟨.slash, stk⟩
  else if (n == '"'.toNat || n == '\''.toNat) then some ⟨.str c, stk⟩
  else if cfg.rawTick && n == '`'.toNat then some ⟨.raw, stk⟩
  else if (n == '('.toNat || n == '['.toNat || n == '{'.toNat || (cfg.angles && n == '<'.toNat)) then
    some ⟨.code, c :: stk⟩
  else
    match (if n = ')'.toNat then some '(' else if n = ']'.toNat then some '[' else if n = '}'.toNat then some '{'
      else if cfg.angles && n == '>'.toNat then some '<' else none) with
    | some o =>
      (match stk with
       | top :: rest => if top = o then some ⟨.code, rest⟩ else none
       | [] => none)
    | none => some ⟨.code, stk⟩

theorem codeStepN_eq (cfg : LexCfg) (stk : List Char) (c : Char) :
    codeStepN cfg stk c c.toNat = codeStep cfg stk c := by
  have hb : ∀ d : Char, (c.toNat == d.toNat) = (c == d) := fun d =>
    Bool.eq_iff_iff.2 (by simp only [beq_iff_eq]; exact Char.toNat_inj)
  simp only [codeStepN, codeStep, isQuote, isOpen, opener?, Char.toNat_inj, hb]
  rfl

def stepN (cfg : LexCfg) (st : St) (c : Char) : Option St :=
  match st.mode with
  | .code => codeStepN cfg st.stack c c.toNat
  | _ => step cfg st c

theorem stepN_eq (cfg : LexCfg) (st : St) (c : Char) : stepN cfg st c = step cfg st c := by
  cases st with | mk m s =>
  cases m <;> first | exact codeStepN_eq cfg s c | rfl

/-- the automaton as a `Lexer` -/
def lx (cfg : LexCfg) : Lexer St where
  step := step cfg
  scan := scan cfg
  scan_nil _ := rfl
  scan_cons a c cs := by rw [scan]; cases step cfg a c <;> rfl
  on a t := ⟨a.mode, a.stack ++ t⟩
  step_on t _ _ _ := step_frame t
  fast := stepN cfg
  fast_eq := stepN_eq cfg

theorem scan_append (cfg : LexCfg) (x y : Str) (a : St) :
    scan cfg a (x ++ y) = (scan cfg a x).bind fun b => scan cfg b y := (lx cfg).scan_append x y a

theorem scan_frame {cfg} (t : List Char) (x : Str) (a b : St) (h : scan cfg a x = some b) :
    scan cfg ⟨a.mode, a.stack ++ t⟩ x = some ⟨b.mode, b.stack ++ t⟩ := (lx cfg).scan_on t x a b h

/-- the run over `x` from `a` ends in `b` -/
def Run (cfg : LexCfg) (x : Str) (a b : St) : Prop := scan cfg a x = some b

theorem Run.nil {cfg a} : Run cfg [] a a := rfl

theorem Run.append {cfg x y a b c} (h1 : Run cfg x a b) (h2 : Run cfg y b c) : Run cfg (x ++ y) a c := by
  unfold Run at *
  rw [scan_append, h1]; exact h2

/-- a *neutral, balanced* piece: from code state it returns to code state with the same stack,
whatever the stack -/
def NB (cfg : LexCfg) (x : Str) : Prop := ∀ stk, Run cfg x ⟨.code, stk⟩ ⟨.code, stk⟩

theorem NB.wb {cfg x} (h : NB cfg x) : wellBracketed cfg x = true := by
  have := h []
  unfold Run at this
  simp [wellBracketed, init, this]

theorem Run.loop {cfg a} {s : Str} (h : ∀ c ∈ s, step cfg a c = some a) : Run cfg s a a := (lx cfg).loop h

theorem nb_of_wb {cfg x} (h : wellBracketed cfg x = true) : NB cfg x := by
  intro stk
  have h0 : scan cfg init x = some init := by simpa [wellBracketed] using h
  exact scan_frame stk x init init h0

theorem wb_iff_nb {cfg x} : wellBracketed cfg x = true ↔ NB cfg x := ⟨nb_of_wb, NB.wb⟩

theorem NB.nil {cfg} : NB cfg [] := fun _ => rfl

theorem NB.append {cfg x y} (hx : NB cfg x) (hy : NB cfg y) : NB cfg (x ++ y) :=
  fun stk => (hx stk).append (hy stk)

theorem NB.flatMap {cfg} {α} (f : α → Str) : ∀ (l : List α), (∀ a ∈ l, NB cfg (f a)) → NB cfg (l.flatMap f) :=
  flatMap_closed NB.nil (fun _ _ => NB.append) f

/-- The back ends walk a list with a hand-written recursion `F` that threads a printer state and
concatenates the texts `g b` of what each call returned; `h0` / `h1` are the two equations of such an
`F`, true by `rfl`. -/
theorem NB.thread {cfg} {α β σ : Type} {f : α → σ → Outcome (β × σ)} {g : β → Str}
    {F : List α → σ → Outcome (Str × σ)} (h0 : ∀ st, F [] st = .ok ([], st))
    (h1 : ∀ a as st, F (a :: as) st = (f a st).bind fun p => (F as p.2).bind fun q => .ok (g p.1 ++ q.1, q.2))
    {as : List α} (hf : ∀ a ∈ as, ∀ st b st', f a st = .ok (b, st') → NB cfg (g b))
    {st text st'} (h : F as st = .ok (text, st')) : NB cfg text := by
  induction as generalizing st text st' with
  | nil => rw [h0] at h; cases h; exact NB.nil
  | cons a as ih =>
    rw [h1] at h
    obtain ⟨b, st1, hb, h⟩ := Outcome.of_bind_pair_ok h
    obtain ⟨r, st2, hr, h⟩ := Outcome.of_bind_pair_ok h
    obtain ⟨rfl, rfl⟩ := Outcome.ok_pair_inj h
    exact (hf a List.mem_cons_self st b st1 hb).append (ih (fun x hx => hf x (List.mem_cons_of_mem a hx)) hr)

theorem NB.flatten {cfg} (l : List Str) (h : ∀ a ∈ l, NB cfg a) : NB cfg l.flatten := by
  have := NB.flatMap (cfg := cfg) id l (by simpa using h)
  simpa using this

theorem NB.intercalate {cfg} (sep : Str) (hs : NB cfg sep) :
    ∀ (l : List Str), (∀ a ∈ l, NB cfg a) → NB cfg (Str.intercalate sep l) :=
  intercalate_closed NB.nil (fun _ _ => NB.append) sep hs

theorem NB.ite {cfg} (c : Prop) [Decidable c] {a b : Str} (ha : NB cfg a) (hb : NB cfg b) :
    NB cfg (if c then a else b) := by split <;> assumption

/-! ### texts with holes over this automaton -/

section
variable {cfg : LexCfg} {x y : Str} {f : St → Option St}

/-- the states in mode `m` -/
def inMode (m : Mode) (a : St) : Bool := a.mode == m

theorem Tr.loop {m : Mode} (hy : ∀ stk, Run cfg y ⟨m, stk⟩ ⟨m, stk⟩) : Tr (lx cfg) y (C10Lex.stay (inMode m)) :=
  .stay fun a ha stk => by
    have := hy (a.stack ++ stk)
    rw [← eq_of_beq ha] at this
    exact this

/-- `.h` passes a neutral hole, `.b` the body of a string literal or comment -/
theorem Tr.b {m : Mode} (hx : Tr (lx cfg) x f) (hy : ∀ stk, Run cfg y ⟨m, stk⟩ ⟨m, stk⟩) :
    Tr (lx cfg) (x ++ y) (fun a => (f a).bind (C10Lex.stay (inMode m))) := hx.append (.loop hy)
theorem Tr.h (hx : Tr (lx cfg) x f) (hy : NB cfg y) : Tr (lx cfg) (x ++ y) (fun a => (f a).bind (C10Lex.stay (inMode .code))) := hx.b hy
theorem Tr.h0 (hy : NB cfg y) : Tr (lx cfg) y (C10Lex.stay (inMode .code)) := .loop hy

/-- **the theorem about the class**: a text whose skeleton brings the lexer from the initial state
back to it is neutral -/
theorem Tr.nb (h : Tr (lx cfg) x f) (e : f init = some init) : NB cfg x := h init init e

end


/-- characters that mean nothing to the lexer in code state -/
def plainChar (cfg : LexCfg) (c : Char) : Bool :=
  c != '/' && !isQuote c && !(cfg.rawTick && c == '`') && !isOpen cfg c && (opener? cfg c).isNone

def Plain (cfg : LexCfg) (s : Str) : Prop := ∀ c ∈ s, plainChar cfg c = true

theorem codeStep_plain {cfg stk c} (h : plainChar cfg c = true) : codeStep cfg stk c = some ⟨.code, stk⟩ := by
  simp only [plainChar, Bool.and_eq_true, bne_iff_ne, ne_eq, Bool.not_eq_true', Option.isNone_iff_eq_none] at h
  obtain ⟨⟨⟨⟨h1, h2⟩, h3⟩, h4⟩, h5⟩ := h
  simp [codeStep, h1, h2, h3, h4, h5]

theorem Plain.nb {cfg} {s : Str} (h : Plain cfg s) : NB cfg s := fun _ => Run.loop fun c hc => codeStep_plain (h c hc)

theorem Plain.append {cfg a b} (ha : Plain cfg a) (hb : Plain cfg b) : Plain cfg (a ++ b) := by
  intro c hc
  rcases List.mem_append.mp hc with h | h
  · exact ha c h
  · exact hb c h

/-- identifier characters `[A-Za-z0-9_]` -/
def identChar (c : Char) : Bool := Str.isAsciiLower c || Str.isAsciiUpper c || Str.isAsciiDigit c || c == '_'

/-- key characters `[A-Za-z0-9_-]` -/
def keyChar (c : Char) : Bool := identChar c || c == '-'

def IdentStr (s : Str) : Prop := ∀ c ∈ s, identChar c = true
def KeyStr (s : Str) : Prop := ∀ c ∈ s, keyChar c = true

instance (s : Str) : Decidable (IdentStr s) := by unfold IdentStr; infer_instance
instance (s : Str) : Decidable (KeyStr s) := by unfold KeyStr; infer_instance
instance (cfg : LexCfg) (s : Str) : Decidable (Plain cfg s) := by unfold Plain; infer_instance

/-- the characters that mean something to the lexer in code state under some configuration -/
def specials : Str := s%"/\"'`([{<)]}>"

theorem plainChar_of_not_special {cfg : LexCfg} {c : Char} (h : c ∉ specials) : plainChar cfg c = true := by
  simp only [specials, List.mem_cons, List.not_mem_nil, or_false, not_or] at h
  simp [plainChar, isQuote, isOpen, opener?, h]

/-- a character of a class is none of the characters outside the class; with `plainChar_of_not_special`
this makes a class plain by looking at the twelve special characters, not at the class -/
theorem not_mem_of_class {p : Char → Bool} {c : Char} (h : p c = true) {l : Str} (hl : ∀ x ∈ l, p x = false) : c ∉ l :=
  fun hm => by rw [hl c hm] at h; cases h

theorem identChar_key {c : Char} (h : identChar c = true) : keyChar c = true := by simp [keyChar, h]

theorem keyChar_plain (cfg : LexCfg) (c : Char) (h : keyChar c = true) : plainChar cfg c = true :=
  plainChar_of_not_special (not_mem_of_class h (by decide +kernel))

theorem identChar_plain (cfg : LexCfg) (c : Char) (h : identChar c = true) : plainChar cfg c = true :=
  keyChar_plain cfg c (identChar_key h)

theorem IdentStr.key {s} (h : IdentStr s) : KeyStr s := fun c hc => identChar_key (h c hc)
theorem KeyStr.plain {cfg s} (h : KeyStr s) : Plain cfg s := fun c hc => keyChar_plain cfg c (h c hc)
theorem IdentStr.plain {cfg s} (h : IdentStr s) : Plain cfg s := h.key.plain
theorem KeyStr.nb {cfg s} (h : KeyStr s) : NB cfg s := h.plain.nb
theorem IdentStr.nb {cfg s} (h : IdentStr s) : NB cfg s := h.plain.nb

/-- a text without special characters, for a text that is given: the kernel looks at the text, not at the
configuration -/
theorem Plain.of_not_special {cfg : LexCfg} {s : Str} (h : ∀ c ∈ s, c ∉ specials) : Plain cfg s :=
  fun c hc => plainChar_of_not_special (h c hc)

theorem natToStr_digit (n : Nat) : ∀ c ∈ Str.natToStr n, c.isDigit = true := by
  intro c hc
  have : Str.natToStr n = Nat.toDigits 10 n := by
    simp [Str.natToStr, Nat.repr, toString, ToString.toString]
  rw [this] at hc
  exact Nat.isDigit_of_mem_toDigits (by decide) (by decide) hc

theorem natToStr_plain (cfg : LexCfg) (n : Nat) : Plain cfg (Str.natToStr n) := fun c hc =>
  plainChar_of_not_special (not_mem_of_class (natToStr_digit n c hc) (by decide +kernel))

theorem line_body {cfg} (s : Str) (stk) (h : '\n' ∉ s) : Run cfg s ⟨.line, stk⟩ ⟨.line, stk⟩ :=
  Run.loop fun c hc => if_neg fun (e : c = '\n') => h (e ▸ hc)

/-- `pre // text \n` where `pre` is neutral and the text has no line break -/
theorem NB.lineComment {cfg} (text : Str) (h : '\n' ∉ text) : NB cfg (s%"//" ++ text ++ s%"\n") := by
  intro stk
  have h1 : Run cfg s%"//" ⟨.code, stk⟩ ⟨.line, stk⟩ := rfl
  have h3 : Run cfg s%"\n" ⟨.line, stk⟩ ⟨.code, stk⟩ := rfl
  exact (h1.append (line_body text stk h)).append h3

/-- inside a block comment: a text without `*/` leaves the lexer inside the comment -/
theorem block_body {cfg} : ∀ (s : Str) (stk), Str.containsSub s s%"*/" = false →
    (Run cfg s ⟨.block, stk⟩ ⟨.block, stk⟩ ∨ Run cfg s ⟨.block, stk⟩ ⟨.blockStar, stk⟩) ∧
    ((s.head? ≠ some '/') →
      (Run cfg s ⟨.blockStar, stk⟩ ⟨.block, stk⟩ ∨ Run cfg s ⟨.blockStar, stk⟩ ⟨.blockStar, stk⟩)) := by
  intro s stk
  induction s with
  | nil => exact fun _ => ⟨.inl rfl, fun _ => .inr rfl⟩
  | cons c cs ih =>
    intro h
    have hsub : Str.containsSub cs s%"*/" = false := by
      simp only [Str.containsSub, Bool.or_eq_false_iff] at h; exact h.2
    have hst : Str.startsWith (c :: cs) s%"*/" = false := by
      simp only [Str.containsSub, Bool.or_eq_false_iff] at h; exact h.1
    obtain ⟨ih1, ih2⟩ := ih hsub
    by_cases hc : c = '*'
    · subst hc
      have hhead : cs.head? ≠ some '/' := by
        intro e
        cases cs with
        | nil => simp at e
        | cons d ds =>
          simp at e; subst e
          simp [Str.startsWith] at hst
      have := ih2 hhead
      constructor
      · unfold Run at *; simpa [scan, step] using this
      · intro _; unfold Run at *; simpa [scan, step] using this
    · constructor
      · unfold Run at *; simpa [scan, step, hc] using ih1
      · intro hne
        have hc2 : c ≠ '/' := by intro e; subst e; simp at hne
        unfold Run at *; simpa [scan, step, hc, hc2] using ih1

/-- `/*` text ` */` (a blank before the closer, as every printer writes it) -/
theorem NB.blockComment {cfg} (text : Str) (h : Str.containsSub text s%"*/" = false) :
    NB cfg (s%"/*" ++ text ++ s%" */") := by
  intro stk
  have h1 : Run cfg s%"/*" ⟨.code, stk⟩ ⟨.block, stk⟩ := rfl
  have e1 : Run cfg s%" */" ⟨.block, stk⟩ ⟨.code, stk⟩ := rfl
  have e2 : Run cfg s%" */" ⟨.blockStar, stk⟩ ⟨.code, stk⟩ := rfl
  rcases (block_body (cfg := cfg) text stk h).1 with hb | hb
  · exact (h1.append hb).append e1
  · exact (h1.append hb).append e2

/-- characters that keep a `"`-delimited literal open and unescaped -/
def strChar (c : Char) : Bool := c != '"' && c != '\\' && c != '\n'

theorem str_body {cfg} (s : Str) (stk) (h : ∀ c ∈ s, strChar c = true) : Run cfg s ⟨.str '"', stk⟩ ⟨.str '"', stk⟩ :=
  Run.loop fun c hc => by
    have hc := h c hc
    simp only [strChar, Bool.and_eq_true, bne_iff_ne, ne_eq] at hc
    simp only [step, hc.1.1, hc.1.2, hc.2, if_false]

/-- `"text"` with a text free of quotes, back-slashes and line breaks -/
theorem NB.quoted {cfg} (text : Str) (h : ∀ c ∈ text, strChar c = true) : NB cfg (s%"\"" ++ text ++ s%"\"") := by
  intro stk
  have h1 : Run cfg s%"\"" ⟨.code, stk⟩ ⟨.str '"', stk⟩ := rfl
  have h3 : Run cfg s%"\"" ⟨.str '"', stk⟩ ⟨.code, stk⟩ := rfl
  exact (h1.append (str_body text stk h)).append h3

theorem keyChar_strChar (c : Char) (h : keyChar c = true) : strChar c = true := by
  have := not_mem_of_class h (l := s%"\"\\\n") (by decide +kernel)
  simp only [List.mem_cons, List.not_mem_nil, or_false, not_or] at this
  simp [strChar, this]

theorem KeyStr.strBody {cfg s} (h : KeyStr s) (stk : List Char) : Run cfg s ⟨.str '"', stk⟩ ⟨.str '"', stk⟩ :=
  str_body s stk fun c hc => keyChar_strChar c (h c hc)

theorem KeyStr.quoted {cfg s} (h : KeyStr s) : NB cfg (s%"\"" ++ s ++ s%"\"") :=
  NB.quoted s fun c hc => keyChar_strChar c (h c hc)

theorem hexDigit_strChar : ∀ k : Fin 16, strChar (hexDigit k.val) = true := by decide +kernel

theorem hexOf_strChar {n : Nat} (h : n < 256) : ∀ c ∈ hexOf n, strChar c = true := by
  unfold hexOf
  split
  · rename_i h16
    simpa using hexDigit_strChar ⟨n, h16⟩
  · simpa using And.intro (hexDigit_strChar ⟨n / 16, by omega⟩) (hexDigit_strChar ⟨n % 16, by omega⟩)

theorem Run.flatMap {cfg} {α} {f : α → Str} {a : St} : ∀ (l : List α), (∀ x ∈ l, Run cfg (f x) a a) → Run cfg (l.flatMap f) a a :=
  flatMap_closed (P := fun x => Run cfg x a a) Run.nil (fun _ _ => Run.append) f

theorem Run.ite {cfg} (p : Prop) [Decidable p] {x y : Str} {a b : St} (hx : p → Run cfg x a b) (hy : ¬p → Run cfg y a b) :
    Run cfg (if p then x else y) a b := by
  split
  · exact hx ‹_›
  · exact hy ‹_›

/-- **`format!("{:?}", s)` is a closed string literal, for every `s`**: each character, as `{:?}`
prints it, keeps the literal open -/
theorem NB.debugStr {cfg} (s : Str) : NB cfg (debugStr s) := by
  intro stk
  have h1 : Run cfg s%"\"" ⟨.code, stk⟩ ⟨.str '"', stk⟩ := rfl
  have h3 : Run cfg s%"\"" ⟨.str '"', stk⟩ ⟨.code, stk⟩ := rfl
  refine (h1.append (Run.flatMap s fun c _ => ?_)).append h3
  refine Run.ite _ (fun _ => rfl) fun n1 => Run.ite _ (fun _ => rfl) fun n2 => Run.ite _ (fun _ => rfl) fun n3 =>
    Run.ite _ (fun _ => rfl) fun _ => Run.ite _ (fun _ => rfl) fun _ => Run.ite _ (fun _ => rfl) fun _ =>
    Run.ite _ (fun h => ?_) fun _ => ?_
  · have hlt : c.toNat < 256 := by
      simp only [Bool.or_eq_true, decide_eq_true_eq] at h
      omega
    have e1 : Run cfg s%"\\u{" ⟨.str '"', stk⟩ ⟨.str '"', stk⟩ := rfl
    have e3 : Run cfg s%"}" ⟨.str '"', stk⟩ ⟨.str '"', stk⟩ := rfl
    exact (e1.append (str_body _ stk (hexOf_strChar hlt))).append e3
  · exact str_body [c] stk fun d hd => by
      rw [List.mem_singleton.mp hd]
      simp [strChar, n1, n2, n3]

/-- a general wrapper: an opening literal that nets one push, a neutral middle, a closing literal
that nets the matching pop -/
theorem NB.wrap {cfg} {o m c : Str} {b : Char}
    (ho : ∀ stk, Run cfg o ⟨.code, stk⟩ ⟨.code, b :: stk⟩) (hm : NB cfg m)
    (hc : ∀ stk, Run cfg c ⟨.code, b :: stk⟩ ⟨.code, stk⟩) : NB cfg (o ++ m ++ c) :=
  fun stk => ((ho stk).append (hm _)).append (hc stk)

theorem NB.paren {cfg x} (h : NB cfg x) : NB cfg (s%"(" ++ x ++ s%")") := by
  cases cfg with | mk a r =>
  cases a <;> cases r <;> exact NB.wrap (b := '(') (fun _ => rfl) h fun _ => rfl

theorem NB.square {cfg x} (h : NB cfg x) : NB cfg (s%"[" ++ x ++ s%"]") := by
  cases cfg with | mk a r =>
  cases a <;> cases r <;> exact NB.wrap (b := '[') (fun _ => rfl) h fun _ => rfl

theorem NB.curly {cfg x} (h : NB cfg x) : NB cfg (s%"{" ++ x ++ s%"}") := by
  cases cfg with | mk a r =>
  cases a <;> cases r <;> exact NB.wrap (b := '{') (fun _ => rfl) h fun _ => rfl

/-- `<…>`: a bracket pair when `cfg.angles`, two plain characters otherwise -/
theorem NB.angle {cfg x} (h : NB cfg x) : NB cfg (s%"<" ++ x ++ s%">") := by
  intro stk
  cases cfg with | mk a r =>
  cases a
  · have h1 : Run ⟨false, r⟩ s%"<" ⟨.code, stk⟩ ⟨.code, stk⟩ := by cases r <;> rfl
    have h3 : Run ⟨false, r⟩ s%">" ⟨.code, stk⟩ ⟨.code, stk⟩ := by cases r <;> rfl
    exact (h1.append (h _)).append h3
  · have h1 : Run ⟨true, r⟩ s%"<" ⟨.code, stk⟩ ⟨.code, '<' :: stk⟩ := by cases r <;> rfl
    have h3 : Run ⟨true, r⟩ s%">" ⟨.code, '<' :: stk⟩ ⟨.code, stk⟩ := by cases r <;> rfl
    exact (h1.append (h _)).append h3

/-! ## the shared helpers of `Lang/Common.lean` -/

theorem NB.tabs {cfg} (n : Nat) : NB cfg (tabs n) :=
  (Plain.of_not_special fun _ hc => List.eq_of_mem_replicate hc ▸ by decide +kernel).nb

theorem NB.nl {cfg} : NB cfg Lang.nl := (Plain.of_not_special (by decide +kernel)).nb

/-- a `//` comment on a line of its own: what follows the slashes has no line break -/
theorem NB.commentLine {cfg} (n : Nat) (pre text : Str) (hp : '\n' ∉ pre) (h : '\n' ∉ text) :
    NB cfg (Lang.tabs n ++ (s%"//" ++ pre) ++ text ++ Lang.nl) := by
  have e : Lang.tabs n ++ (s%"//" ++ pre) ++ text ++ Lang.nl = Lang.tabs n ++ (s%"//" ++ (pre ++ text) ++ s%"\n") := by
    simp [Lang.nl]
  rw [e]
  exact (NB.tabs n).append (NB.lineComment _ (by simp [hp, h]))

theorem nb_commaSep {cfg} : NB cfg s%", " := (Plain.of_not_special (by decide +kernel)).nb

theorem NB.angleList {cfg} (ps : List Str) (h : ∀ p ∈ ps, NB cfg p) : NB cfg (Lang.angle ps) :=
  NB.angle (NB.intercalate _ nb_commaSep ps h)

theorem NB.genericSuffix {cfg} (gs : List Str) (h : ∀ g ∈ gs, NB cfg g) : NB cfg (Lang.genericSuffix gs) := by
  unfold Lang.genericSuffix
  split
  · exact NB.nil
  · exact NB.angleList gs h

/-! ## dotted names (packages, versions) -/

def dottedChar (c : Char) : Bool := keyChar c || c == '.'

theorem dottedChar_plain (cfg : LexCfg) (c : Char) (h : dottedChar c = true) : plainChar cfg c = true := by
  simp only [dottedChar, Bool.or_eq_true, beq_iff_eq] at h
  rcases h with h | rfl
  · exact keyChar_plain cfg c h
  · exact plainChar_of_not_special (by decide +kernel)

def Dotted (s : Str) : Prop := ∀ c ∈ s, dottedChar c = true
instance (s : Str) : Decidable (Dotted s) := by unfold Dotted; infer_instance

theorem Dotted.nb {cfg : LexCfg} {s : Str} (h : Dotted s) : NB cfg s := Plain.nb fun c hc => dottedChar_plain cfg c (h c hc)

theorem dotted_block {cfg : LexCfg} (v : Str) (h : Dotted v) (stk : List Char) : Run cfg v ⟨.block, stk⟩ ⟨.block, stk⟩ :=
  Run.loop fun c hc => if_neg fun (e : c = '*') => absurd (h c hc) (e ▸ by decide)

end TsV.C10Lex
