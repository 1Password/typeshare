import TsV.Lemmas.C10_Scope
import TsV.Lemmas.C10_Spec
import TsV.Lemmas.C03_Emission_Common
import TsV.Lemmas.Outcome
/-!
# C10, whole files — shared lemmas

* `wb_dropAngles`: a text that is closed when `<`/`>` are tracked as brackets is closed when they are
  not (the file-level lexer of TypeScript does not track them, the declaration-level one does);
* list traversals that hand a printer state on, `Threaded` runs with a state invariant;
* `toPascal` / `toCamel` on key strings;
* `Decidable` instances for the scope structures of `C10_Scope`, and `Deps.topsort` on two-item programs
  (`topsort_two`), both for the kernel-checked examples of `TsV.Props.C10_Files`.
-/
namespace TsV.C10Files
open TsV TsV.Lang TsV.C10Lex TsV.C03E

/-! ## forgetting the angle brackets -/

def dropAngles (stk : List Char) : List Char := stk.filter (· != '<')

theorem dropAngles_cons {o : Char} (stk : List Char) (ho : o ≠ '<') : dropAngles (o :: stk) = o :: dropAngles stk := by
  simp [dropAngles, ho]

/-- away from `<` and `>` the two lexers read a character alike -/
theorem codeStep_angles {r : Bool} {c : Char} (h1 : c ≠ '<') (h2 : c ≠ '>') (stk : List Char) :
    codeStep ⟨true, r⟩ stk c = codeStep ⟨false, r⟩ stk c := by
  simp [codeStep, isOpen, opener?, h1, h2]

theorem opener?_ne_lt {r : Bool} {c o : Char} (h : opener? ⟨false, r⟩ c = some o) : o ≠ '<' := by
  rintro rfl
  simp only [opener?, Bool.false_and, Bool.false_eq_true, if_false] at h
  repeat' split at h
  all_goals cases h

theorem codeStep_dropAngles {r : Bool} {stk : List Char} {c : Char} {b : St}
    (h : codeStep ⟨true, r⟩ stk c = some b) :
    codeStep ⟨false, r⟩ (dropAngles stk) c = some ⟨b.mode, dropAngles b.stack⟩ := by
  by_cases h1 : c = '<'
  · subst h1; cases r <;> cases h <;> rfl
  by_cases h2 : c = '>'
  · -- with angles `>` pops a `<`; without, it is read as a plain character over a stack that has no `<`
    subst h2
    cases stk with
    | nil => cases r <;> cases h
    | cons t rest =>
      have h' : (if t = '<' then some (⟨.code, rest⟩ : St) else none) = some b := by cases r <;> exact h
      split at h'
      · rename_i ht; subst ht; cases h'; cases r <;> rfl
      · cases h'
  -- every other character is read alike; the openers it may push or pop are not `<`, so they survive the filter
  rw [codeStep_angles h1 h2] at h
  unfold codeStep at h ⊢
  by_cases hs : c = '/'
  · rw [if_pos hs] at h ⊢; cases h; rfl
  rw [if_neg hs] at h ⊢
  by_cases hq : isQuote c = true
  · rw [if_pos hq] at h ⊢; cases h; rfl
  rw [if_neg hq] at h ⊢
  split at h
  · rename_i ht; rw [if_pos ht]; cases h; rfl
  rename_i ht; rw [if_neg ht]
  split at h
  · rename_i ho; rw [if_pos ho]; cases h; exact congrArg _ (congrArg _ (dropAngles_cons stk h1).symm)
  rename_i ho; rw [if_neg ho]
  generalize hop : opener? _ c = op at h ⊢
  cases op with
  | none => cases h; rfl
  | some o =>
    cases stk with
    | nil => cases h
    | cons t rest =>
      simp only at h
      split at h
      · rename_i hto
        cases h
        subst hto
        rw [dropAngles_cons _ (opener?_ne_lt hop)]
        simp only [if_true]
      · cases h

theorem step_dropAngles {r : Bool} {a : St} {c : Char} {b : St} (h : step ⟨true, r⟩ a c = some b) :
    step ⟨false, r⟩ ⟨a.mode, dropAngles a.stack⟩ c = some ⟨b.mode, dropAngles b.stack⟩ := by
  cases a with | mk m s =>
  cases m <;> simp only [step] at h ⊢
  case code => exact codeStep_dropAngles h
  case slash =>
    split at h
    · cases h; simp_all
    split at h
    · cases h; simp_all
    · simp only [*, if_false]; exact codeStep_dropAngles h
  all_goals
    repeat' split at h
    all_goals first | cases h | skip
    all_goals simp_all

/-- **closed with `<`/`>` as brackets ⟹ closed without** -/
theorem wb_dropAngles {r : Bool} {x : Str} (h : wellBracketed ⟨true, r⟩ x = true) :
    wellBracketed ⟨false, r⟩ x = true := by
  have h0 : scan ⟨true, r⟩ init x = some init := by simpa [wellBracketed] using h
  have : scan ⟨false, r⟩ init x = some init :=
    (lx ⟨true, r⟩).sim (lx ⟨false, r⟩) (fun a => ⟨a.mode, dropAngles a.stack⟩) (fun _ _ _ => step_dropAngles) x init init h0
  simpa [wellBracketed] using this

theorem nb_dropAngles {r : Bool} {x : Str} (h : NB ⟨true, r⟩ x) : NB ⟨false, r⟩ x :=
  nb_of_wb (wb_dropAngles h.wb)

/-! ## list traversals that thread a printer state -/

section thread
variable {α β γ σ : Type} {f : α → σ → Outcome (β × σ)}

/-- when the results are collected in a list, what each call establishes of its result holds of every
element -/
theorem thread_forall {F : List α → σ → Outcome (List β × σ)}
    (hnil : ∀ st, F [] st = .ok ([], st))
    (hcons : ∀ a as st, F (a :: as) st = (f a st).bind fun p => (F as p.2).bind fun q => .ok (p.1 :: q.1, q.2))
    {A : α → Prop} {Q : β → Prop} (hstep : ∀ a st b st', A a → f a st = .ok (b, st') → Q b)
    (as : List α) (st : σ) (bs : List β) (st' : σ) (hA : ∀ a ∈ as, A a) (h : F as st = .ok (bs, st')) : ∀ b ∈ bs, Q b :=
  fun b hb =>
    let ⟨a, ha, _, s, s', hfa, e⟩ := Outcome.thread_mem (g := fun _ b => b) hnil hcons h b hb
    e ▸ hstep a s _ s' (hA a ha) hfa

end thread

/-! ## threaded runs with a state invariant -/

theorem Threaded.inv {σ : Type} {w : RustItem → σ → Outcome (Str × σ)} {P : σ → Prop} {Q : Str → Prop}
    {items : List RustItem} {st : σ} {blocks : List Str} {st' : σ}
    (h : Threaded w items st blocks st') (h0 : P st)
    (hstep : ∀ it ∈ items, ∀ s b s', P s → w it s = .ok (b, s') → Q b ∧ P s') :
    (∀ b ∈ blocks, Q b) ∧ P st' := by
  induction h with
  | nil => exact ⟨by simp, h0⟩
  | cons hw _ ih =>
    obtain ⟨hq, hp⟩ := hstep _ (by simp) _ _ _ h0 hw
    obtain ⟨hqs, hp'⟩ := ih hp (fun it hit => hstep it (by simp [hit]))
    refine ⟨?_, hp'⟩
    intro b hb
    rcases List.mem_cons.1 hb with rfl | hb
    · exact hq
    · exact hqs b hb

/-- the items `generate_types` writes are the items of the parsed data -/
theorem mem_of_generateOrder {d : ParsedData} {items : List RustItem} (h : Pipeline.generateOrder d = some items)
    {it : RustItem} (hit : it ∈ items) : it ∈ TsV.C12L.itemsOf d :=
  (TsV.C12L.generateOrder_perm d items h).subset hit


/-! ## case conversions on key strings -/

theorem keyChar_ascii (c : Char) (h : keyChar c = true) : c.toNat < 128 := by
  simp only [keyChar, Bool.or_eq_true, beq_iff_eq] at h
  rcases h with h | rfl
  · exact identChar_ascii c h
  · decide
theorem keyChar_upper (c : Char) (h : keyChar c = true) : keyChar (Str.asciiUpper c) = true := by
  simp only [keyChar, Bool.or_eq_true, beq_iff_eq] at h ⊢
  rcases h with h | h
  · exact .inl (identChar_upper c h)
  · subst h; exact .inr rfl
theorem keyChar_lower (c : Char) (h : keyChar c = true) : keyChar (Str.asciiLower c) = true := by
  simp only [keyChar, Bool.or_eq_true, beq_iff_eq] at h ⊢
  rcases h with h | h
  · exact .inl (identChar_lower c h)
  · subst h; exact .inr rfl

theorem toPascal_key {U : UnicodeOps} {s : Str} (h : KeyStr s) : KeyStr (Rename.toPascal U s) :=
  pascalGo_class keyChar_upper keyChar_lower _ _ s h

theorem toCamel_key {U : UnicodeOps} {s : Str} (h : KeyStr s) : KeyStr (Rename.toCamel U s) :=
  lowerFirst_class keyChar_lower (toPascal_key h)

/-! ## the scope predicates are decidable (given a decidable doc-comment condition) -/

section decidable
variable (L : Lang) (lx : LexCfg) (D : List Str → Prop) [∀ cs, Decidable (D cs)]

instance (f : RustField) : Decidable (FieldScope L lx D f) :=
  decidable_of_iff (D f.comments ∧ KeyStr f.id.renamed ∧ IdentStr f.id.original ∧ TypeOk f.ty ∧
      ∀ t, typeOverride f L = some t → wellBracketed lx t = true)
    ⟨fun ⟨a, b, c, d, e⟩ => ⟨a, b, c, d, e⟩, fun h => ⟨h.docs, h.key, h.original, h.ty, h.override⟩⟩

instance (s : RustStruct) : Decidable (StructScope L lx D s) :=
  decidable_of_iff (D s.comments ∧ KeyStr s.id.renamed ∧ (∀ g ∈ s.genericTypes, IdentStr g) ∧
      ∀ f ∈ s.fields, FieldScope L lx D f)
    ⟨fun ⟨a, b, c, d⟩ => ⟨a, b, c, d⟩, fun h => ⟨h.docs, h.name, h.generics, h.fields⟩⟩

instance (a : RustTypeAlias) : Decidable (AliasScope D a) :=
  decidable_of_iff (D a.comments ∧ KeyStr a.id.original ∧ KeyStr a.id.renamed ∧ (∀ g ∈ a.genericTypes, IdentStr g) ∧
      TypeOk a.ty)
    ⟨fun ⟨a, b, c, d, e⟩ => ⟨a, b, c, d, e⟩, fun h => ⟨h.docs, h.original, h.renamed, h.generics, h.ty⟩⟩

instance (v : RustEnumVariant) : Decidable (VariantScope L lx D v) := by
  cases v <;> unfold VariantScope <;> infer_instance

instance (e : RustEnum) : Decidable (EnumScope L lx D e) :=
  decidable_of_iff (D e.comments ∧ IdentStr e.id.original ∧ KeyStr e.id.renamed ∧ (∀ g ∈ e.genericTypes, IdentStr g) ∧
      (∀ v ∈ e.variants, VariantScope L lx D v) ∧ (∀ k, e.keys = some k → IdentStr k.1) ∧
      (∀ k, e.keys = some k → KeyStr k.2))
    ⟨fun ⟨a, b, c, d, e, f, g⟩ => ⟨a, b, c, d, e, f, g⟩,
     fun h => ⟨h.docs, h.original, h.renamed, h.generics, h.variants, h.tag, h.content⟩⟩

instance (c : RustConst) : Decidable (ConstScope c) :=
  decidable_of_iff (IdentStr c.id.renamed ∧ TypeOk c.ty) ⟨fun ⟨a, b⟩ => ⟨a, b⟩, fun h => ⟨h.name, h.ty⟩⟩

instance (it : RustItem) : Decidable (ItemScope L lx D it) := by
  cases it <;> unfold ItemScope <;> infer_instance

end decidable


/-! ## evaluating the ordering pass on small programs

`toposort_impl::inner` is a well-founded recursion, which `decide` does not unfold; the dependency
graph itself (`Deps.graph`, fuel-structural) does reduce. -/

/-- two items whose dependency graph is sorted as it stands -/
theorem topsort_two {a b : RustItem} {g : List (List Nat)} (h : Deps.graph [a, b] = some g)
    (hg : Topsort.toposort g = some [0, 1]) : Deps.topsort [a, b] = some [a, b] := by
  unfold Deps.topsort
  rw [h]
  simp only [Option.bind_eq_bind, Option.bind_some, hg]
  rfl

/-- two items without dependencies -/
theorem topsort_pair (a b : RustItem) (h : Deps.graph [a, b] = some [[], []]) : Deps.topsort [a, b] = some [a, b] :=
  topsort_two h (by rw [Topsort.toposort_eq_innerFuel]; decide +kernel)

/-- two items, the second depending on the first -/
theorem topsort_pair_dep (a b : RustItem) (h : Deps.graph [a, b] = some [[], [0]]) :
    Deps.topsort [a, b] = some [a, b] :=
  topsort_two h (by rw [Topsort.toposort_eq_innerFuel]; decide +kernel)

theorem ok_of_isOk {α} {x : Outcome α} (h : x.isOk = true) : ∃ a, x = .ok a := (Outcome.isOk_iff x).1 h

end TsV.C10Files
