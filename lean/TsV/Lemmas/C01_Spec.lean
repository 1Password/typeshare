import TsV.Props.C16
import TsV.Lemmas.ListRel
import TsV.Model.Generate
/-!
# C01 — trusted specification

Everything in this file is *specification*: what serde uses as the JSON key of a field
(`fieldKey`, built from the port of serde_derive's `case.rs` in `TsV.Serde` and the attribute
readers of `TsV.Parser`), the property's alphabets as decidable predicates, and — per target
language — the *binding semantics* `boundKey`: which JSON key a generated declaration binds a
field to, read off the fact records of the back-end models.  Nothing here is proved; the theorems
of `TsV.C01` relate these definitions to the model.
-/
namespace TsV.C01
open TsV TsV.Str TsV.Syn TsV.Parser TsV.Serde TsV.Lang

/-! ## serde's key -/

/-- `syn::ext::IdentExt::unraw`: the raw-identifier prefix removed -/
def stripRaw : Str → Str
  | 'r' :: '#' :: rest => rest
  | i => i

/-- the JSON key serde_derive uses for a named field with identifier `i` (as `Ident::to_string`
prints it) and attributes `attrs`, in a container whose `rename_all` string is `ra` (for the
fields of a struct variant: the *variant's* `rename_all`).  `serde(rename = "k")` wins (the first
such name-value in attribute order; serde rejects duplicates); otherwise the container's rule is
applied to the un-raw'd identifier; a `rename_all` string that is no rule name is a serde compile
error, typeshare leaves the name alone.  `applyField` is an `Outcome` because serde_derive itself
panics on an empty Pascal form under `camelCase`. -/
def fieldKey (E : Ext) (ra : Option Str) (attrs : List Attr) (i : Str) : Outcome Str :=
  match serdeRename E attrs with
  | some k => .ok k
  | none =>
    match ra.bind Rule.ofStr with
    | some rule => applyField rule (stripRaw i)
    | none => .ok (stripRaw i)

/-- `fieldKey` of a syntactic field -/
def fieldKeyOf (E : Ext) (ra : Option Str) (f : Field) : Outcome Str :=
  fieldKey E ra f.attrs (f.ident.getD [])

/-- the same reader as `Parser.serdeRename` but *without* `str::trim` (what serde really reads) -/
def serdeRenameRaw (attrs : List Attr) : Option Str :=
  (attrs.flatMap fun a =>
    (getMetaItems a kSerde).filterMap fun m =>
      match m with
      | .nameValue segs (some (.str v)) => if segs == [s%"rename"] then some v else none
      | _ => none).head?

/-! ## the alphabets of the quantifier -/

/-- a conventionally named field: `[a-z0-9_]*`, optionally behind `r#` -/
def IdentConv (i : Str) : Prop := C16.FieldConv (stripRaw i)

instance (s : Str) : Decidable (C16.FieldConv s) := by unfold C16.FieldConv; infer_instance
instance (i : Str) : Decidable (IdentConv i) := by unfold IdentConv; infer_instance

/-- the key alphabet `[A-Za-z0-9_-]` -/
def keyChar (c : Char) : Bool :=
  isAsciiLower c || isAsciiUpper c || isAsciiDigit c || c == '_' || c == '-'

/-- keys over the key alphabet (the property's `[A-Za-z_][A-Za-z0-9_-]*` is a subset) -/
def KeyStr (k : Str) : Prop := ∀ c ∈ k, keyChar c = true

instance (k : Str) : Decidable (KeyStr k) := by unfold KeyStr; infer_instance

/-- a source field inside the property's quantifier: it has an identifier, the identifier is
conventional, and an explicit `serde(rename)` value is over the key alphabet -/
def FieldInScope (E : Ext) (f : Field) : Prop :=
  (∃ i, f.ident = some i ∧ IdentConv i) ∧ ∀ k, serdeRename E f.attrs = some k → KeyStr k

/-- the named fields `parse_struct` / `parse_enum_variant` keep -/
def kept (targetOs : List Str) (fs : List Field) : List Field :=
  fs.filter fun f => !isSkipped f.attrs targetOs

/-! ## binding semantics, per language -/

/-- the value of a double-quoted string literal, read from just after the opening quote:
`\x` stands for `x`, the literal ends at the first unescaped `"` -/
def unescape : Str → Str
  | [] => []
  | '\\' :: c :: rest => c :: unescape rest
  | '"' :: _ => []
  | c :: rest => c :: unescape rest

namespace TypeScript
open TsV.Lang.TypeScript
/-- a property is bound to its name; a quoted property name to the value of the literal -/
def boundKey (f : TsField) : Str :=
  match f.name with
  | '"' :: rest => unescape rest
  | n => n
end TypeScript

namespace Kotlin
open TsV.Lang.Kotlin
/-- kotlinx.serialization: `@SerialName` if present, else the property name -/
def boundKey (p : KtParam) : Str := p.serialName.getD p.name

/-- the constructor parameters a declaration has -/
def declParams : KtDecl → List KtParam
  | .dataClass _ _ _ ps _ => ps
  | .valueClass _ _ p _ => [p]
  | _ => []
end Kotlin

namespace Swift
open TsV.Lang.Swift
/-- an escaped identifier names the identifier between the back-ticks -/
def unbacktick (s : Str) : Str := s.filter (· != '`')

/-- the raw value of a `CodingKeys` case: explicit, or (String-backed enum) the case name -/
def caseRaw (k : CodingKey) : Str := k.rawValue.getD (unbacktick k.caseName)

/-- `Codable` synthesis: with a `CodingKeys` enum the property is bound to the raw value of the case
of the same name; without one, to the property name -/
def boundKey (s : SwiftStruct) (p : StoredProp) : Str :=
  if s.explicitCodingKeys then
    match s.codingKeys.find? (·.caseName == p.name) with
    | some k => caseRaw k
    | none => unbacktick p.name
  else unbacktick p.name

def structKeys (s : SwiftStruct) : List Str := s.props.map (boundKey s)
end Swift

namespace Go
open TsV.Lang.Go
/-- `encoding/json`: the tag value is an (escaped) string; the key is what precedes the first comma -/
def boundKey (g : GoField) : Str := (unescape g.jsonName).takeWhile (· != ',')
end Go

namespace Python
open TsV.Lang.Python
/-- pydantic: `Field(alias=…)` if present, else the attribute name -/
def boundKey (p : PyField) : Str := p.alias.getD p.name
end Python

namespace Scala
open TsV.Lang.Scala
/-- no binding exists: the parameter name is the key -/
def boundKey (p : ScParam) : Str := p.name
end Scala


/-! ## the TypeScript printer as facts

`Lang.TypeScript.writeFields` / `writeVariants` render on the fly; these two functions return the
`TsField` records instead.  `TsV.C01.TypeScript.writeFields_eq`, `writeVariant_struct` and
`writeVariants_facts` (Lemmas/C01_Backends) prove that the model's text is exactly these records
rendered, with the same printer state. -/
namespace TypeScript
open TsV.Lang.TypeScript

/-- `write_field` over a field list, as facts (the model's `writeFields` renders on the fly) -/
def fieldsFacts (cfg : Cfg) (gens : List Str) : List RustField → CustomMap → Outcome (List TsField × CustomMap)
  | [], st => .ok ([], st)
  | f :: fs, st =>
    (fieldFacts cfg gens f st).bind fun (tf, st) =>
    (fieldsFacts cfg gens fs st).bind fun (rest, st) => .ok (tf :: rest, st)

/-- the property lists of the struct variants of an enum, the printer state threaded exactly as
`writeVariants` threads it -/
def variantsFacts (cfg : Cfg) (e : RustEnum) : List RustEnumVariant → CustomMap →
    Outcome (List (List TsField) × CustomMap)
  | [], st => .ok ([], st)
  | .unit _ _ :: vs, st => variantsFacts cfg e vs st
  | .tuple _ _ ty :: vs, st =>
    (formatType cfg e.genericTypes ty st).bind fun (_, st) => variantsFacts cfg e vs st
  | .anonymousStruct _ _ fs :: vs, st =>
    (fieldsFacts cfg e.genericTypes fs st).bind fun (tfs, st) =>
    (variantsFacts cfg e vs st).bind fun (rest, st) => .ok (tfs :: rest, st)

end TypeScript

/-! ## the per-language condition on a key (the property's scope, on the wire name) -/

/-- TypeScript / Go print the key through `{:?}`; Swift puts it between back-ticks / quotes: the
key must be over the key alphabet.  Scala has no binding: only dash-free keys are in scope.
Kotlin and Python need nothing. -/
def KeyOk : Lang → Str → Prop
  | .typescript, k => KeyStr k
  | .go, k => KeyStr k
  | .swift, k => KeyStr k
  | .scala, k => '-' ∉ k
  | .kotlin, _ => True
  | .python, _ => True

instance (L : Lang) (k : Str) : Decidable (KeyOk L k) := by
  cases L <;> unfold KeyOk <;> infer_instance

/-- distinct mangled member names within one declaration.  Swift looks the `CodingKeys` case up by
the property name, so two keys that collide after `-` ↦ `_` (`a-b` / `a_b`: a C10 matter — the
generated Swift does not compile) are outside C01. -/
def Distinct : Lang → List RustField → Prop
  | .swift, fs => (fs.map Lang.Swift.memberName).Nodup
  | _, _ => True

instance (L : Lang) (fs : List RustField) : Decidable (Distinct L fs) := by
  cases L <;> unfold Distinct <;> infer_instance


/-! ## what a back end binds (binding semantics applied to the model's facts) -/

/-- configuration and printer state of one back end -/
def Ctx : TsV.Lang → Type
  | .typescript => Lang.TypeScript.Cfg × Lang.TypeScript.CustomMap
  | .kotlin => Lang.Kotlin.Cfg
  | .swift => Lang.Swift.Cfg × Lang.Swift.St
  | .scala => Lang.Scala.Cfg
  | .go => Lang.Go.Cfg × Lang.Go.Imports
  | .python => Lang.Python.Cfg × Lang.Python.St

/-- the keys the declaration generated for a struct binds, in field order -/
def structKeys (E : Ext) : (L : TsV.Lang) → Ctx L → RustStruct → Outcome (List Str)
  | .typescript, (cfg, st), rs =>
    (TypeScript.fieldsFacts cfg rs.genericTypes rs.fields st).bind fun (tfs, _) =>
      .ok (tfs.map TypeScript.boundKey)
  | .kotlin, cfg, rs =>
    (Lang.Kotlin.structFacts cfg rs).bind fun d => .ok ((Kotlin.declParams d).map Kotlin.boundKey)
  | .swift, (cfg, st), rs =>
    (Lang.Swift.structFacts E.U cfg rs st).bind fun (s, _) => .ok (Swift.structKeys s)
  | .scala, cfg, rs =>
    (Lang.Scala.classFacts cfg rs).bind fun c => .ok (c.params.map Scala.boundKey)
  | .go, (cfg, st), rs =>
    (Lang.Go.structFacts E.U cfg rs st).bind fun (d, _) => .ok (d.fields.map Go.boundKey)
  | .python, (cfg, st), rs =>
    (Lang.Python.structFacts E cfg rs st).bind fun (c, _) => .ok (c.fields.map Python.boundKey)

/-- the keys bound for the struct variants of an enum, one list per struct variant in order:
five back ends generate a helper struct per struct variant (`write_types_for_anonymous_structs`),
TypeScript prints the fields inline -/
def enumKeys (E : Ext) : (L : TsV.Lang) → Ctx L → RustEnum → Outcome (List (List Str))
  | .typescript, (cfg, st), e =>
    (TypeScript.variantsFacts cfg e e.variants st).bind fun (tfss, _) =>
      .ok (tfss.map (·.map TypeScript.boundKey))
  | .kotlin, cfg, e =>
    (Lang.Kotlin.structsFacts cfg (Lang.Kotlin.innerStructs e)).bind fun ds =>
      .ok (ds.map fun d => (Kotlin.declParams d).map Kotlin.boundKey)
  | .swift, (cfg, st), e =>
    (Lang.Swift.anonymousStructs E.U cfg e (structVariants e) st).bind fun (ss, _) =>
      .ok (ss.map Swift.structKeys)
  | .scala, cfg, e =>
    (Lang.Scala.innerClasses cfg e).bind fun cs => .ok (cs.map (·.params.map Scala.boundKey))
  | .go, (cfg, st), e =>
    (Lang.Go.anonStructs E.U cfg e (structVariants e) st).bind fun (ds, _) =>
      .ok (ds.map (·.fields.map Go.boundKey))
  | .python, (cfg, st), e =>
    (Lang.Python.innerFacts E cfg e (structVariants e) st).bind fun (cs, _) =>
      .ok (cs.map (·.fields.map Python.boundKey))

/-- "whenever serde has a key, it is `k`" -/
def SerdeKey (E : Ext) (ra : Option Str) (f : Field) (k : Str) : Prop :=
  C16.Agree (.ok k) (fieldKeyOf E ra f)


/-- what "binds the wire name" means for one field, in scope of language `L` -/
def Binds (L : TsV.Lang) (f : RustField) (k : Str) : Prop := KeyOk L f.id.renamed → k = f.id.renamed


/-- the part of the quantifier that depends on the language: "Scala carries no key binding, so for
Scala only keys without `-` are in scope" -/
def ScalaScope : TsV.Lang → Str → Prop
  | .scala, k => '-' ∉ k
  | _, _ => True

/-- a source field inside the quantifier, for language `L` under container rule `ra` -/
def InScope (E : Ext) (L : TsV.Lang) (ra : Option Str) (f : Field) : Prop :=
  FieldInScope E f ∧ ∀ k, fieldKeyOf E ra f = .ok k → ScalaScope L k

instance (L : TsV.Lang) (k : Str) : Decidable (ScalaScope L k) := by
  cases L <;> unfold ScalaScope <;> infer_instance

/-- `InScope` as a decidable check (sound: `inScopeB_sound`) -/
def inScopeB (E : Ext) (L : TsV.Lang) (ra : Option Str) (f : Field) : Bool :=
  (match f.ident with | some i => decide (IdentConv i) | none => false) &&
  (match serdeRename E f.attrs with | some k => decide (KeyStr k) | none => true) &&
  (match fieldKeyOf E ra f with | .ok k => decide (ScalaScope L k) | _ => true)

/-- the scope hypothesis of the enum clause as a decidable check (sound: `variantsInScopeB_sound`) -/
def variantsInScopeB (E : Ext) (L : TsV.Lang) (targetOs : List Str) (vs : List Variant) : Bool :=
  vs.all fun v => match v.fields with
    | .named fs => (kept targetOs fs).all (inScopeB E L (serdeRenameAll E v.attrs))
    | _ => true

/-- the identifiers of the fields, which `reconcile_aliases` leaves alone (it rewrites types only) -/
def fieldIds (fs : List RustField) : List Id := fs.map (·.id)

/-- a struct variant in the source -/
def namedFields : Variant → Bool
  | ⟨_, _, .named _⟩ => true
  | _ => false


end TsV.C01
