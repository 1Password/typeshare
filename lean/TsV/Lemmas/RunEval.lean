import TsV.Lemmas.Run
import TsV.Lemmas.Topsort
import TsV.Lemmas.Order
/-!
# A run the kernel can evaluate

`decide +kernel` cannot evaluate `Generate.run`: `Topsort.inner` (the ordering pass, called by every back end's
`generate` except Scala's) and `List.mergeSort` (in `reconcile_aliases`) are defined by well-founded recursion.
`runE` is `run` with the ordering pass read by its fuel alone (`Topsort.toposort_eq_innerFuel`) and the stable sort
replaced by the insertion sort it equals (`Order.sortBy_eq_sortByI`); `run_eq : run … = runE …`.  A statement about a
concrete run is then one evaluation, whatever the number of crates and of items per crate.
-/
namespace TsV.RunEval
open TsV TsV.Pipeline TsV.Generate TsV.C06M

/-! ### the two passes -/

def topsortE (items : List RustItem) : Option (List RustItem) :=
  (Deps.graph items).bind fun g =>
    ((Topsort.innerFuel g (g.length + 1) (List.range g.length) ⟨[], []⟩).map (·.res)).bind
      (Topsort.sortByIndices items)

theorem topsort_eq (items : List RustItem) : Deps.topsort items = topsortE items := by
  simp only [Deps.topsort, Topsort.toposort_eq_innerFuel, topsortE]
  rfl

def generateOrderE (d : ParsedData) : Option (List RustItem) :=
  topsortE (d.aliases.map .alias ++ d.structs.map .struct ++ d.enums.map .enum ++ d.consts.map .const)

theorem generateOrder_eq (d : ParsedData) : generateOrder d = generateOrderE d := topsort_eq _

/-- what every `generate` does with the order: `generate_types` panics when `topsort` fails -/
def ordered {α} (d : ParsedData) (k : List RustItem → Outcome α) : Outcome α :=
  match generateOrderE d with
  | none => .panic s%"topsort"
  | some items => k items

def reconcileOneI (r : Renames) (crate : Str) (d : ParsedData) : ParsedData :=
  let imports := d.importTypes
  { d with
    structs := Order.sortByI (·.id.original)
      (d.structs.map fun s => { s with fields := s.fields.map (checkField crate r imports) }),
    enums := Order.sortByI (·.id.original)
      (d.enums.map fun e => { e with variants := e.variants.map (checkVariant crate r imports) }),
    aliases := Order.sortByI (·.id.original) (d.aliases.map fun a => { a with ty := checkType crate r imports a.ty }),
    consts := Order.sortByI (·.id.original) d.consts }

def reconcileI (m : List (Str × ParsedData)) : List (Str × ParsedData) :=
  m.map fun (crate, d) => (crate, reconcileOneI (collectSerdeRenames m) crate d)

theorem reconcile_eq (m : List (Str × ParsedData)) : reconcile m = reconcileI m := by
  simp only [reconcile, reconcileI, reconcileOne, reconcileOneI, Order.sortBy_eq_sortByI]

/-! ### the back ends over `generateOrderE` (Scala's `generate` does not order) -/

namespace TypeScript
open Lang.TypeScript

def generateE (U : UnicodeOps) (cfg : Cfg) (d : ParsedData) (imports : Option ScopedCrateTypes) (st0 : CustomMap) :
    Outcome (Str × CustomMap) :=
  ordered d fun items =>
    (writeItems U cfg items st0).bind fun (body, st) =>
      .ok (beginFile cfg ++ (match imports with | some i => writeImports i | none => []) ++ body ++ endFile st, st)

theorem generate_eq (U : UnicodeOps) (cfg : Cfg) (d : ParsedData) (imports : Option ScopedCrateTypes) (st0 : CustomMap) :
    generate U cfg d imports st0 = generateE U cfg d imports st0 := by
  simp only [generate, generateOrder_eq, generateE, ordered]
  cases generateOrderE d <;> rfl

def generateFromE (U : UnicodeOps) (cfg : Cfg) : List Job → CustomMap → Outcome (List (Str × Str))
  | [], _ => .ok []
  | (crate, d, imps) :: rest, st =>
    (generateE U cfg d imps st).bind fun (text, st) =>
    (generateFromE U cfg rest st).bind fun outs => .ok ((crate, text) :: outs)

theorem generateFrom_eq (U : UnicodeOps) (cfg : Cfg) (jobs : List Job) (st : CustomMap) :
    generateFrom U cfg jobs st = generateFromE U cfg jobs st := by
  induction jobs generalizing st with
  | nil => rfl
  | cons j rest ih =>
    obtain ⟨c, d, i⟩ := j
    simp only [generateFrom, generateFromE, generate_eq, ih]

end TypeScript

namespace Kotlin
open Lang.Kotlin

def generateE (cfg : Cfg) (d : ParsedData) (imports : Option ScopedCrateTypes) : Outcome Str :=
  ordered d fun items =>
    (itemsFacts cfg items).bind fun decls =>
      .ok (beginFile cfg d ++ (if d.multiFile then writeImports cfg (imports.getD []) else []) ++
           decls.flatMap renderDecl)

theorem generate_eq (cfg : Cfg) (d : ParsedData) (imports : Option ScopedCrateTypes) :
    generate cfg d imports = generateE cfg d imports := by
  simp only [generate, generateOrder_eq, generateE, ordered]
  cases generateOrderE d <;> rfl

def generateFromE (cfg : Cfg) : List Job → Outcome (List (Str × Str))
  | [] => .ok []
  | (crate, d, imps) :: rest =>
    (generateE cfg d imps).bind fun text =>
    (generateFromE cfg rest).bind fun outs => .ok ((crate, text) :: outs)

theorem generateFrom_eq (cfg : Cfg) (jobs : List Job) : generateFrom cfg jobs = generateFromE cfg jobs := by
  induction jobs with
  | nil => rfl
  | cons j rest ih =>
    obtain ⟨c, d, i⟩ := j
    simp only [generateFrom, generateFromE, generate_eq, ih]

end Kotlin

namespace Swift
open Lang.Swift

def generateE (U : UnicodeOps) (cfg : Cfg) (multiFile : Bool) (d : ParsedData) (st0 : St) : Outcome (Str × St) :=
  ordered d fun items =>
    (writeItems U cfg items st0).bind fun (body, st) => .ok (beginFile cfg ++ body ++ endFile cfg multiFile st, st)

theorem generate_eq (U : UnicodeOps) (cfg : Cfg) (multiFile : Bool) (d : ParsedData) (st0 : St) :
    generate U cfg multiFile d st0 = generateE U cfg multiFile d st0 := by
  simp only [generate, generateOrder_eq, generateE, ordered]
  cases generateOrderE d <;> rfl

def generateFromE (U : UnicodeOps) (cfg : Cfg) (multiFile : Bool) : List Job → St → Outcome (List (Str × Str) × St)
  | [], st => .ok ([], st)
  | (crate, d, _) :: rest, st =>
    (generateE U cfg multiFile d st).bind fun (text, st) =>
    (generateFromE U cfg multiFile rest st).bind fun (outs, st) => .ok ((crate, text) :: outs, st)

theorem generateFrom_eq (U : UnicodeOps) (cfg : Cfg) (multiFile : Bool) (jobs : List Job) (st : St) :
    generateFrom U cfg multiFile jobs st = generateFromE U cfg multiFile jobs st := by
  induction jobs generalizing st with
  | nil => rfl
  | cons j rest ih =>
    obtain ⟨c, d, i⟩ := j
    simp only [generateFrom, generateFromE, generate_eq, ih]

end Swift

namespace Go
open Lang.Go

def generateE (U : UnicodeOps) (cfg : Cfg) (d : ParsedData) (st0 : Imports) : Outcome (Str × Imports) :=
  ordered d fun items =>
    (writeItems U cfg (typesMappingToStruct items) items (addImport st0 s%"encoding/json")).bind fun (body, st) =>
      .ok (beginFile cfg ++ renderImports st ++ body, st)

theorem generate_eq (U : UnicodeOps) (cfg : Cfg) (d : ParsedData) (st0 : Imports) :
    generate U cfg d st0 = generateE U cfg d st0 := by
  simp only [generate, generateOrder_eq, generateE, ordered]
  cases generateOrderE d <;> rfl

def generateFromE (U : UnicodeOps) (cfg : Cfg) : List Job → Imports → Outcome (List (Str × Str))
  | [], _ => .ok []
  | (crate, d, _) :: rest, st =>
    (generateE U cfg d st).bind fun (text, st) =>
    (generateFromE U cfg rest st).bind fun outs => .ok ((crate, text) :: outs)

theorem generateFrom_eq (U : UnicodeOps) (cfg : Cfg) (jobs : List Job) (st : Imports) :
    generateFrom U cfg jobs st = generateFromE U cfg jobs st := by
  induction jobs generalizing st with
  | nil => rfl
  | cons j rest ih =>
    obtain ⟨c, d, i⟩ := j
    simp only [generateFrom, generateFromE, generate_eq, ih]

end Go

namespace Python
open Lang.Python

def generateE (E : Ext) (cfg : Cfg) (d : ParsedData) (st0 : St) : Outcome (Str × St) :=
  ordered d fun items =>
    (writeItems E cfg items st0).bind fun (body, st) =>
      let st := addDatetimeImport st
      .ok (beginFile cfg ++ writeAllImports st ++ writeCustomFns st ++ body, st)

theorem generate_eq (E : Ext) (cfg : Cfg) (d : ParsedData) (st0 : St) :
    generate E cfg d st0 = generateE E cfg d st0 := by
  simp only [generate, generateOrder_eq, generateE, ordered]
  cases generateOrderE d <;> rfl

def generateFromE (E : Ext) (cfg : Cfg) : List Job → St → Outcome (List (Str × Str))
  | [], _ => .ok []
  | (crate, d, _) :: rest, st =>
    (generateE E cfg d st).bind fun (text, st) =>
    (generateFromE E cfg rest st).bind fun outs => .ok ((crate, text) :: outs)

theorem generateFrom_eq (E : Ext) (cfg : Cfg) (jobs : List Job) (st : St) :
    generateFrom E cfg jobs st = generateFromE E cfg jobs st := by
  induction jobs generalizing st with
  | nil => rfl
  | cons j rest ih =>
    obtain ⟨c, d, i⟩ := j
    simp only [generateFrom, generateFromE, generate_eq, ih]

end Python

/-! ### the run -/

def genAllE (E : Ext) (lang : LangCfg) (multiFile : Bool) (jobs : List Job) : Outcome (List (Str × Str)) :=
  match lang with
  | .typescript cfg => TypeScript.generateFromE E.U cfg jobs []
  | .kotlin cfg => Kotlin.generateFromE cfg jobs
  | .swift cfg => (Swift.generateFromE E.U cfg multiFile jobs false).bind fun (outs, st) =>
      .ok (outs ++ Lang.Swift.postGeneration cfg multiFile st)
  | .scala cfg => Lang.Scala.generateFrom cfg jobs
  | .go cfg => Go.generateFromE E.U cfg jobs []
  | .python cfg => Python.generateFromE E cfg jobs {}

theorem genAll_eq (E : Ext) (lang : LangCfg) (multiFile : Bool) (jobs : List Job) :
    C03E.genAll E lang multiFile jobs = genAllE E lang multiFile jobs := by
  cases lang with
  | typescript cfg => exact TypeScript.generateFrom_eq ..
  | kotlin cfg => exact Kotlin.generateFrom_eq ..
  | swift cfg => simp only [C03E.genAll, Lang.Swift.generateAll, Swift.generateFrom_eq, genAllE]
  | scala cfg => rfl
  | go cfg => exact Go.generateFrom_eq ..
  | python cfg => exact Python.generateFrom_eq ..

def finishE (E : Ext) (lang : LangCfg) (multiFile : Bool) (arrivals : List ParsedData) : Outcome RunResult :=
  let crates := reconcileI (collect arrivals)
  if !(allErrors crates).isEmpty then .ok (.parseErrors (allErrors crates))
  else (genAllE E lang multiFile (C14_Helpers.runJobs multiFile crates)).bind fun o => .ok (.outputs o)

theorem finish_eq (E : Ext) (lang : LangCfg) (multiFile : Bool) (arrivals : List ParsedData) :
    Run.finish E lang multiFile arrivals = finishE E lang multiFile arrivals := by
  simp only [Run.finish, reconcile_eq, genAll_eq, finishE]

def runE (E : Ext) (lang : LangCfg) (multiFile : Bool) (targetOs : List Str)
    (pick : List ImportedType → Option ImportedType) (files : List SourceFile) : Outcome RunResult :=
  (parseAll E (Run.ctxOf lang multiFile targetOs) pick files).bind (finishE E lang multiFile)

theorem run_eq (E : Ext) (lang : LangCfg) (multiFile : Bool) (targetOs : List Str)
    (pick : List ImportedType → Option ImportedType) (files : List SourceFile) :
    run E lang multiFile targetOs pick files = runE E lang multiFile targetOs pick files := by
  rw [Run.run_eq, runE, funext (finish_eq E lang multiFile)]

/-! ### reading an evaluated run -/

/-- the files a run wrote (none when it stopped otherwise) -/
def written : Outcome RunResult → List (Str × Str)
  | .ok (.outputs o) => o
  | _ => []

def wrote : Outcome RunResult → Bool
  | .ok (.outputs _) => true
  | _ => false

theorem eq_outputs {r : Outcome RunResult} (h : wrote r = true) : r = .ok (.outputs (written r)) := by
  cases r with
  | ok x => cases x with
    | outputs o => rfl
    | parseErrors e => cases h
  | err e => cases h
  | panic s => cases h

theorem outputs_length {r : Outcome RunResult} {n : Nat} (h : (wrote r && (written r).length == n) = true) :
    ∃ outs, r = .ok (.outputs outs) ∧ outs.length = n :=
  have h := Bool.and_eq_true_iff.1 h
  ⟨_, eq_outputs h.1, eq_of_beq h.2⟩

end TsV.RunEval
