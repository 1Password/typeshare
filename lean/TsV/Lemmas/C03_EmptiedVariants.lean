import TsV.Lemmas.C05_HelperGenerics
import TsV.Lemmas.C03_Emission_Go
import TsV.Lemmas.C03_Emission_Python
import TsV.Props.C03
/-!
# C03_EmptiedVariants — lemmas

`Emptied`: a struct variant all of whose fields are skipped (or that is written `V {}`); and the two
list / text facts that carry a statement about one block to the written file.
-/
namespace TsV.C03_EmptiedVariants
open TsV TsV.Syn TsV.Parser TsV.Lang TsV.C03E TsV.Outcome

def Emptied (T : List Str) (v : Variant) : Prop :=
  ∃ fs, v.fields = .named fs ∧ ∀ f ∈ fs, isSkipped f.attrs T = true

theorem splitsInto_mem {defs : List (Str × Str)} {b : Str} (h : SplitsInto defs b) :
    ∀ d ∈ defs, ∃ chunk, chunk <:+: b ∧ DefinesHead d.1 d.2 chunk := by
  obtain ⟨lead, chunks, rfl, _, hp⟩ := h
  intro d hd
  obtain ⟨c, hm, hdc⟩ := (paired_iff.1 hp).mem_left d hd
  refine ⟨c, ?_, hdc⟩
  obtain ⟨l1, l2, rfl⟩ := List.append_of_mem hm
  exact ⟨lead ++ l1.flatten, l2.flatten, by simp [List.append_assoc]⟩

theorem block_infix_text {blocks : List Str} {b : Str} (hb : b ∈ blocks) (n : Nat) (header mid footer : Str) :
    b <:+: header ++ (blocks.take n).flatten ++ mid ++ (blocks.drop n).flatten ++ footer := by
  rw [← List.take_append_drop n blocks] at hb
  rcases List.mem_append.1 hb with h | h
  · obtain ⟨l1, l2, hl⟩ := List.append_of_mem h
    rw [hl]
    exact ⟨header ++ l1.flatten, l2.flatten ++ mid ++ (blocks.drop n).flatten ++ footer, by simp [List.append_assoc]⟩
  · obtain ⟨l1, l2, hl⟩ := List.append_of_mem h
    rw [hl]
    exact ⟨header ++ (blocks.take n).flatten ++ mid ++ l1.flatten, l2.flatten ++ footer, by simp [List.append_assoc]⟩

end TsV.C03_EmptiedVariants
