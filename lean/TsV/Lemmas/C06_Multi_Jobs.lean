import TsV.Lemmas.C06_Multi_Collect
import TsV.Model.Generate
/-!
# The job list of a multi-file run, up to arrival order and hash orders

`jobsWith σ m` is the list `(crate, data, scoped imports)` that `Generate.run` hands to the back ends in
multi-file mode, for the collected map `m`; `σ` is the iteration order of the `all_types` hash map, which only the
re-export fallback of `used_imports` (`firstOther`) looks at — and whose result does not depend on it.
-/
namespace TsV.C06M
open TsV TsV.Pipeline TsV.Collect

/-! ### the fallback choice `firstOther`

Since the `fix:` commit "resolve a type name imported from several crates the same way in every run" it is the
candidate crate with the smallest name (`Lemmas/MinByKey.lean`): no hypothesis on the number of candidates. -/

/-- a crate other than `cur` that defines `name` -/
def cand (cur name : Str) (p : Str × List Str) : Bool := p.1 != cur && p.2.contains name

theorem firstOther_eq (all : List (Str × List Str)) (cur name : Str) :
    Generate.firstOther all cur name = (minByKey (all.filter (cand cur name))).map (·.1) := rfl

theorem AllRel.mem {c : Str} {all all' : List (Str × List Str)} (h : AllRel all all') (ns : List Str)
    (hm : (c, ns) ∈ all) : ∃ ns', (c, ns') ∈ all' ∧ ∀ t, t ∈ ns ↔ t ∈ ns' := by
  obtain ⟨y, hy, hk, hn⟩ := (rel₂_iff.1 h).mem_left (c, ns) hm
  have hk' : c = y.1 := hk
  exact ⟨y.2, by rw [hk']; exact hy, hn⟩

theorem AllRel.symm {all all' : List (Str × List Str)} (h : AllRel all all') : AllRel all' all :=
  rel₂_iff.2 ((rel₂_iff.1 h).flip.imp fun _ _ hxy => ⟨hxy.1.symm, fun t => (hxy.2 t).symm⟩)

/-- the fallback does not depend on the order of the crates nor on the order inside the name sets -/
theorem AllRel.firstOther (cur name : Str) {all all' : List (Str × List Str)} (h : AllRel all all') :
    Generate.firstOther all cur name = Generate.firstOther all' cur name := by
  apply MinByKey.firstOther_congr_mem
  intro c
  constructor
  · rintro ⟨ns, h1, h2, h3⟩
    obtain ⟨ns', h4, h5⟩ := h.mem ns h1
    exact ⟨ns', h4, h2, (h5 name).1 h3⟩
  · rintro ⟨ns, h1, h2, h3⟩
    obtain ⟨ns', h4, h5⟩ := h.symm.mem ns h1
    exact ⟨ns', h4, h2, (h5 name).1 h3⟩

abbrev Job := Str × ParsedData × Option ScopedCrateTypes

/-- the jobs of a multi-file run on the collected map `m`; `σ` = iteration order of the `all_types` hash map -/
def jobsWith (σ : List (Str × List Str) → List (Str × List Str)) (m : List (Str × ParsedData)) : List Job :=
  let crates := reconcile m
  let all := allTypes crates
  crates.map fun (c, d) =>
    (c, d, some (usedImports d all d.importTypes (Generate.firstOther (σ all) d.crateName)))

/-- what a back end can see of a job: the sorted item lists, crate key, crate name, file name, mode and the
scoped imports (the hash sets `import_types` / `type_names` have been consumed by `used_imports`) -/
def jobView (j : Job) : Str × List RustStruct × List RustEnum × List RustTypeAlias × List RustConst ×
    Str × Str × Bool × Option ScopedCrateTypes :=
  (j.1, j.2.1.structs, j.2.1.enums, j.2.1.aliases, j.2.1.consts, j.2.1.crateName, j.2.1.fileName,
   j.2.1.multiFile, j.2.2)

theorem allRel_of_mapEq {m m' : List (Str × ParsedData)} (h : MapEq m m') : AllRel (allTypes m) (allTypes m') := by
  unfold allTypes AllRel
  exact rel₂_iff.2 (C01.Forall₂.map_left_iff.2 (C01.Forall₂.map_right_iff.2
    ((rel₂_iff.1 h).imp fun p q hpq => ⟨hpq.1, hpq.2.typeNames⟩)))

theorem mem_reconcile {m : List (Str × ParsedData)} {x : Str × ParsedData} (hx : x ∈ reconcile m) :
    ∃ p ∈ m, x.2.importTypes = p.2.importTypes ∧ x.2.crateName = p.2.crateName := by
  rw [reconcile_eq] at hx
  obtain ⟨p, hp, rfl⟩ := List.mem_map.1 hx
  exact ⟨p, hp, rfl, rfl⟩

/-- **the job list is a function of the equivalence class of the collected map** -/
theorem jobs_congr {m m' : List (Str × ParsedData)} (h : MapEq m m') (wf : MapWF m)
    (σ σ' : List (Str × List Str) → List (Str × List Str))
    (hσ : ∀ l, (σ l).Perm l) (hσ' : ∀ l, (σ' l).Perm l) :
    (jobsWith σ m).map jobView = (jobsWith σ' m').map jobView := by
  have hrec := reconcile_mapEq h wf
  have hall : AllRel (allTypes m) (allTypes m') := allRel_of_mapEq h
  unfold jobsWith
  simp only [List.map_map, allTypes_reconcile]
  refine hrec.map_eq fun x hx y _ hxy => ?_
  have husd : usedImports x.2 (allTypes m) x.2.importTypes (Generate.firstOther (σ (allTypes m)) x.2.crateName) =
      usedImports y.2 (allTypes m') y.2.importTypes (Generate.firstOther (σ' (allTypes m')) y.2.crateName) := by
    apply usedImports_congr x.2 y.2 hxy.crateName _ _ _ _ _ _ hxy.imports
    intro i hi hne
    apply contrib_congr _ _ _ _ _ hall
    intro _
    rw [MinByKey.firstOther_perm _ _ _ _ (hσ (allTypes m)), hall.firstOther, ← hxy.crateName,
      MinByKey.firstOther_perm _ _ _ _ (hσ' (allTypes m'))]
  obtain ⟨c, d⟩ := x
  obtain ⟨c', d'⟩ := y
  simp only [Function.comp, jobView]
  simp only at husd
  rw [husd, hxy.structs, hxy.enums, hxy.aliases, hxy.consts, hxy.crateName, hxy.fileName, hxy.multiFile]
  have := hxy.key
  simp only at this
  rw [this]

/-- `check_parse_errors` sees the same errors, in another order -/
theorem allErrors_perm {m m' : List (Str × ParsedData)} (h : MapEq m m') (wf : MapWF m) :
    (allErrors (reconcile m)).Perm (allErrors (reconcile m')) :=
  (reconcile_mapEq h wf).flatMap_perm fun _ _ _ _ hr => hr.errors

end TsV.C06M
