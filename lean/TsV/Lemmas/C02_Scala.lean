import TsV.Lemmas.C02_Base
import TsV.Lemmas.Lang.Scala
/-!
# C02, Scala: `serialName` of every case, the content parameter name (no tag key is carried)
-/
namespace TsV.C02.Sc
open TsV TsV.Lang TsV.Lang.Scala TsV.C02

def caseHoles (c : ScCase) : List (Role × Str) :=
  match c.content with
  | none => []
  | some (_, p, _) => [(.content, p)]

/-- binding semantics: a `case object` / `case class` of the companion object is the case `name`,
serialised as the value of its `serialName`; a case class carries its payload under the name of its
single parameter -/
def wire (se : ScEnum) : EnumWire :=
  { cases := se.cases.map fun c => ⟨some c.name, some c.serialName⟩,
    holes := se.cases.flatMap caseHoles }

theorem caseFacts_facts (cfg : Cfg) (e : RustEnum) (v : RustEnumVariant) (c : ScCase)
    (h : caseFacts cfg e v = .ok c) :
    c.serialName = v.id.renamed ∧
    c.name = (match e.keys with | none => v.id.original | some _ => variantName v.id.original) ∧
    (match e.keys with
     | none => caseHoles c = []
     | some (_, ck) => ∀ x ∈ caseHoles c, x = (.content, ck)) := by
  cases caseFacts_inv h with
  | unit hk => rw [hk]; exact ⟨rfl, rfl, rfl⟩
  | @algebraic tag ck content hk hc =>
    rw [hk]
    refine ⟨rfl, rfl, ?_⟩
    cases v with
    | unit id cs => cases hc; exact fun _ hx => nomatch hx
    | tuple id cs ty => obtain ⟨t, -, rfl⟩ := Outcome.of_bind_ret hc; exact fun _ hx => List.mem_singleton.1 hx
    | anonymousStruct id cs fs => cases hc; exact fun _ hx => List.mem_singleton.1 hx

theorem variantName_upperCamel (s : Str) (h : C16.UpperCamel s) : variantName s = s := by
  obtain ⟨c, rest, rfl, hc⟩ := upperCamel_head s h
  simp [variantName, RenameLemmas.upper_notDigit c hc]

/-- **Scala**: whatever `write_enum` emits for an in-scope enum is correct on the wire -/
theorem correct (cfg : Cfg) (e : RustEnum) (hs : InScopeEnum e) (se : ScEnum)
    (h : enumFacts cfg e = .ok se) : (wire se).Correct e := by
  obtain ⟨inner, cases, -, hc, rfl⟩ := enumFacts_inv h
  have hname : cases.map (·.name) = e.variants.map (·.id.original) := by
    refine Outcome.mapM'_map_mem _ _ _ _ _ ?_ hc
    intro v hv c hvc
    rw [(caseFacts_facts cfg e v c hvc).2.1]
    cases e.keys with
    | none => rfl
    | some p => exact variantName_upperCamel _ (hs.camel v hv)
  refine .of_named cases (·.name) (·.serialName)
    (Outcome.mapM'_map _ _ _ (fun v c hvc => (caseFacts_facts cfg e v c hvc).1) _ _ hc)
    (by rw [hname]; exact hs.distinct) ?_
  cases hk : e.keys with
  | none =>
    refine .of_none hk (List.flatMap_eq_nil_iff.2 fun c hcm => ?_)
    obtain ⟨v, _, hv⟩ := Outcome.mapM'_ok_mem hc c hcm
    have := (caseFacts_facts cfg e v c hv).2.2
    rw [hk] at this
    exact this
  | some p =>
    obtain ⟨tag, ck⟩ := p
    refine .of_some hk fun x hx => ?_
    obtain ⟨c, hcm, hx⟩ := List.mem_flatMap.1 hx
    obtain ⟨v, _, hv⟩ := Outcome.mapM'_ok_mem hc c hcm
    have := (caseFacts_facts cfg e v c hv).2.2
    rw [hk] at this
    exact Or.inr (this x hx)

end TsV.C02.Sc
