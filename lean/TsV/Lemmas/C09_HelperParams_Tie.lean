import TsV.Lemmas.C09_HelperParams
/-!
# C09_HelperParams — the generic parameter lists in the fact records of the five helper-writing back ends

For each of Kotlin, Swift, Scala, Go and Python: the declaration record the model builds for the
helper struct of a struct variant (`structFacts` / `classFacts` applied to `Lang.anonymousStruct …`)
carries exactly `helperGens e fs` as its generic parameter list, the field types are printed with that
list as `generic_types`, and (Kotlin, Swift, Scala) the enum's case applies the helper to the very same
list.  Lifted to the lists of helper declarations `enumFacts` / `algEnumFacts` / `unionFacts` return.
-/
namespace TsV.C09_HelperParams
open TsV TsV.Pipeline TsV.Generate TsV.Lang TsV.C09

theorem tie_kotlin_helper (c : Kotlin.Cfg) (e : RustEnum) (n v : Str) (fs : List RustField) (d : Kotlin.KtDecl)
    (h : Kotlin.structFacts c (anonymousStruct e n v fs) = .ok d) :
    ktGenerics d = genericSuffix (helperGens e fs) := by
  obtain ⟨he, rfl⟩ | ⟨-, ps, -, rfl⟩ := Kotlin.structFacts_inv h
  · obtain rfl : fs = [] := he
    rfl
  · rfl

/-- **Kotlin**: the helper classes `enumFacts` returns (all declarations but the last, which is the
enum's own class and declares the enum's full list) declare exactly `helperGens` -/
theorem tie_kotlin_enum_generics (c : Kotlin.Cfg) (e : RustEnum) (ds : List Kotlin.KtDecl)
    (h : Kotlin.enumFacts c e = .ok ds) :
    ds.map ktGenerics = ((structVariants e).map fun p => genericSuffix (helperGens e p.2)) ++
      [genericSuffix e.genericTypes] := by
  obtain ⟨inners, d, hi, hd, rfl⟩ := Kotlin.enumFacts_inv h
  have hd : ktGenerics d = genericSuffix e.genericTypes := by cases hd <;> rfl
  rw [List.map_append, List.map_singleton, hd,
    Outcome.mapM'_map _ ktGenerics _ (fun p d hd => tie_kotlin_helper c e _ _ p.2 d hd) _ _ (Kotlin.innerStructs_inv hi)]

/-- … and the case of the sealed class applies the helper to the same list -/
theorem tie_kotlin_case_generics (c : Kotlin.Cfg) (e : RustEnum) (key : Str) (id : Id) (cs : List Str)
    (fs : List RustField) (k : Kotlin.KtCase) (h : Kotlin.caseFacts c e key (.anonymousStruct id cs fs) = .ok k) :
    k.payload = .inner key (c.pfx ++ e.id.renamed ++ id.original ++ s%"Inner") (genericSuffix (helperGens e fs)) := by
  unfold Kotlin.caseFacts at h
  cases h; rfl

theorem swift_genericParams_names (U : UnicodeOps) (c : Swift.Cfg) (dm : DecoratorMap) (gens : List Str) :
    (Swift.genericParams U c dm gens).map (·.name) = gens := by
  simp only [Swift.genericParams, List.map_map]
  conv => rhs; rw [← List.map_id gens]
  apply List.map_congr_left
  intro g _
  simp only [Function.comp]
  split <;> rfl

/-- the stored properties and the `init` parameters of the helper are printed with `helperGens e fs`
as `generic_types` -/
theorem swift_helper_facts (U : UnicodeOps) (c : Swift.Cfg) (e : RustEnum) (n v : Str) (fs : List RustField) (st : Swift.St) :
    Swift.structFacts U c (anonymousStruct e n v fs) st =
      (Swift.storedProps c (helperGens e fs) fs st).bind fun (props, st) =>
      (Swift.initParams c (helperGens e fs) fs st).bind fun (params, st) =>
        .ok ({ comments := (anonymousStruct e n v fs).comments,
               name := Swift.kw (c.pfx ++ n),
               generics := Swift.genericParams U c e.decorators (helperGens e fs),
               conformances := Swift.structConformances c e.decorators,
               props,
               codingKeys := fs.map Swift.fieldCodingKey,
               explicitCodingKeys := fs.any fun f => f.id.renamed.contains '-',
               initParams := params,
               initAssigns := fs.map fun f => ⟨Swift.removeDash f.id.renamed, Swift.memberName f⟩ }, st) := rfl

theorem tie_swift_helper (U : UnicodeOps) (c : Swift.Cfg) (e : RustEnum) (n v : Str) (fs : List RustField)
    (st st' : Swift.St) (d : Swift.SwiftStruct) (h : Swift.structFacts U c (anonymousStruct e n v fs) st = .ok (d, st')) :
    d.generics.map (·.name) = helperGens e fs := by
  rw [swift_helper_facts] at h
  obtain ⟨⟨props, st1⟩, _, h⟩ := Outcome.of_bind_ok h
  obtain ⟨⟨params, st2⟩, _, h⟩ := Outcome.of_bind_ok h
  cases h
  exact swift_genericParams_names U c _ _

/-- **Swift**: the helper structs `enumFacts` returns declare exactly `helperGens` -/
theorem tie_swift_enum_generics (U : UnicodeOps) (c : Swift.Cfg) (e : RustEnum) (st st' : Swift.St)
    (ss : List Swift.SwiftStruct) (d : Swift.SwiftEnum) (h : Swift.enumFacts U c e st = .ok (ss, d, st')) :
    ss.map (fun s => s.generics.map (·.name)) = (structVariants e).map (fun p => helperGens e p.2) ∧
    d.generics.map (·.name) = e.genericTypes := by
  unfold Swift.enumFacts at h
  obtain ⟨⟨structs, st1⟩, hs, h⟩ := Outcome.of_bind_ok h
  obtain ⟨⟨cases', st2⟩, _, h⟩ := Outcome.of_bind_ok h
  cases h
  exact ⟨swift_anonymousStructs_map U c e _ (fun p => helperGens e p.2)
    (fun p st d st' h => tie_swift_helper U c e _ _ _ st st' d h) _ _ _ _ hs, swift_genericParams_names U c _ _⟩

/-- … and the enum's case applies the helper to the same list -/
theorem tie_swift_case_generics {U : UnicodeOps} (c : Swift.Cfg) (e : RustEnum) (id : Id) (cs : List Str) (fs : List RustField)
    (st st' : Swift.St) (k : Swift.EnumCase)
    (h : Swift.algebraicCase U c e (.anonymousStruct id cs fs) st = .ok (k, st')) :
    k.payload = some ⟨c.pfx ++ Swift.anonymousStructName e id.original ++ genericSuffix (helperGens e fs), false⟩ := by
  unfold Swift.algebraicCase at h
  cases h; rfl

/-- the parameters of the helper class are printed with `helperGens e fs` as `generic_types` -/
theorem tie_scala_helper (c : Scala.Cfg) (e : RustEnum) (n v : Str) (fs : List RustField) (d : Scala.ScClass)
    (h : Scala.classFacts c (anonymousStruct e n v fs) = .ok d) : d.generics = helperGens e fs := by
  obtain ⟨ps, -, rfl⟩ := Outcome.of_bind_ret h
  rfl

/-- **Scala**: the helper classes `enumFacts` returns declare exactly `helperGens` -/
theorem tie_scala_enum_generics (c : Scala.Cfg) (e : RustEnum) (d : Scala.ScEnum) (h : Scala.enumFacts c e = .ok d) :
    d.inner.map (·.generics) = (structVariants e).map (fun p => helperGens e p.2) ∧ d.generics = e.genericTypes := by
  obtain ⟨inner, cases', hi, -, rfl⟩ := Scala.enumFacts_inv h
  exact ⟨Outcome.mapM'_map _ (·.generics) (fun p => helperGens e p.2)
    (fun p b hb => tie_scala_helper c e _ _ p.2 b hb) _ _ hi, rfl⟩

/-- … and the case class of the companion object applies the helper to the same list -/
theorem tie_scala_case_generics (c : Scala.Cfg) (e : RustEnum) (kc : Str × Str) (hk : e.keys = some kc) (id : Id)
    (cs : List Str) (fs : List RustField) (k : Scala.ScCase)
    (h : Scala.caseFacts c e (.anonymousStruct id cs fs) = .ok k) :
    k.content = some (e.genericTypes, kc.2,
      e.id.renamed ++ id.original ++ s%"Inner" ++ Scala.genericSq (helperGens e fs)) := by
  unfold Scala.caseFacts at h
  simp only [hk] at h
  cases h; rfl

theorem tie_go_helper (U : UnicodeOps) (c : Go.Cfg) (e : RustEnum) (n v : Str) (fs : List RustField)
    (st st' : Go.Imports) (d : Go.GoStruct) (h : Go.structFacts U c (anonymousStruct e n v fs) st = .ok (d, st')) :
    d.generics = helperGens e fs := by
  obtain ⟨_, _, _, _, rfl⟩ := Go.structFacts_inv h
  rfl

/-- **Go**: the helper structs of an algebraic enum declare exactly `helperGens` (printed `[T any, …]`) -/
theorem tie_go_enum_generics (U : UnicodeOps) (c : Go.Cfg) (e : RustEnum) (tag content : Str) (cs : List Str)
    (st st' : Go.Imports) (d : Go.GoAlgEnum) (h : Go.algEnumFacts U c e tag content cs st = .ok (d, st')) :
    d.anonymous.map (·.generics) = (structVariants e).map fun p => helperGens e p.2 := by
  obtain ⟨_, _, _, _, _, _, _, ha, _, _, _, _, _, rfl⟩ := Go.algEnumFacts_inv h
  -- one step of `anonStructs` is two binds: the helper's name, then its struct
  refine Outcome.thread_map (f := fun p st => (Go.anonName U c e p.1.original).bind fun sn =>
      Go.structFacts U c (anonymousStruct e sn p.1.original p.2) st)
    (fun _ => rfl) (fun _ _ _ => (Outcome.bind_assoc _ _ _).symm) _ _ (fun p st d st' hd => ?_) ha
  obtain ⟨sn, _, hd⟩ := Outcome.of_bind_ok hd
  exact tie_go_helper U c e sn _ p.2 st st' d hd

/-- the fields of the helper class are printed with `helperGens e fs` as `generic_types`, and every
one of them is declared as a `TypeVar` -/
theorem python_helper_facts (E : Ext) (c : Python.Cfg) (e : RustEnum) (n v : Str) (fs : List RustField) (st : Python.St) :
    ∃ st0, Python.structFacts E c (anonymousStruct e n v fs) st =
      (Python.fieldsFacts E c (helperGens e fs) fs st0).bind fun (fields, st) =>
        .ok ({ name := n, generics := helperGens e fs, comments := (anonymousStruct e n v fs).comments,
               modelConfig := fs.any fun f => Python.propertyAwareRename E f.id.original != f.id.renamed,
               fields }, st) := ⟨_, rfl⟩

theorem tie_python_helper (E : Ext) (c : Python.Cfg) (e : RustEnum) (n v : Str) (fs : List RustField)
    (st st' : Python.St) (d : Python.PyClass) (h : Python.structFacts E c (anonymousStruct e n v fs) st = .ok (d, st')) :
    d.generics = helperGens e fs := by
  obtain ⟨_, _, _, rfl⟩ := Python.structFacts_inv h
  rfl

/-- **Python**: the helper classes of a union declare exactly `helperGens` (the `Generic[…]` base) -/
theorem tie_python_enum_generics (E : Ext) (c : Python.Cfg) (e : RustEnum) (tag content : Str) (st st' : Python.St)
    (d : Python.PyUnion) (h : Python.unionFacts E c e tag content st = .ok (d, st')) :
    d.inner.map (·.generics) = (structVariants e).map fun p => helperGens e p.2 := by
  obtain ⟨_, _, _, _, _, hi, _, rfl⟩ := Python.unionFacts_inv h
  exact Outcome.thread_map (fun _ => rfl) (fun _ _ _ => rfl) _ _
    (fun p st d st' hd => tie_python_helper E c e _ _ p.2 st st' d hd) hi

end TsV.C09_HelperParams
