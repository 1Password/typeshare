import TsV.Model.Lang.TypeScript
import TsV.Lemmas.C04_Common
import TsV.Lemmas.C01_Backends
import TsV.Lemmas.Lang.TypeScript
/-!
# C04 for the TypeScript back end (`write_field` in typescript.rs)
-/
namespace TsV.C04.Ts
open TsV TsV.Lang TsV.Lang.TypeScript TsV.C04

/-! ## binding semantics (trusted specification)

TypeScript's idiom is the optional property `name?: T`; `Option<Option<T>>` additionally gets
` | null` after the type.  Both are explicit fields of the fact record. -/

def isOptional (f : TsField) : Bool := f.optional
def stripOptional (f : TsField) : Str := f.ty
def orNull (f : TsField) : Bool := f.orNull

/-- the rendering of the two markers (by definition of `renderField`) -/
theorem renderField_eq (f : TsField) :
    renderField f = comments 1 f.comments ++ s%"\t" ++ (if f.readonly then s%"readonly " else []) ++ f.name ++
      (if isOptional f then s%"?" else []) ++ s%": " ++ stripOptional f ++
      (if orNull f then s%" | null" else []) ++ s%";\n" := rfl

/-! ## `format_type` erases `Option` -/

/-- without a type mapping keyed by the type itself `format_special_type` goes on to its arms -/
theorem special_unmapped {cfg : Cfg} {gens : List Str} {t : RustType}
    (h : mapGet cfg.typeMappings t.display = none) (st : CustomMap)
    (k : CustomMap → Outcome (Str × CustomMap)) : special cfg gens t st k = k st := by
  unfold special
  rw [h]

theorem formatType_option {cfg : Cfg} {gens : List Str} {r : RustType} (st : CustomMap)
    (h : NoOptionKey cfg.typeMappings (.option r)) :
    formatType cfg gens (.option r) st = formatType cfg gens r st :=
  special_unmapped (h rfl) st _

theorem formatType_strip {cfg : Cfg} {gens : List Str} {t : RustType} (st : CustomMap)
    (h : NoOptionKey cfg.typeMappings t) :
    formatType cfg gens t st = formatType cfg gens (stripOption t) st := by
  cases t with
  | option r => exact formatType_option st h
  | _ => rfl

theorem fieldFacts_ok {cfg : Cfg} {gens : List Str} {f : RustField} {st st' : CustomMap} {tf : TsField}
    (h : fieldFacts cfg gens f st = .ok (tf, st')) :
    tf.optional = opt f ∧ tf.orNull = f.ty.isDoubleOptional ∧
    (match typeOverride f .typescript with
     | some t => tf.ty = t
     | none => ∃ st1, formatType cfg gens f.ty st = .ok (tf.ty, st1)) := by
  obtain ⟨st1, hty, htf, -⟩ := TypeScript.fieldFacts_ok h
  refine ⟨by rw [← htf]; rfl, by rw [← htf], ?_⟩
  cases ho : typeOverride f .typescript with
  | some t => rw [ho] at hty; exact (Outcome.ok_pair_inj hty).1.symm
  | none => rw [ho] at hty; exact ⟨st1, hty⟩

/-- **TypeScript, one field**: `?` exactly when the field is `Option<_>` or has
`serde(default)` (with or without a type override); ` | null` exactly for `Option<Option<_>>`;
and the type is the translation of the `Option`-stripped Rust type -/
theorem field {cfg : Cfg} {gens : List Str} {f : RustField} {st st' : CustomMap} {tf : TsField}
    (h : fieldFacts cfg gens f st = .ok (tf, st')) :
    isOptional tf = opt f ∧ orNull tf = f.ty.isDoubleOptional ∧
    (typeOverride f .typescript = none → NoOptionKey cfg.typeMappings f.ty →
      ∃ st1, formatType cfg gens (stripOption f.ty) st = .ok (stripOptional tf, st1)) := by
  obtain ⟨h1, h2, h3⟩ := fieldFacts_ok h
  refine ⟨h1, h2, ?_⟩
  intro hov hk
  rw [hov] at h3
  obtain ⟨st1, h3⟩ := h3
  rw [formatType_strip st hk] at h3
  exact ⟨st1, h3⟩

/-- with a `typescript(type = "t")` override the text replaces the type; the markers stay -/
theorem field_override {cfg : Cfg} {gens : List Str} {f : RustField} {st st' : CustomMap} {tf : TsField} {t : Str}
    (hov : typeOverride f .typescript = some t) (h : fieldFacts cfg gens f st = .ok (tf, st')) :
    stripOptional tf = t ∧ isOptional tf = opt f := by
  obtain ⟨h1, _, h3⟩ := fieldFacts_ok h
  rw [hov] at h3
  exact ⟨h3, h1⟩

def FieldGen (cfg : Cfg) (gens : List Str) (f : RustField) (tf : TsField) : Prop :=
  ∃ st st', fieldFacts cfg gens f st = .ok (tf, st')

/-- **every field of every struct**: the interface body is the rendering of one property per
field, in order -/
theorem struct_fields {cfg : Cfg} {rs : RustStruct} {st st' : CustomMap} {text : Str}
    (h : writeStruct cfg rs st = .ok (text, st')) :
    ∃ tfs, Pointwise (FieldGen cfg rs.genericTypes) rs.fields tfs ∧
      text = comments 0 rs.comments ++ s%"export interface " ++ rs.id.renamed ++ genericSuffix rs.genericTypes ++
        s%" {\n" ++ tfs.flatMap renderField ++ s%"}\n\n" := by
  obtain ⟨tfs, hf, ht⟩ := C01.TypeScript.writeStruct_fields cfg rs st st' text h
  exact ⟨tfs, thread_pointwise hf (fun _ => rfl) (fun _ _ _ => rfl), ht⟩

/-- **every field of every struct variant**: the properties are written inline under the content
key, one per field, in order -/
theorem variant_fields {cfg : Cfg} {e : RustEnum} {tag content : Str} {id : Id} {cs : List Str}
    {fs : List RustField} {st st' : CustomMap} {text : Str}
    (h : writeVariant cfg e tag content (.anonymousStruct id cs fs) st = .ok (text, st')) :
    ∃ tfs, Pointwise (FieldGen cfg e.genericTypes) fs tfs ∧
      text = nl ++ comments 1 cs ++ s%"\t| { " ++ tag ++ s%": " ++ debugStr id.renamed ++ s%", " ++ content ++
        s%": {\n" ++ tfs.flatMap renderField ++ s%"}}" := by
  obtain ⟨tfs, hf, rfl⟩ := C01.TypeScript.writeVariant_struct h
  exact ⟨tfs, thread_pointwise hf (fun _ => rfl) (fun _ _ _ => rfl), rfl⟩

/-- **newtype-variant payload**: `content?: T` exactly when the payload type is `Option<_>`; the
type is the translation of the payload type (which erases the `Option`, `formatType_option`) -/
theorem payload {cfg : Cfg} {e : RustEnum} {tag content : Str} {id : Id} {cs : List Str} {ty : RustType}
    {st st' : CustomMap} {text : Str}
    (h : writeVariant cfg e tag content (.tuple id cs ty) st = .ok (text, st')) :
    ∃ t, formatType cfg e.genericTypes ty st = .ok (t, st') ∧
      text = nl ++ comments 1 cs ++ s%"\t| { " ++ tag ++ s%": " ++ debugStr id.renamed ++ s%", " ++ content ++
        (if ty.isOptional then s%"?" else []) ++ s%": " ++ t ++ s%" }" :=
  let ⟨t, ht, hb⟩ := writeVariant_tuple_ok.1 h; ⟨t, ht, hb.symm⟩

/-- **alias**: `export type X = T | undefined` exactly when the aliased type is `Option<_>` -/
theorem alias {cfg : Cfg} {a : RustTypeAlias} {st st' : CustomMap} {text : Str}
    (h : writeAlias cfg a st = .ok (text, st')) :
    ∃ ty, formatType cfg a.genericTypes a.ty st = .ok (ty, st') ∧
      text = comments 0 a.comments ++ s%"export type " ++ a.id.renamed ++ genericSuffix a.genericTypes ++
        s%" = " ++ ty ++ (if a.ty.isOptional then s%" | undefined" else []) ++ s%";\n\n" :=
  let ⟨ty, ht, hb⟩ := writeAlias_ok.1 h; ⟨ty, ht, hb.symm⟩

end TsV.C04.Ts
