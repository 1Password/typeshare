import TsV.Lemmas.C10_Type
import TsV.Lemmas.RustTypes
import TsV.Model.Lang.Swift
/-!
# C10 — Swift: every declaration the model renders is lexically well-formed
-/
namespace TsV.C10Swift
open TsV TsV.Lang TsV.C10Lex TsV.Lang.Swift

/-- Swift's lexer: `<`/`>` are brackets in declarations; the back-tick (escaped identifiers) is an
ordinary character -/
def W : LexCfg := ⟨true, false⟩

structure CfgOk (cfg : Cfg) : Prop where
  pfx : KeyStr cfg.pfx
  maps : ∀ p ∈ cfg.typeMappings, wellBracketed W p.2 = true

theorem CfgOk.mapped {cfg : Cfg} (H : CfgOk cfg) {k v : Str} (h : mapGet cfg.typeMappings k = some v) : NB W v :=
  mapGet_nb H.maps h

/-- characters of an escaped or plain Swift name: `[A-Za-z0-9_-]` and the back-tick -/
def nameChar (c : Char) : Bool := keyChar c || c == '`'

def NameStr (s : Str) : Prop := ∀ c ∈ s, nameChar c = true

theorem nameChar_plain (c : Char) (h : nameChar c = true) : plainChar W c = true := by
  simp only [nameChar, Bool.or_eq_true, beq_iff_eq] at h
  rcases h with h | h
  · exact keyChar_plain W c h
  · subst h; decide

theorem nameChar_strChar (c : Char) (h : nameChar c = true) : strChar c = true := by
  simp only [nameChar, Bool.or_eq_true, beq_iff_eq] at h
  rcases h with h | h
  · exact keyChar_strChar c h
  · subst h; decide

theorem NameStr.nb {s : Str} (h : NameStr s) : NB W s := Plain.nb fun c hc => nameChar_plain c (h c hc)

theorem KeyStr.name {s : Str} (h : KeyStr s) : NameStr s := fun c hc => by simp [nameChar, h c hc]

theorem kw_name {s : Str} (h : KeyStr s) : NameStr (kw s) := by
  unfold kw
  split
  · intro c hc
    simp only [List.mem_append, List.mem_singleton] at hc
    rcases hc with (hc | hc) | hc
    · subst hc; decide
    · exact KeyStr.name h c hc
    · subst hc; decide
  · exact KeyStr.name h

theorem removeDash_name {s : Str} (h : NameStr s) : NameStr (removeDash s) := by
  intro x hx
  simp only [removeDash, Str.replaceChar, List.mem_flatMap] at hx
  obtain ⟨y, hy, hxy⟩ := hx
  by_cases e : y = '-'
  · simp only [e, if_true, List.mem_singleton] at hxy; rw [hxy]; decide
  · simp only [e, if_false, List.mem_singleton] at hxy; rw [hxy]; exact h y hy

theorem memberName_name (f : RustField) (h : KeyStr f.id.renamed) : NameStr (memberName f) :=
  removeDash_name (kw_name h)

theorem toCamel_ident {U : UnicodeOps} {s : Str} (h : IdentStr s) : IdentStr (Rename.toCamel U s) :=
  lowerFirst_class identChar_lower (toPascal_ident h)

theorem formatType_nb {cfg : Cfg} (H : CfgOk cfg) (gens : List Str) (t : RustType) :
    ∀ (st : Swift.St) (s : Str) (st' : Swift.St), TypeOk t → formatType cfg gens t st = .ok (s, st') → NB W s :=
  fun st _ _ ht h => C05L.text_nb (lx := W) (c := C05L.tcfgSw cfg) .swift ⟨H.pfx, H.maps⟩ gens ht
    (C05L.sw_formatType cfg gens t st) h

def DocsOk (cs : List Str) : Prop := ∀ c ∈ cs, '\n' ∉ c
instance (cs : List Str) : Decidable (DocsOk cs) := by unfold DocsOk; infer_instance

theorem trimEnd_sub (U : UnicodeOps) (c : Str) : ∀ x ∈ trimEnd U c, x ∈ c := by
  intro x hx
  unfold trimEnd at hx
  have h1 := List.mem_reverse.mp hx
  have h2 := (List.dropWhile_sublist U.isWhite).subset h1
  exact List.mem_reverse.mp h2

theorem comments_nb (U : UnicodeOps) (n : Nat) (cs : List Str) (h : DocsOk cs) : NB W (comments U n cs) :=
  NB.flatMap _ _ fun c hc => NB.commentLine n s%"/ " (trimEnd U c) (by decide) fun hm => h c hc (trimEnd_sub U c _ hm)

abbrev FieldOk := FieldScope Lang.swift W DocsOk
abbrev StructOk := StructScope Lang.swift W DocsOk
abbrev AliasOk := AliasScope DocsOk
abbrev VariantOk := VariantScope Lang.swift W DocsOk
abbrev EnumOk := EnumScope Lang.swift W DocsOk

/-! ## generic clauses and conformance lists (user strings from decorators and the configuration) -/

def GPOk (p : GenericParam) : Prop := NB W p.name ∧ ∀ c ∈ p.constraints, NB W c

theorem renderGenericClause_nb (ps : List GenericParam) (h : ∀ p ∈ ps, GPOk p) : NB W (renderGenericClause ps) := by
  unfold renderGenericClause
  split
  · exact NB.nil
  · refine NB.angle (NB.intercalate _ nb_commaSep _ fun x hx => ?_)
    obtain ⟨p, hp, rfl⟩ := List.mem_map.1 hx
    exact (Tr.h0 (h p hp).1).l.h (NB.intercalate _ (Tr.l0.nb (by decide +kernel)) _ (h p hp).2) |>.nb (by decide +kernel)

theorem conformances_nb (cs : List Str) (h : ∀ c ∈ cs, NB W c) : NB W (Str.intercalate s%", " cs) :=
  NB.intercalate _ nb_commaSep _ h

structure StructFactsOk (s : SwiftStruct) : Prop where
  docs : DocsOk s.comments
  name : NB W s.name
  generics : ∀ p ∈ s.generics, GPOk p
  conformances : ∀ c ∈ s.conformances, NB W c
  props : ∀ p ∈ s.props, DocsOk p.comments ∧ NB W p.name ∧ NB W p.ty
  codingKeys : ∀ k ∈ s.codingKeys, NB W k.caseName ∧ ∀ r, k.rawValue = some r → KeyStr r
  initParams : ∀ p ∈ s.initParams, NB W p.label ∧ NB W p.ty
  initAssigns : ∀ a ∈ s.initAssigns, NB W a.member ∧ NB W a.param

theorem renderCodingKey_nb (k : CodingKey) (h : NB W k.caseName ∧ ∀ r, k.rawValue = some r → KeyStr r) :
    NB W (renderCodingKey k) := by
  unfold renderCodingKey
  split
  · rename_i r hr
    exact (Tr.h0 h.1).l.b (KeyStr.strBody (h.2 r hr)) |>.l.nb (by decide +kernel)
  · exact h.1

theorem renderCodingKeys_nb (ks : List CodingKey) (h : ∀ k ∈ ks, NB W k.caseName ∧ ∀ r, k.rawValue = some r → KeyStr r) :
    NB W (renderCodingKeys ks) := by
  refine Tr.l0.h (NB.intercalate _ (Tr.l0.nb (by decide +kernel)) _ fun x hx => ?_) |>.l.nb (by decide +kernel)
  obtain ⟨k, hk, rfl⟩ := List.mem_map.1 hx
  exact renderCodingKey_nb k (h k hk)

theorem renderStruct_nb (U : UnicodeOps) (s : SwiftStruct) (h : StructFactsOk s) : NB W (renderStruct U s) := by
  refine Tr.l0.h (comments_nb U 0 _ h.docs) |>.l.h h.name |>.h (renderGenericClause_nb _ h.generics)
    |>.l.h (conformances_nb _ h.conformances) |>.l.h (NB.flatMap _ _ fun p hp => ?_)
    |>.h (NB.ite _ (renderCodingKeys_nb _ h.codingKeys) NB.nil) |>.append (.ite _ .lit .lit)
    |>.l.h (NB.intercalate _ nb_commaSep _ fun x hx => ?_) |>.l.h (NB.flatMap _ _ fun a ha => ?_)
    |>.append (.ite _ .lit .lit) |>.l.l.nb (by decide +kernel)
  · obtain ⟨hd, hn, ht⟩ := h.props p hp
    exact (Tr.h0 (comments_nb U 1 _ hd)).l.h hn |>.l.h ht |>.append (.ite _ .lit .lit) |>.l.nb (by decide +kernel)
  · obtain ⟨p, hp, rfl⟩ := List.mem_map.1 hx
    exact (Tr.h0 (h.initParams p hp).1).l.h (h.initParams p hp).2 |>.append (.ite _ .lit .lit) |>.nb (by decide +kernel)
  · exact Tr.l0.h (h.initAssigns a ha).1 |>.l.h (h.initAssigns a ha).2 |>.nb (by decide +kernel)

theorem fieldType_nb {cfg : Cfg} (H : CfgOk cfg) (gens : List Str) (f : RustField) (hf : FieldOk f) (st : Swift.St)
    (ty : Str) (st' : Swift.St) (h : fieldType cfg gens f st = .ok (ty, st')) : NB W ty := by
  unfold fieldType at h
  split at h
  · rename_i t ht; cases h; exact nb_of_wb (hf.override _ ht)
  · exact formatType_nb H gens f.ty st ty st' hf.ty h

theorem storedProps_ok {cfg : Cfg} (H : CfgOk cfg) (gens : List Str) (fs : List RustField) (st : Swift.St)
    (ps : List StoredProp) (st' : Swift.St) (hf : ∀ f ∈ fs, FieldOk f) (h : storedProps cfg gens fs st = .ok (ps, st')) :
    ∀ p ∈ ps, DocsOk p.comments ∧ NB W p.name ∧ NB W p.ty := fun p hp => by
  obtain ⟨f, hfm, ty, s, s', hty, rfl⟩ := Outcome.thread_mem (f := fieldType cfg gens)
    (g := fun f ty => { comments := f.comments, name := memberName f, ty, optional := fieldOptional f })
    (fun _ => rfl) (fun _ _ _ => rfl) h p hp
  exact ⟨(hf f hfm).docs, (memberName_name f (hf f hfm).key).nb, fieldType_nb H gens f (hf f hfm) s ty s' hty⟩

theorem initParams_ok {cfg : Cfg} (H : CfgOk cfg) (gens : List Str) (fs : List RustField) (st : Swift.St)
    (ps : List InitParam) (st' : Swift.St) (hf : ∀ f ∈ fs, FieldOk f) (h : initParams cfg gens fs st = .ok (ps, st')) :
    ∀ p ∈ ps, NB W p.label ∧ NB W p.ty := fun p hp => by
  obtain ⟨f, hfm, ty, s, s', hty, rfl⟩ := Outcome.thread_mem (f := fieldType cfg gens)
    (g := fun f ty => { label := removeDash f.id.renamed, ty, optional := fieldOptional f })
    (fun _ => rfl) (fun _ _ _ => rfl) h p hp
  exact ⟨(removeDash_name (KeyStr.name (hf f hfm).key)).nb, fieldType_nb H gens f (hf f hfm) s ty s' hty⟩

/-- decorators and generic constraints are user strings: that the lists the model computes from them
consist of balanced strings is part of the scope -/
structure DecorOk (U : UnicodeOps) (cfg : Cfg) (dm : DecoratorMap) (gens : List Str) : Prop where
  generics : ∀ p ∈ genericParams U cfg dm gens, GPOk p
  structConf : ∀ c ∈ structConformances cfg dm, NB W c

theorem structFacts_ok (U : UnicodeOps) {cfg : Cfg} (H : CfgOk cfg) (rs : RustStruct) (hs : StructOk rs)
    (hd : DecorOk U cfg rs.decorators rs.genericTypes) (st : Swift.St) (s : SwiftStruct) (st' : Swift.St)
    (h : structFacts U cfg rs st = .ok (s, st')) : StructFactsOk s := by
  unfold structFacts at h
  obtain ⟨props, st1, hp, h⟩ := Outcome.of_bind_pair_ok h
  obtain ⟨params, st2, hpa, h⟩ := Outcome.of_bind_pair_ok h
  obtain ⟨rfl, rfl⟩ := Outcome.ok_pair_inj h
  refine ⟨hs.docs, (kw_name (KeyStr.append H.pfx hs.name)).nb, hd.generics, hd.structConf,
    storedProps_ok H _ _ st props st1 hs.fields hp, ?_, initParams_ok H _ _ st1 params _ hs.fields hpa, ?_⟩
  · intro k hk
    simp only [List.mem_map] at hk
    obtain ⟨f, hf, rfl⟩ := hk
    unfold fieldCodingKey
    split
    · exact ⟨(memberName_name f (hs.fields f hf).key).nb, by intro r hr; cases hr; exact (hs.fields f hf).key⟩
    · exact ⟨(memberName_name f (hs.fields f hf).key).nb, by intro r hr; cases hr⟩
  · intro a ha
    simp only [List.mem_map] at ha
    obtain ⟨f, hf, rfl⟩ := ha
    exact ⟨(removeDash_name (KeyStr.name (hs.fields f hf).key)).nb, (memberName_name f (hs.fields f hf).key).nb⟩

theorem writeAlias_nb (U : UnicodeOps) {cfg : Cfg} (H : CfgOk cfg) (a : RustTypeAlias) (ha : AliasOk a) (st : Swift.St)
    (text : Str) (st' : Swift.St) (h : writeAlias U cfg a st = .ok (text, st')) : NB W text := by
  unfold writeAlias at h
  obtain ⟨ty, st1, hty, h⟩ := Outcome.of_bind_pair_ok h
  obtain ⟨rfl, rfl⟩ := Outcome.ok_pair_inj h
  exact Tr.l0.h (comments_nb U 0 _ ha.docs) |>.l.h (kw_name (KeyStr.append H.pfx ha.renamed)).nb
    |>.h (NB.genericSuffix _ fun g hg => IdentStr.nb (ha.generics g hg)) |>.l.h (formatType_nb H _ a.ty st ty _ ha.ty hty)
    |>.l.nb (by decide +kernel)

structure CaseOk (c : EnumCase) : Prop where
  docs : DocsOk c.comments
  caseName : NameStr c.caseName
  printedName : NameStr c.printedName
  wire : KeyStr c.wireName
  payload : ∀ p, c.payload = some p → NB W p.ty

theorem renderUnitCase_nb (U : UnicodeOps) (c : EnumCase) (h : CaseOk c) : NB W (renderUnitCase U c) :=
  (Tr.h0 (comments_nb U 1 _ h.docs)).l.h h.printedName.nb
    |>.h (NB.ite _ NB.nil (Tr.l0.h (NB.debugStr _) |>.nb (by decide +kernel))) |>.l.nb (by decide +kernel)

theorem renderAlgebraicCase_nb (U : UnicodeOps) (c : EnumCase) (h : CaseOk c) : NB W (renderAlgebraicCase U c) := by
  refine (Tr.h0 (comments_nb U 1 _ h.docs)).l.h h.printedName.nb |>.h ?_ |>.l.nb (by decide +kernel)
  split
  · rename_i p hp; exact NB.paren (h.payload p hp)
  · exact NB.nil

def DecodeOk : DecodeArm → Prop
  | .unit n => NB W n
  | .content n ty _ => NB W n ∧ NB W ty

def EncodeOk : EncodeArm → Prop
  | .unit n => NB W n
  | .content n => NB W n

theorem renderDecodeArm_nb (contentKey : Str) (hk : NB W contentKey) (a : DecodeArm) (h : DecodeOk a) :
    NB W (renderDecodeArm contentKey a) := by
  cases a with
  | unit n =>
    unfold renderDecodeArm
    exact Tr.l0.h h |>.l.h h |>.l.nb (by decide +kernel)
  | content n ty nf =>
    unfold renderDecodeArm
    exact (Tr.ite _ .lit .lit).h h.1 |>.l.h h.2 |>.l.h hk |>.l.h h.1 |>.l.h
      (NB.ite _ (Tr.l0.h hk |>.l.h h.1 |>.l.nb (by decide +kernel)) NB.nil) |>.nb (by decide +kernel)

theorem renderEncodeArm_nb (tagKey contentKey : Str) (ht : NB W tagKey) (hk : NB W contentKey) (a : EncodeArm)
    (h : EncodeOk a) : NB W (renderEncodeArm tagKey contentKey a) := by
  cases a with
  | unit n =>
    unfold renderEncodeArm
    exact Tr.l0.h h |>.l.h h |>.l.h ht |>.l.nb (by decide +kernel)
  | content n =>
    unfold renderEncodeArm
    exact Tr.l0.h h |>.l.h h |>.l.h ht |>.l.h hk |>.l.nb (by decide +kernel)

structure CodableOk (a : AlgebraicCodable) : Prop where
  tag : NB W a.tagKey
  content : NB W a.contentKey
  typeName : NameStr a.typeName
  decode : ∀ x ∈ a.decodeArms, DecodeOk x
  encode : ∀ x ∈ a.encodeArms, EncodeOk x

theorem renderCodable_nb (a : AlgebraicCodable) (h : CodableOk a) : NB W (renderCodable a) :=
  Tr.l0.h h.tag |>.l.h h.content |>.l.l.l.h h.tag |>.l.l.h
      (NB.flatMap (renderDecodeArm a.contentKey) a.decodeArms fun x hx => renderDecodeArm_nb _ h.content x (h.decode x hx))
    |>.l.l.h h.typeName.nb |>.l.b (fun stk => str_body a.typeName stk fun c hc => nameChar_strChar c (h.typeName c hc))
    |>.l.l.l.l.h
      (NB.flatMap (renderEncodeArm a.tagKey a.contentKey) a.encodeArms fun x hx =>
        renderEncodeArm_nb _ _ h.tag h.content x (h.encode x hx))
    |>.l.nb (by decide +kernel)

structure EnumFactsOk (e : SwiftEnum) : Prop where
  docs : DocsOk e.comments
  name : NB W e.name
  generics : ∀ p ∈ e.generics, GPOk p
  conformances : ∀ c ∈ e.conformances, NB W c
  cases : ∀ c ∈ e.cases, CaseOk c
  codingKeys : ∀ k ∈ e.codingKeys, NB W k.caseName ∧ ∀ r, k.rawValue = some r → KeyStr r
  codable : ∀ a, e.codable = some a → CodableOk a

theorem renderEnum_nb (U : UnicodeOps) (e : SwiftEnum) (h : EnumFactsOk e) : NB W (renderEnum U e) := by
  refine (Tr.h0 (comments_nb U 0 _ h.docs)).l.append (.ite _ .lit .lit) |>.l.h h.name |>.h (renderGenericClause_nb _ h.generics)
    |>.l.h (conformances_nb _ h.conformances) |>.l.h ?_ |>.h (NB.ite _ NB.nil (renderCodingKeys_nb _ h.codingKeys)) |>.h ?_
    |>.l.nb (by decide +kernel)
  · split
    · exact NB.flatMap _ _ fun c hc => renderUnitCase_nb U c (h.cases c hc)
    · exact NB.flatMap _ _ fun c hc => renderAlgebraicCase_nb U c (h.cases c hc)
  · split
    · exact NB.nil
    · rename_i a ha; exact renderCodable_nb a (h.codable a ha)

/-! ### from the parsed enum to the facts -/

theorem keywords_key : ∀ k ∈ keywords, KeyStr k := by decide +kernel

/-- `swift_keyword_aware_rename` applied to a whole type string (as the tuple-variant arm does) -/
theorem kw_nb {t : Str} (h : NB W t) : NB W (kw t) := by
  unfold kw
  split
  · rename_i hk
    have hmem : t ∈ keywords := by simpa using hk
    have hn := kw_name (keywords_key t hmem)
    simp only [kw, hk, if_true] at hn
    exact NameStr.nb hn
  · exact h

theorem algebraicCaseName_ident (U : UnicodeOps) (v : RustEnumVariant) (h : IdentStr v.id.original) :
    IdentStr (algebraicCaseName U v) := (toCamel_ident (U := U) h).guard

theorem genericParams_sub (U : UnicodeOps) (cfg : Cfg) (dm : DecoratorMap) (gens gens' : List Str)
    (hsub : ∀ g ∈ gens', g ∈ gens) : ∀ p ∈ genericParams U cfg dm gens', p ∈ genericParams U cfg dm gens := by
  intro p hp
  simp only [genericParams, List.mem_map] at hp ⊢
  obtain ⟨g, hg, rfl⟩ := hp
  exact ⟨g, hsub g hg, rfl⟩

structure EnumDecorOk (U : UnicodeOps) (cfg : Cfg) (e : RustEnum) : Prop where
  generics : ∀ p ∈ genericParams U cfg e.decorators e.genericTypes, GPOk p
  structConf : ∀ c ∈ structConformances cfg e.decorators, NB W c
  enumConf : ∀ c ∈ enumConformances cfg e, NB W c

theorem algebraicCase_ok {U : UnicodeOps} {cfg : Cfg} (H : CfgOk cfg) (e : RustEnum) (he : EnumOk e) (v : RustEnumVariant)
    (hv : VariantOk v) (st : Swift.St) (c : EnumCase) (st' : Swift.St)
    (h : algebraicCase U cfg e v st = .ok (c, st')) : CaseOk c := by
  have hname := algebraicCaseName_ident U v hv.original
  unfold algebraicCase at h
  cases v with
  | unit id cs =>
    simp only at h; cases h
    exact ⟨hv.docs, KeyStr.name (IdentStr.key hname), kw_name (IdentStr.key hname), hv.renamed, by intro p hp; cases hp⟩
  | tuple id cs ty =>
    simp only at h
    obtain ⟨t, st1, ht, h⟩ := Outcome.of_bind_pair_ok h
    obtain ⟨rfl, rfl⟩ := Outcome.ok_pair_inj h
    refine ⟨hv.docs, KeyStr.name (IdentStr.key hname), kw_name (IdentStr.key hname), hv.renamed, ?_⟩
    intro p hp; cases hp
    exact kw_nb (formatType_nb H _ ty st t _ hv.2.2.2 ht)
  | anonymousStruct id cs fs =>
    simp only at h; cases h
    refine ⟨hv.docs, KeyStr.name (IdentStr.key hname), kw_name (IdentStr.key hname), hv.renamed, ?_⟩
    intro p hp; cases hp
    simp only [anonymousStructName]
    exact ((KeyStr.nb H.pfx).append (((KeyStr.nb he.renamed).append (IdentStr.nb hv.original)).append (Tr.l0.nb (by decide +kernel)))).append
      (NB.genericSuffix _ fun g hg => IdentStr.nb (he.generics g (usedGenerics_mem _ _ g hg)))

theorem algebraicCases_ok {U : UnicodeOps} {cfg : Cfg} (H : CfgOk cfg) (e : RustEnum) (he : EnumOk e)
    (vs : List RustEnumVariant) (st : Swift.St) (cs : List EnumCase) (st' : Swift.St) (hv : ∀ v ∈ vs, VariantOk v)
    (h : algebraicCases U cfg e vs st = .ok (cs, st')) : ∀ c ∈ cs, CaseOk c := fun c hc => by
  obtain ⟨v, hvm, _, s, s', hcv, rfl⟩ := Outcome.thread_mem (f := algebraicCase U cfg e) (g := fun _ c => c)
    (fun _ => rfl) (fun _ _ _ => rfl) h c hc
  exact algebraicCase_ok H e he v (hv v hvm) s _ s' hcv

theorem unitCase_ok (U : UnicodeOps) (v : RustEnumVariant) (hv : VariantOk v) : CaseOk (unitCase U v) := by
  have hname := toCamel_ident (U := U) hv.original
  exact ⟨hv.docs, KeyStr.name (IdentStr.key hname), kw_name (IdentStr.key hname), hv.renamed, by intro p hp; cases hp⟩

theorem anonymousStructs_ok (U : UnicodeOps) {cfg : Cfg} (H : CfgOk cfg) (e : RustEnum) (he : EnumOk e)
    (hd : EnumDecorOk U cfg e) (l : List (Id × List RustField)) (st : Swift.St) (ss : List SwiftStruct) (st' : Swift.St)
    (hl : ∀ p ∈ l, IdentStr p.1.original ∧ ∀ f ∈ p.2, FieldOk f)
    (h : anonymousStructs U cfg e l st = .ok (ss, st')) : ∀ s ∈ ss, StructFactsOk s := fun x hx => by
  obtain ⟨p, hp, _, s, s', hs, rfl⟩ := Outcome.thread_mem
    (f := fun p => structFacts U cfg (anonymousStruct e (anonymousStructName e p.1.original) p.1.original p.2))
    (g := fun _ x => x) (fun _ => rfl) (fun _ _ _ => rfl) h x hx
  obtain ⟨hid, hfs⟩ := hl p hp
  refine structFacts_ok U H _
    (anonymousStruct_scope he (KeyStr.append (KeyStr.append
    he.renamed (IdentStr.key hid)) (by decide : KeyStr s%"Inner"))
      (anonymousStruct_docs e _ _ p.2 hid he.original) hfs)
    ⟨fun q hq => hd.generics q (genericParams_sub U cfg _ _ _ (usedGenerics_mem _ _) q hq), hd.structConf⟩ s _ s' hs

theorem caseCodingKey_ok (c : EnumCase) (h : CaseOk c) :
    NB W (caseCodingKey c).caseName ∧ ∀ r, (caseCodingKey c).rawValue = some r → KeyStr r := by
  unfold caseCodingKey
  split
  · exact ⟨h.printedName.nb, by intro r hr; cases hr⟩
  · exact ⟨h.printedName.nb, by intro r hr; cases hr; exact h.wire⟩

theorem decodeArmOf_ok (c : EnumCase) (h : CaseOk c) : DecodeOk (decodeArmOf c) := by
  unfold decodeArmOf
  split
  · exact h.caseName.nb
  · rename_i p hp; exact ⟨h.caseName.nb, h.payload p hp⟩

theorem encodeArmOf_ok (c : EnumCase) (h : CaseOk c) : EncodeOk (encodeArmOf c) := by
  unfold encodeArmOf
  split
  · exact h.printedName.nb
  · exact h.caseName.nb

/-- **Swift enums** (raw-value and algebraic, with the helper structs, `CodingKeys`, and the
hand-written `init(from:)` / `encode(to:)`) -/
theorem writeEnum_nb (U : UnicodeOps) {cfg : Cfg} (H : CfgOk cfg) (e : RustEnum) (he : EnumOk e)
    (hd : EnumDecorOk U cfg e) (st : Swift.St) (text : Str) (st' : Swift.St)
    (h : writeEnum U cfg e st = .ok (text, st')) : NB W text := by
  unfold writeEnum at h
  obtain ⟨⟨structs, se, st1⟩, hf, h⟩ := Outcome.of_bind_ok h
  obtain ⟨rfl, rfl⟩ := Outcome.ok_pair_inj h
  unfold enumFacts at hf
  obtain ⟨ss, st2, hss, hf⟩ := Outcome.of_bind_pair_ok hf
  obtain ⟨cases, st3, hcs, hf⟩ := Outcome.of_bind_pair_ok hf
  obtain ⟨rfl, hse⟩ := Outcome.ok_pair_inj hf
  obtain ⟨rfl, rfl⟩ := Prod.mk.inj hse
  have hstructs := anonymousStructs_ok U H e he hd _ st _ st2 (structVariants_scope e he) hss
  have hcases : ∀ c ∈ cases, CaseOk c := by
    split at hcs
    · cases hcs
      intro c hc
      simp only [List.mem_map] at hc
      obtain ⟨v, hv, rfl⟩ := hc
      exact unitCase_ok U v (he.variants v hv)
    · exact algebraicCases_ok H e he e.variants st2 cases _ he.variants hcs
  have hnm : NameStr (kw (cfg.pfx ++ e.id.renamed)) := kw_name (KeyStr.append H.pfx he.renamed)
  refine NB.append (NB.append
    NB.nl (NB.flatMap _ _ fun s hs => renderStruct_nb U s (hstructs s hs))) (renderEnum_nb U _ ?_)
  refine ⟨he.docs, hnm.nb, hd.generics, hd.enumConf, hcases, ?_, ?_⟩
  · intro k hk
    simp only at hk
    split at hk
    · simp at hk
    · simp only [List.mem_map] at hk
      obtain ⟨c, hc, rfl⟩ := hk
      exact caseCodingKey_ok c (hcases c hc)
  · intro a ha
    simp only [Option.map] at ha
    split at ha
    · rename_i tag content hkeys
      cases ha
      refine ⟨IdentStr.nb (he.tag _ hkeys), KeyStr.nb (he.content _ hkeys), hnm, ?_, ?_⟩
      · intro x hx
        simp only [List.mem_map] at hx
        obtain ⟨c, hc, rfl⟩ := hx
        exact decodeArmOf_ok c (hcases c hc)
      · intro x hx
        simp only [List.mem_map] at hx
        obtain ⟨c, hc, rfl⟩ := hx
        exact encodeArmOf_ok c (hcases c hc)
    · cases ha

theorem writeStruct_nb (U : UnicodeOps) {cfg : Cfg} (H : CfgOk cfg) (rs : RustStruct) (hs : StructOk rs)
    (hd : DecorOk U cfg rs.decorators rs.genericTypes) (st : Swift.St) (text : Str) (st' : Swift.St)
    (h : writeStruct U cfg rs st = .ok (text, st')) : NB W text := by
  unfold writeStruct at h
  obtain ⟨s, st1, hs', h⟩ := Outcome.of_bind_pair_ok h
  obtain ⟨rfl, rfl⟩ := Outcome.ok_pair_inj h
  exact renderStruct_nb U s (structFacts_ok U H rs hs hd st s _ hs')

end TsV.C10Swift
