import TsV.Lemmas.Capstone_Items
import TsV.Lemmas.Capstone_Order
/-!
# Capstone — TypeScript: from `writeItem … = .ok (b, st')` to the fact records and the clauses
-/
namespace TsV.Cap.TS
open TsV TsV.Syn TsV.Parser TsV.Pipeline TsV.Generate TsV.C03E TsV.Lang TsV.Lang.TypeScript TsV.Outcome

/-- C04's reading of one property line -/
def Reads (tf : TsField) (o : Bool) (core : Str) : Prop := o = C04.Ts.isOptional tf ∧ core = C04.Ts.stripOptional tf

/-- the interface of a struct is the rendering of one `TsField` per field -/
theorem writeItem_struct (U : UnicodeOps) (cfg : Cfg) (rs : RustStruct) (st st' : CustomMap) (b : Str)
    (h : writeItem U cfg (.struct rs) st = .ok (b, st')) :
    ∃ tfs, C01.TypeScript.fieldsFacts cfg rs.genericTypes rs.fields st = .ok (tfs, st') ∧
      b = comments 0 rs.comments ++ s%"export interface " ++ rs.id.renamed ++ genericSuffix rs.genericTypes ++
        s%" {\n" ++ tfs.flatMap renderField ++ s%"}\n\n" :=
  C01.TypeScript.writeStruct_fields cfg rs st st' b h

/-- **clauses 2 + 3 for the interface of a source struct** -/
theorem struct_ok (E : Ext) (hU : E.U.AsciiCorrect) (cfg : Cfg) (targetOs : List Str) (c : Str) (r : Renames)
    (attrs : List Attr) (ident : Str) (gens : List GenericParam) (fs : List Field) (rs : RustStruct)
    (st st' : CustomMap) (tfs : List TsField)
    (hparse : parseStruct E targetOs attrs ident gens (.named fs) = .ok (.struct rs))
    (hd : C01.TypeScript.fieldsFacts cfg (recStruct c r rs).genericTypes (recStruct c r rs).fields st = .ok (tfs, st')) :
    StructClauses E .typescript (.typescript cfg) targetOs c r attrs fs (recStruct c r rs)
      (tfs.map C01.TypeScript.boundKey) Reads tfs := by
  refine struct_clauses E hU .typescript (.typescript cfg) (cfg, st) targetOs c r attrs ident gens fs rs _ Reads _ hparse
    (by simp [C01.structKeys, hd]) ((C04.thread_pointwise hd (fun _ => rfl) fun _ _ _ => rfl).imp ?_)
  rintro rf' tf ⟨st0, st1, hf⟩ hs _
  obtain ⟨h1, _, h3⟩ := C04.Ts.field hf
  obtain ⟨st2, h3⟩ := h3 hs.1 hs.2.1
  exact ⟨_, _, ⟨rfl, rfl⟩, h1, ⟨st0, st2, h3⟩⟩

theorem variantsFacts_units (cfg : Cfg) (e : RustEnum) : ∀ (vs : List RustEnumVariant) (st : CustomMap),
    vs.all variantIsUnit = true → C01.TypeScript.variantsFacts cfg e vs st = .ok ([], st) := by
  intro vs st
  induction vs with
  | nil => exact fun _ => rfl
  | cons v vs ih =>
    intro h
    cases v with
    | unit id cs =>
      simp only [C01.TypeScript.variantsFacts]
      exact ih (by simpa [variantIsUnit] using h)
    | tuple id cs ty => simp [variantIsUnit] at h
    | anonymousStruct id cs fs => simp [variantIsUnit] at h

theorem recEnum_allUnit (c : Str) (r : Renames) (e : RustEnum) :
    (recEnum c r e).variants.all variantIsUnit = e.variants.all variantIsUnit := by
  simp [recEnum, List.all_map, Function.comp_def, variantIsUnit_check]

/-- a parsed enum without keys has unit variants only -/
theorem parsed_units (E : Ext) (T : List Str) (attrs : List Attr) (ident : Str) (gens : List GenericParam)
    (vs : List Variant) (e : RustEnum) (h : parseEnum E T attrs ident gens vs = .ok (.enum e))
    (hk : e.keys = none) : e.variants.all variantIsUnit = true := by
  have hsa := (Parser.parseEnum_enum_ok h).1
  obtain ⟨_, k2⟩ := C08.parseEnum_keys E T attrs ident gens vs hsa e h
  cases hall : e.variants.all variantIsUnit with
  | true => rfl
  | false =>
    obtain ⟨t, c, _, _, hkeys⟩ := k2 hall
    rw [hk] at hkeys
    cases hkeys

/-- the declaration of an enum is the rendering of C02's `EnumDecl`; the struct variants are printed
inline, their property lists are `variantsFacts` -/
theorem writeItem_enum (E : Ext) (cfg : Cfg) (T : List Str) (attrs : List Attr) (ident : Str)
    (gens : List GenericParam) (vs : List Variant) (e : RustEnum) (c : Str) (r : Renames)
    (hparse : parseEnum E T attrs ident gens vs = .ok (.enum e)) (st st' : CustomMap) (b : Str)
    (h : writeItem E.U cfg (.enum (recEnum c r e)) st = .ok (b, st')) :
    ∃ d tfss, C02.TS.enumFacts cfg (recEnum c r e) st = .ok (d, st') ∧ b = C02.TS.renderEnumDecl d ∧
      C01.TypeScript.variantsFacts cfg (recEnum c r e) (recEnum c r e).variants st = .ok (tfss, st') := by
  have h' : writeEnum cfg (recEnum c r e) st = .ok (b, st') := h
  obtain ⟨d, hd, hbd⟩ := Outcome.bind_ret_ok.1 (C02.TS.writeEnum_eq cfg _ st ▸ h')
  rcases writeEnum_ok h' with ⟨hk, rfl, -⟩ | ⟨tag, content, body, -, hb, -⟩
  · exact ⟨d, [], hd, hbd.symm, variantsFacts_units cfg _ _ _
      (by rw [recEnum_allUnit]; exact parsed_units E T attrs ident gens vs e hparse hk)⟩
  · obtain ⟨tfss, ht⟩ := C01.TypeScript.writeVariants_facts cfg _ tag content _ st _ body hb
    exact ⟨d, tfss, hd, hbd.symm, ht⟩

/-- **clauses 2 + 4 for the declaration of a source enum** -/
theorem enum_ok (E : Ext) (hU : E.U.AsciiCorrect) (cfg : Cfg) (targetOs : List Str) (c : Str) (r : Renames)
    (attrs : List Attr) (ident : Str) (gens : List GenericParam) (vs : List Variant) (e : RustEnum)
    (st st' : CustomMap) (d : C02.TS.EnumDecl) (tfss : List (List TsField)) (acronyms : List Str)
    (hparse : parseEnum E targetOs attrs ident gens vs = .ok (.enum e))
    (hd : C02.TS.enumFacts cfg (recEnum c r e) st = .ok (d, st'))
    (ht : C01.TypeScript.variantsFacts cfg (recEnum c r e) (recEnum c r e).variants st = .ok (tfss, st')) :
    EnumClauses E .typescript targetOs attrs vs (recEnum c r e) acronyms
      (tfss.map (·.map C01.TypeScript.boundKey)) (C02.TS.wire d) := by
  refine enum_clauses E hU .typescript (cfg, st) targetOs c r attrs ident gens vs e acronyms _ _ hparse
    (by simp [C01.enumKeys, ht]) ?_
  intro hs hk
  exact C02.C02_backend .typescript E hU acronyms _ hs hk cfg st d st' hd

end TsV.Cap.TS
