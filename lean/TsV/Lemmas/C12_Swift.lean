import TsV.Lemmas.C12_Common
/-!
# C12, Swift: the `should_emit_codable_void` flag is exactly "some formatted type tree contains `()`"
-/
namespace TsV.C12L.Swift
open TsV TsV.Lang TsV.Lang.Swift TsV.C12L

mutual
  /-- does formatting `t` print the helper name `CodableVoid`?  Follows `formatType` arm by arm: the
  unit type prints it, containers pass the question to their components, a type-mapped generic is
  replaced wholesale (its arguments are never formatted). -/
  def unitIn (cfg : Cfg) : RustType → Bool
    | .simple _ => false
    | .generic id ps => if (mapGet cfg.typeMappings id).isSome then false else unitInList cfg ps
    | .vec t | .array t _ | .slice t | .option t => unitIn cfg t
    | .hashMap k v => unitIn cfg k || unitIn cfg v
    | .prim p => p == .unit
  def unitInList (cfg : Cfg) : List RustType → Bool
    | [] => false
    | t :: ts => unitIn cfg t || unitInList cfg ts
end

/-- one printer step raises the flag exactly if `b` -/
def Flag (b : Bool) (st st' : St) : Prop := st' = (st || b)

theorem Flag.refl (st : St) : Flag false st st := (Bool.or_false st).symm

theorem Flag.trans {a b : Bool} {st st1 st2 : St} (h1 : Flag a st st1) (h2 : Flag b st1 st2) :
    Flag (a || b) st st2 := by
  unfold Flag at *; rw [h2, h1, Bool.or_assoc]

theorem Flag.trans_refl {a : Bool} {st st1 st2 : St} (h1 : Flag a st st1) (h2 : Flag false st1 st2) :
    Flag a st st2 := by
  unfold Flag at *; rw [h2, h1, Bool.or_false]

theorem formatTypes_flag (cfg : Cfg) (gens : List Str) : ∀ ts : List RustType,
    (∀ t ∈ ts, Along (Flag (unitIn cfg t)) (formatType cfg gens t)) →
    Along (Flag (unitInList cfg ts)) (formatTypes cfg gens ts) :=
  Along.listOn (R := Flag) Flag.refl Flag.trans rfl (fun _ _ => rfl) (fun _ => rfl) (fun _ _ _ => rfl)

theorem formatType_flag (cfg : Cfg) (gens : List Str) (t : RustType) :
    Along (Flag (unitIn cfg t)) (formatType cfg gens t) := by
  induction t using rustType_induct with
  | simple id => exact Along.ret Flag.refl _
  | generic id ps ih =>
    intro st s st' h
    rw [formatType] at h
    rw [unitIn]
    split at h
    · rename_i hm
      cases h
      rw [hm, Option.isSome_some, if_pos rfl]; exact Flag.refl st
    · rename_i hm
      rw [hm, Option.isSome_none, if_neg Bool.false_ne_true]
      split at h
      · rename_i hps; cases h; exact formatTypes_flag cfg gens ps ih st _ _ hps
      · cases h
      · cases h
  | vec r ih | slice r ih | array r n ih | option r ih =>
    exact Along.bind (R₂ := Flag false) ih (fun _ => Along.ret Flag.refl _) Flag.trans_refl
  | hashMap k v ihk ihv =>
    exact Along.bind ihk
      (fun _ => Along.bind (R₂ := Flag false) ihv (fun _ => Along.ret Flag.refl _) Flag.trans_refl) Flag.trans
  | prim p =>
    intro st s st' h
    cases p <;> cases h <;> first | exact Flag.refl st | exact (Bool.or_true st).symm

/-- **the flag after formatting one type, at any depth** -/
theorem formatType_st (cfg : Cfg) (gens : List Str) (t : RustType) (st : St) (s : Str) (st' : St)
    (h : formatType cfg gens t st = .ok (s, st')) : st' = (st || unitIn cfg t) :=
  formatType_flag cfg gens t st s st' h
theorem formatTypes_st (cfg : Cfg) (gens : List Str) : ∀ (ts : List RustType) (st : St) (ss : List Str) (st' : St),
    formatTypes cfg gens ts st = .ok (ss, st') → st' = (st || unitInList cfg ts) :=
  fun ts => formatTypes_flag cfg gens ts fun t _ => formatType_flag cfg gens t

/-- a field prints `CodableVoid` on typeshare's account iff it has no user-written type override and
its type tree contains `()` -/
def fieldUnit (cfg : Cfg) (f : RustField) : Bool :=
  match typeOverride f .swift with
  | some _ => false
  | none => unitIn cfg f.ty

theorem fieldType_st (cfg : Cfg) (gens : List Str) (f : RustField) (st : St) (s : Str) (st' : St)
    (h : fieldType cfg gens f st = .ok (s, st')) : st' = (st || fieldUnit cfg f) := by
  unfold fieldType at h
  unfold fieldUnit
  cases ho : typeOverride f .swift with
  | some t => rw [ho] at h; obtain ⟨_, rfl⟩ := Outcome.ok_pair_inj h; exact Flag.refl st
  | none => rw [ho] at h; exact formatType_st cfg gens f.ty st s st' h

theorem storedProps_st (cfg : Cfg) (gens : List Str) : ∀ (fs : List RustField) (st : St) r (st' : St),
    storedProps cfg gens fs st = .ok (r, st') → st' = (st || fs.any (fieldUnit cfg)) :=
  Along.list (R := Flag) Flag.refl Flag.trans rfl (fun _ _ => rfl)
    (comb := fun f ty rest => { comments := f.comments, name := memberName f, ty, optional := fieldOptional f } :: rest)
    (fun _ => rfl) (fun _ _ _ => rfl) (fieldType_st cfg gens)

theorem initParams_st (cfg : Cfg) (gens : List Str) : ∀ (fs : List RustField) (st : St) r (st' : St),
    initParams cfg gens fs st = .ok (r, st') → st' = (st || fs.any (fieldUnit cfg)) :=
  Along.list (R := Flag) Flag.refl Flag.trans rfl (fun _ _ => rfl)
    (comb := fun f ty rest => { label := removeDash f.id.renamed, ty, optional := fieldOptional f } :: rest)
    (fun _ => rfl) (fun _ _ _ => rfl) (fieldType_st cfg gens)

theorem structFacts_st (U : UnicodeOps) (cfg : Cfg) (rs : RustStruct) (st : St) r (st' : St)
    (h : structFacts U cfg rs st = .ok (r, st')) : st' = (st || rs.fields.any (fieldUnit cfg)) := by
  obtain ⟨⟨s1, st1⟩, h1, h⟩ := Outcome.of_bind_ok h
  obtain ⟨⟨s2, st2⟩, h2, h⟩ := Outcome.of_bind_ok h
  obtain ⟨_, rfl⟩ := Outcome.ok_pair_inj h
  rw [initParams_st cfg _ _ st1 s2 st2 h2, storedProps_st cfg _ _ st s1 st1 h1, Bool.or_assoc, Bool.or_self]

/-- the payloads of an algebraic enum's variants that are formatted by `algebraicCase` -/
def variantUnit (cfg : Cfg) : RustEnumVariant → Bool
  | .tuple _ _ ty => unitIn cfg ty
  | _ => false

theorem algebraicCase_st {U : UnicodeOps} (cfg : Cfg) (e : RustEnum) (v : RustEnumVariant) (st : St) r (st' : St)
    (h : algebraicCase U cfg e v st = .ok (r, st')) : st' = (st || variantUnit cfg v) := by
  cases v with
  | unit i c | anonymousStruct i c fs => obtain ⟨_, rfl⟩ := Outcome.ok_pair_inj h; exact Flag.refl st
  | tuple i c ty =>
    obtain ⟨⟨t, st3⟩, h4, h5⟩ := Outcome.of_bind_ok h
    obtain ⟨_, rfl⟩ := Outcome.ok_pair_inj h5
    exact formatType_st cfg _ ty st t _ h4

theorem algebraicCases_st {U : UnicodeOps} (cfg : Cfg) (e : RustEnum) : ∀ (vs : List RustEnumVariant) (st : St) r (st' : St),
    algebraicCases U cfg e vs st = .ok (r, st') → st' = (st || vs.any (variantUnit cfg)) :=
  Along.list (R := Flag) Flag.refl Flag.trans rfl (fun _ _ => rfl) (fun _ => rfl) (fun _ _ _ => rfl)
    (algebraicCase_st cfg e)

theorem anonymousStructs_st (U : UnicodeOps) (cfg : Cfg) (e : RustEnum) :
    ∀ (l : List (Id × List RustField)) (st : St) r (st' : St),
    anonymousStructs U cfg e l st = .ok (r, st') → st' = (st || l.any fun p => p.2.any (fieldUnit cfg)) :=
  Along.list (R := Flag) (w := fun (p : Id × List RustField) => p.2.any (fieldUnit cfg)) Flag.refl Flag.trans rfl (fun _ _ => rfl)
    (fun _ => rfl) (fun _ _ _ => rfl) fun _ st r st' h => structFacts_st U cfg _ st r st' h

/-- does generating the enum print `CodableVoid`: in a field of one of its struct variants or in a
tuple variant's payload (a unit enum has neither) -/
def enumUnit (cfg : Cfg) (e : RustEnum) : Bool :=
  ((structVariants e).any fun p => p.2.any (fieldUnit cfg)) ||
  (match e.keys with | none => false | some _ => e.variants.any (variantUnit cfg))

theorem enumFacts_st (U : UnicodeOps) (cfg : Cfg) (e : RustEnum) (st : St) ss se (st' : St)
    (h : enumFacts U cfg e st = .ok (ss, se, st')) : st' = (st || enumUnit cfg e) := by
  obtain ⟨⟨ss1, st1⟩, h1, h⟩ := Outcome.of_bind_ok h
  obtain ⟨⟨cs, st2⟩, h2, h3⟩ := Outcome.of_bind_ok h
  obtain ⟨_, h3⟩ := Outcome.ok_pair_inj h3
  obtain ⟨_, rfl⟩ := Prod.mk.inj h3
  have h1' : Flag _ st st1 := anonymousStructs_st U cfg e _ st ss1 st1 h1
  refine h1'.trans (?_ : Flag _ st1 st2)
  revert h2
  cases e.keys with
  | none => intro h2; obtain ⟨_, rfl⟩ := Outcome.ok_pair_inj h2; exact Flag.refl st1
  | some k => exact algebraicCases_st cfg e _ st1 cs st2

/-- does generating the item print `CodableVoid` -/
def itemUnit (cfg : Cfg) : RustItem → Bool
  | .struct s => s.fields.any (fieldUnit cfg)
  | .enum e => enumUnit cfg e
  | .alias a => unitIn cfg a.ty
  | .const _ => false

theorem writeItem_st (U : UnicodeOps) (cfg : Cfg) (it : RustItem) (st : St) (s : Str) (st' : St)
    (h : writeItem U cfg it st = .ok (s, st')) : st' = (st || itemUnit cfg it) := by
  cases it with
  | struct rs =>
    obtain ⟨⟨f, st1⟩, h1, h2⟩ := Outcome.of_bind_ok h
    obtain ⟨_, rfl⟩ := Outcome.ok_pair_inj h2
    exact structFacts_st U cfg rs st f st1 h1
  | «enum» e =>
    obtain ⟨⟨ss, se, st1⟩, h1, h2⟩ := Outcome.of_bind_ok h
    obtain ⟨_, rfl⟩ := Outcome.ok_pair_inj h2
    exact enumFacts_st U cfg e st ss se st1 h1
  | alias a =>
    obtain ⟨⟨t, st1⟩, h1, h2⟩ := Outcome.of_bind_ok h
    obtain ⟨_, rfl⟩ := Outcome.ok_pair_inj h2
    exact formatType_st cfg _ a.ty st t st1 h1
  | const c => cases h

theorem writeItems_st (U : UnicodeOps) (cfg : Cfg) : ∀ (its : List RustItem) (st : St) (s : Str) (st' : St),
    writeItems U cfg its st = .ok (s, st') → st' = (st || its.any (itemUnit cfg)) :=
  Along.list (R := Flag) Flag.refl Flag.trans rfl (fun _ _ => rfl) (fun _ => rfl) (fun _ _ _ => rfl)
    (writeItem_st U cfg)

/-- **helpersUsed (Swift)**: does the text generated for `d` use `CodableVoid` on typeshare's account -/
def used (cfg : Cfg) (d : ParsedData) : Bool := (itemsOf d).any (itemUnit cfg)

/-- one output file: the flag after it is "flag before ∨ used", and the text ends with what `end_file`
writes for that flag -/
theorem generate_spec (U : UnicodeOps) (cfg : Cfg) (multi : Bool) (d : ParsedData) (st0 : St) (text : Str) (st : St)
    (h : generate U cfg multi d st0 = .ok (text, st)) :
    st = (st0 || used cfg d) ∧ ∃ body, text = beginFile cfg ++ body ++ endFile cfg multi st := by
  unfold generate at h
  cases ho : Pipeline.generateOrder d with
  | none => rw [ho] at h; simp at h
  | some items =>
    rw [ho] at h
    simp only [Outcome.bind_ok_iff] at h
    obtain ⟨⟨body, st1⟩, h1, h2⟩ := h
    simp only [Outcome.ok.injEq, Prod.mk.injEq] at h2
    have := writeItems_st U cfg items st0 body st1 h1
    rw [any_perm (generateOrder_perm d items ho)] at this
    refine ⟨by rw [← h2.2, this]; rfl, body, ?_⟩
    rw [← h2.1, h2.2]

/-- what one job contributes to its own output in single-file mode: the definition, at the end -/
def EndsWithCodable (cfg : Cfg) (text : Str) : Prop := ∃ pre, text = pre ++ writeCodable cfg

/-- the relation between the jobs of a run and its crate outputs -/
def Outs (cfg : Cfg) (multi : Bool) (jobs : List (Str × ParsedData × Option Pipeline.ScopedCrateTypes))
    (outs : List (Str × Str)) : Prop :=
  outs.length = jobs.length ∧
  ∀ p ∈ jobs.zip outs, p.2.1 = p.1.1 ∧ (used cfg p.1.2.1 = true → multi = false → EndsWithCodable cfg p.2.2)

theorem generateFrom_spec (U : UnicodeOps) (cfg : Cfg) (multi : Bool) :
    ∀ (jobs : List (Str × ParsedData × Option Pipeline.ScopedCrateTypes)) (st0 : St) outs (st : St),
    generateFrom U cfg multi jobs st0 = .ok (outs, st) →
    st = (st0 || jobs.any fun j => used cfg j.2.1) ∧ Outs cfg multi jobs outs := by
  intro jobs
  induction jobs with
  | nil =>
    intro st0 outs st h
    obtain ⟨rfl, rfl⟩ := Outcome.ok_pair_inj h
    exact ⟨(Bool.or_false _).symm, rfl, fun p hp => nomatch hp⟩
  | cons j rest ih =>
    obtain ⟨crate, d, imps⟩ := j
    intro st0 outs st h
    obtain ⟨⟨text, st1⟩, h1, h⟩ := Outcome.of_bind_ok h
    obtain ⟨⟨outs', st2⟩, h2, h3⟩ := Outcome.of_bind_ok h
    obtain ⟨rfl, rfl⟩ := Outcome.ok_pair_inj h3
    obtain ⟨hst1, body, htext⟩ := generate_spec U cfg multi d st0 text st1 h1
    obtain ⟨hst2, hlen, hall⟩ := ih st1 outs' st2 h2
    refine ⟨by rw [hst2, hst1, Bool.or_assoc]; rfl, congrArg (· + 1) hlen, ?_⟩
    intro p hp
    rcases List.mem_cons.1 hp with rfl | hp
    · refine ⟨rfl, fun hu hm => ⟨beginFile cfg ++ body, ?_⟩⟩
      have hu : used cfg d = true := hu
      show text = _
      rw [htext, hst1, hu, hm, Bool.or_true]
      rfl
    · exact hall p hp

/-- a whole run (`generateAll` starts with the flag cleared) -/
theorem generateAll_spec (E : Ext) (cfg : Cfg) (multi : Bool)
    (jobs : List (Str × ParsedData × Option Pipeline.ScopedCrateTypes)) (res : List (Str × Str))
    (h : generateAll E cfg multi jobs = .ok res) :
    ∃ outs, res = outs ++ postGeneration cfg multi (jobs.any fun j => used cfg j.2.1) ∧
      Outs cfg multi jobs outs := by
  simp only [generateAll, Outcome.bind_ok_iff] at h
  obtain ⟨⟨outs, st⟩, h1, h2⟩ := h
  simp only [Outcome.ok.injEq] at h2
  obtain ⟨hst, hall⟩ := generateFrom_spec E.U cfg multi jobs false outs st h1
  refine ⟨outs, ?_, hall⟩
  rw [← h2, hst]; simp

/-- the text `write_codable` writes declares the struct `CodableVoid` -/
theorem writeCodable_defines (cfg : Cfg) : s%"public struct CodableVoid: " <:+: writeCodable cfg :=
  -- the name ends the fixed text the declaration opens with; the conformances and two more pieces follow
  List.IsInfix.trans (List.IsSuffix.isInfix (by decide +kernel))
    ((List.prefix_append _ _).isInfix.trans ((List.prefix_append _ _).isInfix.trans (List.prefix_append _ _).isInfix))

end TsV.C12L.Swift
