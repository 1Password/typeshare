import TsV.Lemmas.C15_Spec
/-!
# C15 — lemmas

Tagged text and lexer runs: `erase`, `docChars`, `tInter` commute with `++` and `flatMap`; `final` and
`okOn` split over `++`.  A rendered block is read by triples (`Goes` for printer text, `Reads` for
tagged text: from these states the doc characters stay inside comments exactly when `ok`, and then the
text leads into those states), closed under `++`, `flatMap` and `tInter`; a block "opening, entries
with a separator, closing" is contained iff no entry is bad (`Reads.block`).  What a style adds is how
one doc string is read: in a line comment, for any lexer with a `line` state (`Reads.line`: Kotlin,
Swift, Scala, Go, Python `#`); in the TypeScript block and the Python docstring by the exact effect of
the string on the lexer (`tsDoc`, `pyDoc`).  Together: `contained_eq`, `contained` = no entry is `Bad`.
The escaping functions are `str::replace` (`eq_replaceSub`) and leave no `*/` and no unescaped `"""`; a
character of a parser entry is a character of a doc string and no line break (`entries_mem`), whence
`contained_entries`.
-/
namespace TsV.C15
open TsV TsV.Lang

@[simp] theorem P_nil : P [] = [] := rfl
@[simp] theorem D_nil : D [] = [] := rfl
@[simp] theorem P_cons (c : Char) (s : Str) : P (c :: s) = (c, false) :: P s := rfl
@[simp] theorem D_cons (c : Char) (s : Str) : D (c :: s) = (c, true) :: D s := rfl
@[simp] theorem P_append (a b : Str) : P (a ++ b) = P a ++ P b := by simp [P]
@[simp] theorem D_append (a b : Str) : D (a ++ b) = D a ++ D b := by simp [D]
@[simp] theorem erase_nil : erase [] = [] := rfl
@[simp] theorem erase_append (a b : TStr) : erase (a ++ b) = erase a ++ erase b := by simp [erase]
@[simp] theorem erase_P (s : Str) : erase (P s) = s := by
  induction s with
  | nil => rfl
  | cons c s ih => exact congrArg (c :: ·) ih
@[simp] theorem erase_D (s : Str) : erase (D s) = s := by
  induction s with
  | nil => rfl
  | cons c s ih => exact congrArg (c :: ·) ih
@[simp] theorem docChars_nil : docChars [] = [] := rfl
@[simp] theorem docChars_append (a b : TStr) : docChars (a ++ b) = docChars a ++ docChars b := by
  simp [docChars]
@[simp] theorem docChars_P (s : Str) : docChars (P s) = [] := by
  induction s with
  | nil => rfl
  | cons c s ih => exact ih
@[simp] theorem docChars_D (s : Str) : docChars (D s) = s := by
  induction s with
  | nil => rfl
  | cons c s ih => exact congrArg (c :: ·) ih

theorem erase_tInter (sep : TStr) (xs : List TStr) :
    erase (tInter sep xs) = Str.intercalate (erase sep) (xs.map erase) := by
  fun_induction tInter sep xs with
  | case1 => rfl
  | case2 => rfl
  | case3 x xs hne ih =>
    obtain ⟨y, ys, rfl⟩ := List.exists_cons_of_ne_nil hne
    rw [erase_append, erase_append, ih]; rfl

theorem erase_flatMap {α} (f : α → TStr) (xs : List α) :
    erase (xs.flatMap f) = xs.flatMap fun x => erase (f x) := by
  induction xs with
  | nil => rfl
  | cons x xs ih => simp [List.flatMap_cons, ih]

theorem docChars_flatMap {α} (f : α → TStr) (xs : List α) :
    docChars (xs.flatMap f) = xs.flatMap fun x => docChars (f x) := by
  induction xs with
  | nil => rfl
  | cons x xs ih => simp [List.flatMap_cons, ih]

section run
variable {σ : Type} (step : σ → Char → σ) (inC : σ → Bool)

theorem final_append (s : σ) (a b : TStr) :
    final step s (a ++ b) = final step (final step s a) b := by
  induction a generalizing s with
  | nil => rfl
  | cons x a ih => obtain ⟨c, d⟩ := x; simp [final, ih]

theorem okOn_append (s : σ) (a b : TStr) :
    okOn step inC s (a ++ b) = (okOn step inC s a && okOn step inC (final step s a) b) := by
  induction a generalizing s with
  | nil => simp [okOn, final]
  | cons x a ih => obtain ⟨c, d⟩ := x; simp [okOn, final, ih, Bool.and_assoc]

@[simp] theorem okOn_P (s : σ) (x : Str) : okOn step inC s (P x) = true := by
  induction x generalizing s with
  | nil => rfl
  | cons c x ih => exact ih _

@[simp] theorem final_P (s : σ) (x : Str) : final step s (P x) = x.foldl step s := by
  induction x generalizing s with
  | nil => rfl
  | cons c x ih => exact ih _

theorem okOn_D_cons (s : σ) (x : Char) (t : Str) :
    okOn step inC s (D (x :: t)) = ((inC s && inC (step s x)) && okOn step inC (step s x) (D t)) := by
  simp [okOn]

/-! Triples for lexer runs.  `Goes S x T`: printer text `x` leads from every state of `S` into `T`.
`Reads S t ok T`: from every state of `S` the doc characters of the tagged text `t` are read inside
comments exactly when `ok`, and if so `t` leads into `T`.  A renderer is a chain of fixed texts,
indentation (a loop), doc strings (their `Reads` is the fact about the comment syntax) and a
`flatMap` or `tInter` over the entries; `Reads.contained` reads `containedIn` off the chain. -/

def Goes (S : σ → Prop) (x : Str) (T : σ → Prop) : Prop := ∀ s, S s → T (x.foldl step s)

def Reads (S : σ → Prop) (t : TStr) (ok : Bool) (T : σ → Prop) : Prop :=
  ∀ s, S s → okOn step inC s t = ok ∧ (ok = true → T (final step s t))

variable {step inC} {S T V : σ → Prop} {x y : Str} {t u : TStr} {ok ok' : Bool}

theorem Goes.lit (a : σ) : Goes step (· = a) x (· = x.foldl step a) := fun _ hs => hs ▸ rfl

theorem Goes.append (hx : Goes step S x T) (hy : Goes step T y V) : Goes step S (x ++ y) V :=
  fun s hs => List.foldl_append .. ▸ hy _ (hx s hs)

theorem Goes.tabs {s : σ} (h : step s '\t' = s) (n : Nat) : Goes step (· = s) (Lang.tabs n) (· = s) := by
  rintro _ rfl
  induction n with
  | zero => rfl
  | succ n ih => exact (congrArg (List.foldl step · (Lang.tabs n)) h).trans ih

theorem Goes.indent {s : σ} (h : step s ' ' = s) (n : Nat) : Goes step (· = s) (Python.indent n) (· = s) := by
  rintro _ rfl
  induction n with
  | zero => rfl
  | succ n ih =>
    rw [show Python.indent (n + 1) = s%"    " ++ Python.indent n from rfl, List.foldl_append]
    simp only [List.foldl_cons, List.foldl_nil, h]
    exact ih

theorem Reads.append (ht : Reads step inC S t ok T) (hu : Reads step inC T u ok' V) :
    Reads step inC S (t ++ u) (ok && ok') V := by
  intro s hs
  obtain ⟨h1, h2⟩ := ht s hs
  rw [okOn_append, final_append, h1]
  cases ok with
  | false => exact ⟨rfl, fun h => nomatch h⟩
  | true => exact hu _ (h2 rfl)

theorem Goes.reads (hx : Goes step S x T) : Reads step inC S (P x) true T :=
  fun s hs => ⟨okOn_P .., fun _ => final_P step s x ▸ hx s hs⟩

theorem Reads.pre (hx : Goes step S x T) (hu : Reads step inC T u ok V) : Reads step inC S (P x ++ u) ok V :=
  hx.reads.append hu

theorem Reads.post (ht : Reads step inC S t ok T) (hx : Goes step T x V) : Reads step inC S (t ++ P x) ok V :=
  Bool.and_true ok ▸ ht.append hx.reads

/-- doc text read inside comments keeps the lexer in a set of states that one step leaves only by
leaving the comment -/
theorem Reads.doc (hI : ∀ s x, S s → inC (step s x) = true → S (step s x)) (c : Str) {s : σ} (hs : S s) :
    Reads step inC (· = s) (D c) (okOn step inC s (D c)) S := by
  intro s' hs'
  rw [show s' = s from hs']
  refine ⟨rfl, ?_⟩
  clear hs' s'
  induction c generalizing s with
  | nil => exact fun _ => hs
  | cons x t ih =>
    intro hok
    rw [okOn_D_cons] at hok
    simp only [Bool.and_eq_true] at hok
    exact ih (hI s x hs hok.1.2) hok.2

/-- one piece per entry, each back in `S` -/
theorem Reads.flatMap {α} {g : α → TStr} {bad : α → Bool} (hg : ∀ c, Reads step inC S (g c) (!bad c) S)
    (cs : List α) : Reads step inC S (cs.flatMap g) (cs.all fun c => !bad c) S := by
  induction cs with
  | nil => exact fun s hs => ⟨rfl, fun _ => hs⟩
  | cons c cs ih => exact (hg c).append ih

/-- one piece per entry from `S` into `T`, a separator from `T` back into `S` between them -/
theorem Reads.inter {α} {g : α → TStr} {bad : α → Bool} (hg : ∀ c, Reads step inC S (g c) (!bad c) T)
    (hx : Goes step T x S) (c : α) (cs : List α) :
    Reads step inC S (tInter (P x) ((c :: cs).map g)) ((c :: cs).all fun c => !bad c) T := by
  induction cs generalizing c with
  | nil =>
    show Reads step inC S (g c) (!bad c && true) T
    rw [Bool.and_true]
    exact hg c
  | cons d cs ih => exact ((hg c).post hx).append (ih d)

theorem Reads.contained [DecidableEq σ] {code : σ} (h : Reads step inC (· = code) t ok (· = code)) :
    containedIn step inC code t = ok := by
  obtain ⟨h1, h2⟩ := h code rfl
  unfold containedIn
  rw [h1]
  cases ok with
  | false => rfl
  | true => rw [h2 rfl]; exact beq_self_eq_true code

/-- a comment block: opening text into the comment (`S`), the entries with a separator between them,
closing text; contained exactly when no entry is bad -/
theorem Reads.block [DecidableEq σ] {code : σ} {α} {g : α → TStr} {bad : α → Bool} {pre sep suf : Str}
    (hpre : Goes step (· = code) pre S) (hg : ∀ c, Reads step inC S (g c) (!bad c) T)
    (hsep : Goes step T sep S) (hsuf : Goes step T suf (· = code)) (c : α) (cs : List α) :
    containedIn step inC code (P pre ++ tInter (P sep) ((c :: cs).map g) ++ P suf)
      = (c :: cs).all fun c => !bad c := by
  rw [List.append_assoc]
  exact ((Reads.inter hg hsep c cs).post hsuf |>.pre hpre).contained

/-- A line comment, for any lexer: in the state `line` every character is inside the comment, and
exactly the `eol` characters lead back to `code`.  `cStep S` and `pyStep` (its `#` comments) are
instances. -/
theorem Reads.line {eol : Char → Bool} {code line : σ} (hstep : ∀ x, step line x = if eol x then code else line)
    (hline : inC line = true) (hcode : inC code = false) (c : Str) :
    Reads step inC (· = line) (D c) (!c.any eol) (· = line) := by
  intro s hs
  rw [show s = line from hs]
  induction c with
  | nil => exact ⟨rfl, fun _ => rfl⟩
  | cons x t ih =>
    show ((inC line && inC (step line x)) && okOn step inC (step line x) (D t)) = !(eol x || t.any eol)
      ∧ ((!(eol x || t.any eol)) = true → final step (step line x) (D t) = line)
    cases h : eol x with
    | false => rw [hstep, h, if_neg Bool.false_ne_true, hline]; exact ih
    | true => rw [hstep, h, if_pos rfl, hline, hcode]; exact ⟨rfl, fun h => nomatch h⟩
end run

/-- inside the (outermost) block comment -/
def InBlock (s : CSt) : Prop := s = .block 0 ∨ s = .blockStar 0

theorem tsSyntax_nest : tsSyntax.nest = false := rfl

theorem tsDoc_okOn (c : Str) :
    okOn (cStep tsSyntax) CSt.inComment (.block 0) (D c) = !Str.containsSub c s%"*/" ∧
    okOn (cStep tsSyntax) CSt.inComment (.blockStar 0) (D c)
      = !(Str.startsWith c s%"/" || Str.containsSub c s%"*/") := by
  induction c with
  | nil => simp [okOn, Str.containsSub, Str.startsWith]
  | cons x t ih =>
    obtain ⟨ih1, ih2⟩ := ih
    by_cases hs : x = '*'
    · subst hs
      simp [okOn, cStep, CSt.inComment, Str.containsSub, Str.startsWith, ih2]
    · by_cases hl : x = '/'
      · subst hl
        simp [okOn, cStep, CSt.inComment, Str.containsSub, Str.startsWith, ih1, tsSyntax_nest]
      · have hs' : (x == '*') = false := by simpa using hs
        have hl' : (x == '/') = false := by simpa using hl
        simp [okOn, cStep, CSt.inComment, Str.containsSub, Str.startsWith, ih1, tsSyntax_nest, hs, hl, hs', hl']

/-- a doc string in the block comment: read inside it exactly when it has no `*/` -/
theorem tsDoc (c : Str) :
    Reads (cStep tsSyntax) CSt.inComment (· = .block 0) (D c) (!Str.containsSub c s%"*/") InBlock :=
  (tsDoc_okOn c).1 ▸ Reads.doc (by
    rintro s x (rfl | rfl) h
    · by_cases hx : x = '*' <;> simp [cStep, hx, tsSyntax_nest, InBlock]
    · by_cases hx : x = '/'
      · subst hx; simp [cStep, CSt.inComment] at h
      · by_cases hx' : x = '*' <;> simp [cStep, hx, hx', InBlock]) c (.inl rfl)

theorem contained_ts (U : UnicodeOps) (n : Nat) (cs : List Str) :
    contained .typescript U n cs = cs.all fun c => !Bad .typescript U c := by
  have hnl : Goes (cStep tsSyntax) InBlock nl (· = .block 0) := by rintro s (rfl | rfl) <;> rfl
  have hD := fun c => tsDoc (TypeScript.escapeDoc c)
  match cs with
  | [] => rfl
  | [c] =>
    -- one entry is the same block, whatever the separator
    refine Reads.block (sep := nl) (T := InBlock) ?_ hD hnl ?_ c []
    · exact (Goes.tabs rfl n).append (.lit _)
    · rintro s (rfl | rfl) <;> rfl
  | c1 :: c2 :: r =>
    refine Reads.block (T := InBlock) ?_ hD ?_ ?_ c1 (c2 :: r)
    · exact ((Goes.tabs rfl n).append (.lit _)).append (Goes.tabs rfl n) |>.append (.lit _)
    · exact (hnl.append (Goes.tabs rfl n)).append (.lit _)
    · exact ((hnl.append (Goes.tabs rfl n)).append (.lit _)).append (.lit _)

/-- inside the docstring -/
def InDoc (s : PSt) : Prop := s = .long '"' ∨ s = .longEsc '"' ∨ s = .longQ1 '"' ∨ s = .longQ2 '"'

theorem startsWith_q2_q1 (t : Str) (b : Bool) :
    (Str.startsWith t s%"\"" || (Str.startsWith t s%"\"\"" || b)) = (Str.startsWith t s%"\"" || b) := by
  cases t with
  | nil => simp [Str.startsWith]
  | cons y t' => cases hy : (y == '"') <;> simp [Str.startsWith, hy]

theorem pyDoc_okOn (c : Str) :
    okOn pyStep PSt.inComment (.long '"') (D c) = !unescapedTripleQuote false c ∧
    okOn pyStep PSt.inComment (.longEsc '"') (D c) = !unescapedTripleQuote true c ∧
    okOn pyStep PSt.inComment (.longQ1 '"') (D c)
      = !(Str.startsWith c s%"\"\"" || unescapedTripleQuote false c) ∧
    okOn pyStep PSt.inComment (.longQ2 '"') (D c)
      = !(Str.startsWith c s%"\"" || unescapedTripleQuote false c) := by
  induction c with
  | nil => simp [okOn, unescapedTripleQuote, Str.startsWith]
  | cons x t ih =>
    obtain ⟨ih0, ihE, ih1, ih2⟩ := ih
    simp only [okOn_D_cons]
    by_cases hq : x = '"'
    · subst hq
      refine ⟨?_, ?_, ?_, ?_⟩
      · simp [pyStep, PSt.inComment, unescapedTripleQuote, Str.startsWith, ih1]
      · simp [pyStep, PSt.inComment, unescapedTripleQuote, ih0]
      · simp [pyStep, PSt.inComment, unescapedTripleQuote, Str.startsWith, ih2, startsWith_q2_q1]
      · simp [pyStep, PSt.inComment, unescapedTripleQuote, Str.startsWith]
    · have hq' : (x == '"') = false := by simpa using hq
      by_cases hb : x = '\\'
      · subst hb
        simp [pyStep, PSt.inComment, unescapedTripleQuote, Str.startsWith, ihE, ih0]
      · simp [pyStep, PSt.inComment, unescapedTripleQuote, Str.startsWith, ih0, hq, hq', hb]

/-- a doc string in the docstring: read inside it exactly when it has no unescaped `"""` -/
theorem pyDoc (c : Str) :
    Reads pyStep PSt.inComment (· = .long '"') (D c) (!unescapedTripleQuote false c) InDoc :=
  (pyDoc_okOn c).1 ▸ Reads.doc (by
    rintro s x (rfl | rfl | rfl | rfl) h
    · by_cases hx : x = '"'
      · simp [pyStep, hx, InDoc]
      · by_cases hx' : x = '\\' <;> simp [pyStep, hx, hx', InDoc]
    · simp [pyStep, InDoc]
    · by_cases hx : x = '"'
      · simp [pyStep, hx, InDoc]
      · by_cases hx' : x = '\\' <;> simp [pyStep, hx, hx', InDoc]
    · by_cases hx : x = '"'
      · subst hx; simp [pyStep, PSt.inComment] at h
      · by_cases hx' : x = '\\' <;> simp [pyStep, hx, hx', InDoc]) c (.inl rfl)

theorem contained_pyDoc (U : UnicodeOps) (n : Nat) (cs : List Str) :
    contained .pyDoc U n cs = cs.all fun c => !Bad .pyDoc U c := by
  have hnl : Goes pyStep InDoc nl (· = .long '"') := by rintro s (rfl | rfl | rfl | rfl) <;> rfl
  match cs with
  | [] => rfl
  | c :: cs =>
    refine Reads.block (T := InDoc) ?_ (fun c => .pre (Goes.indent rfl n) (pyDoc (Python.escapeDoc c))) hnl ?_ c cs
    · exact (Goes.indent rfl n).append (.lit _)
    · exact ((hnl.append (Goes.indent rfl n)).append (.lit _)).append (.lit _)

theorem contained_pyHash (U : UnicodeOps) (n : Nat) (cs : List Str) :
    contained .pyHash U n cs = cs.all fun c => !Bad .pyHash U c := by
  match cs with
  | [] => rfl
  | c :: cs =>
    exact ((Reads.inter (T := (· = .hash))
      (fun c => .pre ((Goes.indent rfl n).append (.lit _)) (Reads.line (eol := pyEol) (fun _ => rfl) rfl rfl c))
      (.lit _) c cs).post (.lit _)).contained

theorem contained_c_lines (S : CSyntax) (n : Nat) (pre : Str) (w : Str → Str)
    (hpre : pre.foldl (cStep S) .code = .line) (hnl : S.eol '\n' = true) (cs : List Str) :
    containedIn (cStep S) CSt.inComment .code (cs.flatMap fun c => P (tabs n ++ pre) ++ D (w c) ++ P nl)
      = cs.all fun c => !(w c).any S.eol :=
  (Reads.flatMap (fun c => ((Reads.line (code := .code) (line := .line) (fun _ => rfl) rfl rfl (w c)).pre
    ((Goes.tabs rfl n).append fun _ hs => hs ▸ hpre)).post
      fun _ hs => hs ▸ (if_pos hnl : cStep S .line '\n' = .code)) cs).contained

/-- the exact characterisation, all seven renderers -/
theorem contained_eq (sty : Style) (U : UnicodeOps) (n : Nat) (cs : List Str) :
    contained sty U n cs = cs.all fun c => !Bad sty U c := by
  cases sty
  · exact contained_ts U n cs
  · exact contained_c_lines kotlinSyntax n s%"/// " id (by decide) (by decide) cs
  · exact contained_c_lines swiftSyntax n s%"/// " (Swift.trimEnd U) (by decide) (by decide) cs
  · exact contained_c_lines scalaSyntax n s%"// " id (by decide) (by decide) cs
  · exact contained_c_lines goSyntax n s%"// " id (by decide) (by decide) cs
  · exact contained_pyDoc U n cs
  · exact contained_pyHash U n cs

@[simp] theorem erase_cons (c : Char) (d : Bool) (t : TStr) : erase ((c, d) :: t) = c :: erase t := rfl
@[simp] theorem docChars_cons_false (c : Char) (t : TStr) : docChars ((c, false) :: t) = docChars t := rfl
@[simp] theorem docChars_cons_true (c : Char) (t : TStr) : docChars ((c, true) :: t) = c :: docChars t := rfl

theorem docChars_tInter (sep : TStr) (h : docChars sep = []) (xs : List TStr) :
    docChars (tInter sep xs) = xs.flatMap docChars := by
  fun_induction tInter sep xs <;> simp [h, *]

theorem map_erase_D (cs : List Str) : (cs.map D).map erase = cs := by
  induction cs with
  | nil => rfl
  | cons c cs ih => simp at ih ⊢; exact ih

theorem map_erase_map {α} (f : α → TStr) (xs : List α) :
    (xs.map f).map erase = xs.map fun x => erase (f x) := by
  rw [List.map_map]; rfl

/-- forgetting the tags gives exactly the text the back-end model writes -/
theorem erase_renderT (sty : Style) (U : UnicodeOps) (n : Nat) (cs : List Str) :
    erase (renderT sty U n cs) = render sty U n cs := by
  cases sty
  · match cs with
    | [] => rfl
    | [c] =>
      simp only [renderT, render, TypeScript.comments, erase_append, erase_P, erase_D, List.append_assoc]
    | c1 :: c2 :: r =>
      simp only [renderT, render, TypeScript.comments, erase_tInter, map_erase_map, erase_append,
        erase_P, erase_D, List.append_assoc]
  iterate 4
    simp only [renderT, render, Kotlin.comments, Swift.comments, Scala.comments, Go.comments, erase_flatMap,
      erase_append, erase_P, erase_D, List.append_assoc]
  iterate 2
    by_cases h : cs = []
    · subst h; rfl
    · simp only [renderT, render, Python.docstring, Python.hashComments, List.isEmpty_iff, h, if_false,
        erase_tInter, map_erase_map, erase_append, erase_P, erase_D, List.append_assoc]

/-- the characters tagged as doc text are exactly the doc strings (as the printer writes them: Swift
strips trailing white space), in order -/
theorem docChars_renderT (sty : Style) (U : UnicodeOps) (n : Nat) (cs : List Str) :
    docChars (renderT sty U n cs) = cs.flatMap (written sty U) := by
  cases sty
  · match cs with
    | [] => rfl
    | [c] =>
      simp only [renderT, written, docChars_append, docChars_P, docChars_D, List.nil_append,
        List.append_nil, List.flatMap_cons, List.flatMap_nil]
    | c1 :: c2 :: r =>
      simp only [renderT, docChars_tInter _ (docChars_P _), List.flatMap_map, docChars_append, docChars_P,
        docChars_D, List.nil_append, List.append_nil]
      rfl
  -- the four `flatMap` renderers: per entry, only the `D` part is doc text
  iterate 4
    simp only [renderT, docChars_flatMap, docChars_append, docChars_P, docChars_D, List.nil_append,
      List.append_nil]
    rfl
  iterate 2
    by_cases h : cs = []
    · subst h; rfl
    · simp only [renderT, List.isEmpty_iff, h, if_false, docChars_tInter _ (docChars_P _), List.flatMap_map,
        docChars_append, docChars_P, docChars_D, List.nil_append, List.append_nil]
      rfl

theorem unescaped_imp_contains (c : Str) : ∀ b, unescapedTripleQuote b c = true →
    Str.containsSub c s%"\"\"\"" = true := by
  induction c with
  | nil => intro b h; simp [unescapedTripleQuote] at h
  | cons x t ih =>
    intro b h
    cases b with
    | true =>
      simp only [unescapedTripleQuote] at h
      simp [Str.containsSub, ih _ h]
    | false =>
      simp only [unescapedTripleQuote] at h
      by_cases hx : x = '\\'
      · simp only [hx, if_true] at h
        simp [Str.containsSub, ih _ h]
      · simp only [hx, if_false, Bool.or_eq_true] at h
        rcases h with h | h
        · simp [Str.containsSub, h]
        · simp [Str.containsSub, ih _ h]

theorem unescaped_eq_contains (c : Str) (h : ∀ x ∈ c, x ≠ '\\') :
    unescapedTripleQuote false c = Str.containsSub c s%"\"\"\"" := by
  induction c with
  | nil => rfl
  | cons x t ih =>
    have hx : x ≠ '\\' := h x (by simp)
    have ht := ih fun y hy => h y (by simp [hy])
    simp [unescapedTripleQuote, hx, Str.containsSub, ht]

theorem containedIn_final {σ : Type} [DecidableEq σ] (step : σ → Char → σ) (inC : σ → Bool) (code : σ)
    (t : TStr) (h : containedIn step inC code t = true) : final step code t = code := by
  simp only [containedIn, Bool.and_eq_true, beq_iff_eq] at h
  exact h.2

theorem final_eq_foldl {σ : Type} (step : σ → Char → σ) (s : σ) (t : TStr) :
    final step s t = (erase t).foldl step s := by
  induction t generalizing s with
  | nil => rfl
  | cons x t ih => obtain ⟨c, d⟩ := x; simp [final, ih]

theorem ts_escape_head (r : Str) : (TypeScript.escapeDoc r).head? = r.head? := by
  cases r with
  | nil => rfl
  | cons c r =>
    simp only [TypeScript.escapeDoc]
    split
    · next h => simp [h.1]
    · rfl

theorem ts_escape_no_close (c : Str) : Str.containsSub (TypeScript.escapeDoc c) s%"*/" = false := by
  induction c with
  | nil => rfl
  | cons x r ih =>
    simp only [TypeScript.escapeDoc]
    split
    · simp [Str.containsSub, Str.startsWith, ih]
    · next h =>
      simp only [Str.containsSub, ih, Bool.or_false]
      by_cases hx : x = '*'
      · subst hx
        have hh := ts_escape_head r
        cases hr : TypeScript.escapeDoc r with
        | nil => simp [Str.startsWith]
        | cons y t =>
          rw [hr] at hh
          have : y ≠ '/' := by
            intro hy; subst hy; exact h ⟨rfl, hh.symm⟩
          simp [Str.startsWith, this]
      · simp [Str.startsWith, hx]

/-- `escapeQuotes` by the two equations of a replacement -/
theorem escapeQuotes_cons (a : Char) (t : Str) :
    Python.escapeQuotes (a :: t)
      = if Str.startsWith (a :: t) s%"\"\"\"" then s%"\\\"\\\"\\\"" ++ Python.escapeQuotes ((a :: t).drop 3)
        else a :: Python.escapeQuotes t := by
  match t with
  | [] => simp [Python.escapeQuotes, Str.startsWith]
  | [b] => simp [Python.escapeQuotes, Str.startsWith]
  | b :: c :: r =>
    rw [Python.escapeQuotes]
    simp only [Str.startsWith, Bool.and_true, Bool.and_eq_true, beq_iff_eq, List.drop_succ_cons, List.drop_zero]

/-- quotes at the head of the written text are quotes at the head of the doc text -/
theorem py_quotes_starts (k : Nat) : ∀ r : Str,
    Str.startsWith (Python.escapeQuotes r) (List.replicate k '"') = true →
    Str.startsWith r (List.replicate k '"') = true := by
  induction k with
  | zero => intro r _; cases r <;> rfl
  | succ k ih =>
    intro r h
    cases r with
    | nil => exact h
    | cons a t =>
      rw [escapeQuotes_cons] at h
      split at h
      · simp [Str.startsWith, List.replicate_succ] at h
      · simp only [List.replicate_succ, Str.startsWith, Bool.and_eq_true] at h ⊢
        exact ⟨h.1, ih t h.2⟩

/-- … so the written text never starts with `"""`: where the doc text does, a backslash is written -/
theorem py_quotes_no_start (s : Str) : Str.startsWith (Python.escapeQuotes s) s%"\"\"\"" = false := by
  cases h : Str.startsWith (Python.escapeQuotes s) s%"\"\"\"" with
  | false => rfl
  | true =>
    have h3 : Str.startsWith s s%"\"\"\"" = true := py_quotes_starts 3 s h
    cases s with
    | nil => exact h3.symm
    | cons a t =>
      rw [escapeQuotes_cons, if_pos h3] at h
      exact h.symm

/-- the second replacement alone already leaves no unescaped `"""`, whatever it is applied to -/
theorem py_quotes_ok (c : Str) :
    unescapedTripleQuote false (Python.escapeQuotes c) = false ∧
    unescapedTripleQuote true (Python.escapeQuotes c) = false := by
  suffices ∀ n (c : Str), c.length ≤ n →
      unescapedTripleQuote false (Python.escapeQuotes c) = false ∧
      unescapedTripleQuote true (Python.escapeQuotes c) = false from this _ c (Nat.le_refl _)
  intro n
  induction n with
  | zero =>
    intro c h
    rw [List.eq_nil_of_length_eq_zero (Nat.le_zero.mp h)]
    exact ⟨rfl, rfl⟩
  | succ n ih =>
    intro c h
    cases c with
    | nil => exact ⟨rfl, rfl⟩
    | cons a t =>
      have hs := py_quotes_no_start (a :: t)
      rw [escapeQuotes_cons] at hs ⊢
      split
      · have ih := ih ((a :: t).drop 3) (by simp only [List.length_drop, List.length_cons] at h ⊢; omega)
        simpa [unescapedTripleQuote, Str.startsWith] using ih.1
      · next hn =>
        rw [if_neg hn] at hs
        have ih := ih t (Nat.le_of_succ_le_succ h)
        refine ⟨?_, by simp [unescapedTripleQuote, ih.1]⟩
        by_cases hb : a = '\\'
        · simp [unescapedTripleQuote, hb, ih.2]
        · simp [unescapedTripleQuote, hb, ih.1, hs]

/-- the docstring writer (`escapeDoc` = backslashes doubled, then `"""` escaped): the written
text has no unescaped `"""` -/
theorem py_escape_ok (c : Str) :
    unescapedTripleQuote false (Python.escapeDoc c) = false ∧
    unescapedTripleQuote true (Python.escapeDoc c) = false :=
  py_quotes_ok (Python.escapeBackslashes c)

/-- a function with the two defining equations of `str::replace` is `Str.replaceSub.go`, given enough
fuel -/
theorem replaceSub_go_eq (pat rep : Str) (hpat : pat ≠ []) (f : Str → Str) (hnil : f [] = [])
    (hcons : ∀ c t, f (c :: t)
      = if Str.startsWith (c :: t) pat then rep ++ f ((c :: t).drop pat.length) else c :: f t)
    (fuel : Nat) : ∀ s : Str, s.length ≤ fuel → Str.replaceSub.go pat rep fuel s = f s := by
  induction fuel with
  | zero =>
    intro s h
    rw [List.eq_nil_of_length_eq_zero (Nat.le_zero.mp h), hnil]
    rfl
  | succ fuel ih =>
    intro s h
    match s with
    | [] => rw [hnil]; rfl
    | c :: t =>
      have ht : t.length ≤ fuel := Nat.le_of_succ_le_succ h
      rw [Str.replaceSub.go, hcons, ih t ht, ih _ (by
        have : 0 < pat.length := List.length_pos_iff.mpr hpat
        simp only [List.length_drop, List.length_cons]; omega)]

theorem eq_replaceSub (pat rep : Str) (hpat : pat ≠ []) (f : Str → Str) (hnil : f [] = [])
    (hcons : ∀ c t, f (c :: t)
      = if Str.startsWith (c :: t) pat then rep ++ f ((c :: t).drop pat.length) else c :: f t)
    (s : Str) : f s = Str.replaceSub s pat rep := by
  rw [Str.replaceSub, if_neg (by simpa using hpat)]
  exact (replaceSub_go_eq pat rep hpat f hnil hcons _ s (Nat.le_refl _)).symm

/-- the model's `escapeDoc` is `str::replace("*/", "*\\/")` -/
theorem ts_escape_eq_replace (c : Str) :
    TypeScript.escapeDoc c = Str.replaceSub c s%"*/" s%"*\\/" := by
  refine eq_replaceSub _ _ (by decide) _ rfl (fun c t => ?_) c
  cases t with
  | nil => by_cases hc : c = '*' <;> simp [TypeScript.escapeDoc, Str.startsWith, hc]
  | cons d t =>
    by_cases hc : c = '*' <;> by_cases hd : d = '/' <;>
      simp [TypeScript.escapeDoc, Str.startsWith, hc, hd]

/-- the model's `escapeQuotes` is `str::replace("\"\"\"", "\\\"\\\"\\\"")` -/
theorem py_quotes_eq_replace (c : Str) :
    Python.escapeQuotes c = Str.replaceSub c s%"\"\"\"" s%"\\\"\\\"\\\"" :=
  eq_replaceSub _ _ (by decide) _ rfl escapeQuotes_cons c

/-- the model's `escapeBackslashes` is `str::replace('\\', "\\\\")` (a `char` pattern matches like the
one-character string) -/
theorem py_backslashes_eq_replace (c : Str) :
    Python.escapeBackslashes c = Str.replaceSub c s%"\\" s%"\\\\" := by
  refine eq_replaceSub _ _ (by decide) _ rfl (fun a t => ?_) c
  by_cases ha : a = '\\' <;>
    simp [Python.escapeBackslashes, Str.replaceChar, Str.startsWith, ha]

/-- the model's `escapeDoc` is `.replace('\\', "\\\\").replace("\"\"\"", "\\\"\\\"\\\"")` -/
theorem py_escape_eq_replace (c : Str) :
    Python.escapeDoc c = Str.replaceSub (Str.replaceSub c s%"\\" s%"\\\\") s%"\"\"\"" s%"\\\"\\\"\\\"" := by
  rw [← py_backslashes_eq_replace, ← py_quotes_eq_replace]; rfl

/-- `\n` or `\r` -/
def isBreak (c : Char) : Bool := c = '\n' || c = '\r'

theorem mem_trimEnd (U : UnicodeOps) {x : Char} {s : Str} (h : x ∈ Swift.trimEnd U s) : x ∈ s :=
  List.mem_reverse.mp ((List.dropWhile_sublist _).subset (List.mem_reverse.mp h))

theorem mem_trim (U : UnicodeOps) {x : Char} {s : Str} (h : x ∈ U.trim s) : x ∈ s :=
  (List.dropWhile_sublist _).subset
    (List.mem_reverse.mp ((List.dropWhile_sublist _).subset (List.mem_reverse.mp h)))

/-- a line consists of characters of the string, none of them a line break -/
theorem docLines_mem (s : Str) : ∀ l ∈ Parser.docLines s, ∀ x ∈ l, x ∈ s ∧ isBreak x = false := by
  induction s with
  | nil => simp [Parser.docLines]
  | cons c r ih =>
    have ih' : ∀ l ∈ Parser.docLines r, ∀ x ∈ l, x ∈ c :: r ∧ isBreak x = false :=
      fun l hl x hx => ⟨List.mem_cons_of_mem _ (ih l hl x hx).1, (ih l hl x hx).2⟩
    rw [Parser.docLines]
    by_cases h1 : c = '\r' ∧ r.head? = some '\n'
    · rw [if_pos h1]
      exact ih'
    rw [if_neg h1]
    by_cases h2 : c = '\n' ∨ c = '\r'
    · rw [if_pos h2]
      intro l hl
      rcases List.mem_cons.mp hl with rfl | hl
      · intro x hx; cases hx
      · exact ih' l hl
    rw [if_neg h2]
    have hc : isBreak c = false := by simpa [isBreak] using h2
    revert ih'
    cases Parser.docLines r with
    | nil =>
      intro _ l hl x hx
      rw [List.mem_singleton.mp hl] at hx
      rw [List.mem_singleton.mp hx]
      exact ⟨List.mem_cons_self .., hc⟩
    | cons l ls =>
      intro ih' l' hl' x hx
      rcases List.mem_cons.mp hl' with rfl | hl'
      · rcases List.mem_cons.mp hx with rfl | hx
        · exact ⟨List.mem_cons_self .., hc⟩
        · exact ih' l (List.mem_cons_self ..) x hx
      · exact ih' l' (List.mem_cons_of_mem _ hl') x hx

/-- a character of an entry produced by the parser is a character of one of the doc strings, and
neither `\n` nor `\r` -/
theorem entries_mem (U : UnicodeOps) (docs : List Str) :
    ∀ e ∈ entries U docs, ∀ x ∈ e, isBreak x = false ∧ ∃ d ∈ docs, x ∈ d := by
  intro e he x hx
  simp only [entries, Parser.docEntries, Parser.splitCommentLines, List.mem_flatMap, List.mem_map] at he
  obtain ⟨d, hd, l, hl, rfl⟩ := he
  have h := docLines_mem _ l hl x (mem_trim U hx)
  exact ⟨h.2, d, hd, mem_trim U h.1⟩

theorem entries_no_break (U : UnicodeOps) (docs : List Str) :
    ∀ e ∈ entries U docs, e.any isBreak = false :=
  fun e he => List.any_eq_false.mpr fun x hx => by simp [(entries_mem U docs e he x hx).1]

/-- TypeScript: no string is `Bad` — `*/` never reaches the output, line breaks are harmless in `/** */` -/
theorem Bad_typescript (U : UnicodeOps) (c : Str) : Bad .typescript U c = false :=
  ts_escape_no_close c

/-- Python docstrings: no string is `Bad` — the written text has no unescaped `"""`, whatever
backslashes and quotes surround the escaped ones -/
theorem Bad_pyDoc (U : UnicodeOps) (c : Str) : Bad .pyDoc U c = false :=
  (py_escape_ok c).1

theorem any_or_left_false {p q r : Char → Bool} (hr : ∀ c, r c = (p c || q c)) (s : Str)
    (h : s.any p = false) : s.any r = s.any q := by
  induction s with
  | nil => rfl
  | cons c t ih =>
    simp only [List.any_cons, Bool.or_eq_false_iff] at h
    simp only [List.any_cons, ih h.2, hr c, h.1, Bool.false_or]

/-- `Bad` on a string without `\n`, `\r`: only Scala's U+001A is left -/
theorem Bad_of_no_break (sty : Style) (U : UnicodeOps) (e : Str) (h : e.any isBreak = false) :
    Bad sty U e = (sty == .scala && e.any isSub) := by
  cases sty
  · exact Bad_typescript U e
  · exact h
  · exact List.any_eq_false.mpr fun x hx => List.any_eq_false.mp h x (mem_trimEnd U hx)
  · show e.any scalaSyntax.eol = (true && e.any isSub)
    rw [Bool.true_and]
    exact any_or_left_false (p := isBreak) (fun c => rfl) e h
  · refine List.any_eq_false.mpr fun x hx hc => List.any_eq_false.mp h x hx ?_
    simp only [goSyntax, decide_eq_true_eq] at hc
    simp [isBreak, hc]
  · exact Bad_pyDoc U e
  · exact h

/-- the exact characterisation at parser level -/
theorem contained_entries (sty : Style) (U : UnicodeOps) (n : Nat) (docs : List Str) :
    contained sty U n (entries U docs) = !KnownScalaSub sty U docs := by
  have h : ((entries U docs).all fun c => !Bad sty U c) = (entries U docs).all fun e => !(sty == .scala && e.any isSub) :=
    Bool.eq_iff_iff.2 <| List.all_eq_true.trans <| (forall₂_congr fun e he => by
      rw [Bad_of_no_break sty U e (entries_no_break U docs e he)]).trans List.all_eq_true.symm
  rw [contained_eq, h]
  unfold KnownScalaSub
  cases (sty == Style.scala)
  · simp
  · simp only [Bool.true_and]; exact List.not_any_eq_all_not.symm

end TsV.C15
