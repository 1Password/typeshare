import TsV.Lemmas.Capstone_Items
import TsV.Lemmas.Capstone_Order
/-!
# Capstone — Scala: from `writeItem … = .ok b` to the fact records and the clauses
-/
namespace TsV.Cap.Sc
open TsV TsV.Syn TsV.Parser TsV.Pipeline TsV.Generate TsV.C03E TsV.Lang TsV.Lang.Scala TsV.Outcome

/-- C04's reading of one constructor parameter -/
def Reads (p : ScParam) (o : Bool) (core : Str) : Prop := o = C04.Sc.isOptional p ∧ core = C04.Sc.stripOptional p

theorem writeItem_struct (cfg : Cfg) (rs : RustStruct) (b : Str) (h : C03E.Sc.writeItem cfg (.struct rs) = .ok b) :
    ∃ c, classFacts cfg rs = .ok c ∧ renderClass c = b := by
  obtain ⟨c, hc, rfl⟩ := Outcome.of_bind_ret (show writeStruct cfg rs = _ from h)
  exact ⟨c, hc, rfl⟩

theorem writeItem_enum (cfg : Cfg) (e : RustEnum) (b : Str) (h : C03E.Sc.writeItem cfg (.enum e) = .ok b) :
    ∃ se, enumFacts cfg e = .ok se ∧ renderEnum se = b := by
  obtain ⟨se, hs, rfl⟩ := Outcome.of_bind_ret (show writeEnum cfg e = _ from h)
  exact ⟨se, hs, rfl⟩

/-- **clauses 2 + 3 for the case class of a source struct** (C04's known class: a non-`Option` field with
`serde(default)`; C01's scope for Scala: dash-free keys) -/
theorem struct_ok (E : Ext) (hU : E.U.AsciiCorrect) (cfg : Cfg) (targetOs : List Str) (c : Str) (r : Renames)
    (attrs : List Attr) (ident : Str) (gens : List GenericParam) (fs : List Field) (rs : RustStruct) (cl : ScClass)
    (hparse : parseStruct E targetOs attrs ident gens (.named fs) = .ok (.struct rs))
    (hd : classFacts cfg (recStruct c r rs) = .ok cl) :
    StructClauses E .scala (.scala cfg) targetOs c r attrs fs (recStruct c r rs)
      (cl.params.map C01.Scala.boundKey) Reads cl.params := by
  refine struct_clauses E hU .scala (.scala cfg) cfg targetOs c r attrs ident gens fs rs _ Reads _ hparse
    (by simp [C01.structKeys, hd]) ((C04.scala_struct hd).imp ?_)
  intro rf' p hp hs hk
  obtain ⟨_, h2, h3⟩ := hp hs.1
  exact ⟨_, _, ⟨rfl, rfl⟩, h2 hk, h3⟩

/-- **clauses 2 + 4 for the declarations of a source enum** -/
theorem enum_ok (E : Ext) (hU : E.U.AsciiCorrect) (cfg : Cfg) (targetOs : List Str) (c : Str) (r : Renames)
    (attrs : List Attr) (ident : Str) (gens : List GenericParam) (vs : List Variant) (e : RustEnum)
    (se : ScEnum) (acronyms : List Str)
    (hparse : parseEnum E targetOs attrs ident gens vs = .ok (.enum e))
    (hd : enumFacts cfg (recEnum c r e) = .ok se) :
    EnumClauses E .scala targetOs attrs vs (recEnum c r e) acronyms
      (se.inner.map (·.params.map C01.Scala.boundKey)) (C02.Sc.wire se) := by
  have hi := C01.C01_scala_enum_classes cfg _ se hd
  refine enum_clauses E hU .scala cfg targetOs c r attrs ident gens vs e acronyms _ _ hparse
    (by simp [C01.enumKeys, hi]) ?_
  intro hsc hk
  exact C02.C02_backend .scala E hU acronyms _ hsc hk cfg se hd

end TsV.Cap.Sc
