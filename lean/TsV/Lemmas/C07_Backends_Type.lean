import TsV.Lemmas.C07_Backends_Base
import TsV.Lemmas.C05_Langs
import TsV.Lemmas.RustTypes
/-!
# C07 — the type printers never panic: once, on the translation

Each `formatType` is `show L ∘ translate L` on its text (`TsV.Lemmas.C05_Langs`), and `omap` keeps the
kind of an outcome, so a printer panics exactly when `translate` does.  `translate` has one panic
site, the primitive table, and only TypeScript's column holds a panic (the 64-bit integers).
-/
namespace TsV.C05L
open TsV TsV.Outcome TsV.C07BE

theorem no64List_mem {ts : List RustType} (h : no64List ts = true) {t : RustType} (ht : t ∈ ts) : no64 t = true := by
  induction ts with
  | nil => cases ht
  | cons a as ih =>
    have h' : no64 a = true ∧ no64List as = true := by simpa only [no64List, Bool.and_eq_true] using h
    rcases List.mem_cons.1 ht with rfl | ht
    · exact h'.1
    · exact ih h'.2 ht

theorem omap_np {α β} {f : α → β} {x : Outcome α} (h : NP x) : NP (omap f x) := by
  cases x <;> first | rfl | cases h

/-- a printer whose text is a pure function of an outcome `y` panics only if `y` does -/
theorem np_of_text {σ α γ} {x : Outcome (α × σ)} {y : Outcome γ} {g : γ → α}
    (h : omap Prod.fst x = omap g y) (hy : NP y) : NP x := by
  cases x with
  | panic m =>
    cases y with
    | panic m' => cases hy
    | ok c => cases h
    | err e => cases h
  | ok p => rfl
  | err e => rfl

theorem withMap_np {L : TsV.Lang} {c : TCfg} {t : RustType} {K : Outcome TTy} (h : NP K) : NP (withMap L c t K) := by
  unfold withMap; split
  · exact np_ok _
  · exact h

theorem primTarget_np (L : TsV.Lang) (p : Prim) (h : L = .typescript → no64 (.prim p) = true) :
    NP (primTarget L p) := by
  cases L
  case typescript => have := h rfl; cases p <;> first | rfl | cases this
  all_goals cases p <;> rfl

section
variable (L : TsV.Lang) (c : TCfg) (gens : List Str)

theorem translateList_np_of (ts : List RustType) (h : ∀ t ∈ ts, NP (translate L c gens t)) :
    NP (translateList L c gens ts) :=
  traverse_np (translateList L c gens) (np_ok _) (fun _ _ => by rw [translateList]) h

theorem translate_np (t : RustType) : (L = .typescript → no64 t = true) → NP (translate L c gens t) := by
  induction t using rustType_induct with
  | simple id => intro _; rw [translate]; exact withMap_np (np_ok _)
  | generic id ps ih =>
    intro h; rw [translate]
    refine withMap_np (np_bind _ _ (translateList_np_of L c gens ps fun t ht => ih t ht fun e => ?_) fun _ => np_ok _)
    exact no64List_mem (by simpa only [no64] using h e) ht
  | vec r ih | array r _ ih | slice r ih | option r ih =>
    intro h; rw [translate]
    exact withMap_np (np_bind _ _ (ih fun e => by simpa only [no64] using h e) fun _ => np_ok _)
  | hashMap k v ihk ihv =>
    intro h; rw [translate]
    have h' : L = .typescript → no64 k = true ∧ no64 v = true := fun e => by
      simpa only [no64, Bool.and_eq_true] using h e
    exact withMap_np (np_ite _ _ _ (np_err _) (np_bind _ _ (ihk fun e => (h' e).1) fun _ =>
      np_bind _ _ (ihv fun e => (h' e).2) fun _ => np_ok _))
  | prim p => intro h; rw [translate]; exact withMap_np (np_bind _ _ (primTarget_np L p h) fun _ => np_ok _)

theorem translateList_np (ts : List RustType) (h : L = .typescript → no64List ts = true) :
    NP (translateList L c gens ts) :=
  translateList_np_of L c gens ts fun _ ht => translate_np L c gens _ fun e => no64List_mem (h e) ht

end
end TsV.C05L
