import TsV.Lemmas.Order
/-!
# The collector fold and the rename table

* `find?` / `findSome?` do not depend on the order of the list when all hits agree; `check_type` sees the rename
  table and the imports only through `resolve_renamed` (`TsV.C06M`);
* the fields of the per-crate fold `merged`; rename tables that answer every query alike (`RenEquiv`), in
  particular a permuted table in which no key is given two names (`renameOf_congr`) (`TsV.Collect`);
* the rename entries of one crate, `renamesOf` (`TsV.C06`).
-/
namespace TsV.C06M
open TsV TsV.Pipeline

/-- `findSome?` over two lists with the same members, when all hits agree -/
theorem findSome?_congr_mem {α β} (f : α → Option β) (l₁ l₂ : List α) (h : ∀ x, x ∈ l₁ ↔ x ∈ l₂)
    (agree : ∀ x ∈ l₁, ∀ y ∈ l₁, ∀ n m, f x = some n → f y = some m → n = m) :
    l₁.findSome? f = l₂.findSome? f := by
  cases h1 : l₁.findSome? f with
  | none =>
    cases h2 : l₂.findSome? f with
    | none => rfl
    | some m =>
      obtain ⟨y, hy, hfy⟩ := List.exists_of_findSome?_eq_some h2
      have := List.findSome?_eq_none_iff.1 h1 y ((h y).2 hy)
      rw [this] at hfy; exact absurd hfy (by simp)
  | some n =>
    obtain ⟨x, hx, hfx⟩ := List.exists_of_findSome?_eq_some h1
    cases h2 : l₂.findSome? f with
    | none =>
      have := List.findSome?_eq_none_iff.1 h2 x ((h x).1 hx)
      rw [this] at hfx; exact absurd hfx (by simp)
    | some m =>
      obtain ⟨y, hy, hfy⟩ := List.exists_of_findSome?_eq_some h2
      rw [agree x hx y ((h y).2 hy) n m hfx hfy]

/-- `find?` followed by a projection, over two lists with the same members, when all hits project alike -/
theorem find?_map_congr_mem {α β} (p : α → Bool) (g : α → β) (l₁ l₂ : List α) (h : ∀ x, x ∈ l₁ ↔ x ∈ l₂)
    (agree : ∀ x ∈ l₁, ∀ y ∈ l₁, p x = true → p y = true → g x = g y) :
    (l₁.find? p).map g = (l₂.find? p).map g := by
  cases h1 : l₁.find? p with
  | none =>
    cases h2 : l₂.find? p with
    | none => rfl
    | some y =>
      have := List.find?_eq_none.1 h1 y ((h y).2 (List.mem_of_find?_eq_some h2))
      exact absurd (List.find?_some h2) this
  | some x =>
    cases h2 : l₂.find? p with
    | none =>
      have := List.find?_eq_none.1 h2 x ((h x).1 (List.mem_of_find?_eq_some h1))
      exact absurd (List.find?_some h1) this
    | some y =>
      simp only [Option.map_some]
      rw [agree x (List.mem_of_find?_eq_some h1) y ((h y).2 (List.mem_of_find?_eq_some h2))
        (List.find?_some h1) (List.find?_some h2)]

/-! ### `check_type` sees the rename table and the imports only through `resolve_renamed` -/

mutual
  theorem checkType_congr {c c' : Str} {r r' : Renames} {imps imps' : List ImportedType}
      (h : ∀ id, resolveRenamed c r imps id = resolveRenamed c' r' imps' id) :
      ∀ t : RustType, checkType c r imps t = checkType c' r' imps' t
    | .generic id ps => by simp only [checkType]; rw [checkTypes_congr h ps, h id]
    | .vec t | .array t _ | .slice t | .option t => by simp only [checkType]; rw [checkType_congr h t]
    | .hashMap k v => by simp only [checkType]; rw [checkType_congr h k, checkType_congr h v]
    | .prim p => by simp [checkType]
    | .simple id => by simp only [checkType]; rw [h id]
  theorem checkTypes_congr {c c' : Str} {r r' : Renames} {imps imps' : List ImportedType}
      (h : ∀ id, resolveRenamed c r imps id = resolveRenamed c' r' imps' id) :
      ∀ ts : List RustType, checkTypes c r imps ts = checkTypes c' r' imps' ts
    | [] => by simp [checkTypes]
    | t :: ts => by simp only [checkTypes]; rw [checkType_congr h t, checkTypes_congr h ts]
end

end TsV.C06M

namespace TsV.Collect
open TsV TsV.Pipeline

/-- the per-crate accumulation -/
def merged (acc : ParsedData) (a : List ParsedData) : ParsedData := a.foldl addAssign acc

/-- a field that `+=` appends to is, after the fold, the start value followed by the arrivals' contributions -/
theorem merged_append {α} (π : ParsedData → List α) (hπ : ∀ acc d, π (addAssign acc d) = π acc ++ π d) :
    ∀ (a : List ParsedData) (acc : ParsedData), π (merged acc a) = π acc ++ a.flatMap π := by
  intro a
  induction a with
  | nil => intro acc; simp [merged]
  | cons d t ih =>
    intro acc
    have ih := ih (addAssign acc d)
    simp only [merged, List.foldl_cons] at ih ⊢
    rw [ih, hπ, List.flatMap_cons, List.append_assoc]

theorem merged_structs : ∀ (a : List ParsedData) (acc : ParsedData),
    (merged acc a).structs = acc.structs ++ a.flatMap (·.structs) :=
  merged_append (·.structs) fun _ _ => rfl

theorem merged_enums : ∀ (a : List ParsedData) (acc : ParsedData),
    (merged acc a).enums = acc.enums ++ a.flatMap (·.enums) :=
  merged_append (·.enums) fun _ _ => rfl

theorem merged_aliases : ∀ (a : List ParsedData) (acc : ParsedData),
    (merged acc a).aliases = acc.aliases ++ a.flatMap (·.aliases) :=
  merged_append (·.aliases) fun _ _ => rfl

theorem merged_consts : ∀ (a : List ParsedData) (acc : ParsedData),
    (merged acc a).consts = acc.consts ++ a.flatMap (·.consts) :=
  merged_append (·.consts) fun _ _ => rfl

theorem merged_errors : ∀ (a : List ParsedData) (acc : ParsedData),
    (merged acc a).errors = acc.errors ++ a.flatMap (·.errors) :=
  merged_append (·.errors) fun _ _ => rfl

/-- all arrivals belong to one crate with one output file name (single-file mode: crate `""`) -/
def Uniform (c fn : Str) (mf : Bool) (a : List ParsedData) : Prop :=
  ∀ d ∈ a, d.crateName = c ∧ d.fileName = fn ∧ d.multiFile = mf

/-! ### the rename table is insensitive to arrival order when names are unique -/

/-- a rename table in which no (original, crate) pair occurs twice -/
def UniqueKeys (r : Renames) : Prop := (r.map fun e => (e.1, e.2.1)).Nodup

/-- a permuted rename table answers alike as long as no (original name, crate) is given two new names -/
theorem renameOf_congr (r₁ r₂ : Renames) (hp : r₁.Perm r₂)
    (ha : ∀ e ∈ r₁, ∀ e' ∈ r₁, e.1 = e'.1 → e.2.1 = e'.2.1 → e.2.2 = e'.2.2) (x c : Str) :
    renameOf r₁ x c = renameOf r₂ x c := by
  unfold renameOf
  apply C06M.find?_map_congr_mem
  · intro e; rw [List.mem_reverse, List.mem_reverse]; exact hp.mem_iff
  · intro e he e' he' hpe hpe'
    simp only [Bool.and_eq_true, beq_iff_eq] at hpe hpe'
    exact ha e (List.mem_reverse.1 he) e' (List.mem_reverse.1 he') (hpe.1.trans hpe'.1.symm)
      (hpe.2.trans hpe'.2.symm)

theorem renameOf_perm (r₁ r₂ : Renames) (hp : r₁.Perm r₂) (hu : UniqueKeys r₁) (x c : Str) :
    renameOf r₁ x c = renameOf r₂ x c :=
  renameOf_congr r₁ r₂ hp (fun e he e' he' h1 h2 => by
    rw [Order.inj_of_nodup_map (fun e : Str × Str × Str => (e.1, e.2.1)) hu he he'
      (Prod.ext h1 h2)]) x c

theorem hasRename_perm (r₁ r₂ : Renames) (hp : r₁.Perm r₂) (x : Str) : hasRename r₁ x = hasRename r₂ x := by
  unfold hasRename
  rw [Bool.eq_iff_iff]; simp only [List.any_eq_true]
  constructor <;> rintro ⟨e, he, h⟩
  · exact ⟨e, hp.subset he, h⟩
  · exact ⟨e, hp.symm.subset he, h⟩

/-- two rename tables that answer every query alike -/
def RenEquiv (r₁ r₂ : Renames) : Prop :=
  ∀ x c, renameOf r₁ x c = renameOf r₂ x c ∧ hasRename r₁ x = hasRename r₂ x

theorem resolve_equiv (r₁ r₂ : Renames) (h : RenEquiv r₁ r₂) (c : Str) (imps : List ImportedType) (id : Str) :
    resolveRenamed c r₁ imps id = resolveRenamed c r₂ imps id := by
  unfold resolveRenamed
  rw [(h id c).2]
  have : (fun i : ImportedType => (renameOf r₁ id i.baseCrate).map fun n => (i.baseCrate, n)) =
      fun i => (renameOf r₂ id i.baseCrate).map fun n => (i.baseCrate, n) := by
    funext i; rw [(h id i.baseCrate).1]
  rw [this, (h id c).1]

theorem checkTypes_equiv (r₁ r₂ : Renames) (h : RenEquiv r₁ r₂) (c : Str) (imps : List ImportedType) :
      ∀ ts : List RustType, checkTypes c r₁ imps ts = checkTypes c r₂ imps ts :=
  C06M.checkTypes_congr (resolve_equiv r₁ r₂ h c imps)

end TsV.Collect

namespace TsV.C06
open TsV TsV.Pipeline TsV.Collect

/-- the three rename sources of one crate -/
def renamesOf (c : Str) (ss : List RustStruct) (es : List RustEnum) (as : List RustTypeAlias) : Renames :=
  (ss.filterMap fun s => if s.id.serdeRename then some (s.id.original, c, s.id.renamed) else none) ++
  (es.filterMap fun e => if e.id.serdeRename then some (e.id.original, c, e.id.renamed) else none) ++
  (as.filterMap fun a => if a.id.serdeRename then some (a.id.original, c, a.id.renamed) else none)

theorem filterMap_keys_sublist {α} (l : List α) (p : α → Bool) (o r : α → Str) (c : Str) :
    ((l.filterMap fun x => if p x then some (o x, c, r x) else none).map (·.1)).Sublist (l.map o) := by
  induction l with
  | nil => simp
  | cons x t ih =>
    simp only [List.filterMap_cons, List.map_cons]
    by_cases hp : p x = true
    · simp only [hp, if_true, List.map_cons]; exact ih.cons₂ _
    · simp only [hp, Bool.false_eq_true, if_false]; exact ih.cons _

theorem renamesOf_crate (c : Str) (ss : List RustStruct) (es : List RustEnum) (as : List RustTypeAlias) :
    ∀ e ∈ renamesOf c ss es as, e.2.1 = c := by
  intro e he
  simp only [renamesOf, List.mem_append, List.mem_filterMap] at he
  rcases he with (⟨s, _, hs⟩ | ⟨s, _, hs⟩) | ⟨s, _, hs⟩ <;>
    (split at hs <;> simp at hs; rw [← hs])

theorem renamesOf_unique (c : Str) (ss : List RustStruct) (es : List RustEnum) (as : List RustTypeAlias)
    (h : (ss.map (·.id.original) ++ es.map (·.id.original) ++ as.map (·.id.original)).Nodup) :
    UniqueKeys (renamesOf c ss es as) := by
  unfold UniqueKeys
  have hsub : ((renamesOf c ss es as).map (·.1)).Sublist
      (ss.map (·.id.original) ++ es.map (·.id.original) ++ as.map (·.id.original)) := by
    unfold renamesOf
    simp only [List.map_append]
    exact ((filterMap_keys_sublist ss (·.id.serdeRename) (·.id.original) (·.id.renamed) c).append
      (filterMap_keys_sublist es (·.id.serdeRename) (·.id.original) (·.id.renamed) c)).append
      (filterMap_keys_sublist as (·.id.serdeRename) (·.id.original) (·.id.renamed) c)
  have hnd : ((renamesOf c ss es as).map (·.1)).Nodup := hsub.nodup h
  -- keys (orig, c) are injective images of orig
  have : (renamesOf c ss es as).map (fun e => (e.1, e.2.1)) =
      ((renamesOf c ss es as).map (·.1)).map fun o => (o, c) := by
    rw [List.map_map]
    apply List.map_congr_left
    intro e he
    simp [renamesOf_crate c ss es as e he]
  rw [this]
  exact List.Pairwise.map (fun o => (o, c)) (fun a b hab h => hab (by simpa using h)) hnd

theorem renamesOf_perm (c : Str) {ss ss' : List RustStruct} {es es' : List RustEnum}
    {as as' : List RustTypeAlias} (h1 : ss.Perm ss') (h2 : es.Perm es') (h3 : as.Perm as') :
    (renamesOf c ss es as).Perm (renamesOf c ss' es' as') := by
  unfold renamesOf
  exact ((h1.filterMap _).append (h2.filterMap _)).append (h3.filterMap _)

end TsV.C06
