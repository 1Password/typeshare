import TsV.Lemmas.Lang.Python
/-!
# C12, Python: every `typing` / `pydantic` / `enum` / `datetime` name, every `TypeVar` and every
custom (de)serialiser function the body uses is in the printer state that is written before the body
-/
namespace TsV.C12L.Python
open TsV TsV.Lang TsV.Lang.Python TsV.C12L

/-- a name the generated body relies on -/
inductive Need where
  /-- `from <module> import <ident>` -/
  | imp (module ident : Str)
  /-- `<name> = TypeVar("<name>")` -/
  | typeVar (name : Str)
  /-- the two helper functions `json_translation_for_type(<pyType>)` defines -/
  | fns (pyType : Str)
deriving DecidableEq, Repr

def hasImp (l : List (Str × List Str)) (m i : Str) : Prop := ∃ ids, (m, ids) ∈ l ∧ i ∈ ids

instance (l : List (Str × List Str)) (m i : Str) : Decidable (hasImp l m i) :=
  decidable_of_iff (∃ p ∈ l, p.1 = m ∧ i ∈ p.2) (by
    constructor
    · rintro ⟨⟨k, ids⟩, hp, rfl, hi⟩; exact ⟨ids, hp, hi⟩
    · rintro ⟨ids, hp, hi⟩; exact ⟨(m, ids), hp, rfl, hi⟩)

/-- **helpersProvided (Python)**: what `write_all_imports` and the custom-function loop of
`generate_types` write for the state `st` -/
def Provides (st : St) : Need → Prop
  | .imp m i => hasImp st.imports m i
  | .typeVar n => n ∈ st.typeVars
  | .fns t => t ∈ st.customJson

instance (st : St) (n : Need) : Decidable (Provides st n) := by
  cases n <;> unfold Provides <;> infer_instance

theorem hasImp_insert_self (m i : Str) : ∀ l : List (Str × List Str), hasImp (impInsert l m i) m i := by
  intro l
  induction l with
  | nil => exact ⟨[i], List.mem_singleton.2 rfl, List.mem_singleton.2 rfl⟩
  | cons p rest ih =>
    obtain ⟨k, v⟩ := p
    simp only [impInsert]
    split
    · rename_i h
      cases eq_of_beq h
      exact ⟨setInsert i v, List.mem_cons_self, mem_insertSorted_self i v⟩
    · split
      · exact ⟨[i], List.mem_cons_self, List.mem_singleton.2 rfl⟩
      · obtain ⟨ids, h1, h2⟩ := ih
        exact ⟨ids, List.mem_cons_of_mem _ h1, h2⟩

theorem hasImp_insert_of {m i m' i' : Str} : ∀ {l : List (Str × List Str)}, hasImp l m' i' →
    hasImp (impInsert l m i) m' i' := by
  intro l h
  obtain ⟨ids, h1, h2⟩ := h
  induction l with
  | nil => cases h1
  | cons p rest ih =>
    obtain ⟨k, v⟩ := p
    simp only [impInsert]
    split
    · rcases List.mem_cons.1 h1 with h1 | h1
      · cases h1
        exact ⟨setInsert i ids, List.mem_cons_self, mem_insertSorted_of_mem h2⟩
      · exact ⟨ids, List.mem_cons_of_mem _ h1, h2⟩
    · split
      · exact ⟨ids, List.mem_cons_of_mem _ h1, h2⟩
      · rcases List.mem_cons.1 h1 with h1 | h1
        · exact ⟨ids, h1 ▸ List.mem_cons_self, h2⟩
        · obtain ⟨ids', h3, h4⟩ := ih h1
          exact ⟨ids', List.mem_cons_of_mem _ h3, h4⟩

/-- the state only grows -/
def Mono (st st' : St) : Prop := ∀ n, Provides st n → Provides st' n

theorem Mono.refl (st : St) : Mono st st := fun _ h => h
theorem Mono.trans {a b c : St} (h1 : Mono a b) (h2 : Mono b c) : Mono a c := fun n h => h2 n (h1 n h)

theorem mono_addImport (st : St) (m i : Str) : Mono st (addImport st m i) := by
  intro n h
  cases n with
  | imp m' i' => exact hasImp_insert_of h
  | typeVar n => exact h
  | fns t => exact h

theorem provides_addImport (st : St) (m i : Str) : Provides (addImport st m i) (.imp m i) :=
  hasImp_insert_self m i st.imports

theorem mono_addCustom (st : St) (t : Str) : Mono st (addCustom st t) := by
  intro n h
  cases n with
  | imp m' i' => exact h
  | typeVar n => exact h
  | fns t' => exact mem_insertSorted_of_mem h

theorem provides_addCustom (st : St) (t : Str) : Provides (addCustom st t) (.fns t) :=
  mem_insertSorted_self t st.customJson

theorem mono_addTypeVar (st : St) (g : Str) : Mono st (addTypeVar st g) := by
  intro n h
  have h' := mono_addImport st kTyping s%"TypeVar" n h
  cases n with
  | imp m' i' => exact h'
  | typeVar n => exact mem_insertSorted_of_mem h'
  | fns t' => exact h'

theorem provides_addTypeVar (st : St) (g : Str) :
    Provides (addTypeVar st g) (.typeVar g) ∧ Provides (addTypeVar st g) (.imp kTyping s%"TypeVar") :=
  ⟨mem_insertSorted_self g _, provides_addImport st kTyping s%"TypeVar"⟩

theorem mono_foldl_addTypeVar : ∀ (gs : List Str) (st : St), Mono st (gs.foldl addTypeVar st) := by
  intro gs
  induction gs with
  | nil => exact Mono.refl
  | cons g gs ih => exact fun st => (mono_addTypeVar st g).trans (ih _)

theorem provides_foldl_addTypeVar : ∀ (gs : List Str) (st : St), ∀ g ∈ gs,
    Provides (gs.foldl addTypeVar st) (.typeVar g) ∧ Provides (gs.foldl addTypeVar st) (.imp kTyping s%"TypeVar") := by
  intro gs
  induction gs with
  | nil => exact fun _ _ hg => nomatch hg
  | cons x gs ih =>
    intro st g hg
    rw [List.foldl_cons]
    rcases List.mem_cons.1 hg with rfl | hg
    · have := provides_addTypeVar st g
      exact ⟨mono_foldl_addTypeVar gs _ _ this.1, mono_foldl_addTypeVar gs _ _ this.2⟩
    · exact ih _ g hg

theorem mono_addImports (st : St) (tp : Str) : Mono st (addImports st tp) := by
  unfold addImports
  split
  · exact mono_addImport _ _ _
  · split
    · exact mono_addImport _ _ _
    · exact Mono.refl st

def impList : Need := .imp kTyping s%"List"
def impOptional : Need := .imp kTyping s%"Optional"
def impDict : Need := .imp kTyping s%"Dict"
def impDatetime : Need := .imp s%"datetime" s%"datetime"

mutual
  /-- the names formatting `t` prints on typeshare's account.  Follows `formatType` arm by arm: a
  mapped simple / generic / special type is replaced wholesale by the user's string; an unmapped
  simple type that is a generic parameter of the enclosing item is a use of that `TypeVar`;
  `Vec`/slice/array print `List[`, `Option` prints `Optional[`, `HashMap` prints `Dict[`,
  `OffsetDateTime` prints `datetime`. -/
  def typeNeeds (cfg : Cfg) (gens : List Str) : RustType → List Need
    | .simple id => if (mapGet cfg.typeMappings id).isNone && gens.contains id then [.typeVar id] else []
    | .generic id ps => if (mapGet cfg.typeMappings id).isSome then [] else typeNeedsList cfg gens ps
    | t@(.vec r) => if (mapGet cfg.typeMappings t.display).isSome then [] else impList :: typeNeeds cfg gens r
    | t@(.slice r) => if (mapGet cfg.typeMappings t.display).isSome then [] else impList :: typeNeeds cfg gens r
    | t@(.array r _) => if (mapGet cfg.typeMappings t.display).isSome then [] else impList :: typeNeeds cfg gens r
    | t@(.option r) => if (mapGet cfg.typeMappings t.display).isSome then [] else impOptional :: typeNeeds cfg gens r
    | t@(.hashMap k v) =>
      if (mapGet cfg.typeMappings t.display).isSome then [] else impDict :: (typeNeeds cfg gens k ++ typeNeeds cfg gens v)
    | t@(.prim p) =>
      if (mapGet cfg.typeMappings t.display).isSome then [] else if p == .dateTime then [impDatetime] else []
  def typeNeedsList (cfg : Cfg) (gens : List Str) : List RustType → List Need
    | [] => []
    | t :: ts => typeNeeds cfg gens t ++ typeNeedsList cfg gens ts
end

/-- what a printer step guarantees for a list of needs: each is provided afterwards, except that a
use of a generic parameter is only as good as the enclosing item's `TypeVar` declarations -/
def Covered (gens : List Str) (st' : St) (needs : List Need) : Prop :=
  ∀ n ∈ needs, Provides st' n ∨ ∃ g ∈ gens, n = .typeVar g

theorem Covered.mono {gens : List Str} {st st' : St} {needs : List Need} (h : Covered gens st needs)
    (hm : Mono st st') : Covered gens st' needs := fun n hn => (h n hn).imp (hm n) id

theorem Covered.append {gens : List Str} {st : St} {a b : List Need} (ha : Covered gens st a)
    (hb : Covered gens st b) : Covered gens st (a ++ b) := fun n hn => by
  rcases List.mem_append.1 hn with h | h
  · exact ha n h
  · exact hb n h

theorem Covered.nil (gens : List Str) (st : St) : Covered gens st [] := fun n hn => by simp at hn

theorem Covered.cons {gens : List Str} {st : St} {a : Need} {b : List Need} (ha : Provides st a)
    (hb : Covered gens st b) : Covered gens st (a :: b) := fun n hn => by
  rcases List.mem_cons.1 hn with rfl | h
  · exact Or.inl ha
  · exact hb n h

/-- one printer step: the state grows and covers `needs` afterwards -/
def Spec (gens : List Str) (needs : List Need) (st st' : St) : Prop := Mono st st' ∧ Covered gens st' needs

theorem Spec.refl (gens : List Str) (st : St) : Spec gens [] st st := ⟨Mono.refl st, Covered.nil gens st⟩

theorem Spec.trans {gens : List Str} {a b : List Need} {st st1 st2 : St} (h1 : Spec gens a st st1)
    (h2 : Spec gens b st1 st2) : Spec gens (a ++ b) st st2 :=
  ⟨h1.1.trans h2.1, (h1.2.mono h2.1).append h2.2⟩

theorem Spec.mono {gens : List Str} {a : List Need} {st st1 st2 : St} (h1 : Spec gens a st st1)
    (h2 : Mono st1 st2) : Spec gens a st st2 := ⟨h1.1.trans h2, h1.2.mono h2⟩

theorem Spec.addImport (gens : List Str) (st : St) (m i : Str) : Spec gens [.imp m i] st (addImport st m i) :=
  ⟨mono_addImport st m i, Covered.cons (provides_addImport st m i) (Covered.nil _ _)⟩

/-- one printer step of an item: the state grows and provides `needs` afterwards -/
abbrev Sure : List Need → St → St → Prop := Gains Mono Provides

theorem Sure.refl (st : St) : Sure [] st st := Gains.refl Mono.refl st

theorem Sure.trans {a b : List Need} {st st1 st2 : St} (h1 : Sure a st st1) (h2 : Sure b st1 st2) :
    Sure (a ++ b) st st2 := Gains.trans (le := Mono) (P := Provides) Mono.trans (fun h hp => h _ hp) h1 h2

/-- a mapped special type prints the user's string and uses nothing -/
theorem special_spec (cfg : Cfg) (gens : List Str) (t : RustType) {needs : List Need} {k : St → Outcome (Str × St)}
    (hk : Along (Spec gens needs) k) :
    Along (Spec gens (if (mapGet cfg.typeMappings t.display).isSome then [] else needs))
      fun st => special cfg t st k := by
  intro st s st' h
  unfold special at h
  split at h
  · rename_i m hm
    cases h
    rw [hm, Option.isSome_some, if_pos rfl]
    refine ⟨?_, Covered.nil gens _⟩
    split
    · exact mono_addCustom st _
    · exact Mono.refl st
  · rename_i hm
    rw [hm, Option.isSome_none, if_neg Bool.false_ne_true]
    exact hk st s st' h

/-- the shape shared by the four one-argument containers: register the import, format the
component, bracket it -/
theorem wrap_spec {gens : List Str} {needs : List Need} {k : St → Outcome (Str × St)}
    (ih : Along (Spec gens needs) k) (m i pre post : Str) :
    Along (Spec gens (.imp m i :: needs)) fun st =>
      (k (addImport st m i)).bind fun (s, st) => .ok (pre ++ s ++ post, st) :=
  Along.bind (R₂ := Mono) (Along.comp (Spec.addImport gens · m i) ih Spec.trans)
    (fun _ => Along.ret Mono.refl _) Spec.mono

theorem dict_spec {cfg : Cfg} {gens : List Str} {k v : RustType} {nk nv : List Need}
    (hk : Along (Spec gens nk) (formatType cfg gens k)) (hv : Along (Spec gens nv) (formatType cfg gens v)) :
    Along (Spec gens (impDict :: (nk ++ nv))) fun st =>
      (formatType cfg gens k (addImport st kTyping s%"Dict")).bind fun (ks, st) =>
        (formatType cfg gens v st).bind fun (vs, st) => .ok (s%"Dict[" ++ ks ++ s%", " ++ vs ++ s%"]", st) :=
  Along.bind (Along.comp (Spec.addImport gens · kTyping s%"Dict") hk Spec.trans)
    (fun _ => Along.bind (R₂ := Mono) hv (fun _ => Along.ret Mono.refl _) Spec.mono) Spec.trans

/-- what holds of `formatType` on every element holds of `formatTypes` -/
theorem formatTypes_spec_of (cfg : Cfg) (gens : List Str) : ∀ ts : List RustType,
    (∀ t ∈ ts, Along (Spec gens (typeNeeds cfg gens t)) (formatType cfg gens t)) →
    Along (Spec gens (typeNeedsList cfg gens ts)) (formatTypes cfg gens ts) :=
  Along.listOn (R := Spec gens) (one := []) (mul := (· ++ ·)) (w := typeNeeds cfg gens) (Spec.refl gens) Spec.trans
    rfl (fun _ _ => rfl) (fun _ => rfl) (fun _ _ _ => rfl)

/-- formatting a type only adds to the printer state, and what it adds covers the names it prints -/
theorem formatType_spec (cfg : Cfg) (gens : List Str) (t : RustType) :
    Along (Spec gens (typeNeeds cfg gens t)) (formatType cfg gens t) := by
  induction t using rustType_induct with
  | simple id =>
    intro st s st' h
    cases h
    refine ⟨mono_addImports st id, fun n hn => ?_⟩
    rw [typeNeeds] at hn
    split at hn
    · rename_i hc
      rw [Bool.and_eq_true, List.contains_iff_mem] at hc
      exact Or.inr ⟨id, hc.2, List.mem_singleton.1 hn⟩
    · cases hn
  | generic id ps ih =>
    intro st s st' h
    rw [formatType] at h
    rw [typeNeeds]
    split at h
    · rename_i m hm
      cases h
      rw [hm, Option.isSome_some, if_pos rfl]
      exact ⟨mono_addImports st id, Covered.nil gens _⟩
    · rename_i hm
      rw [hm, Option.isSome_none, if_neg Bool.false_ne_true]
      split at h
      · rename_i strs st1 hps
        cases h
        exact (Spec.mono ⟨mono_addImports st id, Covered.nil gens _⟩ (Mono.refl _)).trans
          ((formatTypes_spec_of cfg gens ps ih _ strs st1 hps).mono (mono_addImports st1 id))
      · cases h
      · cases h
  | vec r ih | slice r ih | array r n ih =>
    exact special_spec cfg gens _ (wrap_spec ih kTyping s%"List" s%"List[" s%"]")
  | option r ih => exact special_spec cfg gens _ (wrap_spec ih kTyping s%"Optional" s%"Optional[" s%"]")
  | hashMap k v ihk ihv =>
    refine special_spec cfg gens _ ?_
    split
    · split
      · exact Along.err _
      · exact dict_spec ihk ihv
    · exact dict_spec ihk ihv
  | prim p =>
    refine special_spec cfg gens _ ?_
    cases p <;> first
      | exact Along.ret (Spec.refl gens) _
      | exact Along.ret (Spec.addImport gens · s%"datetime" s%"datetime") _

theorem formatTypes_spec (cfg : Cfg) (gens : List Str) : ∀ (ts : List RustType) (st : St) (ss : List Str) (st' : St),
    formatTypes cfg gens ts st = .ok (ss, st') → Mono st st' ∧ Covered gens st' (typeNeedsList cfg gens ts) :=
  fun ts => formatTypes_spec_of cfg gens ts fun t _ => formatType_spec cfg gens t

/-! ### the printer state changes by `addImport`, `addImports` and `addCustom` only -/

section along
variable {R : St → St → Prop} (refl : ∀ st, R st st) (trans : ∀ {a b c}, R a b → R b c → R a c)
  (imp : ∀ st, ∀ p ∈ imports, R st (addImport st p.1 p.2)) (imps : ∀ st t, R st (addImports st t))
  (cust : ∀ st t, R st (addCustom st t))
include refl trans imp imps cust

theorem formatTypes_along (cfg : Cfg) (gens : List Str) (ts : List RustType) : Along R (formatTypes cfg gens ts) :=
  (formatTypes_writes (G := fun _ => False) cfg gens ts).along refl trans imp imps cust fun _ _ h => h.elim

/-- whatever reflexive, transitive relation the three state updates respect, formatting a type
respects -/
theorem formatType_along (cfg : Cfg) (gens : List Str) (t : RustType) : Along R (formatType cfg gens t) :=
  (formatType_writes (G := fun _ => False) cfg gens t).along refl trans imp imps cust fun _ _ h => h.elim

end along

/-! ### the printed type string does not depend on the printer state -/

theorem formatType_indep (cfg : Cfg) (gens : List Str) (t : RustType) : Indep (formatType cfg gens t) :=
  (formatType_writes (G := fun _ => False) cfg gens t).indep

theorem formatTypes_indep (cfg : Cfg) (gens : List Str) : ∀ (ts : List RustType) (st : St) (ss : List Str)
    (st' : St), formatTypes cfg gens ts st = .ok (ss, st') →
    ∀ st2, ∃ st2', formatTypes cfg gens ts st2 = .ok (ss, st2') :=
  fun ts => (formatTypes_writes (G := fun _ => False) cfg gens ts).indep

/-- the Python type string `format_type` prints for `t` (state-independent by `formatType_indep`) -/
def pyTy (cfg : Cfg) (gens : List Str) (t : RustType) : Option Str :=
  match formatType cfg gens t {} with
  | .ok (s, _) => some s
  | _ => none

theorem pyTy_eq (cfg : Cfg) (gens : List Str) (t : RustType) (st : St) (s : Str) (st' : St)
    (h : formatType cfg gens t st = .ok (s, st')) : pyTy cfg gens t = some s := by
  obtain ⟨st2, h2⟩ := formatType_indep cfg gens t st s st' h {}
  simp [pyTy, h2]

def impField : Need := .imp kPydantic s%"Field"
def impAnnotated : Need := .imp kTyping s%"Annotated"
def impBefore : Need := .imp kPydantic s%"BeforeValidator"
def impPlain : Need := .imp kPydantic s%"PlainSerializer"
def impBaseModel : Need := .imp kPydantic s%"BaseModel"
def impConfigDict : Need := .imp kPydantic s%"ConfigDict"
def impGeneric : Need := .imp kTyping s%"Generic"
def impTypeVar : Need := .imp kTyping s%"TypeVar"
def impEnum : Need := .imp s%"enum" s%"Enum"
def impLiteral : Need := .imp kTyping s%"Literal"
def impUnion : Need := .imp kTyping s%"Union"

theorem Sure.addImport (st : St) (m i : Str) : Sure [.imp m i] st (addImport st m i) :=
  ⟨mono_addImport st m i, fun _ hn => List.mem_singleton.1 hn ▸ provides_addImport st m i⟩

theorem Sure.ite {c : Prop} [Decidable c] {a b : List Need} {st s1 s2 : St} (ha : Sure a st s1) (hb : Sure b st s2) :
    Sure (if c then a else b) st (if c then s1 else s2) := by split <;> assumption

/-- registering the generic parameters of an item declares each and, if there is one, imports `TypeVar` -/
theorem Sure.addTypeVars (gs : List Str) (st : St) :
    Sure (gs.map .typeVar ++ if gs.isEmpty then [] else [impTypeVar]) st (gs.foldl addTypeVar st) := by
  refine ⟨mono_foldl_addTypeVar gs st, fun n hn => ?_⟩
  rcases List.mem_append.1 hn with hn | hn
  · obtain ⟨g, hg, rfl⟩ := List.mem_map.1 hn
    exact (provides_foldl_addTypeVar gs st g hg).1
  · cases gs with
    | nil => cases hn
    | cons g gs => cases List.mem_singleton.1 hn; exact (provides_foldl_addTypeVar _ st g List.mem_cons_self).2

/-- what a step covers it provides, once the generic parameters of the item are declared -/
theorem Spec.sure {gens : List Str} {needs : List Need} {st st1 st2 : St} (h : Spec gens needs st st1)
    (hm : Mono st1 st2) (hg : ∀ g ∈ gens, Provides st2 (.typeVar g)) : Sure needs st st2 :=
  ⟨h.1.trans hm, fun n hn => (h.2 n hn).elim (hm n) fun ⟨g, hg', e⟩ => e ▸ hg g hg'⟩

/-- the python type of the field when it has a custom JSON translation (`bytes`, `datetime`) -/
def customTy (cfg : Cfg) (gens : List Str) (f : RustField) : Option Str :=
  match pyTy cfg gens f.ty with
  | some t => if (jsonTranslation t).isSome then some t else none
  | none => none

/-- `not_optional_but_default` -/
def nod (f : RustField) : Bool := !f.ty.isOptional && f.hasDefault

/-- the names one field line uses: its type's names, the `Optional[` wrapped around a defaulted
non-`Option`, `Field(` when there is an alias or a default, and for a custom-translated type
`Annotated[.., BeforeValidator(..), PlainSerializer(..)]` and the two translation functions named
there.  (`write_field` registers the unwrapped type for function generation whether or not the
field is defaulted: `fix:` commit 0d6268d.) -/
def fieldSafe (E : Ext) (cfg : Cfg) (gens : List Str) (f : RustField) : List Need :=
  typeNeeds cfg gens f.ty ++
  (if nod f then [impOptional] else []) ++
  (if propertyAwareRename E f.id.original != f.id.renamed || (f.ty.isOptional || f.hasDefault) then [impField] else []) ++
  (match customTy cfg gens f with
   | some t => [impAnnotated, impBefore, impPlain, .fns t]
   | none => [])

theorem Covered.ite {gens : List Str} {st : St} {c : Bool} {x : Need} (h : c = true → Provides st x) :
    Covered gens st (if c = true then [x] else []) := by
  cases c with
  | true => exact Covered.cons (h rfl) (Covered.nil _ _)
  | false => exact Covered.nil _ _

/-- `add_common_imports`: three conditional registrations, one after the other -/
theorem addCommonImports_sure (st : St) (a b c : Bool) :
    Sure ((if a = true then [impOptional] else []) ++ ((if b = true then [impBefore, impPlain, impAnnotated] else []) ++
      if (c || a) = true then [impField] else [])) st (addCommonImports st a b c) :=
  (Sure.ite (Sure.addImport _ _ _) (Sure.refl _)).trans
    ((Sure.ite ((Sure.addImport _ _ _).trans ((Sure.addImport _ _ _).trans (Sure.addImport _ _ _))) (Sure.refl _)).trans
      (Sure.ite (Sure.addImport _ _ _) (Sure.refl _)))

theorem fieldFacts_spec (E : Ext) (cfg : Cfg) (gens : List Str) (f : RustField) (st : St) (pf : PyField) (st' : St)
    (h : fieldFacts E cfg gens f st = .ok (pf, st')) :
    Mono st st' ∧ Covered gens st' (fieldSafe E cfg gens f) := by
  obtain ⟨⟨pt, st1⟩, h1, h2⟩ := Outcome.of_bind_ok h
  have hs := formatType_spec cfg gens f.ty st pt st1 h1
  have hpt := pyTy_eq cfg gens f.ty st pt st1 h1
  have hA := addCommonImports_sure st1 (f.ty.isOptional || f.hasDefault) (jsonTranslation pt).isSome
    (propertyAwareRename E f.id.original != f.id.renamed)
  simp only at h2
  generalize addCommonImports st1 (f.ty.isOptional || f.hasDefault) (jsonTranslation pt).isSome
    (propertyAwareRename E f.id.original != f.id.renamed) = st2 at h2 hA
  -- what the three conditional imports give a field line, in any later state
  have common : ∀ st3, Mono st2 st3 →
      Covered gens st3 (typeNeeds cfg gens f.ty ++ (if nod f = true then [impOptional] else []) ++
        (if (propertyAwareRename E f.id.original != f.id.renamed || (f.ty.isOptional || f.hasDefault)) = true
          then [impField] else [])) := fun st3 m23 =>
    (((hs.2.mono hA.1).mono m23).append (Covered.ite fun hn => m23 _ (hA.2 _ (List.mem_append_left _ (by
      simp only [nod, Bool.and_eq_true] at hn
      rw [if_pos (by rw [hn.2]; exact Bool.or_true _)]; exact List.mem_cons_self))))).append
      (Covered.ite fun hn => m23 _ (hA.2 _ (List.mem_append_right _ (List.mem_append_right _ (by
        rw [if_pos hn]; exact List.mem_cons_self)))))
  cases hj : jsonTranslation pt with
  | none =>
    rw [hj] at h2
    obtain ⟨_, rfl⟩ := Outcome.ok_pair_inj h2
    have hct : customTy cfg gens f = none := by simp [customTy, hpt, hj]
    simp only [fieldSafe, hct, List.append_nil]
    exact ⟨hs.1.trans hA.1, common _ (Mono.refl _)⟩
  | some c =>
    rw [hj] at h2 hA
    obtain ⟨_, rfl⟩ := Outcome.ok_pair_inj h2
    have mC := mono_addCustom st2 pt
    have hct : customTy cfg gens f = some pt := by simp [customTy, hpt, hj]
    simp only [fieldSafe, hct]
    refine ⟨(hs.1.trans hA.1).trans mC, (common _ mC).append ?_⟩
    have hB : ∀ n ∈ [impBefore, impPlain, impAnnotated], Provides (addCustom st2 pt) n := fun n hn =>
      mC _ (hA.2 n (List.mem_append_right _ (List.mem_append_left _ hn)))
    exact Covered.cons (hB _ (List.mem_cons_of_mem _ (List.mem_cons_of_mem _ List.mem_cons_self)))
      (Covered.cons (hB _ List.mem_cons_self) (Covered.cons (hB _ (List.mem_cons_of_mem _ List.mem_cons_self))
        (Covered.cons (provides_addCustom st2 pt) (Covered.nil _ _))))
theorem fieldsFacts_spec (E : Ext) (cfg : Cfg) (gens : List Str) : ∀ (fs : List RustField) (st : St) r (st' : St),
    fieldsFacts E cfg gens fs st = .ok (r, st') →
    Mono st st' ∧ Covered gens st' (fs.flatMap (fieldSafe E cfg gens)) :=
  Along.list (R := Spec gens) (Spec.refl gens) Spec.trans rfl (fun _ _ => List.flatMap_cons)
    (fun _ => rfl) (fun _ _ _ => rfl) (fieldFacts_spec E cfg gens)

def visiblyRenamed (E : Ext) (rs : RustStruct) : Bool :=
  rs.fields.any fun f => propertyAwareRename E f.id.original != f.id.renamed

/-- the names a pydantic model class uses: `BaseModel`; `Generic[..]`, the `TypeVar`s and the name
`TypeVar` of their declarations; `ConfigDict`; and what its field lines use -/
def structSafe (E : Ext) (cfg : Cfg) (rs : RustStruct) : List Need :=
  impBaseModel :: (rs.genericTypes.map Need.typeVar ++
  (if rs.genericTypes.isEmpty then [] else [impGeneric, impTypeVar]) ++
  (if visiblyRenamed E rs then [impConfigDict] else []) ++
  rs.fields.flatMap (fieldSafe E cfg rs.genericTypes))

theorem typeVar_mem_structSafe (E : Ext) (cfg : Cfg) (rs : RustStruct) {g : Str} (hg : g ∈ rs.genericTypes) :
    Need.typeVar g ∈ structSafe E cfg rs :=
  List.mem_cons_of_mem _ (List.mem_append_left _ (List.mem_append_left _ (List.mem_append_left _
    (List.mem_map_of_mem hg))))

/-- a generic struct uses `Generic` and `TypeVar` -/
theorem generic_mem_structSafe (E : Ext) (cfg : Cfg) (rs : RustStruct) (h : rs.genericTypes ≠ []) :
    impGeneric ∈ structSafe E cfg rs ∧ impTypeVar ∈ structSafe E cfg rs := by
  have hne : rs.genericTypes.isEmpty = false := by
    cases hg : rs.genericTypes with
    | nil => exact absurd hg h
    | cons _ _ => rfl
  have : [impGeneric, impTypeVar] = if rs.genericTypes.isEmpty then [] else [impGeneric, impTypeVar] := by
    rw [hne, if_neg Bool.false_ne_true]
  unfold structSafe
  rw [← this]
  exact ⟨List.mem_cons_of_mem _ (List.mem_append_left _ (List.mem_append_left _ (List.mem_append_right _
      List.mem_cons_self))),
    List.mem_cons_of_mem _ (List.mem_append_left _ (List.mem_append_left _ (List.mem_append_right _
      (List.mem_cons_of_mem _ List.mem_cons_self))))⟩

theorem field_mem_structSafe (E : Ext) (cfg : Cfg) (rs : RustStruct) {f : RustField} {n : Need}
    (hf : f ∈ rs.fields) (hn : n ∈ fieldSafe E cfg rs.genericTypes f) : n ∈ structSafe E cfg rs :=
  List.mem_cons_of_mem _ (List.mem_append_right _ (List.mem_flatMap.2 ⟨f, hf, hn⟩))

theorem structFacts_spec (E : Ext) (cfg : Cfg) (rs : RustStruct) (st : St) (c : PyClass) (st' : St)
    (h : structFacts E cfg rs st = .ok (c, st')) :
    Mono st st' ∧ ∀ n ∈ structSafe E cfg rs, Provides st' n := by
  obtain ⟨⟨fields, st4⟩, h1, h2⟩ := Outcome.of_bind_ok h
  obtain ⟨_, rfl⟩ := Outcome.ok_pair_inj h2
  have hf := fieldsFacts_spec E cfg rs.genericTypes rs.fields _ fields st4 h1
  have hpre := (Sure.addImport st kPydantic s%"BaseModel").trans ((Sure.addTypeVars rs.genericTypes _).trans
    ((Sure.ite (c := rs.genericTypes.isEmpty = true) (Sure.refl _) (Sure.addImport _ kTyping s%"Generic")).trans
      (Sure.ite (c := visiblyRenamed E rs = true) (Sure.addImport _ kPydantic s%"ConfigDict") (Sure.refl _))))
  have hall := hpre.trans (Spec.sure hf (Mono.refl _) fun g hg => hf.1 _ (hpre.2 _
    (List.mem_append_right _ (List.mem_append_left _ (List.mem_append_left _ (List.mem_map_of_mem hg))))))
  refine ⟨hall.1, fun n hn => hall.2 n ?_⟩
  -- `structSafe` lists the same names, with `Generic` and `TypeVar` side by side
  simp only [structSafe, List.mem_cons, List.mem_append, List.cons_append, List.nil_append] at hn ⊢
  rcases hn with rfl | ((hn | hn) | hn) | hn
  · exact .inl rfl
  · exact .inr (.inl (.inl (.inl hn)))
  · by_cases he : rs.genericTypes.isEmpty = true
    · rw [if_pos he] at hn; cases hn
    · simp only [if_neg he] at hn ⊢
      rcases List.mem_cons.1 hn with rfl | hn
      · exact .inr (.inl (.inr (.inl List.mem_cons_self)))
      · exact .inr (.inl (.inl (.inr hn)))
  · exact .inr (.inl (.inr (.inr hn)))
  · exact .inr (.inr hn)

/-- the classes generated for the struct variants -/
def innerSafe (E : Ext) (cfg : Cfg) (e : RustEnum) (l : List (Id × List RustField)) : List Need :=
  l.flatMap fun p => structSafe E cfg (anonymousStruct e (innerName e p.1.original) p.1.original p.2)

theorem innerFacts_spec (E : Ext) (cfg : Cfg) (e : RustEnum) : ∀ (l : List (Id × List RustField)) (st : St) r (st' : St),
    innerFacts E cfg e l st = .ok (r, st') → Mono st st' ∧ ∀ n ∈ innerSafe E cfg e l, Provides st' n :=
  Along.list (R := Sure) Sure.refl Sure.trans rfl (fun _ _ => List.flatMap_cons)
    (fun _ => rfl) (fun _ _ _ => rfl) fun _ st c st' h => structFacts_spec E cfg _ st c st' h

/-- one variant class: `Literal[..]`, and the names of a tuple payload's type -/
def variantSafe (cfg : Cfg) (e : RustEnum) (v : RustEnumVariant) : List Need :=
  impLiteral :: (match v with
    | .tuple _ _ ty => typeNeeds cfg e.genericTypes ty
    | _ => [])

theorem variantFacts_spec (E : Ext) (cfg : Cfg) (e : RustEnum) (tag content : Str) (v : RustEnumVariant) (st : St)
    (pv : PyVariant) (st' : St) (h : variantFacts E cfg e tag content v st = .ok (pv, st')) :
    Mono st st' ∧ Covered e.genericTypes st' (variantSafe cfg e v) := by
  cases v with
  | unit i c | anonymousStruct i c fs => cases h; exact Spec.addImport _ st _ _
  | tuple i c ty =>
    obtain ⟨⟨t, st3⟩, h4, h5⟩ := Outcome.of_bind_ok h
    cases h5
    obtain ⟨hm, hc⟩ := formatType_spec cfg e.genericTypes ty st t _ h4
    exact ⟨hm.trans (mono_addImport _ _ _),
      Covered.cons (provides_addImport _ _ _) (hc.mono (mono_addImport _ _ _))⟩

theorem variantsFacts_length (E : Ext) (cfg : Cfg) (e : RustEnum) (tag content : Str) :
    ∀ (vs : List RustEnumVariant) (st : St) r (st' : St),
    variantsFacts E cfg e tag content vs st = .ok (r, st') → r.length = vs.length :=
  fun _ _ _ _ h => Outcome.thread_ok_rec (P := fun vs r => r.length = vs.length) h (fun _ => rfl) (fun _ _ _ => rfl)
    rfl fun _ _ _ _ _ _ _ ih => congrArg (· + 1) ih

theorem variantsFacts_spec (E : Ext) (cfg : Cfg) (e : RustEnum) (tag content : Str)
    (vs : List RustEnumVariant) (st : St) r (st' : St)
    (h : variantsFacts E cfg e tag content vs st = .ok (r, st')) :
    Mono st st' ∧ Covered e.genericTypes st' (vs.flatMap (variantSafe cfg e)) ∧ r.length = vs.length :=
  have h1 : Spec e.genericTypes (vs.flatMap (variantSafe cfg e)) st st' :=
    Along.list (R := Spec e.genericTypes) (Spec.refl _) Spec.trans rfl (fun _ _ => List.flatMap_cons)
      (fun _ => rfl) (fun _ _ _ => rfl) (variantFacts_spec E cfg e tag content) vs st r st' h
  ⟨h1.1, h1.2, variantsFacts_length E cfg e tag content vs st r st' h⟩

/-- the names the text generated for an enum uses -/
def enumSafe (E : Ext) (cfg : Cfg) (e : RustEnum) : List Need :=
  innerSafe E cfg e (structVariants e) ++
  (match e.keys with
   | none => [impEnum]
   | some _ =>
     impBaseModel :: impEnum :: ((if e.genericTypes.isEmpty then [] else [impTypeVar]) ++
     e.variants.flatMap (variantSafe cfg e) ++
     (if e.variants.length == 1 then [] else [impUnion])))

theorem writeEnum_spec (E : Ext) (cfg : Cfg) (e : RustEnum) (st : St) (text : Str) (st' : St)
    (h : writeEnum E cfg e st = .ok (text, st')) : Mono st st' ∧ ∀ n ∈ enumSafe E cfg e, Provides st' n := by
  unfold writeEnum at h
  unfold enumSafe
  cases hk : e.keys with
  | none =>
    rw [hk] at h
    obtain ⟨⟨inner, st1⟩, h1, h2⟩ := Outcome.of_bind_ok h
    obtain ⟨ms, _, h3⟩ := Outcome.of_bind_ok h2
    obtain ⟨_, rfl⟩ := Outcome.ok_pair_inj h3
    have hi : Sure _ st st1 := innerFacts_spec E cfg e _ st inner st1 h1
    exact hi.trans (Sure.addImport st1 s%"enum" s%"Enum")
  | some k =>
    rw [hk] at h
    obtain ⟨⟨u, st5⟩, h0, h4⟩ := Outcome.of_bind_ok h
    obtain ⟨⟨inner, st1⟩, h1, h0⟩ := Outcome.of_bind_ok h0
    obtain ⟨⟨vs, st4⟩, h2, h3⟩ := Outcome.of_bind_ok h0
    obtain ⟨_, rfl⟩ := Outcome.ok_pair_inj h4
    obtain ⟨_, rfl⟩ := Outcome.ok_pair_inj h3
    have hi : Sure _ st st1 := innerFacts_spec E cfg e _ st inner st1 h1
    obtain ⟨hv1, hv2, hlen⟩ := variantsFacts_spec E cfg e _ _ e.variants _ vs st4 h2
    have hpre := hi.trans ((Sure.addTypeVars e.genericTypes st1).trans
      ((Sure.addImport _ kPydantic s%"BaseModel").trans (Sure.addImport _ s%"enum" s%"Enum")))
    have hu : Sure (if (e.variants.length == 1) = true then [] else [impUnion]) st4
        (if (vs.length == 1) = true then st4 else addImport st4 kTyping s%"Union") := by
      rw [← hlen]; exact Sure.ite (Sure.refl _) (Sure.addImport _ _ _)
    have hall := (hpre.trans (Spec.sure ⟨hv1, hv2⟩ (Mono.refl _) fun g hg => hv1 _ (hpre.2 _
      (List.mem_append_right _ (List.mem_append_left _ (List.mem_append_left _ (List.mem_map_of_mem hg))))))).trans hu
    refine ⟨hall.1, fun n hn => hall.2 n ?_⟩
    simp only [List.mem_cons, List.mem_append, List.cons_append, List.nil_append, List.not_mem_nil, or_false] at hn ⊢
    rcases hn with hn | rfl | rfl | (hn | hn) | hn
    · exact .inl (.inl (.inl hn))
    · exact .inl (.inl (.inr (.inr (.inl rfl))))
    · exact .inl (.inl (.inr (.inr (.inr rfl))))
    · exact .inl (.inl (.inr (.inl (.inr hn))))
    · exact .inl (.inr hn)
    · exact .inr hn

/-- the names an item's text uses and the printer accounts for.  A type alias (since the `fix:`
commit f8d1040: `G = List[T]`, every generic parameter registered with `add_type_var`): the
`TypeVar`s of its parameters and the name `TypeVar` of their declarations, and what its type uses —
uses of a generic parameter included -/
def itemSafe (E : Ext) (cfg : Cfg) : RustItem → List Need
  | .struct s => structSafe E cfg s
  | .enum e => enumSafe E cfg e
  | .alias a => a.genericTypes.map Need.typeVar ++ (if a.genericTypes.isEmpty then [] else [impTypeVar]) ++
      typeNeeds cfg a.genericTypes a.ty
  | .const c => typeNeeds cfg [] c.ty

theorem writeItem_spec (E : Ext) (cfg : Cfg) (it : RustItem) (st : St) (text : Str) (st' : St)
    (h : writeItem E cfg it st = .ok (text, st')) : Mono st st' ∧ ∀ n ∈ itemSafe E cfg it, Provides st' n := by
  cases it with
  | struct rs =>
    obtain ⟨⟨c, st1⟩, h1, h2⟩ := Outcome.of_bind_ok h
    obtain ⟨_, rfl⟩ := Outcome.ok_pair_inj h2
    exact structFacts_spec E cfg rs st c st1 h1
  | «enum» e => exact writeEnum_spec E cfg e st text st' h
  | alias a =>
    obtain ⟨⟨pa, st1⟩, h0, h3⟩ := Outcome.of_bind_ok h
    obtain ⟨⟨ty, st2⟩, h1, h2⟩ := Outcome.of_bind_ok h0
    obtain ⟨_, rfl⟩ := Outcome.ok_pair_inj h3
    obtain ⟨_, rfl⟩ := Outcome.ok_pair_inj h2
    have hs := formatType_spec cfg a.genericTypes a.ty st ty st2 h1
    have ht := Sure.addTypeVars a.genericTypes st2
    refine ⟨hs.1.trans ht.1, fun n hn => ?_⟩
    rcases List.mem_append.1 hn with hn | hn
    · exact ht.2 n hn
    · exact (Spec.sure hs ht.1 fun g hg => ht.2 _ (List.mem_append_left _ (List.mem_map_of_mem hg))).2 n hn
  | const c =>
    obtain ⟨⟨pc, st1⟩, h0, h3⟩ := Outcome.of_bind_ok h
    obtain ⟨⟨ty, st2⟩, h1, h2⟩ := Outcome.of_bind_ok h0
    obtain ⟨_, rfl⟩ := Outcome.ok_pair_inj h3
    obtain ⟨_, rfl⟩ := Outcome.ok_pair_inj h2
    obtain ⟨hm, hc⟩ := formatType_spec cfg [] c.ty st ty st2 h1
    refine ⟨hm, ?_⟩
    intro n hn
    rcases hc n hn with h | ⟨g, hg, _⟩
    · exact h
    · simp at hg

theorem writeItems_spec (E : Ext) (cfg : Cfg) : ∀ (its : List RustItem) (st : St) (text : Str) (st' : St),
    writeItems E cfg its st = .ok (text, st') →
    Mono st st' ∧ ∀ n ∈ its.flatMap (itemSafe E cfg), Provides st' n :=
  Along.list (R := Sure) Sure.refl Sure.trans rfl (fun _ _ => List.flatMap_cons)
    (fun _ => rfl) (fun _ _ _ => rfl) (writeItem_spec E cfg)

/-- **helpersUsed (Python)**, the names the item texts use -/
def safe (E : Ext) (cfg : Cfg) (d : ParsedData) : List Need := (itemsOf d).flatMap (itemSafe E cfg)

/-- **helpersUsed (Python)**, the name `datetime` inside the text of `serialize_datetime_data` /
`parse_rfc3339`, which are written whenever `datetime` is registered for custom translation
(whatever Rust type was mapped to it) -/
def fnsNeeds (st : St) : List Need := if s%"datetime" ∈ st.customJson then [impDatetime] else []

/-- everything the generated text uses on typeshare's account -/
def used (E : Ext) (cfg : Cfg) (d : ParsedData) (st : St) : List Need := safe E cfg d ++ fnsNeeds st

theorem mono_addDatetimeImport (st : St) : Mono st (addDatetimeImport st) := by
  unfold addDatetimeImport
  split
  · exact mono_addImport _ _ _
  · exact Mono.refl st

theorem addDatetimeImport_customJson (st : St) : (addDatetimeImport st).customJson = st.customJson := by
  unfold addDatetimeImport
  split <;> rfl

/-- the import `generate_types` adds before the header is written (`fix:` commit bfc37c3) provides
the `datetime` the translation functions mention -/
theorem addDatetimeImport_provides (st : St) : ∀ n ∈ fnsNeeds (addDatetimeImport st), Provides (addDatetimeImport st) n := by
  intro n hn
  unfold fnsNeeds at hn
  rw [addDatetimeImport_customJson] at hn
  split at hn
  · rename_i hd
    simp only [List.mem_singleton] at hn
    subst hn
    have hc : st.customJson.contains s%"datetime" = true := List.contains_iff_mem.2 hd
    simp only [addDatetimeImport, hc, if_true]
    exact provides_addImport _ _ _
  · simp at hn

theorem generate_spec (E : Ext) (cfg : Cfg) (d : ParsedData) (st0 : St) (text : Str) (st : St)
    (h : generate E cfg d st0 = .ok (text, st)) :
    Mono st0 st ∧ (∀ n ∈ used E cfg d st, Provides st n) ∧
    ∃ body, text = beginFile cfg ++ writeAllImports st ++ writeCustomFns st ++ body := by
  obtain ⟨items, body, st1, ho, h1, rfl, rfl⟩ := generate_ok h
  obtain ⟨hm, hp⟩ := writeItems_spec E cfg items st0 body st1 h1
  refine ⟨hm.trans (mono_addDatetimeImport st1), ?_, body, rfl⟩
  intro n hn
  rcases List.mem_append.1 hn with hn | hn
  · apply mono_addDatetimeImport
    apply hp
    simp only [safe, List.mem_flatMap] at hn ⊢
    obtain ⟨it, hit, h⟩ := hn
    exact ⟨it, (generateOrder_perm d items ho).symm.subset hit, h⟩
  · exact addDatetimeImport_provides st1 n hn

/-- the functions for a registered type are in the text written before the body -/
theorem writeCustomFns_defines (st : St) (t : Str) (c : CustomFns) (ht : t ∈ st.customJson)
    (hc : jsonTranslation t = some c) :
    c.serializationContent <:+: writeCustomFns st ∧ c.deserializationContent <:+: writeCustomFns st := by
  unfold writeCustomFns
  have hm : c ∈ st.customJson.filterMap jsonTranslation := List.mem_filterMap.2 ⟨t, ht, hc⟩
  obtain ⟨l1, l2, hl⟩ := List.append_of_mem hm
  rw [hl]
  simp only [List.flatMap_append, List.flatMap_cons]
  generalize (l1.flatMap fun c => c.serializationContent ++ s%"\n\n" ++ c.deserializationContent ++ nl ++ nl) = pre
  generalize (l2.flatMap fun c => c.serializationContent ++ s%"\n\n" ++ c.deserializationContent ++ nl ++ nl) = post
  constructor
  · exact ⟨pre, s%"\n\n" ++ c.deserializationContent ++ nl ++ nl ++ post, by simp only [List.append_assoc]⟩
  · exact ⟨pre ++ (c.serializationContent ++ s%"\n\n"), nl ++ nl ++ post, by simp only [List.append_assoc]⟩

/-! ### what `write_all_imports` writes for the state -/

theorem mem_infix_intercalate (sep : Str) (l : List Str) (x : Str) (hx : x ∈ l) : x <:+: Str.intercalate sep l :=
  infix_intercalate sep l ⟨x, hx, List.infix_refl x⟩

/-- an import of the state is a `from <module> import …<ident>…` line of the header -/
theorem writeAllImports_import (st : St) (m i : Str) (h : Provides st (.imp m i)) :
    ∃ ids, i ∈ ids ∧ (s%"from " ++ m ++ s%" import " ++ Str.intercalate s%", " ids) <:+: writeAllImports st := by
  obtain ⟨ids, hmem, hi⟩ := h
  refine ⟨ids, hi, ?_⟩
  unfold writeAllImports
  refine List.IsInfix.trans (infix_mid _ _ (mem_infix_intercalate nl _ _ ?_)) (List.prefix_append _ _).isInfix
  exact (List.mergeSort_perm _ _).symm.subset (List.mem_map.2 ⟨(m, ids), hmem, rfl⟩)

/-- a type variable of the state is declared in the header -/
theorem writeAllImports_typeVar (st : St) (n : Str) (h : Provides st (.typeVar n)) :
    (n ++ s%" = TypeVar(\"" ++ n ++ s%"\")") <:+: writeAllImports st := by
  have h' : n ∈ st.typeVars := h
  unfold writeAllImports
  dsimp only
  split
  · rename_i he
    rw [List.isEmpty_iff, List.map_eq_nil_iff] at he
    rw [he] at h'; cases h'
  · refine List.IsInfix.trans (mem_infix_intercalate nl _ _ ?_) (List.infix_append' _ _ _)
    exact List.mem_map.2 ⟨n, h', rfl⟩

end TsV.C12L.Python
