import TsV.Lemmas.C12_Swift
import TsV.Lemmas.Lang.Swift
/-!
# C20, Swift's file-only settings — lemmas

`default_generic_constraints`, `default_decorators` and `codablevoid_constraints` exist only in
`typeshare.toml`.  This file follows them through `Swift::generic_constraints`,
`get_default_decorators` / `determine_decorators` and `get_codable_contents` in the model.
-/
namespace TsV.C20S
open TsV TsV.Lang TsV.Lang.Swift TsV.Outcome

/-! ## `BTreeSet` membership -/

theorem mem_foldl_insert (x : Str) : ∀ (l acc : List Str),
    x ∈ l.foldl (fun acc y => Parser.insertSorted Str.lt y acc) acc ↔ x ∈ acc ∨ x ∈ l := by
  intro l
  induction l with
  | nil => intro acc; simp
  | cons y l ih =>
    intro acc
    rw [List.foldl_cons, ih, Order.mem_insertSorted_iff, List.mem_cons]
    exact or_assoc.trans or_left_comm

theorem mem_toSet (x : Str) (l : List Str) : x ∈ Parser.toSet Str.lt l ↔ x ∈ l := by
  unfold Parser.toSet
  rw [mem_foldl_insert]
  simp

/-! ## the configured constraints -/

/-- the constraints the configuration asks for: every entry of `default_generic_constraints`, split at
`&` and trimmed (`GenericConstraints::from_config`) -/
def configured (U : UnicodeOps) (cfg : Cfg) : List Str := cfg.defaultGenericConstraints.flatMap (splitConstraints U)

theorem mem_defaultConstraints (U : UnicodeOps) (cfg : Cfg) (c : Str) :
    c ∈ defaultConstraints U cfg ↔ c = codable ∨ c ∈ configured U cfg := by
  unfold defaultConstraints configured
  rw [mem_toSet]
  simp

/-! ## `generic_constraints` -/

theorem genericParams_names (U : UnicodeOps) (cfg : Cfg) (dm : DecoratorMap) (gens : List Str) :
    (genericParams U cfg dm gens).map (·.name) = gens := by
  unfold genericParams
  simp only [List.map_map]
  conv => rhs; rw [← List.map_id gens]
  apply List.map_congr_left
  intro g _
  simp only [Function.comp, id]
  split <;> rfl

/-- the own constraints a `swiftGenericConstraints = "T: A & B"` entry gives -/
def ownConstraints (U : UnicodeOps) (cs : Str) : List Str := (splitChar '&' cs).map U.trim

/-- an entry of the annotated constraints comes from one `name: own…` item of `swiftGenericConstraints` -/
theorem mem_annotated {U : UnicodeOps} {defaults : List Str} {dm : DecoratorMap} {n : Str} {cs : List Str}
    (h : (n, cs) ∈ annotatedConstraints U defaults dm) :
    ∃ gcs gc name own rest, dm.swiftGenericConstraints = some gcs ∧ gc ∈ gcs ∧
      splitChar ':' gc = name :: own :: rest ∧ cs = Parser.toSet Str.lt (ownConstraints U own ++ defaults) := by
  unfold annotatedConstraints at h
  split at h
  · simp at h
  · rename_i gcs hgcs
    obtain ⟨gc, hgc, he⟩ := List.mem_filterMap.1 h
    split at he
    · rename_i name own rest hs
      simp only [Option.some.injEq, Prod.mk.injEq] at he
      exact ⟨gcs, gc, name, own, rest, hgcs, hgc, hs, he.2.symm⟩
    · simp at he

/-- every printed constraint list is the defaults, or the own constraints of one `swiftGenericConstraints` item
merged with the defaults -/
theorem genericParams_cases (U : UnicodeOps) (cfg : Cfg) (dm : DecoratorMap) (gens : List Str) :
    ∀ p ∈ genericParams U cfg dm gens, p.name ∈ gens ∧
      (p.constraints = defaultConstraints U cfg ∨
       ∃ gcs gc name own rest, dm.swiftGenericConstraints = some gcs ∧ gc ∈ gcs ∧
        splitChar ':' gc = name :: own :: rest ∧
        p.constraints = Parser.toSet Str.lt (ownConstraints U own ++ defaultConstraints U cfg)) := by
  intro p hp
  unfold genericParams at hp
  obtain ⟨g, hg, rfl⟩ := List.mem_map.1 hp
  split
  · rename_i n cs hf
    exact ⟨hg, Or.inr (mem_annotated (List.mem_reverse.1 (List.mem_of_find?_eq_some hf)))⟩
  · exact ⟨hg, Or.inl rfl⟩

/-- **every parameter gets every default constraint**, annotated or not -/
theorem genericParams_defaults (U : UnicodeOps) (cfg : Cfg) (dm : DecoratorMap) (gens : List Str) :
    ∀ p ∈ genericParams U cfg dm gens, ∀ c ∈ defaultConstraints U cfg, c ∈ p.constraints := by
  intro p hp c hc
  rcases (genericParams_cases U cfg dm gens p hp).2 with h | ⟨_, _, _, own, _, _, _, _, h⟩
  · rw [h]; exact hc
  · rw [h, mem_toSet]; exact List.mem_append_right _ hc

/-- nothing else is printed: a constraint is a default or one of the item's own -/
theorem genericParams_only (U : UnicodeOps) (cfg : Cfg) (dm : DecoratorMap) (gens : List Str) :
    ∀ p ∈ genericParams U cfg dm gens, ∀ c ∈ p.constraints,
      c ∈ defaultConstraints U cfg ∨ ∃ gcs gc, dm.swiftGenericConstraints = some gcs ∧ gc ∈ gcs ∧
        ∃ name own rest, splitChar ':' gc = name :: own :: rest ∧ c ∈ ownConstraints U own := by
  intro p hp c hc
  rcases (genericParams_cases U cfg dm gens p hp).2 with h | ⟨gcs, gc, name, own, rest, hgcs, hgc, hs, h⟩
  · exact Or.inl (h ▸ hc)
  · rw [h, mem_toSet, List.mem_append] at hc
    exact hc.elim (fun ho => Or.inr ⟨gcs, gc, hgcs, hgc, name, own, rest, hs, ho⟩) Or.inl

/-! ## what a generic clause says (binding semantics) and its text -/

/-- a generic clause gives every parameter of `gens`, in order, constraint lists that contain
`Codable` and every configured constraint -/
def Reaches (U : UnicodeOps) (cfg : Cfg) (gs : List GenericParam) (gens : List Str) : Prop :=
  gs.map (·.name) = gens ∧ ∀ p ∈ gs, codable ∈ p.constraints ∧ ∀ c ∈ configured U cfg, c ∈ p.constraints

theorem genericParams_reaches (U : UnicodeOps) (cfg : Cfg) (dm : DecoratorMap) (gens : List Str) :
    Reaches U cfg (genericParams U cfg dm gens) gens := by
  refine ⟨genericParams_names U cfg dm gens, fun p hp => ⟨?_, fun c hc => ?_⟩⟩
  · exact genericParams_defaults U cfg dm gens p hp _ ((mem_defaultConstraints U cfg _).2 (Or.inl rfl))
  · exact genericParams_defaults U cfg dm gens p hp _ ((mem_defaultConstraints U cfg _).2 (Or.inr hc))

/-- the text of one parameter: `name: C1 & C2` -/
def renderParam (p : GenericParam) : Str := p.name ++ s%": " ++ Str.intercalate s%" & " p.constraints

theorem renderGenericParams_eq (ps : List GenericParam) :
    renderGenericParams ps = Str.intercalate s%", " (ps.map renderParam) := rfl

/-- a conformance list carries `Codable` and every configured default decorator -/
def DecoratorsReach (cfg : Cfg) (confs : List Str) : Prop :=
  codable ∈ confs ∧ ∀ d ∈ cfg.defaultDecorators, d ∈ confs

theorem structConformances_prefix (cfg : Cfg) (dm : DecoratorMap) :
    defaultDecorators cfg <+: structConformances cfg dm := by
  unfold structConformances
  split
  · exact List.prefix_append _ _
  · exact List.prefix_refl _

theorem structConformances_reach (cfg : Cfg) (dm : DecoratorMap) : DecoratorsReach cfg (structConformances cfg dm) := by
  have hp := (structConformances_prefix cfg dm).subset
  exact ⟨hp (by simp [defaultDecorators]), fun d hd => hp (by simp [defaultDecorators, hd])⟩

theorem enumConformances_shape (cfg : Cfg) (e : RustEnum) :
    ∃ extra, enumConformances cfg e =
      (match e.keys with | none => [s%"String"] | some _ => []) ++ defaultDecorators cfg ++ extra := by
  unfold enumConformances
  cases e.keys with
  | none => exact ⟨_, rfl⟩
  | some kc => exact ⟨_, rfl⟩

theorem enumConformances_reach (cfg : Cfg) (e : RustEnum) : DecoratorsReach cfg (enumConformances cfg e) := by
  obtain ⟨extra, h⟩ := enumConformances_shape cfg e
  rw [h]
  exact ⟨by simp [defaultDecorators], fun d hd => by simp [defaultDecorators, hd]⟩

/-- the conformance list of `CodableVoid` (`get_codable_contents`) -/
def codableVoidConformances (cfg : Cfg) : List Str :=
  let decs := defaultDecorators cfg ++ cfg.codablevoidConstraints
  if decs.contains codable then decs else decs ++ [codable]

theorem codableVoid_reach (cfg : Cfg) :
    DecoratorsReach cfg (codableVoidConformances cfg) ∧ ∀ d ∈ cfg.codablevoidConstraints, d ∈ codableVoidConformances cfg := by
  have hsub : ∀ d, d ∈ defaultDecorators cfg ++ cfg.codablevoidConstraints → d ∈ codableVoidConformances cfg := by
    intro d hd
    unfold codableVoidConformances
    simp only
    split
    · exact hd
    · exact List.mem_append_left _ hd
  exact ⟨⟨hsub _ (by simp [defaultDecorators]), fun d hd => hsub _ (by simp [defaultDecorators, hd])⟩,
    fun d hd => hsub _ (by simp [hd])⟩

theorem structFacts_clauses (U : UnicodeOps) (cfg : Cfg) (rs : RustStruct) (st st' : St) (s : SwiftStruct)
    (h : structFacts U cfg rs st = .ok (s, st')) :
    s.generics = genericParams U cfg rs.decorators rs.genericTypes ∧
    s.conformances = structConformances cfg rs.decorators := by
  obtain ⟨_, _, _, _, _, rfl⟩ := structFacts_ok h
  exact ⟨rfl, rfl⟩

/-- the helper structs of the struct variants: the enum's decorators (hence its own constraints)
and the parameters the variant's fields mention -/
theorem anonymousStructs_clauses (U : UnicodeOps) (cfg : Cfg) (e : RustEnum)
    (l : List (Id × List RustField)) (st st' : St) (ss : List SwiftStruct)
    (h : anonymousStructs U cfg e l st = .ok (ss, st')) :
    ss.map (fun s => (s.generics, s.conformances)) = l.map fun p =>
      (genericParams U cfg e.decorators
          (anonymousStruct e (anonymousStructName e p.1.original) p.1.original p.2).genericTypes,
       structConformances cfg e.decorators) := by
  refine thread_map
    (f := fun p => structFacts U cfg (anonymousStruct e (anonymousStructName e p.1.original) p.1.original p.2))
    (fun _ => rfl) (fun _ _ _ => rfl) _ _ (fun p st s st1 h1 => ?_) h
  obtain ⟨hg, hc⟩ := structFacts_clauses U cfg _ st st1 s h1
  rw [hg, hc]
  rfl

theorem enumFacts_clauses (U : UnicodeOps) (cfg : Cfg) (e : RustEnum) (st st' : St) (ss : List SwiftStruct)
    (se : SwiftEnum) (h : enumFacts U cfg e st = .ok (ss, se, st')) :
    se.generics = genericParams U cfg e.decorators e.genericTypes ∧
    se.conformances = enumConformances cfg e ∧
    ss.map (fun s => (s.generics, s.conformances)) = (structVariants e).map fun p =>
        (genericParams U cfg e.decorators
            (anonymousStruct e (anonymousStructName e p.1.original) p.1.original p.2).genericTypes,
         structConformances cfg e.decorators) := by
  obtain ⟨st1, _, h1, _, rfl⟩ := enumFacts_ok h
  exact ⟨rfl, rfl, anonymousStructs_clauses U cfg e _ st st1 ss h1⟩

end TsV.C20S
