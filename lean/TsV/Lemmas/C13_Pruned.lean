import TsV.Lemmas.TargetOs
import TsV.Lemmas.Outcome
import TsV.Model.Visitor
import TsV.Lemmas.Visit
/-!
# C13, metamorphic form — lemmas

`prune f T` deletes from the abstract file `f` every member the target list `T` excludes.  The lemmas
carry "the deleted member is never looked at" through the item parsers (`parseStruct_prune`,
`parseEnum_prune`) and through the visitor (`visitItems_prune`).  The visitor *does* walk the paths
inside an excluded member (`syn::visit::visit_item_struct` runs whether or not the item is parsed), so in
folder mode the raw import set may differ; `Agree` is "equal except for `importTypes`, and equal outright
in single-file mode".
-/
namespace TsV.C13P
open TsV TsV.Syn TsV.Parser TsV.Visitor

/-- the member is kept by the target list (`accept_target_os`) -/
def keep (T : List Str) (attrs : List Attr) : Bool := (TargetOs.accept attrs T).getD true

/-- named fields the list excludes are deleted; payload fields are not filtered by typeshare -/
def pruneFields (T : List Str) : Fields → Fields
  | .named fs => .named (fs.filter fun f => keep T f.attrs)
  | .unnamed fs => .unnamed fs
  | .unit => .unit

def pruneVariant (T : List Str) (v : Variant) : Variant := { v with fields := pruneFields T v.fields }

def pruneVariants (T : List Str) (vs : List Variant) : List Variant :=
  (vs.filter fun v => keep T v.attrs).map (pruneVariant T)

mutual
  /-- an annotated item the list excludes disappears; an annotated item that stays loses its excluded
  variants and named fields; modules and bodies are descended into; everything else is untouched -/
  def pruneItem (T : List Str) : Item → List Item
    | .struct a i g fs =>
      if hasTypeshareAnnotation a then (if keep T a then [.struct a i g (pruneFields T fs)] else [])
      else [.struct a i g fs]
    | .enum a i g vs =>
      if hasTypeshareAnnotation a then (if keep T a then [.enum a i g (pruneVariants T vs)] else [])
      else [.enum a i g vs]
    | .alias a i g t =>
      if hasTypeshareAnnotation a then (if keep T a then [.alias a i g t] else []) else [.alias a i g t]
    | .const a i t l =>
      if hasTypeshareAnnotation a then (if keep T a then [.const a i t l] else []) else [.const a i t l]
    | .use t => [.use t]
    | .mod a i items => [.mod a i (pruneItems T items)]
    | .other p items => [.other p (pruneItems T items)]
  def pruneItems (T : List Str) : List Item → List Item
    | [] => []
    | i :: is => pruneItem T i ++ pruneItems T is
end

/-- the file with everything the target list excludes deleted; an excluded file is the empty file -/
def prune (f : File) (T : List Str) : File :=
  if keep T f.attrs then { f with items := pruneItems T f.items } else ⟨[], [], false⟩

theorem keep_nil (attrs : List Attr) : keep [] attrs = true := by simp [keep, TargetOs.accept]

theorem keep_nil_attrs (T : List Str) : keep T [] = true := by
  unfold keep TargetOs.accept
  split
  · rfl
  · simp [TargetOs.yielded]

theorem isSkipped_eq (attrs : List Attr) (T : List Str) :
    isSkipped attrs T = (skipMarked attrs || !keep T attrs) := rfl

/-- a member that is not skipped is kept: filtering on `keep` first changes nothing -/
theorem filter_keep_notSkipped {α} (attrsOf : α → List Attr) (T : List Str) (l : List α) :
    (l.filter fun x => keep T (attrsOf x)).filter (fun x => !isSkipped (attrsOf x) T) =
      l.filter fun x => !isSkipped (attrsOf x) T := by
  rw [List.filter_filter]
  apply List.filter_congr
  intro x _
  rw [isSkipped_eq]
  cases skipMarked (attrsOf x) <;> cases keep T (attrsOf x) <;> rfl

/-! ## the item parsers never look at a deleted member -/

theorem parseStruct_prune (E : Ext) (T : List Str) (a : List Attr) (i : Str) (g : List GenericParam)
    (fs : Fields) : parseStruct E T a i g (pruneFields T fs) = parseStruct E T a i g fs := by
  cases fs with
  | named l =>
    simp only [pruneFields, parseStruct]
    rw [filter_keep_notSkipped (fun f : Field => f.attrs)]
  | unnamed l => rfl
  | unit => rfl

theorem parseEnumVariant_prune (E : Ext) (T : List Str) (ra : Option Str) (v : Variant) :
    parseEnumVariant E T ra (pruneVariant T v) = parseEnumVariant E T ra v := by
  obtain ⟨va, vi, vf⟩ := v
  cases vf with
  | named l =>
    simp only [pruneVariant, pruneFields, parseEnumVariant]
    rw [filter_keep_notSkipped (fun f : Field => f.attrs)]
  | unnamed l => rfl
  | unit => rfl

theorem pruneVariants_notSkipped (T : List Str) (vs : List Variant) :
    (pruneVariants T vs).filter (fun v => !isSkipped v.attrs T) =
      (vs.filter fun v => !isSkipped v.attrs T).map (pruneVariant T) := by
  unfold pruneVariants
  rw [List.filter_map]
  have : ((fun v : Variant => !isSkipped v.attrs T) ∘ pruneVariant T) = fun v => !isSkipped v.attrs T := rfl
  rw [this, filter_keep_notSkipped (fun v : Variant => v.attrs)]

theorem parseEnum_prune (E : Ext) (T : List Str) (a : List Attr) (i : Str) (g : List GenericParam)
    (vs : List Variant) : parseEnum E T a i g (pruneVariants T vs) = parseEnum E T a i g vs := by
  unfold parseEnum
  rw [pruneVariants_notSkipped, Outcome.mapM'_map_left]
  rw [Outcome.mapM'_congr _ (parseEnumVariant E T (serdeRenameAll E a)) _
    fun v _ => parseEnumVariant_prune E T _ v]

/-- equal except for `importTypes`; equal outright in single-file mode -/
def Agree (ctx : ParseContext) (a b : ParsedData) : Prop :=
  forget a = forget b ∧ (ctx.multiFile = false → a = b)

def AgreeO (ctx : ParseContext) : Outcome ParsedData → Outcome ParsedData → Prop
  | .ok a, .ok b => Agree ctx a b
  | .err e, .err e' => e = e'
  | .panic s, .panic s' => s = s'
  | _, _ => False

theorem Agree.refl (ctx : ParseContext) (a : ParsedData) : Agree ctx a a := ⟨rfl, fun _ => rfl⟩

theorem Agree.symm {ctx : ParseContext} {a b : ParsedData} (h : Agree ctx a b) : Agree ctx b a :=
  ⟨h.1.symm, fun hf => (h.2 hf).symm⟩

theorem Agree.trans {ctx : ParseContext} {a b c : ParsedData} (h : Agree ctx a b) (h' : Agree ctx b c) :
    Agree ctx a c :=
  ⟨h.1.trans h'.1, fun hf => (h.2 hf).trans (h'.2 hf)⟩

theorem AgreeO.symm {ctx : ParseContext} {x y : Outcome ParsedData} (h : AgreeO ctx x y) : AgreeO ctx y x := by
  cases x <;> cases y <;> simp only [AgreeO] at h ⊢ <;> first | exact Agree.symm h | exact Eq.symm h | exact h.elim

theorem AgreeO.trans {ctx : ParseContext} {x y z : Outcome ParsedData} (h : AgreeO ctx x y)
    (h' : AgreeO ctx y z) : AgreeO ctx x z := by
  cases x <;> cases y <;> cases z <;> simp only [AgreeO] at h h' ⊢ <;>
    first | exact Agree.trans h h' | exact Eq.trans h h' | exact h.elim | exact h'.elim

theorem forget_addImports (d : ParsedData) (imps : List ImportedType) : forget (addImports d imps) = forget d := rfl

/-- offering paths changes the raw import set only -/
theorem addPaths_forget (E : Ext) (ctx : ParseContext) (d : ParsedData) (ps : List (List Str)) :
    forget (addPaths E ctx d ps) = forget d := by
  unfold addPaths
  split <;> rfl

theorem visitItems_singleton (E : Ext) (ctx : ParseContext) (fp : Str) (d : ParsedData) (i : Item) :
    visitItems E ctx fp d [i] = visitItem E ctx fp d i := by
  simp only [visitItems]
  exact Outcome.bind_pure _

/-- two outcomes that are equal without their import sets, and equal outright in single-file mode -/
theorem agreeO_of_views {ctx : ParseContext} {x y : Outcome ParsedData}
    (h : Visit.view forget x = Visit.view forget y) (h' : ctx.multiFile = false → x = y) : AgreeO ctx x y := by
  cases x <;> cases y <;>
    simp only [Visit.view, Outcome.bind, Outcome.ok.injEq, Outcome.err.injEq, Outcome.panic.injEq, reduceCtorEq] at h
  · exact ⟨h, fun hf => Outcome.ok.inj (h' hf)⟩
  · exact h
  · exact h

/-- **visits that start from agreeing values and record the same parse outcomes agree**: the paths walked in
between only reach the raw import set, and only in folder mode -/
theorem visitItems_agree (E : Ext) (ctx : ParseContext) (fp : Str) {l l' : List Item} {a b : ParsedData}
    (h : Agree ctx a b) (ho : Visit.outcomes E ctx l = Visit.outcomes E ctx l') :
    AgreeO ctx (visitItems E ctx fp a l) (visitItems E ctx fp b l') := by
  refine agreeO_of_views ?_ fun hf => ?_
  · rw [Visit.visitItems_view (Visit.blind_forget ctx), Visit.visitItems_view (Visit.blind_forget ctx), h.1, ho]
  · have e := fun d l => (Visit.view_id _).symm.trans (Visit.visitItems_view (Visit.blind_id hf) E fp l d)
    rw [e, e, ho]
    exact congrArg (C03.collectAll fp · _) (h.2 hf)

/-- a struct, enum, alias or const `it` with attributes `attrs`, and what `pruneItem` leaves of it: `it'` parses
to the same outcome, and is there only if the list keeps `attrs` -/
theorem outcomes_leaf_prune (E : Ext) (ctx : ParseContext) (attrs : List Attr) (it it' : Item)
    (hit : C03.annotated ctx it = if accepted ctx attrs then [it] else [])
    (hit' : C03.annotated ctx it' = if accepted ctx attrs then [it'] else [])
    (hp : C03.parseItem E ctx it' = C03.parseItem E ctx it) :
    Visit.outcomes E ctx
        (if hasTypeshareAnnotation attrs then (if keep ctx.targetOs attrs then [it'] else []) else [it]) =
      (C03.annotated ctx it).map (C03.parseItem E ctx) := by
  have hacc : accepted ctx attrs = (hasTypeshareAnnotation attrs && keep ctx.targetOs attrs) := rfl
  rw [hit]
  cases ha : hasTypeshareAnnotation attrs <;> cases hk : keep ctx.targetOs attrs <;>
    simp [Visit.outcomes, C03.annotatedList, hit, hit', hacc, ha, hk, hp]

theorem outcomes_append (E : Ext) (ctx : ParseContext) (l₁ l₂ : List Item) :
    Visit.outcomes E ctx (l₁ ++ l₂) = Visit.outcomes E ctx l₁ ++ Visit.outcomes E ctx l₂ := by
  induction l₁ with
  | nil => rfl
  | cons i is ih => simp only [Visit.outcomes, List.cons_append, C03.annotatedList, List.map_append] at ih ⊢; rw [ih, List.append_assoc]

/-- pruning removes no parse outcome and changes none: the parsers never look at a deleted member -/
theorem outcomes_pruneItem (E : Ext) (ctx : ParseContext) : ∀ it : Item,
    Visit.outcomes E ctx (pruneItem ctx.targetOs it) = (C03.annotated ctx it).map (C03.parseItem E ctx) := by
  intro it
  induction it using Item.rec (motive_2 := fun items =>
    Visit.outcomes E ctx (pruneItems ctx.targetOs items) = Visit.outcomes E ctx items) with
  | struct a i g fs =>
    exact outcomes_leaf_prune E ctx a _ (.struct a i g (pruneFields ctx.targetOs fs)) rfl rfl
      (parseStruct_prune E ctx.targetOs a i g fs)
  | enum a i g vs =>
    exact outcomes_leaf_prune E ctx a _ (.enum a i g (pruneVariants ctx.targetOs vs)) rfl rfl
      (parseEnum_prune E ctx.targetOs a i g vs)
  | alias a i g t | const a i t l => exact outcomes_leaf_prune E ctx a _ _ rfl rfl rfl
  | use t => rfl
  | mod _ _ items ih | other _ items ih =>
    simpa only [pruneItem, Visit.outcomes, C03.annotatedList, C03.annotated, List.append_nil] using ih
  | nil => rfl
  | cons i is ihi ihis =>
    rw [pruneItems, outcomes_append, ihi, ihis]
    simp only [Visit.outcomes, C03.annotatedList, List.map_append]

theorem outcomes_pruneItems (E : Ext) (ctx : ParseContext) (items : List Item) :
    Visit.outcomes E ctx (pruneItems ctx.targetOs items) = Visit.outcomes E ctx items := by
  simpa only [pruneItem, Visit.outcomes, C03.annotatedList, C03.annotated, List.append_nil] using
    outcomes_pruneItem E ctx (.other [] items)

theorem visitItem_prune (E : Ext) (ctx : ParseContext) (fp : Str) : ∀ (it : Item) (a b : ParsedData),
    Agree ctx a b →
    AgreeO ctx (visitItem E ctx fp a it) (visitItems E ctx fp b (pruneItem ctx.targetOs it)) := by
  intro it a b h
  rw [← visitItems_singleton]
  exact visitItems_agree E ctx fp h
    ((outcomes_pruneItem E ctx it).trans (by simp only [Visit.outcomes, C03.annotatedList, List.append_nil])).symm

theorem visitItems_prune (E : Ext) (ctx : ParseContext) (fp : Str) (items : List Item) (a b : ParsedData)
    (h : Agree ctx a b) :
    AgreeO ctx (visitItems E ctx fp a items) (visitItems E ctx fp b (pruneItems ctx.targetOs items)) :=
  visitItems_agree E ctx fp h (outcomes_pruneItems E ctx items).symm

/-! ## idempotence, and the empty list -/

theorem pruneFields_idem (T : List Str) (fs : Fields) : pruneFields T (pruneFields T fs) = pruneFields T fs := by
  cases fs <;> simp [pruneFields, List.filter_filter]

theorem pruneVariant_idem (T : List Str) (v : Variant) : pruneVariant T (pruneVariant T v) = pruneVariant T v := by
  simp [pruneVariant, pruneFields_idem]

theorem pruneVariants_idem (T : List Str) (vs : List Variant) :
    pruneVariants T (pruneVariants T vs) = pruneVariants T vs := by
  unfold pruneVariants
  rw [List.filter_map]
  have : ((fun v : Variant => keep T v.attrs) ∘ pruneVariant T) = fun v => keep T v.attrs := rfl
  rw [this, List.filter_filter, List.map_map]
  simp only [Bool.and_self]
  apply List.map_congr_left
  intro v _
  exact pruneVariant_idem T v

theorem pruneItems_append (T : List Str) : ∀ l₁ l₂ : List Item,
    pruneItems T (l₁ ++ l₂) = pruneItems T l₁ ++ pruneItems T l₂ := by
  intro l₁ l₂
  induction l₁ with
  | nil => simp [pruneItems]
  | cons i is ih => simp [pruneItems, ih]

/-- idempotence on a struct, enum, alias or const `it`, of which `pruneItem` leaves `it'` or nothing -/
theorem pruneItem_leaf_idem (T : List Str) (attrs : List Attr) (it it' : Item)
    (h : pruneItem T it =
      if hasTypeshareAnnotation attrs then (if keep T attrs then [it'] else []) else [it])
    (h' : pruneItem T it' =
      if hasTypeshareAnnotation attrs then (if keep T attrs then [it'] else []) else [it']) :
    pruneItems T (pruneItem T it) = pruneItem T it := by
  rw [h]
  split
  · split
    · rename_i ha hk
      simp only [pruneItems, List.append_nil, h', if_pos ha, if_pos hk]
    · rfl
  · rename_i ha
    simp only [pruneItems, List.append_nil, h, if_neg ha]

theorem pruneItem_idem (T : List Str) : ∀ it : Item, pruneItems T (pruneItem T it) = pruneItem T it := by
  intro it
  induction it using Item.rec
    (motive_2 := fun items => pruneItems T (pruneItems T items) = pruneItems T items) with
  | struct a i g fs =>
    exact pruneItem_leaf_idem T a _ (.struct a i g (pruneFields T fs)) (by simp only [pruneItem])
      (by simp only [pruneItem, pruneFields_idem])
  | enum a i g vs =>
    exact pruneItem_leaf_idem T a _ (.enum a i g (pruneVariants T vs)) (by simp only [pruneItem])
      (by simp only [pruneItem, pruneVariants_idem])
  | alias a i g t | const a i t l =>
    exact pruneItem_leaf_idem T a _ _ (by simp only [pruneItem]; rfl) (by simp only [pruneItem])
  | use t => simp [pruneItems, pruneItem]
  | mod _ _ items ih | other _ items ih => simp [pruneItems, pruneItem, ih]
  | nil => simp [pruneItems]
  | cons i is ihi ihis => simp only [pruneItems, pruneItems_append]; rw [ihi, ihis]

theorem pruneItems_idem (T : List Str) (items : List Item) : pruneItems T (pruneItems T items) = pruneItems T items :=
  (Item.other.inj (List.cons.inj (pruneItem_idem T (.other [] items))).1).2

theorem pruneFields_nil (fs : Fields) : pruneFields [] fs = fs := by
  cases fs <;> simp [pruneFields, keep_nil]

theorem pruneVariants_nil (vs : List Variant) : pruneVariants [] vs = vs := by
  unfold pruneVariants
  simp only [keep_nil]
  rw [List.filter_eq_self.2 (fun _ _ => rfl)]
  have : pruneVariant [] = id := by funext v; simp [pruneVariant, pruneFields_nil]
  rw [this, List.map_id]

theorem pruneItem_nil : ∀ it : Item, pruneItem [] it = [it] := by
  intro it
  induction it using Item.rec (motive_2 := fun items => pruneItems [] items = items) with
  | struct a i g fs => simp [pruneItem, keep_nil, pruneFields_nil]
  | enum a i g vs => simp [pruneItem, keep_nil, pruneVariants_nil]
  | alias a i g t | const a i t l => simp [pruneItem, keep_nil]
  | use t => simp [pruneItem]
  | mod _ _ items ih | other _ items ih => simp [pruneItem, ih]
  | nil => simp [pruneItems]
  | cons i is ihi ihis => simp [pruneItems, ihi, ihis]

theorem pruneItems_nil (items : List Item) : pruneItems [] items = items :=
  (Item.other.inj (List.cons.inj (pruneItem_nil (.other [] items))).1).2

/-! ## files without any annotated item -/

mutual
  /-- no item of the list (at any depth) carries the `typeshare` annotation -/
  def noAnnotated : Item → Bool
    | .struct a _ _ _ | .enum a _ _ _ | .alias a _ _ _ | .const a _ _ _ => !hasTypeshareAnnotation a
    | .use _ => true
    | .mod _ _ items | .other _ items => noAnnotatedList items
  def noAnnotatedList : List Item → Bool
    | [] => true
    | i :: is => noAnnotated i && noAnnotatedList is
end

/-- nothing is recorded: no item, no error -/
def Blank (d : ParsedData) : Prop := isEmpty d = true

theorem blank_addPaths (E : Ext) (ctx : ParseContext) (d : ParsedData) (ps : List (List Str)) (h : Blank d) :
    Blank (addPaths E ctx d ps) :=
  (congrArg isEmpty (addPaths_forget E ctx d ps)).trans h

/-- nothing annotated, nothing recorded -/
theorem annotated_of_noAnnotated (ctx : ParseContext) : ∀ it : Item, noAnnotated it = true → C03.annotated ctx it = [] := by
  intro it
  induction it using Item.rec (motive_2 := fun items =>
    noAnnotatedList items = true → C03.annotatedList ctx items = []) with
  | struct a _ _ _ | enum a _ _ _ | alias a _ _ _ | const a _ _ _ =>
    intro hn
    simp only [noAnnotated, Bool.not_eq_true'] at hn
    simp only [C03.annotated, accepted, hn, Bool.false_and, Bool.false_eq_true, if_false]
  | use t => exact fun _ => rfl
  | mod _ _ items ih | other _ items ih => exact ih
  | nil => rfl
  | cons i is ihi ihis =>
    rename_i hn
    simp only [noAnnotatedList, Bool.and_eq_true] at hn
    simp only [C03.annotatedList, ihi hn.1, ihis hn.2, List.append_nil]

theorem visitItems_blank (E : Ext) (ctx : ParseContext) (fp : Str) (items : List Item) (d : ParsedData)
    (hn : noAnnotatedList items = true) (hb : Blank d) : ∃ d', visitItems E ctx fp d items = .ok d' ∧ Blank d' := by
  have hv := Visit.visitItems_view (Visit.blind_forget ctx) E fp items d
  have : C03.annotatedList ctx items = [] := by
    have := annotated_of_noAnnotated ctx (.other [] items) hn
    exact this
  rw [Visit.outcomes, this] at hv
  obtain ⟨d', hd', e⟩ := Visit.view_eq_ok.1 hv
  exact ⟨d', hd', (congrArg isEmpty e).trans hb⟩

theorem visitItem_blank (E : Ext) (ctx : ParseContext) (fp : Str) : ∀ (it : Item) (d : ParsedData),
    noAnnotated it = true → Blank d → ∃ d', visitItem E ctx fp d it = .ok d' ∧ Blank d' := by
  intro it d hn hb
  rw [← visitItems_singleton]
  exact visitItems_blank E ctx fp [it] d (by simp only [noAnnotatedList, hn, Bool.and_self]) hb

end TsV.C13P
