import TsV.Lemmas.C10_Type
import TsV.Lemmas.RustTypes
import TsV.Model.Lang.TypeScript
import TsV.Lemmas.C15
/-!
# C10 — TypeScript: every declaration the model renders is lexically well-formed
-/
namespace TsV.C10TypeScript
open TsV TsV.Lang TsV.C10Lex TsV.Lang.TypeScript

/-- TypeScript's lexer: `<`/`>` are brackets in declarations, no raw strings; block comments do not
nest (exact for TypeScript) -/
def T : LexCfg := ⟨true, false⟩

def CfgOk (cfg : Cfg) : Prop := ∀ p ∈ cfg.typeMappings, wellBracketed T p.2 = true

theorem CfgOk.mapped {cfg : Cfg} (H : CfgOk cfg) {k v : Str} (h : mapGet cfg.typeMappings k = some v) : NB T v :=
  mapGet_nb H h

/-- every text `formatTypes` returns was returned by `formatType` on one of the types -/
theorem formatTypes_mem {cfg : Cfg} {gens : List Str} {ts : List RustType} {st : CustomMap} {ss : List Str}
    {st' : CustomMap} (h : formatTypes cfg gens ts st = .ok (ss, st')) :
    ∀ s ∈ ss, ∃ t ∈ ts, ∃ st0 st1, formatType cfg gens t st0 = .ok (s, st1) := fun s hs =>
  let ⟨t, ht, _, st0, st1, hf, e⟩ :=
    Outcome.thread_mem (f := formatType cfg gens) (g := fun _ x => x) (fun _ => rfl) (fun _ _ _ => rfl) h s hs
  ⟨t, ht, st0, st1, e ▸ hf⟩

theorem formatType_nb {cfg : Cfg} (H : CfgOk cfg) (gens : List Str) (t : RustType) :
    ∀ (st : CustomMap) (s : Str) (st' : CustomMap), TypeOk t → formatType cfg gens t st = .ok (s, st') → NB T s :=
  fun st _ _ ht h => C05L.text_nb (lx := T) (c := C05L.tcfgTS cfg) .typescript ⟨fun _ h => (by cases h), H⟩ gens ht
    (C05L.ts_formatType cfg gens t st) h

theorem formatTypes_nb {cfg : Cfg} (H : CfgOk cfg) (gens : List Str) :
    ∀ (ts : List RustType) (st : CustomMap) (ss : List Str) (st' : CustomMap), TypesOk ts →
      formatTypes cfg gens ts st = .ok (ss, st') → ∀ s ∈ ss, NB T s := by
  intro ts st ss st' hts h x hx
  obtain ⟨t, htm, st0, st1, hf⟩ := formatTypes_mem h x hx
  exact formatType_nb H gens t st0 x st1 (hts.mem htm) hf

/-! ## comments: `/** … */` -/

/-- doc text may contain anything but the comment terminator (C15's `Bad` class for TypeScript) -/
def DocsOk (cs : List Str) : Prop := ∀ c ∈ cs, Str.containsSub c s%"*/" = false

instance (cs : List Str) : Decidable (DocsOk cs) := by unfold DocsOk; infer_instance

/-- inside a block comment, possibly right after a `*` -/
def InBlock (st : St) (stk : List Char) : Prop := st = ⟨.block, stk⟩ ∨ st = ⟨.blockStar, stk⟩

theorem tabs_block (n : Nat) (stk : List Char) : Run T (tabs n) ⟨.block, stk⟩ ⟨.block, stk⟩ :=
  Run.loop fun c hc => by rw [List.eq_of_mem_replicate hc]; rfl

/-- the separator between two doc lines brings the lexer back to the plain in-comment state -/
theorem sep_block (n : Nat) (stk : List Char) (a : St) (ha : InBlock a stk) :
    Run T (nl ++ tabs n ++ s%" * ") a ⟨.block, stk⟩ := by
  have r1 : Run T nl a ⟨.block, stk⟩ := by rcases ha with rfl | rfl <;> rfl
  exact (r1.append (tabs_block n stk)).append rfl

theorem doc_block (c : Str) (h : Str.containsSub c s%"*/" = false) (stk : List Char) :
    ∃ b, InBlock b stk ∧ Run T c ⟨.block, stk⟩ b := by
  rcases (block_body (cfg := T) c stk h).1 with hb | hb
  · exact ⟨_, .inl rfl, hb⟩
  · exact ⟨_, .inr rfl, hb⟩

theorem docs_block (n : Nat) (stk : List Char) (cs : List Str) (h : DocsOk cs) :
    ∃ b, InBlock b stk ∧ Run T (Str.intercalate (nl ++ tabs n ++ s%" * ") cs) ⟨.block, stk⟩ b :=
  (lx T).lines (S := (InBlock · stk)) (sep := nl ++ tabs n ++ s%" * ") (.inl rfl) (sep_block n stk) cs fun c hc =>
    doc_block c (h c hc) stk

/-- `write_comments` escapes `*/` (C15 repair), so the written entries never contain the terminator -/
theorem escaped_docsOk (cs : List Str) : DocsOk (cs.map escapeDoc) := by
  intro c hc
  obtain ⟨d, _, rfl⟩ := List.mem_map.mp hc
  exact C15.ts_escape_no_close d

/-- `.c` passes a text inside a block comment that may end on a `*`, and the fixed text after it -/
theorem _root_.TsV.C10Lex.Tr.c {x y l : Str} {f : St → Option St} (hx : Tr (lx T) x f)
    (hy : ∀ stk, ∃ b, InBlock b stk ∧ Run T y ⟨.block, stk⟩ b) :
    Tr (lx T) (x ++ y ++ l) (fun a => (f a).bind fun b =>
      if inMode .block b && (lx T).run b l == (lx T).run ⟨.blockStar, b.stack⟩ l then (lx T).run b l else none) :=
  hx.fork (p := inMode .block) (k := fun b => ⟨.blockStar, b.stack⟩) fun a ha stk => by
    obtain ⟨b, rfl | rfl, r⟩ := hy (a.stack ++ stk) <;> rw [← eq_of_beq ha] at r
    · exact .inl r
    · exact .inr r

/-- the comment block is closed for *every* doc text, since `*/` is escaped; the hypothesis is what
the callers' scope structures carry and is not used -/
theorem comments_nb (n : Nat) (cs : List Str) (_h : DocsOk cs) : NB T (comments n cs) := by
  unfold comments
  split
  · exact NB.nil
  · rename_i c
    exact (Tr.h0 (NB.tabs n)).l.c (doc_block (escapeDoc c) (C15.ts_escape_no_close c)) |>.l.nb (by decide +kernel)
  · exact (Tr.h0 (NB.tabs n)).l.b (tabs_block n) |>.l.c (fun stk => docs_block n stk _ (escaped_docsOk cs))
      |>.b (tabs_block n) |>.l.l.nb (by decide +kernel)

abbrev FieldOk := FieldScope Lang.typescript T DocsOk
abbrev StructOk := StructScope Lang.typescript T DocsOk
abbrev AliasOk := AliasScope DocsOk
abbrev VariantOk := VariantScope Lang.typescript T DocsOk
abbrev EnumOk := EnumScope Lang.typescript T DocsOk
abbrev ItemOk := ItemScope Lang.typescript T DocsOk

theorem propertyName_nb {name : Str} (h : KeyStr name) : NB T (propertyName name) := by
  unfold propertyName
  split
  · exact NB.debugStr name
  · exact KeyStr.nb h

structure TsFieldOk (f : TsField) : Prop where
  docs : DocsOk f.comments
  name : NB T f.name
  ty : NB T f.ty

theorem renderField_nb (f : TsField) (h : TsFieldOk f) : NB T (renderField f) :=
  (Tr.h0 (comments_nb 1 _ h.docs)).l.append (.ite _ .lit .lit) |>.h h.name |>.append (.ite _ .lit .lit) |>.l.h h.ty
    |>.append (.ite _ .lit .lit) |>.l.nb (by decide +kernel)

theorem fieldFacts_ok {cfg : Cfg} (H : CfgOk cfg) (gens : List Str) (f : RustField) (st : CustomMap)
    (tf : TsField) (st' : CustomMap) (hf : FieldOk f) (h : fieldFacts cfg gens f st = .ok (tf, st')) :
    TsFieldOk tf := by
  unfold fieldFacts at h
  obtain ⟨ty, st1, hty, h⟩ := Outcome.of_bind_pair_ok h
  obtain ⟨rfl, rfl⟩ := Outcome.ok_pair_inj h
  refine ⟨hf.docs, propertyName_nb hf.key, ?_⟩
  split at hty
  · rename_i t ht; cases hty; exact nb_of_wb (hf.override _ ht)
  · exact formatType_nb H gens f.ty st ty st1 hf.ty hty

theorem writeFields_nb {cfg : Cfg} (H : CfgOk cfg) (gens : List Str) (fs : List RustField) (st : CustomMap)
    (text : Str) (st' : CustomMap) (hf : ∀ f ∈ fs, FieldOk f) (h : writeFields cfg gens fs st = .ok (text, st')) :
    NB T text :=
  NB.thread (f := fieldFacts cfg gens) (g := renderField) (fun _ => rfl) (fun _ _ _ => rfl)
    (fun f hm st tf st1 htf => renderField_nb tf (fieldFacts_ok H gens f st tf st1 (hf f hm) htf)) h

theorem generics_nb {gs : List Str} (h : ∀ g ∈ gs, IdentStr g) : NB T (genericSuffix gs) :=
  NB.genericSuffix gs fun g hg => IdentStr.nb (h g hg)

theorem writeStruct_nb {cfg : Cfg} (H : CfgOk cfg) (rs : RustStruct) (st : CustomMap) (text : Str) (st' : CustomMap)
    (hs : StructOk rs) (h : writeStruct cfg rs st = .ok (text, st')) : NB T text := by
  unfold writeStruct at h
  obtain ⟨body, st1, hbody, h⟩ := Outcome.of_bind_pair_ok h
  obtain ⟨rfl, rfl⟩ := Outcome.ok_pair_inj h
  exact (Tr.h0 (comments_nb 0 _ hs.docs)).l.h (KeyStr.nb hs.name) |>.h (generics_nb hs.generics) |>.l.h
    (writeFields_nb H rs.genericTypes rs.fields st body _ hs.fields hbody) |>.l.nb (by decide +kernel)

theorem writeAlias_nb {cfg : Cfg} (H : CfgOk cfg) (a : RustTypeAlias) (st : CustomMap) (text : Str) (st' : CustomMap)
    (ha : AliasOk a) (h : writeAlias cfg a st = .ok (text, st')) : NB T text := by
  unfold writeAlias at h
  obtain ⟨ty, st1, hty, h⟩ := Outcome.of_bind_pair_ok h
  obtain ⟨rfl, rfl⟩ := Outcome.ok_pair_inj h
  exact (Tr.h0 (comments_nb 0 _ ha.docs)).l.h (KeyStr.nb ha.renamed) |>.h (generics_nb ha.generics) |>.l.h
    (formatType_nb H a.genericTypes a.ty st ty _ ha.ty hty) |>.append (.ite _ .lit .lit) |>.l.nb (by decide +kernel)

/-- a constant: its name is computed with the Unicode parameter, so that it is an identifier is a
hypothesis -/
theorem writeConst_nb (U : UnicodeOps) {cfg : Cfg} (H : CfgOk cfg) (c : RustConst) (st : CustomMap) (text : Str)
    (st' : CustomMap) (hty : TypeOk c.ty) (hname : KeyStr (U.upperStr (Rename.toSnake U c.id.renamed)))
    (h : writeConst U cfg c st = .ok (text, st')) : NB T text := by
  unfold writeConst at h
  obtain ⟨ty, st1, hty', h⟩ := Outcome.of_bind_pair_ok h
  obtain ⟨rfl, rfl⟩ := Outcome.ok_pair_inj h
  exact Tr.l0.h (KeyStr.nb hname) |>.l.h (formatType_nb H [] c.ty st ty _ hty hty') |>.l.h (Plain.nb (natToStr_plain T c.expr))
    |>.l.nb (by decide +kernel)

theorem writeVariant_nb {cfg : Cfg} (H : CfgOk cfg) (e : RustEnum) (tag content : Str) (htag : IdentStr tag)
    (hcontent : KeyStr content) (v : RustEnumVariant) (st : CustomMap) (text : Str) (st' : CustomMap)
    (hv : VariantOk v) (h : writeVariant cfg e tag content v st = .ok (text, st')) : NB T text := by
  have hhead : NB T (nl ++ comments 1 v.comments) := NB.nl.append (comments_nb 1 _ hv.docs)
  unfold writeVariant at h
  cases v with
  | unit id cs =>
    simp only at h
    obtain ⟨rfl, rfl⟩ := Outcome.ok_pair_inj h
    exact (Tr.h0 hhead).l.h (IdentStr.nb htag) |>.l.h (NB.debugStr id.renamed) |>.l.h (KeyStr.nb hcontent) |>.l.nb
      (by decide +kernel)
  | tuple id cs ty =>
    simp only at h
    obtain ⟨t, st1, ht, h⟩ := Outcome.of_bind_pair_ok h
    obtain ⟨rfl, rfl⟩ := Outcome.ok_pair_inj h
    exact (Tr.h0 hhead).l.h (IdentStr.nb htag) |>.l.h (NB.debugStr id.renamed) |>.l.h (KeyStr.nb hcontent)
      |>.append (.ite _ .lit .lit) |>.l.h (formatType_nb H e.genericTypes ty st t _ hv.2.2.2 ht) |>.l.nb (by decide +kernel)
  | anonymousStruct id cs fs =>
    simp only at h
    obtain ⟨body, st1, hb, h⟩ := Outcome.of_bind_pair_ok h
    obtain ⟨rfl, rfl⟩ := Outcome.ok_pair_inj h
    exact (Tr.h0 hhead).l.h (IdentStr.nb htag) |>.l.h (NB.debugStr id.renamed) |>.l.h (KeyStr.nb hcontent) |>.l.h
      (writeFields_nb H e.genericTypes fs st body _ hv.2.2.2 hb) |>.l.nb (by decide +kernel)

theorem writeVariants_nb {cfg : Cfg} (H : CfgOk cfg) (e : RustEnum) (tag content : Str) (htag : IdentStr tag)
    (hcontent : KeyStr content) (vs : List RustEnumVariant) (st : CustomMap) (text : Str) (st' : CustomMap)
    (hv : ∀ v ∈ vs, VariantOk v) (h : writeVariants cfg e tag content vs st = .ok (text, st')) : NB T text :=
  NB.thread (f := writeVariant cfg e tag content) (g := id) (fun _ => rfl) (fun _ _ _ => rfl)
    (fun v hm st a st1 ha => writeVariant_nb H e tag content htag hcontent v st a st1 (hv v hm) ha) h

theorem writeEnum_nb {cfg : Cfg} (H : CfgOk cfg) (e : RustEnum) (st : CustomMap) (text : Str) (st' : CustomMap)
    (he : EnumOk e) (h : writeEnum cfg e st = .ok (text, st')) : NB T text := by
  unfold writeEnum at h
  split at h
  · simp only at h
    obtain ⟨rfl, rfl⟩ := Outcome.ok_pair_inj h
    exact (Tr.h0 (comments_nb 0 _ he.docs)).l.h (KeyStr.nb he.renamed) |>.h (generics_nb he.generics) |>.l.h
      (NB.flatMap _ _ fun v hv =>
        Tr.l0.h (comments_nb 1 _ (he.variants v hv).docs) |>.l.h (IdentStr.nb (he.variants v hv).original) |>.l.h
          (NB.debugStr _) |>.l.nb (by decide +kernel))
      |>.l.nb (by decide +kernel)
  · rename_i tag content hk
    simp only at h
    obtain ⟨body, st1, hb, h⟩ := Outcome.of_bind_pair_ok h
    obtain ⟨rfl, rfl⟩ := Outcome.ok_pair_inj h
    exact (Tr.h0 (comments_nb 0 _ he.docs)).l.h (KeyStr.nb he.renamed) |>.h (generics_nb he.generics) |>.l.h
      (writeVariants_nb H e tag content (he.tag _ hk) (he.content _ hk) e.variants st body _ he.variants hb) |>.l.nb
      (by decide +kernel)

end TsV.C10TypeScript
