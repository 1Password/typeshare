import TsV.Lemmas.Outcome
import TsV.Model.Parser
/-!
# What a successful run of each parser function says

One inversion lemma per function of `parser.rs`, each giving everything the successful run determines, in terms of
the functions it calls.  A property of parsed items is then a check on these shapes and needs no unfolding of the
parser.
-/
namespace TsV.C03
/-- the name a member is known under: identifier without raw prefix -/
def origOf (i : Option Str) : Str :=
  match i with
  | some i => Str.replaceSub i s%"r#" []
  | none => s%"???"
end TsV.C03

namespace TsV.Outcome
/-- "rejected" read through the inversions below: nothing is returned -/
theorem isOk_false_iff {α} {x : Outcome α} : x.isOk = false ↔ ∀ a, x ≠ .ok a := by
  cases x <;> simp [isOk]
end TsV.Outcome

namespace TsV.Parser
open TsV TsV.Syn TsV.Outcome TsV.Rename TsV.C03

/-- the type comes from the written type, or from the `serialized_as` string as `syn` parses it -/
theorem fieldType_ok {E : Ext} {attrs : List Attr} {ty : SynType} {r : RustType} (h : fieldType E attrs ty = .ok r) :
    (getSerializedAsType E attrs = none ∧ RustTypes.tryFrom ty = .ok r) ∨
      ∃ s t, getSerializedAsType E attrs = some s ∧ E.parseType s = some t ∧ RustTypes.tryFrom t = .ok r := by
  unfold fieldType at h
  cases hs : getSerializedAsType E attrs with
  | none => rw [hs] at h; exact .inl ⟨rfl, h⟩
  | some s =>
    rw [hs] at h
    replace h : RustTypes.fromStr E.parseType s = .ok r := h
    unfold RustTypes.fromStr at h
    cases hp : E.parseType s with
    | none => rw [hp] at h; cases h
    | some t => rw [hp] at h; exact .inr ⟨s, t, rfl, hp, h⟩

/-- `get_ident`: the original name is the identifier without raw prefix, the output name is the `serde(rename)`
value if there is one and the container rule's result otherwise -/
theorem getIdent_ok {E : Ext} {i : Option Str} {attrs : List Attr} {ra : Option Str} {id : Id}
    (h : getIdent E i attrs ra = .ok id) :
    ∃ renamed, renameAllToCase E.U (origOf i) ra = .ok renamed ∧
      id = ⟨origOf i, (serdeRename E attrs).getD renamed, (serdeRename E attrs).isSome⟩ := by
  obtain ⟨renamed, h1, h2⟩ := of_bind_ok h
  refine ⟨renamed, h1, ?_⟩
  cases hs : serdeRename E attrs <;> rw [hs] at h2 <;> exact (Outcome.ok.inj h2).symm

/-- a parsed field, attribute by attribute -/
structure FieldOk (E : Ext) (cf : Bool) (ra : Option Str) (f : Field) (rf : RustField) : Prop where
  id : getIdent E f.ident f.attrs ra = .ok rf.id
  ty : fieldType E f.attrs f.ty = .ok rf.ty
  comments : rf.comments = parseCommentAttrs E f.attrs
  hasDefault : rf.hasDefault = serdeDefault f.attrs
  decorators : rf.decorators = getFieldDecorators E f.attrs
  noFlatten : (cf && serdeFlatten f.attrs) = false

theorem parseField_ok {E : Ext} {cf : Bool} {ra : Option Str} {f : Field} {rf : RustField}
    (h : parseField E cf ra f = .ok rf) : FieldOk E cf ra f rf := by
  obtain ⟨ty, hty, h⟩ := of_bind_ok h
  by_cases hc : (cf && serdeFlatten f.attrs) = true
  · rw [if_pos hc] at h; cases h
  · rw [if_neg hc] at h
    obtain ⟨id, hid, h⟩ := of_bind_ok h
    cases h
    exact ⟨hid, hty, rfl, rfl, rfl, by simpa using hc⟩

/-- the named fields of a struct or of a struct variant that are parsed, under the container's rule -/
abbrev parseFields (E : Ext) (T : List Str) (attrs : List Attr) (fs : List Field) : Outcome (List RustField) :=
  mapM' (parseField E true (serdeRenameAll E attrs)) (fs.filter fun f => !isSkipped f.attrs T)

theorem mkAlias_ok {E : Ext} {ident : Str} {attrs : List Attr} {gens : List GenericParam} {ty : RustType}
    {it : RustItem} (h : mkAlias E ident attrs gens ty = .ok it) :
    ∃ a, it = .alias a ∧ getIdent E (some ident) attrs none = .ok a.id ∧ a.ty = ty ∧
      a.genericTypes = genericTypes gens ∧ a.comments = parseCommentAttrs E attrs ∧
      a.decorators = getDecorators E attrs ∧ a.isRedacted = isRedacted attrs := by
  obtain ⟨id, hid, h⟩ := of_bind_ok h
  exact ⟨_, (Outcome.ok.inj h).symm, hid, rfl, rfl, rfl, rfl, rfl⟩

theorem mkStruct_ok {E : Ext} {ident : Str} {attrs : List Attr} {gens : List GenericParam} {fs : List RustField}
    {it : RustItem} (h : mkStruct E ident attrs gens fs = .ok it) :
    ∃ s, it = .struct s ∧ getIdent E (some ident) attrs none = .ok s.id ∧ s.fields = fs ∧
      s.genericTypes = genericTypes gens ∧ s.comments = parseCommentAttrs E attrs ∧
      s.decorators = getDecorators E attrs ∧ s.isRedacted = isRedacted attrs := by
  obtain ⟨id, hid, h⟩ := of_bind_ok h
  exact ⟨_, (Outcome.ok.inj h).symm, hid, rfl, rfl, rfl, rfl, rfl⟩

/-- where the one type of an item that becomes an alias comes from -/
inductive AliasSource (E : Ext) (attrs : List Attr) : Option (List Attr × SynType) → RustType → Prop
  | serializedAs {w s ty} : getSerializedAsType E attrs = some s → RustTypes.fromStr E.parseType s = .ok ty →
      AliasSource E attrs w ty
  | written {fa t ty} : getSerializedAsType E attrs = none → fieldType E fa t = .ok ty →
      AliasSource E attrs (some (fa, t)) ty

/-- **`parse_struct`**: a `serialized_as` alias; or a struct of the parsed non-skipped named fields; or the alias
of the one field of a newtype struct; or a unit struct -/
inductive StructOk (E : Ext) (T : List Str) (attrs : List Attr) (ident : Str) (gens : List GenericParam) :
    Fields → RustItem → Prop
  | serializedAs {fields s ty it} : getSerializedAsType E attrs = some s →
      RustTypes.fromStr E.parseType s = .ok ty → mkAlias E ident attrs gens ty = .ok it →
      StructOk E T attrs ident gens fields it
  | named {fs rfs it} : getSerializedAsType E attrs = none → parseFields E T attrs fs = .ok rfs →
      mkStruct E ident attrs gens rfs = .ok it → StructOk E T attrs ident gens (.named fs) it
  | newtype {f ty it} : getSerializedAsType E attrs = none → fieldType E f.attrs f.ty = .ok ty →
      mkAlias E ident attrs gens ty = .ok it → StructOk E T attrs ident gens (.unnamed [f]) it
  | unit {it} : getSerializedAsType E attrs = none → mkStruct E ident attrs gens [] = .ok it →
      StructOk E T attrs ident gens .unit it

/-- a payload list that passes `len > 1` and the empty check is one field -/
theorem payload_one {α} {fs : List Field} {a b : Outcome α} {c : Field → Outcome α} {r : α}
    (h : (if fs.length > 1 then a else match fs with | [] => b | f :: _ => c f) = .ok r)
    (ha : ∀ r, a ≠ .ok r) (hb : ∀ r, b ≠ .ok r) : ∃ f, fs = [f] ∧ c f = .ok r := by
  match fs, h with
  | [], h => exact absurd h (hb r)
  | [f], h => exact ⟨f, rfl, h⟩
  | _ :: _ :: _, h => exact absurd h (by rw [if_pos (by simp)]; exact ha r)

theorem parseStruct_ok {E : Ext} {T : List Str} {attrs : List Attr} {ident : Str} {gens : List GenericParam}
    {fields : Fields} {it : RustItem} (h : parseStruct E T attrs ident gens fields = .ok it) :
    StructOk E T attrs ident gens fields it := by
  unfold parseStruct at h
  cases hs : getSerializedAsType E attrs with
  | some s =>
    rw [hs] at h
    obtain ⟨ty, hty, h⟩ := of_bind_ok h
    exact .serializedAs hs hty h
  | none =>
    rw [hs] at h
    cases fields with
    | named fs =>
      obtain ⟨rfs, hr, h⟩ := of_bind_ok h
      exact .named hs hr h
    | unnamed fs =>
      obtain ⟨f, rfl, h⟩ := payload_one h (fun _ => nofun) (fun _ => nofun)
      obtain ⟨ty, hty, h⟩ := of_bind_ok h
      exact .newtype hs hty h
    | unit => exact .unit hs h

/-- **`parse_enum_variant`** -/
inductive VariantOk (E : Ext) (T : List Str) (v : Variant) : RustEnumVariant → Prop
  | unit {id} : v.fields = .unit → VariantOk E T v (.unit id (parseCommentAttrs E v.attrs))
  | tuple {id f ty} : v.fields = .unnamed [f] → fieldType E f.attrs f.ty = .ok ty →
      VariantOk E T v (.tuple id (parseCommentAttrs E v.attrs) ty)
  | named {id fs rfs} : v.fields = .named fs → parseFields E T v.attrs fs = .ok rfs →
      VariantOk E T v (.anonymousStruct id (parseCommentAttrs E v.attrs) rfs)

theorem parseEnumVariant_ok {E : Ext} {T : List Str} {ra : Option Str} {v : Variant} {rv : RustEnumVariant}
    (h : parseEnumVariant E T ra v = .ok rv) :
    getIdent E (some v.ident) v.attrs ra = .ok rv.id ∧ VariantOk E T v rv := by
  unfold parseEnumVariant at h
  obtain ⟨id, hid, h⟩ := of_bind_ok h
  cases hf : v.fields with
  | unit =>
    rw [hf] at h
    cases h
    exact ⟨hid, .unit hf⟩
  | unnamed fs =>
    rw [hf] at h
    obtain ⟨f, rfl, h⟩ := payload_one h (fun _ => nofun) (fun _ => nofun)
    obtain ⟨ty, hty, h⟩ := of_bind_ok h
    cases h
    exact ⟨hid, .tuple hf hty⟩
  | named fs =>
    rw [hf] at h
    obtain ⟨rfs, hr, h⟩ := of_bind_ok h
    cases h
    exact ⟨hid, .named hf hr⟩

/-- the two ways the shape check succeeds: unit variants only and neither key, or some data-carrying
variant and both keys (which then become the enum's `keys`) -/
theorem enumShape_ok {E : Ext} {attrs : List Attr} {sh : RustEnum} {it : RustItem}
    (h : enumShape E attrs sh = .ok it) :
    (sh.variants.all variantIsUnit = true ∧ getTagKey E attrs = none ∧ getContentKey E attrs = none ∧
      it = .enum sh) ∨
    (sh.variants.all variantIsUnit = false ∧ ∃ t c, getTagKey E attrs = some t ∧
      getContentKey E attrs = some c ∧ it = .enum { sh with keys := some (t, c) }) := by
  unfold enumShape at h
  cases hall : sh.variants.all variantIsUnit with
  | true =>
    rw [hall, if_pos rfl] at h
    cases ht : getTagKey E attrs with
    | some t => rw [ht] at h; cases h
    | none =>
      cases hc : getContentKey E attrs with
      | some c => rw [ht, hc] at h; cases h
      | none => rw [ht, hc] at h; cases h; exact .inl ⟨rfl, rfl, rfl, rfl⟩
  | false =>
    rw [hall, if_neg Bool.false_ne_true] at h
    cases ht : getTagKey E attrs with
    | none => rw [ht] at h; cases h
    | some t =>
      cases hc : getContentKey E attrs with
      | none => rw [ht, hc] at h; cases h
      | some c => rw [ht, hc] at h; cases h; exact .inr ⟨rfl, t, c, rfl, rfl, rfl⟩

/-- **`parse_enum`**: a `serialized_as` alias, or an enum whose variants are the parsed non-skipped source
variants and whose `keys` the shape check decides; every other attribute is read off the item's attributes -/
inductive EnumOk (E : Ext) (T : List Str) (attrs : List Attr) (ident : Str) (gens : List GenericParam)
    (variants : List Variant) : RustItem → Prop
  | serializedAs {s ty it} : getSerializedAsType E attrs = some s →
      RustTypes.fromStr E.parseType s = .ok ty → mkAlias E ident attrs gens ty = .ok it →
      EnumOk E T attrs ident gens variants it
  | enum {e : RustEnum} : getSerializedAsType E attrs = none →
      mapM' (parseEnumVariant E T (serdeRenameAll E attrs)) (variants.filter fun v => !isSkipped v.attrs T) =
        .ok e.variants →
      getIdent E (some ident) attrs none = .ok e.id →
      e.genericTypes = genericTypes gens → e.comments = parseCommentAttrs E attrs →
      e.decorators = getDecorators E attrs → e.isRecursive = e.variants.any (variantRefs ident) →
      e.isRedacted = isRedacted attrs →
      (e.variants.all variantIsUnit = true ∧ getTagKey E attrs = none ∧ getContentKey E attrs = none ∧
          e.keys = none ∨
        e.variants.all variantIsUnit = false ∧ ∃ t c, getTagKey E attrs = some t ∧
          getContentKey E attrs = some c ∧ e.keys = some (t, c)) →
      EnumOk E T attrs ident gens variants (.enum e)

theorem parseEnum_ok {E : Ext} {T : List Str} {attrs : List Attr} {ident : Str} {gens : List GenericParam}
    {variants : List Variant} {it : RustItem} (h : parseEnum E T attrs ident gens variants = .ok it) :
    EnumOk E T attrs ident gens variants it := by
  unfold parseEnum at h
  cases hs : getSerializedAsType E attrs with
  | some s =>
    rw [hs] at h
    obtain ⟨ty, hty, h⟩ := of_bind_ok h
    exact .serializedAs hs hty h
  | none =>
    rw [hs] at h
    obtain ⟨vs, hvs, h⟩ := of_bind_ok h
    obtain ⟨id, hid, h⟩ := of_bind_ok h
    rcases enumShape_ok h with ⟨hall, ht, hc, rfl⟩ | ⟨hall, t, c, ht, hc, rfl⟩
    · exact .enum hs hvs hid rfl rfl rfl rfl rfl (.inl ⟨hall, ht, hc, rfl⟩)
    · exact .enum hs hvs hid rfl rfl rfl rfl rfl (.inr ⟨hall, t, c, ht, hc, rfl⟩)

theorem parseTypeAlias_ok {E : Ext} {attrs : List Attr} {ident : Str} {gens : List GenericParam}
    {ty : SynType} {it : RustItem} (h : parseTypeAlias E attrs ident gens ty = .ok it) :
    ∃ t, fieldType E attrs ty = .ok t ∧ mkAlias E ident attrs gens t = .ok it :=
  of_bind_ok h

theorem parseConst_ok {E : Ext} {attrs : List Attr} {ident : Str} {ty : SynType} {init : Option Lit}
    {it : RustItem} (h : parseConst E attrs ident ty init = .ok it) :
    ∃ c, it = .const c ∧ parseConstExpr init = .ok c.expr ∧ fieldType E attrs ty = .ok c.ty ∧
      constTypeOk c.ty = true ∧ getIdent E (some ident) attrs none = .ok c.id := by
  obtain ⟨v, hv, h⟩ := of_bind_ok h
  obtain ⟨t, ht, h⟩ := of_bind_ok h
  by_cases hc : constTypeOk t = true
  · rw [if_pos hc] at h
    obtain ⟨id, hid, h⟩ := of_bind_ok h
    exact ⟨_, (Outcome.ok.inj h).symm, hv, ht, hc, hid⟩
  · rw [if_neg hc] at h; cases h

theorem parseConstExpr_ok {init : Option Lit} {v : Nat} (h : parseConstExpr init = .ok v) :
    v ≤ i128Max ∧ ∃ suf, init = some (.int v suf) := by
  unfold parseConstExpr at h
  split at h
  · rename_i w suf
    by_cases hw : w ≤ i128Max
    · rw [if_pos hw] at h; cases h; exact ⟨hw, suf, rfl⟩
    · rw [if_neg hw] at h; cases h
  · cases h
  · cases h

/-- a struct that came out of named fields: not through `serialized_as`, and its fields are the parsed kept ones -/
theorem parseStruct_struct_ok {E : Ext} {T : List Str} {attrs : List Attr} {ident : Str} {gens : List GenericParam}
    {fs : List Field} {rs : RustStruct} (h : parseStruct E T attrs ident gens (.named fs) = .ok (.struct rs)) :
    getSerializedAsType E attrs = none ∧ parseFields E T attrs fs = .ok rs.fields := by
  cases parseStruct_ok h with
  | serializedAs _ _ h => obtain ⟨_, ha, _⟩ := mkAlias_ok h; cases ha
  | named hs hm h =>
    obtain ⟨_, hs', _, rfl, _⟩ := mkStruct_ok h
    cases hs'
    exact ⟨hs, hm⟩

/-- an enum that came out of `parse_enum`: not through `serialized_as`, and its variants are the parsed kept ones -/
theorem parseEnum_enum_ok {E : Ext} {T : List Str} {attrs : List Attr} {ident : Str} {gens : List GenericParam}
    {vs : List Variant} {e : RustEnum} (h : parseEnum E T attrs ident gens vs = .ok (.enum e)) :
    getSerializedAsType E attrs = none ∧
      mapM' (parseEnumVariant E T (serdeRenameAll E attrs)) (vs.filter fun v => !isSkipped v.attrs T) =
        .ok e.variants := by
  cases parseEnum_ok h with
  | serializedAs _ _ h => obtain ⟨_, ha, _⟩ := mkAlias_ok h; cases ha
  | «enum» hs hm => exact ⟨hs, hm⟩

end TsV.Parser
