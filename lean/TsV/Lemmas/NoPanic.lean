import TsV.Model.Visitor
import TsV.Lemmas.RustTypes
import TsV.Lemmas.Visit
import TsV.Props.C16
/-! the parser model never takes a `panic` branch (after the `fix:` commits) -/
namespace TsV.NoPanic
open TsV TsV.Syn TsV.Parser TsV.RustTypes TsV.Outcome

theorem fromPath_np (id : Str) (ps : List RustType) : NP (fromPath id ps) := by
  rcases fromPath_cases id ps with h | ⟨r, h, _⟩ <;> rw [h] <;> rfl

theorem tryFromList_np_of (ts : List SynType) (h : ∀ t ∈ ts, NP (tryFrom t)) : NP (tryFromList ts) := by
  induction ts with
  | nil => exact np_ok _
  | cons t ts ih =>
    rw [tryFromList_cons_eq]
    exact np_bind _ _ (h t List.mem_cons_self) fun _ =>
      np_bind _ _ (ih fun x hx => h x (List.mem_cons_of_mem _ hx)) fun _ => np_ok _

theorem tryFrom_np (t : SynType) : NP (tryFrom t) := by
  induction t using SynType.rec (motive_2 := fun ts => ∀ t ∈ ts, NP (tryFrom t)) with
  | tuple es _ => cases es <;> exact rfl
  | reference e ih => exact ih
  | path q last args ih =>
    rw [tryFrom_path_eq]; exact np_bind _ _ (tryFromList_np_of args ih) (fromPath_np last)
  | array e n ih =>
    cases n with
    | none => rw [tryFrom_array_none]; exact np_err _
    | some n => rw [tryFrom_array_some]; exact np_bind _ _ ih fun _ => np_ite _ _ _ (np_ok _) (np_err _)
  | slice e ih => rw [tryFrom_slice_eq]; exact np_bind _ _ ih fun _ => np_ok _
  | other => exact rfl
  | nil => cases ‹_ ∈ []›
  | cons t ts iht ihts =>
    rcases List.mem_cons.1 ‹_ ∈ t :: ts› with rfl | h
    · exact iht
    · exact ihts _ h

theorem tryFromList_np : ∀ ts : List SynType, NP (tryFromList ts) :=
  fun ts => tryFromList_np_of ts fun t _ => tryFrom_np t

theorem fromStr_np (pt : Str → Option SynType) (s : Str) : NP (fromStr pt s) := by
  unfold fromStr; split
  · exact rfl
  · exact tryFrom_np _

theorem fieldType_np (E : Ext) (attrs : List Attr) (ty : SynType) : NP (fieldType E attrs ty) := by
  unfold fieldType; split
  · exact fromStr_np _ _
  · exact tryFrom_np _

theorem rename_np (U : UnicodeOps) (s : Str) (r : Option Str) : NP (Rename.renameAllToCase U s r) := by
  obtain ⟨t, h⟩ := C16.rename_total U s r
  rw [h]; rfl

theorem getIdent_np (E : Ext) (i : Option Str) (attrs : List Attr) (ra : Option Str) :
    NP (getIdent E i attrs ra) :=
  np_bind' _ _ (rename_np _ _ _) fun _ => by split <;> exact rfl

theorem parseField_np (E : Ext) (cf : Bool) (ra : Option Str) (f : Field) : NP (parseField E cf ra f) :=
  np_bind' _ _ (fieldType_np _ _ _) fun _ =>
    np_ite _ _ _ rfl (np_bind' _ _ (getIdent_np _ _ _ _) fun _ => rfl)

theorem mkAlias_np (E : Ext) (i : Str) (a : List Attr) (g : List GenericParam) (t : RustType) :
    NP (mkAlias E i a g t) :=
  np_bind' _ _ (getIdent_np _ _ _ _) fun _ => rfl

theorem mkStruct_np (E : Ext) (i : Str) (a : List Attr) (g : List GenericParam) (fs : List RustField) :
    NP (mkStruct E i a g fs) :=
  np_bind' _ _ (getIdent_np _ _ _ _) fun _ => rfl

theorem serializedAlias_np (E : Ext) (i : Str) (a : List Attr) (g : List GenericParam) (s : Str) :
    NP (serializedAlias E i a g s) :=
  np_bind' _ _ (fromStr_np _ _) fun _ => mkAlias_np _ _ _ _ _

theorem parseStruct_np (E : Ext) (T : List Str) (a : List Attr) (i : Str) (g : List GenericParam)
    (fs : Fields) : NP (parseStruct E T a i g fs) := by
  unfold parseStruct
  split
  · exact serializedAlias_np _ _ _ _ _
  · split
    · exact np_bind' _ _ (mapM'_np _ (parseField_np E true _) _) fun _ => mkStruct_np _ _ _ _ _
    · split
      · exact rfl
      · split
        · exact rfl
        · exact np_bind' _ _ (fieldType_np _ _ _) fun _ => mkAlias_np _ _ _ _ _
    · exact mkStruct_np _ _ _ _ _

theorem parseEnumVariant_np (E : Ext) (T : List Str) (ra : Option Str) (v : Variant) :
    NP (parseEnumVariant E T ra v) := by
  unfold parseEnumVariant
  apply np_bind' _ _ (getIdent_np _ _ _ _)
  intro id
  split
  · exact rfl
  · split
    · exact rfl
    · split
      · exact rfl
      · exact np_bind' _ _ (fieldType_np _ _ _) fun _ => rfl
  · exact np_bind' _ _ (mapM'_np _ (parseField_np E true _) _) fun _ => rfl

theorem enumShape_np (E : Ext) (a : List Attr) (sh : RustEnum) : NP (enumShape E a sh) := by
  unfold enumShape
  repeat' split
  all_goals exact rfl

theorem parseEnum_np (E : Ext) (T : List Str) (a : List Attr) (i : Str) (g : List GenericParam)
    (vs : List Variant) : NP (parseEnum E T a i g vs) := by
  unfold parseEnum
  split
  · exact serializedAlias_np _ _ _ _ _
  · exact np_bind' _ _ (mapM'_np _ (parseEnumVariant_np E T _) _) fun _ =>
      np_bind' _ _ (getIdent_np _ _ _ _) fun _ => enumShape_np _ _ _

theorem parseTypeAlias_np (E : Ext) (a : List Attr) (i : Str) (g : List GenericParam) (ty : SynType) :
    NP (parseTypeAlias E a i g ty) :=
  np_bind' _ _ (fieldType_np _ _ _) fun _ => mkAlias_np _ _ _ _ _

theorem parseConstExpr_np (init : Option Lit) : NP (parseConstExpr init) := by
  unfold parseConstExpr
  repeat' split
  all_goals exact rfl

theorem parseConst_np (E : Ext) (a : List Attr) (i : Str) (ty : SynType) (init : Option Lit) :
    NP (parseConst E a i ty init) :=
  np_bind' _ _ (parseConstExpr_np _) fun _ => np_bind' _ _ (fieldType_np _ _ _) fun _ =>
    np_ite _ _ _ (np_bind' _ _ (getIdent_np _ _ _ _) fun _ => rfl) rfl

theorem parseItem_np (E : Ext) (ctx : ParseContext) (it : Item) : NP (C03.parseItem E ctx it) := by
  cases it <;> simp only [C03.parseItem]
  · exact parseStruct_np _ _ _ _ _ _
  · exact parseEnum_np _ _ _ _ _ _
  · exact parseTypeAlias_np _ _ _ _ _
  · exact parseConst_np _ _ _ _ _
  all_goals exact rfl

theorem collectAll_parsed_np (E : Ext) (ctx : ParseContext) (path : Str) (d : ParsedData) (its : List Item) :
    NP (C03.collectAll path d (its.map (C03.parseItem E ctx))) :=
  Visit.collectAll_np path _ d fun o ho => by
    obtain ⟨it, _, rfl⟩ := List.mem_map.1 ho
    exact parseItem_np E ctx it

open Visitor in
theorem visitItem_np (E : Ext) (ctx : ParseContext) (path : Str) : ∀ (it : Item) (d : ParsedData),
      NP (visitItem E ctx path d it) := fun it d =>
  Visit.view_np (π := C13P.forget) (by rw [Visit.visit_view (Visit.blind_forget ctx)]; exact collectAll_parsed_np ..)

open Visitor in
theorem visitFile_np (E : Ext) (ctx : ParseContext) (c fn p : Str) (f : File) :
    NP (visitFile E ctx c fn p f) :=
  Visit.view_np (π := C13P.forget) (by
    rw [Visit.visitFile_view (Visit.blind_forget ctx)]
    split
    · exact collectAll_parsed_np ..
    · rfl)

open Visitor in
/-- **the model of `parser::parse` never panics**, in single- and multi-file mode -/
theorem parseFile_np (E : Ext) (ctx : ParseContext) (pick) (c fn p : Str) (f : File) :
    NP (parseFile E ctx pick c fn p f) :=
  np_ite _ _ _ (np_ok _) (np_bind _ _ (visitFile_np _ _ _ _ _ _) fun _ =>
    np_ite _ _ _ (np_pure _) (np_ite _ _ _ (np_pure _) (np_pure _)))

end TsV.NoPanic
