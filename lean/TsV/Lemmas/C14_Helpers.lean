import TsV.Lemmas.C12_Swift
import TsV.Lemmas.Run
/-!
# C14, Swift's helper file — lemmas

`Swift::should_emit_codable_void` accumulates over the modules of a run (`C12L.Swift.used`: the
items of a module make the printer format `()`).  `Modules` describes the crate files of a run:
each is `begin_file`, the item blocks, and what `end_file` writes for the flag so far.
-/
namespace TsV.C14H
open TsV TsV.Lang TsV.Lang.Swift TsV.Outcome TsV.C12L TsV.C12L.Swift

/-- some module of the run mentions `CodableVoid` -/
def runUses (cfg : Cfg) (jobs : List Job) : Bool := jobs.any fun j => used cfg j.2.1

/-- `body` is what `write_items` prints for the module `d` (in some printer state) -/
def IsBody (U : UnicodeOps) (cfg : Cfg) (d : ParsedData) (body : Str) : Prop :=
  ∃ items st st', Pipeline.generateOrder d = some items ∧ writeItems U cfg items st = .ok (body, st')

/-- the crate files of a run that starts with the flag `st` -/
inductive Modules (U : UnicodeOps) (cfg : Cfg) (multi : Bool) : St → List Job → List (Str × Str) → Prop
  | nil (st : St) : Modules U cfg multi st [] []
  | cons {st : St} {c : Str} {d : ParsedData} {imps : Option Pipeline.ScopedCrateTypes} {rest : List Job}
      {outs : List (Str × Str)} {body : Str} :
      IsBody U cfg d body → Modules U cfg multi (st || used cfg d) rest outs →
      Modules U cfg multi st ((c, d, imps) :: rest)
        ((c, beginFile cfg ++ body ++ endFile cfg multi (st || used cfg d)) :: outs)

theorem generate_body (U : UnicodeOps) (cfg : Cfg) (multi : Bool) (d : ParsedData) (st0 : St) (text : Str) (st : St)
    (h : generate U cfg multi d st0 = .ok (text, st)) :
    st = (st0 || used cfg d) ∧ ∃ body, IsBody U cfg d body ∧ text = beginFile cfg ++ body ++ endFile cfg multi st := by
  have hst := (generate_spec U cfg multi d st0 text st h).1
  refine ⟨hst, ?_⟩
  unfold generate at h
  cases ho : Pipeline.generateOrder d with
  | none => rw [ho] at h; simp at h
  | some items =>
    rw [ho] at h
    obtain ⟨body, st1, h1, h2⟩ := of_bind_pair_ok h
    simp only [Outcome.ok.injEq, Prod.mk.injEq] at h2
    obtain ⟨rfl, rfl⟩ := h2
    exact ⟨body, ⟨items, st0, st1, ho, h1⟩, rfl⟩

/-- induction over a successful `generateFrom`: module by module, with the flag before and after -/
theorem generateFrom_rec {U : UnicodeOps} {cfg : Cfg} {multi : Bool}
    {P : St → List Job → List (Str × Str) → St → Prop} (nil : ∀ st, P st [] [] st)
    (cons : ∀ st j text st1 rest outs st2, generate U cfg multi j.2.1 st = .ok (text, st1) →
      P st1 rest outs st2 → P st (j :: rest) ((j.1, text) :: outs) st2) :
    ∀ {jobs st outs st'}, generateFrom U cfg multi jobs st = .ok (outs, st') → P st jobs outs st' := by
  intro jobs
  induction jobs with
  | nil =>
    intro st outs st' h
    obtain ⟨rfl, rfl⟩ := ok_pair_inj h
    exact nil st
  | cons j rest ih =>
    intro st outs st' h
    obtain ⟨text, st1, h1, h⟩ := of_bind_pair_ok (show (generate U cfg multi j.2.1 st).bind _ = _ from h)
    obtain ⟨outs', st2, h2, h⟩ := of_bind_pair_ok h
    obtain ⟨rfl, rfl⟩ := ok_pair_inj h
    exact cons st j text st1 rest outs' st2 h1 (ih h2)

theorem generateFrom_modules (U : UnicodeOps) (cfg : Cfg) (multi : Bool) (jobs : List Job) (st0 : St)
    (outs : List (Str × Str)) (st : St) (h : generateFrom U cfg multi jobs st0 = .ok (outs, st)) :
    st = (st0 || runUses cfg jobs) ∧ Modules U cfg multi st0 jobs outs :=
  generateFrom_rec (P := fun st0 jobs outs st => st = (st0 || runUses cfg jobs) ∧ Modules U cfg multi st0 jobs outs)
    (fun _ => ⟨by simp [runUses], .nil _⟩)
    (fun st0 j text st1 rest outs st2 h1 ih => by
      obtain ⟨rfl, body, hb, rfl⟩ := generate_body U cfg multi j.2.1 st0 text st1 h1
      exact ⟨by simp [ih.1, runUses, Bool.or_assoc], .cons hb ih.2⟩) h

theorem Modules.names {U : UnicodeOps} {cfg : Cfg} {multi : Bool} {st : St} {jobs : List Job} {outs : List (Str × Str)}
    (h : Modules U cfg multi st jobs outs) : outs.map (·.1) = jobs.map (·.1) := by
  induction h with
  | nil => rfl
  | cons _ _ ih => simp [ih]

/-- folder output: `end_file` adds nothing to any crate module -/
theorem Modules.folder {U : UnicodeOps} {cfg : Cfg} {st : St} {jobs : List Job} {outs : List (Str × Str)}
    (h : Modules U cfg true st jobs outs) :
    ∀ p ∈ jobs.zip outs, p.2.1 = p.1.1 ∧ ∃ body, IsBody U cfg p.1.2.1 body ∧ p.2.2 = beginFile cfg ++ body := by
  induction h with
  | nil => intro p hp; simp at hp
  | @cons st c d imps rest outs body hb _ ih =>
    intro p hp
    simp only [List.zip_cons_cons, List.mem_cons] at hp
    rcases hp with rfl | hp
    · exact ⟨rfl, body, hb, by simp [endFile]⟩
    · exact ih p hp

/-- if the module of the single-file run holds the items of the folder run's modules (in any order),
the two runs agree on whether `CodableVoid` is mentioned -/
theorem used_eq_runUses (cfg : Cfg) (d : ParsedData) (jobs : List Job)
    (h : (itemsOf d).Perm (jobs.flatMap fun j => itemsOf j.2.1)) : used cfg d = runUses cfg jobs := by
  unfold used runUses
  rw [any_perm h, List.any_flatMap]
  rfl

end TsV.C14H
