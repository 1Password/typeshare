import TsV.Lemmas.C10_Scope
import TsV.Model.Lang.Swift
import TsV.Model.Lang.Python
/-!
# C10 — the facts about the keyword tables and the leading-digit guard behind the naming theorems
-/
namespace TsV.C10Kw
open TsV TsV.Lang

theorem contains_false_of {l : List Str} {x : Str} (h : x ∉ l) : l.contains x = false := by
  simpa using h

/-! ## Swift: `swift_keyword_aware_rename` -/

theorem swift_no_keyword_starts_with_backtick : ∀ k ∈ Swift.keywords, k.head? ≠ some '`' := by decide +kernel
theorem swift_no_keyword_has_underscore : ∀ k ∈ Swift.keywords, '_' ∉ k := by decide +kernel

theorem replaceChar_mem (s : Str) (c d : Char) (h : c ∈ s) : d ∈ Str.replaceChar s c [d] := by
  simp only [Str.replaceChar, List.mem_flatMap]
  exact ⟨c, h, by simp⟩

theorem replaceChar_head (s : Str) (c d x : Char) (t : Str) (h : s = x :: t) (hx : x ≠ c) :
    (Str.replaceChar s c [d]).head? = some x := by
  subst h
  simp [Str.replaceChar, hx]

/-! ## Python: `python_property_aware_rename` -/

theorem python_no_keyword_ends_with_underscore : ∀ k ∈ Python.keywords, k.getLast? ≠ some '_' := by decide +kernel

/-! ## leading digits -/

/-- Kotlin, Scala and Swift guard the name of an algebraic variant the same way: an underscore in
front of a leading digit.  What comes out does not start with a digit. -/
theorem head_not_digit {n : Str} {c : Char} {rest : Str}
    (h : (match n with
      | d :: _ => if Str.isAsciiDigit d then '_' :: n else n
      | [] => n) = c :: rest) : Str.isAsciiDigit c = false := by
  cases n with
  | nil => cases h
  | cons d t =>
    simp only at h
    split at h
    · cases h; decide
    · rename_i hd; cases h; simpa using hd

end TsV.C10Kw
