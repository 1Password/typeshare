import TsV.Model.Lang.Go
import TsV.Lemmas.Lang.Go
import TsV.Lemmas.C04_Common
/-!
# C04 for the Go back end (`write_field` and `format_special_type` in go.rs)
-/
namespace TsV.C04.Go
open TsV TsV.Lang TsV.Lang.Go TsV.C04

/-! ## binding semantics (trusted specification)

Go's idiom for an optional struct field is a pointer type together with `,omitempty` in the json
tag; with `no_pointer_slice` a slice type (`[]T`, nil-able by itself) with `,omitempty` counts as
well. -/

def isOptional (cfg : Cfg) (g : GoField) : Bool :=
  g.omitempty && ((s%"*").isPrefixOf g.ty || (cfg.noPointerSlice && (s%"[]").isPrefixOf g.ty))

/-- the type without the marker: the pointee of an optional pointer field -/
def stripOptional (g : GoField) : Str :=
  if g.omitempty && (s%"*").isPrefixOf g.ty then g.ty.drop 1 else g.ty

/-- the three shapes of a Go field and how the semantics reads them -/
theorem reads_pointer {cfg : Cfg} {g : GoField} {x : Str} (ho : g.omitempty = true) (ht : g.ty = '*' :: x) :
    isOptional cfg g = true ∧ stripOptional g = x := by
  simp [isOptional, stripOptional, ho, ht]

theorem reads_slice {cfg : Cfg} {g : GoField} {x : Str} (ho : g.omitempty = true)
    (hn : cfg.noPointerSlice = true) (ht : g.ty = '[' :: ']' :: x) :
    isOptional cfg g = true ∧ stripOptional g = g.ty := by
  simp [isOptional, stripOptional, ho, hn, ht]

theorem reads_required {cfg : Cfg} {g : GoField} (ho : g.omitempty = false) :
    isOptional cfg g = false ∧ stripOptional g = g.ty := by
  simp [isOptional, stripOptional, ho]

/-- the pointer `format_special_type` puts in front of the translation of `Option<r>` -/
def ptr (cfg : Cfg) (r : RustType) : Str := if r.isVec && cfg.noPointerSlice then [] else s%"*"

/-- without a type mapping keyed by the type itself `format_special_type` goes on to its arms -/
theorem special_unmapped {cfg : Cfg} {t : RustType} (h : mapGet cfg.typeMappings t.display = none)
    (st : Imports) (k : Imports → Outcome (Str × Imports)) : special cfg t st k = k st := by
  unfold special
  rw [h]

theorem formatType_option {cfg : Cfg} {r : RustType} (st : Imports)
    (h : NoOptionKey cfg.typeMappings (.option r)) :
    formatType cfg (.option r) st =
      (formatType cfg r st).bind fun (x : Str × Imports) => .ok (ptr cfg r ++ x.1, x.2) :=
  special_unmapped (h rfl) st _

theorem formatType_option_ok {cfg : Cfg} {r : RustType} {st st' : Imports} {t : Str}
    (hk : NoOptionKey cfg.typeMappings (.option r))
    (h : formatType cfg (.option r) st = .ok (t, st')) :
    ∃ s, formatType cfg r st = .ok (s, st') ∧ t = ptr cfg r ++ s := by
  rw [formatType_option st hk] at h
  obtain ⟨⟨s, st1⟩, hs, h⟩ := Outcome.of_bind_ok h
  obtain ⟨h1, rfl⟩ := Outcome.ok_pair_inj h
  exact ⟨s, hs, h1.symm⟩

/-- with `no_pointer_slice`, the `Vec` under the `Option` is not replaced by a type mapping (a
mapping keyed `Vec<…>` would put an arbitrary configured name where the slice is expected) -/
def SliceUnmapped (cfg : Cfg) (t : RustType) : Prop :=
  ∀ r, t = .option (.vec r) → cfg.noPointerSlice = true → mapGet cfg.typeMappings (RustType.vec r).display = none

theorem formatType_vec_ok {cfg : Cfg} {r : RustType} {st st' : Imports} {t : Str}
    (hm : mapGet cfg.typeMappings (RustType.vec r).display = none)
    (h : formatType cfg (.vec r) st = .ok (t, st')) :
    ∃ s, t = s%"[]" ++ s := by
  obtain ⟨⟨s, st1⟩, _, h⟩ := Outcome.of_bind_ok ((special_unmapped hm st _).symm.trans h)
  exact ⟨s, (Outcome.ok_pair_inj h).1.symm⟩

/-- the acronym pass (`convert_acronyms_to_uppercase`, applied by `write_field` to the whole type
text) leaves the punctuation of pointer and slice types in place -/
def AcrTransparent (U : UnicodeOps) (cfg : Cfg) : Prop :=
  ∀ (c : Char) (s : Str), c ∈ ['*', '[', ']'] →
    acr U cfg (c :: s) = (acr U cfg s).bind fun r => .ok (c :: r)

/-- a transparent pass that succeeds on `c :: s` succeeds on `s` and keeps the `c` -/
theorem AcrTransparent.cons_ok {U : UnicodeOps} {cfg : Cfg} (ha : AcrTransparent U cfg) {c : Char} {s t : Str}
    (hc : c ∈ ['*', '[', ']']) (h : acr U cfg (c :: s) = .ok t) : ∃ x, acr U cfg s = .ok x ∧ t = c :: x := by
  rw [ha c s hc] at h
  obtain ⟨x, hx, h⟩ := Outcome.of_bind_ok h
  exact ⟨x, hx, (Outcome.ok.inj h).symm⟩

/-- without configured acronyms the pass is the identity -/
theorem acrTransparent_nil (U : UnicodeOps) (cfg : Cfg) (h : cfg.uppercaseAcronyms = []) :
    AcrTransparent U cfg := by
  intro c s _
  simp [acr_nil U cfg h]

theorem fieldFacts_ok {U : UnicodeOps} {cfg : Cfg} {f : RustField} {st st' : Imports} {g : GoField}
    (h : fieldFacts U cfg f st = .ok (g, st')) :
    g.omitempty = opt f ∧
    ∃ typeName goType,
      (match typeOverride f .go with
       | some t => typeName = t
       | none => formatType cfg f.ty st = .ok (typeName, st')) ∧
      acr U cfg typeName = .ok goType ∧
      g.ty = (if f.hasDefault && !f.ty.isOptional then s%"*" else []) ++ goType := by
  obtain ⟨typeName, goType, _, htn, hgt, _, rfl⟩ := fieldFacts_inv h
  refine ⟨rfl, typeName, goType, ?_, hgt, rfl⟩
  cases ho : typeOverride f .go with
  | some t => rw [ho] at htn; exact (Outcome.ok_pair_inj htn).1.symm
  | none => rw [ho] at htn; exact htn

/-- **Go, one field** (no `go(type = …)` override): pointer (or, with `no_pointer_slice`, slice)
plus `,omitempty` exactly when the field is `Option<_>` or has `serde(default)`; without the
marker the type is the (acronym-cased) translation of the `Option`-stripped Rust type -/
theorem field {U : UnicodeOps} {cfg : Cfg} {f : RustField} {st st' : Imports} {g : GoField}
    (hov : typeOverride f .go = none) (hk : NoOptionKey cfg.typeMappings f.ty)
    (hs : SliceUnmapped cfg f.ty) (ha : AcrTransparent U cfg)
    (h : fieldFacts U cfg f st = .ok (g, st')) :
    isOptional cfg g = opt f ∧
    ∃ inner, formatType cfg (stripOption f.ty) st = .ok (inner, st') ∧
      acr U cfg inner = .ok (stripOptional g) := by
  obtain ⟨hom, typeName, goType, htn, hgt, hty⟩ := fieldFacts_ok h
  rw [hov] at htn
  simp only at htn
  cases ho : f.ty.isOptional with
  | true =>
    have hopt : opt f = true := by rw [opt, ho]; rfl
    have hty' : g.ty = goType := by rw [hty, ho, Bool.not_true, Bool.and_false]; rfl
    rw [hopt] at hom ⊢
    obtain ⟨r, hr⟩ := (isOptional_iff _).1 ho
    rw [hr] at htn hk ⊢
    obtain ⟨s, hfs, rfl⟩ := formatType_option_ok hk htn
    by_cases hv : (r.isVec && cfg.noPointerSlice) = true
    · -- `Option<Vec<_>>` with `no_pointer_slice`: a bare slice
      have hp : ptr cfg r = [] := if_pos hv
      rw [hp, List.nil_append] at hgt
      obtain ⟨hvec, hnps⟩ := Bool.and_eq_true_iff.1 hv
      obtain ⟨r', rfl⟩ := (isVec_iff r).1 hvec
      obtain ⟨s', rfl⟩ := formatType_vec_ok (hs r' hr hnps) hfs
      obtain ⟨x, hx, rfl⟩ := ha.cons_ok (c := '[') (by simp) hgt
      obtain ⟨y, hy, rfl⟩ := ha.cons_ok (c := ']') (by simp) hx
      obtain ⟨hi, hst⟩ := reads_slice hom hnps hty'
      exact ⟨hi, _, hfs, by rw [hst, hty']; exact hgt⟩
    · have hp : ptr cfg r = s%"*" := if_neg hv
      rw [hp] at hgt
      obtain ⟨x, hx, rfl⟩ := ha.cons_ok (c := '*') (by simp) hgt
      obtain ⟨hi, hst⟩ := reads_pointer hom hty'
      exact ⟨hi, s, hfs, by rw [hst]; exact hx⟩
  | false =>
    rw [stripOption_of_not_optional _ ho]
    cases hdef : f.hasDefault with
    | true =>
      have hopt : opt f = true := by rw [opt, hdef, Bool.or_true]
      have hty' : g.ty = '*' :: goType := by rw [hty, hdef, ho]; rfl
      rw [hopt] at hom ⊢
      obtain ⟨hi, hst⟩ := reads_pointer hom hty'
      exact ⟨hi, typeName, htn, by rw [hst]; exact hgt⟩
    | false =>
      have hopt : opt f = false := by rw [opt, hdef, ho]; rfl
      have hty' : g.ty = goType := by rw [hty, hdef]; rfl
      rw [hopt] at hom ⊢
      obtain ⟨hi, hst⟩ := reads_required hom
      exact ⟨hi, typeName, htn, by rw [hst, hty']; exact hgt⟩

/-- with a `go(type = "t")` override the text replaces the translated type including the pointer
that `Option` would have contributed; the `serde(default)` pointer is still added -/
theorem field_override {U : UnicodeOps} {cfg : Cfg} {f : RustField} {st st' : Imports} {g : GoField} {t : Str}
    (hov : typeOverride f .go = some t) (h : fieldFacts U cfg f st = .ok (g, st')) :
    g.omitempty = opt f ∧ ∃ goType, acr U cfg t = .ok goType ∧
      g.ty = (if f.hasDefault && !f.ty.isOptional then s%"*" else []) ++ goType := by
  obtain ⟨hom, typeName, goType, htn, hgt, hty⟩ := fieldFacts_ok h
  rw [hov] at htn
  simp only at htn
  subst htn
  exact ⟨hom, goType, hgt, hty⟩

def FieldGen (U : UnicodeOps) (cfg : Cfg) (f : RustField) (g : GoField) : Prop :=
  ∃ st st', fieldFacts U cfg f st = .ok (g, st')

theorem fieldsFacts_pointwise (U : UnicodeOps) (cfg : Cfg)
    (fs : List RustField) (st : Imports) (gs : List GoField) (st' : Imports)
    (h : fieldsFacts U cfg fs st = .ok (gs, st')) : Pointwise (FieldGen U cfg) fs gs :=
  thread_pointwise h (fun _ => rfl) fun _ _ _ => rfl

/-- **every field of every struct** has its Go field, in order -/
theorem struct_fields {U : UnicodeOps} {cfg : Cfg} {rs : RustStruct} {st st' : Imports} {d : GoStruct}
    (h : structFacts U cfg rs st = .ok (d, st')) :
    Pointwise (FieldGen U cfg) rs.fields d.fields := by
  obtain ⟨_, _, _, hf, rfl⟩ := structFacts_inv h
  exact fieldsFacts_pointwise _ _ _ _ _ _ hf

theorem anonStructs_pointwise (U : UnicodeOps) (cfg : Cfg) (e : RustEnum)
    (vs : List (Id × List RustField)) (st : Imports) (ds : List GoStruct) (st' : Imports)
    (h : anonStructs U cfg e vs st = .ok (ds, st')) :
    Pointwise (fun (v : Id × List RustField) d => Pointwise (FieldGen U cfg) v.2 d.fields) vs ds := by
  refine Pointwise.imp ?_ (thread_pointwise
    (f := fun (v : Id × List RustField) st => (anonName U cfg e v.1.original).bind fun sn =>
      structFacts U cfg (anonymousStruct e sn v.1.original v.2) st)
    h (fun _ => rfl) fun _ _ _ => (Outcome.bind_assoc _ _ _).symm)
  rintro v d ⟨st, st1, hd⟩
  obtain ⟨sn, _, hd⟩ := Outcome.of_bind_ok hd
  exact struct_fields hd

/-- **every field of every struct variant**: one named struct per struct variant, in order -/
theorem variant_fields {U : UnicodeOps} {cfg : Cfg} {e : RustEnum} {tag content : Str} {cs : List Str}
    {st st' : Imports} {d : GoAlgEnum}
    (h : algEnumFacts U cfg e tag content cs st = .ok (d, st')) :
    Pointwise (fun (v : Id × List RustField) s => Pointwise (FieldGen U cfg) v.2 s.fields)
      (structVariants e) d.anonymous := by
  obtain ⟨_, _, _, _, _, _, _, han, _, _, _, _, _, rfl⟩ := algEnumFacts_inv h
  exact anonStructs_pointwise _ _ _ _ _ _ _ han

/-- **newtype-variant payload**: typed with the (acronym-cased) translation of the payload type,
so `Option<T>` gives `*T` (`formatType_option`) -/
theorem payload {U : UnicodeOps} {cfg : Cfg} {e : RustEnum} {sn tag : Str} {cstructs : List Str}
    {id : Id} {cs : List Str} {ty : RustType} {st st' : Imports} {v : GoAlgVariant}
    (h : algVariant U cfg e sn tag cstructs (.tuple id cs ty) st = .ok (v, st')) :
    ∃ t p, formatType cfg ty st = .ok (t, st') ∧ acr U cfg t = .ok p.ty ∧ v.payload = some p := by
  obtain ⟨_, _, _, _, _, rfl, t, ft, hf, hft, rfl⟩ := algVariant_inv h
  exact ⟨t, _, hf, hft, rfl⟩

/-- **alias**: `type X <translation of the type>` -/
theorem alias {U : UnicodeOps} {cfg : Cfg} {a : RustTypeAlias} {st st' : Imports} {ga : GoAlias}
    (h : aliasFacts U cfg a st = .ok (ga, st')) :
    formatType cfg a.ty st = .ok (ga.ty, st') := by
  obtain ⟨_, _, _, hty, rfl⟩ := aliasFacts_inv h
  exact hty

end TsV.C04.Go
