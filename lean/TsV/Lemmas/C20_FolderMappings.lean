import TsV.Lemmas.C14_Imports_Text
import TsV.Lemmas.C14_Paths_Visit
/-!
# C20_FolderMappings — helper lemmas

* **Modelled here (not in `Model/`)**: the six `type_mappings` tables of `typeshare.toml` (`Tables`) and
  `cli/src/main.rs::language(language_type, config, multi_file)`, which hands the back end of language
  `L` the table `config.L.type_mappings` (`language`).  `Model/Config.lean` keeps the file-only
  settings abstract (`Config.rest`, "applied unchanged"); this is the part of `rest` the statements
  need.
* no arrival holds an import whose type name is in `ctx.ignoredTypes` (`parseFile_clean`, from the exact
  characterisation `C14P.visitFile_imports` of a visit's imports), neither does a collected crate (`crates_clean`).
-/
namespace TsV.C20_FolderMappings
open TsV TsV.Syn TsV.Visitor TsV.Pipeline TsV.Collect TsV.C06M TsV.C14I TsV.Generate

/-! ## the six tables and `language()` -/

/-- `[typescript.type_mappings]`, `[kotlin.type_mappings]`, … of one `typeshare.toml` -/
structure Tables where
  typescript : List (Str × Str) := []
  kotlin : List (Str × Str) := []
  swift : List (Str × Str) := []
  scala : List (Str × Str) := []
  go : List (Str × Str) := []
  python : List (Str × Str) := []

def langOf : LangCfg → TsV.Lang
  | .typescript _ => .typescript | .kotlin _ => .kotlin | .swift _ => .swift
  | .scala _ => .scala | .go _ => .go | .python _ => .python

def Tables.of (t : Tables) : TsV.Lang → List (Str × Str)
  | .typescript => t.typescript | .kotlin => t.kotlin | .swift => t.swift
  | .scala => t.scala | .go => t.go | .python => t.python

/-- `language(language_type, config, _)`: the back end value of the language under generation gets
`config.<that language>.type_mappings` (`base` carries the language and its other settings) -/
def language (base : LangCfg) (t : Tables) : LangCfg :=
  match base with
  | .typescript c => .typescript { c with typeMappings := t.typescript }
  | .kotlin c => .kotlin { c with typeMappings := t.kotlin }
  | .swift c => .swift { c with typeMappings := t.swift }
  | .scala c => .scala { c with typeMappings := t.scala }
  | .go c => .go { c with typeMappings := t.go }
  | .python c => .python { c with typeMappings := t.python }

/-- the table a back end value carries -/
def mappingsOf : LangCfg → List (Str × Str)
  | .typescript c => c.typeMappings | .kotlin c => c.typeMappings | .swift c => c.typeMappings
  | .scala c => c.typeMappings | .go c => c.typeMappings | .python c => c.typeMappings

/-! ## no import of an ignored name -/

/-- no recorded import names a type of the ignore list -/
def Clean (ctx : ParseContext) (d : ParsedData) : Prop :=
  ∀ i ∈ d.importTypes, ctx.ignoredTypes.contains i.typeName = false

theorem importOfPath_clean (E : Ext) (ctx : ParseContext) (cn : Str) (segs : List Str) (i : ImportedType)
    (h : importOfPath E ctx cn segs = some i) : ctx.ignoredTypes.contains i.typeName = false := by
  unfold importOfPath at h
  split at h
  · split at h
    · rename_i hc
      simp only [Option.some.injEq] at h
      subst h
      simp only [Bool.and_eq_true, Bool.not_eq_true'] at hc
      exact hc.1.2
    · cases h
  · cases h

/-- both sources of an import filter the ignore list -/
theorem contrib_clean {E : Ext} {ctx : ParseContext} {cn : Str} {ps : List (List Str)} {ts : List UseTree}
    {i : ImportedType} (h : C14P.Contrib E ctx cn ps ts i) : ctx.ignoredTypes.contains i.typeName = false := by
  rcases h with ⟨p, _, hp⟩ | ⟨t, _, ht⟩
  · exact importOfPath_clean E ctx cn p i hp
  · simpa using (List.mem_filter.1 ht).2

theorem visitItem_clean (E : Ext) (ctx : ParseContext) (fp : Str) :
      ∀ (it : Item) (d d' : ParsedData), visitItem E ctx fp d it = .ok d' → Clean ctx d → Clean ctx d' :=
  fun it d _ h => Visit.run_preserves (Clean ctx) (fun i => ctx.ignoredTypes.contains i.typeName = false)
    (Visit.visit_eq E ctx fp it d ▸ h) (fun d ri h => by cases ri <;> exact h) (fun _ _ h => h)
    (fun d imps hi hc i hm => ((mem_addImports d imps i).1 hm).elim (hc i) (hi i))
    fun g hg cn i hi => contrib_clean ((C14P.ins_events E ctx cn i it).1 ⟨g, hg, hi⟩)

/-- **what `parser::parse` returns never imports an ignored name** (folder mode) -/
theorem parseFile_clean (E : Ext) (ctx : ParseContext) (hmf : ctx.multiFile = true)
    (pick : List ImportedType → Option ImportedType) (hp : ValidPick pick) (cn fn fp : Str) (f : File) (a : ParsedData)
    (h : parseFile E ctx pick cn fn fp f = .ok (some a)) : Clean ctx a := by
  obtain ⟨d, hv, hne, _, rfl⟩ := visit_of_parseFile E ctx hmf pick cn fn fp f a h
  exact fun i hi => contrib_clean
    ((C14P.visitFile_imports E ctx hmf cn fn fp f d hv hne i).1 (reconcile_sound E.U pick hp d i hi).1)

theorem parseAll_clean (E : Ext) (ctx : ParseContext) (hmf : ctx.multiFile = true)
    (pick : List ImportedType → Option ImportedType) (hp : ValidPick pick)
    (files : List SourceFile) (arrivals : List ParsedData) (h : parseAll E ctx pick files = .ok arrivals) :
    ∀ a ∈ arrivals, Clean ctx a := by
  intro a ha
  obtain ⟨f, _, hf⟩ := (mem_parseAll E ctx pick files arrivals h a).1 ha
  exact parseFile_clean E ctx hmf pick hp _ _ _ _ a hf

/-- … nor does any crate's entry after the collector and `reconcile_aliases` -/
theorem crates_clean (ctx : ParseContext) (arrivals : List ParsedData) (h : ∀ a ∈ arrivals, Clean ctx a)
    (c : Str) (v : ParsedData) (hm : (c, v) ∈ reconcile (collect arrivals)) : Clean ctx v := by
  rw [reconcile_eq] at hm
  obtain ⟨p, hp, he⟩ := List.mem_map.1 hm
  simp only [Prod.mk.injEq] at he
  obtain ⟨rfl, rfl⟩ := he
  intro i hi
  have hi' : i ∈ p.2.importTypes := hi
  rw [(collect_entry arrivals (c := p.1) (v := p.2) hp).1, merged_imports_mem] at hi'
  rcases hi' with h0 | ⟨d, hd, hid⟩
  · cases h0
  · exact h d (List.mem_filter.1 hd).1 i hid

/-- a fold over the job list whose step reads only the crate name and the data of a job does not see the scoped
imports -/
theorem fold_blind {γ : Sort _} {F : List Job → γ} (k : Str → ParsedData → γ → γ)
    (h : ∀ j js, F (j :: js) = k j.1 j.2.1 (F js)) (jobs : List Job) :
    F jobs = F (jobs.map fun j => (j.1, j.2.1, none)) := by
  induction jobs with
  | nil => rfl
  | cons j js ih => rw [List.map_cons, h, h, ih]

end TsV.C20_FolderMappings
