import TsV.Props.C11_Coverage
/-!
# C11_VariantOrder, lemmas — programs whose items mention the same types in another order

`SameShape a a'`: same original name, same generic parameters, the types mentioned are a permutation.
`Similar items items'`: position by position `SameShape`.  The reference relation of `Props/C11_Coverage.lean` and
the three decidable hypotheses of its theorems (`NamesDistinct`, `DepthOk`, `GenericsUsed`) cannot tell two similar
programs apart.  `variantTypes` / `isPayload`: what a variant contributes; unit variants contribute nothing.
-/
namespace TsV.C11_VariantOrder
open TsV TsV.Deps TsV.Topsort TsV.C11

/-- the types one variant of an algebraic enum mentions -/
def variantTypes : RustEnumVariant → List RustType
  | .tuple _ _ ty => [ty]
  | .anonymousStruct _ _ fs => fs.map (·.ty)
  | .unit _ _ => []

def isPayload : RustEnumVariant → Bool
  | .unit _ _ => false
  | _ => true

theorem itemTypes_enum (e : RustEnum) (k : Str × Str) (h : e.keys = some k) :
    itemTypes (.enum e) = e.variants.flatMap variantTypes := by
  simp only [itemTypes, h]
  rfl

theorem itemTypes_enum_unit (e : RustEnum) (h : e.keys = none) : itemTypes (.enum e) = [] := by
  simp only [itemTypes, h]

/-- unit variants contribute nothing, wherever they stand -/
theorem flatMap_filter_payload (vs : List RustEnumVariant) :
    (vs.filter isPayload).flatMap variantTypes = vs.flatMap variantTypes := by
  induction vs with
  | nil => rfl
  | cons v vs ih => cases v <;> simp [List.filter_cons, isPayload, variantTypes, ih]

structure SameShape (a a' : RustItem) : Prop where
  name : a'.originalName = a.originalName
  types : (itemTypes a').Perm (itemTypes a)
  gens : itemGenerics a' = itemGenerics a

structure Similar (items items' : List RustItem) : Prop where
  length : items'.length = items.length
  shape : ∀ (k : Nat) (a a' : RustItem), items[k]? = some a → items'[k]? = some a' → SameShape a a'

theorem SameShape.refl (a : RustItem) : SameShape a a := ⟨rfl, List.Perm.refl _, rfl⟩

theorem SameShape.refs {a a' : RustItem} (h : SameShape a a') (x : Str) : x ∈ refsItem a' ↔ x ∈ refsItem a := by
  simp only [mem_refsItem]
  constructor
  · rintro ⟨t, ht, hx⟩; exact ⟨t, h.types.mem_iff.1 ht, hx⟩
  · rintro ⟨t, ht, hx⟩; exact ⟨t, h.types.mem_iff.2 ht, hx⟩

variable {items items' : List RustItem}

theorem Similar.get (h : Similar items items') {k : Nat} {a : RustItem} (ha : items[k]? = some a) :
    ∃ a', items'[k]? = some a' ∧ SameShape a a' := by
  have hk : k < items'.length := by rw [h.length]; exact (List.getElem?_eq_some_iff.1 ha).1
  exact ⟨items'[k], List.getElem?_eq_getElem hk, h.shape k a _ ha (List.getElem?_eq_getElem hk)⟩

theorem Similar.get' (h : Similar items items') {k : Nat} {a' : RustItem} (ha : items'[k]? = some a') :
    ∃ a, items[k]? = some a ∧ SameShape a a' := by
  have hk : k < items.length := by rw [← h.length]; exact (List.getElem?_eq_some_iff.1 ha).1
  exact ⟨items[k], List.getElem?_eq_getElem hk, h.shape k _ a' (List.getElem?_eq_getElem hk) ha⟩

theorem Similar.names (h : Similar items items') :
    items'.map RustItem.originalName = items.map RustItem.originalName := by
  apply List.ext_getElem?
  intro k
  simp only [List.getElem?_map]
  cases ha : items[k]? with
  | none =>
    have : items'[k]? = none := by
      rw [List.getElem?_eq_none_iff] at ha ⊢; rw [h.length]; exact ha
    simp [this]
  | some a =>
    obtain ⟨a', ha', hs⟩ := h.get ha
    simp [ha', hs.name]

theorem lookup_isSome_iff (items : List RustItem) (g : Str) :
    (lookup items g).isSome ↔ g ∈ items.map RustItem.originalName := by
  constructor
  · intro h
    obtain ⟨thing, ht⟩ := Option.isSome_iff_exists.1 h
    exact List.mem_map.2 ⟨thing, lookup_mem ht, lookup_name ht⟩
  · intro h
    obtain ⟨it, hit, hn⟩ := List.mem_map.1 h
    rw [← hn]; exact lookup_isSome_of_mem hit

/-- **the reference relation is the same** -/
theorem Similar.refers (h : Similar items items') (a b : Nat) : Refers items' a b ↔ Refers items a b := by
  simp only [refers_iff]
  constructor
  · rintro ⟨x', y', hx', hy', hm⟩
    obtain ⟨x, hx, sx⟩ := h.get' hx'
    obtain ⟨y, hy, sy⟩ := h.get' hy'
    exact ⟨x, y, hx, hy, by rw [← sy.name]; exact (sx.refs _).1 hm⟩
  · rintro ⟨x, y, hx, hy, hm⟩
    obtain ⟨x', hx', sx⟩ := h.get hx
    obtain ⟨y', hy', sy⟩ := h.get hy
    exact ⟨x', y', hx', hy', by rw [sy.name]; exact (sx.refs _).2 hm⟩

theorem Similar.reach (h : Similar items items') {a b : Nat} (r : RefReach items' a b) : RefReach items a b := by
  induction r with
  | single hr => exact .single ((h.refers _ _).1 hr)
  | step _ hr ih => exact .step ih ((h.refers _ _).1 hr)

theorem Similar.namesDistinct (h : Similar items items') (hd : NamesDistinct items) : NamesDistinct items' := by
  unfold NamesDistinct at *; rw [h.names]; exact hd

theorem Similar.depthOk (h : Similar items items') (hd : DepthOk items) : DepthOk items' := by
  intro it' hit' t ht
  obtain ⟨k, hk⟩ := List.mem_iff_getElem?.1 hit'
  obtain ⟨it, hit, hs⟩ := h.get' hk
  have := hd it (List.mem_iff_getElem?.2 ⟨k, hit⟩) t (hs.types.mem_iff.1 ht)
  simpa [fuelFor, h.length] using this

theorem Similar.genericsUsed (h : Similar items items') (hg : GenericsUsed items) : GenericsUsed items' := by
  intro it' hit' g hgm hl
  obtain ⟨k, hk⟩ := List.mem_iff_getElem?.1 hit'
  obtain ⟨it, hit, hs⟩ := h.get' hk
  rw [lookup_isSome_iff, h.names, ← lookup_isSome_iff] at hl
  exact (hs.refs g).2 (hg it (List.mem_iff_getElem?.2 ⟨k, hit⟩) g (by rw [← hs.gens]; exact hgm) hl)

/-- replacing one item by one of the same shape -/
theorem similar_set {i : Nat} {a a' : RustItem} (ha : items[i]? = some a) (hs : SameShape a a') :
    Similar items (items.set i a') := by
  refine ⟨by simp, ?_⟩
  intro k x x' hx hx'
  by_cases hik : i = k
  · subst hik
    have hi : i < items.length := (List.getElem?_eq_some_iff.1 ha).1
    rw [List.getElem?_set_self hi] at hx'
    rw [ha] at hx
    cases hx; cases hx'; exact hs
  · rw [List.getElem?_set_ne hik] at hx'
    rw [hx] at hx'; cases hx'; exact SameShape.refl _

/-- what `get_dependencies` pushes for an item without generic parameters of its own (struct, enum, const, plain
alias) are names its own types mention: the nested call after a push is a no-op (`depsItem_of_seen`), so nothing
transitive is recorded -/
theorem depsItem_direct (items : List RustItem) (f : Nat) (it : RustItem) (hgen : itemGenerics it = []) (x : Str)
    (hx : x ∈ (depsItem items f it ⟨[], []⟩).res) : x ∈ refsItem it := by
  cases f with
  | zero => rw [depsItem_zero] at hx; cases hx
  | succ f =>
    rw [depsItem_succ items f it ⟨[], []⟩ (by simp)] at hx
    rw [itemGenerics_eq] at hgen
    simp only [remove_res, hgen, gensFold, List.foldl_nil] at hx
    rcases typesFold_sound items f _ _ x hx with h | ⟨t, ht, hxt⟩
    · cases h
    · exact mem_refsItem.2 ⟨t, by rw [itemTypes_eq]; exact ht, hxt⟩

end TsV.C11_VariantOrder
