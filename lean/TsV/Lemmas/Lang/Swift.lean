import TsV.Model.Lang.Swift
import TsV.Lemmas.Outcome
/-!
# The Swift printer, between the model and the properties

`structFacts` / `enumFacts` build a record from two traversals each; the properties read one field
of the record each.  `structOf` / `enumOf` name the records, `*_ok` say how a successful run arises,
and the fields that do not come from a traversal are read off by `rfl`.
-/
namespace TsV.Lang.Swift
open TsV TsV.Lang TsV.Outcome

/-- the record `write_struct` builds from the results of its two loops -/
def structOf (U : UnicodeOps) (cfg : Cfg) (rs : RustStruct) (props : List StoredProp) (params : List InitParam) :
    SwiftStruct :=
  { comments := rs.comments,
    name := kw (cfg.pfx ++ rs.id.renamed),
    generics := genericParams U cfg rs.decorators rs.genericTypes,
    conformances := structConformances cfg rs.decorators,
    props,
    codingKeys := rs.fields.map fieldCodingKey,
    explicitCodingKeys := rs.fields.any fun f => f.id.renamed.contains '-',
    initParams := params,
    initAssigns := rs.fields.map fun f => ⟨removeDash f.id.renamed, memberName f⟩ }

theorem structFacts_ok {U : UnicodeOps} {cfg : Cfg} {rs : RustStruct} {st st' : St} {s : SwiftStruct}
    (h : structFacts U cfg rs st = .ok (s, st')) :
    ∃ props st1 params, storedProps cfg rs.genericTypes rs.fields st = .ok (props, st1) ∧
      initParams cfg rs.genericTypes rs.fields st1 = .ok (params, st') ∧ structOf U cfg rs props params = s := by
  obtain ⟨props, st1, hp, h⟩ := of_bind_pair_ok h
  obtain ⟨params, hi, hs⟩ := (bind_ret_ok (g := structOf U cfg rs props)).1 h
  exact ⟨props, st1, params, hp, hi, hs⟩

theorem writeStruct_ok {U : UnicodeOps} {cfg : Cfg} {rs : RustStruct} {st st' : St} {b : Str} :
    writeStruct U cfg rs st = .ok (b, st') ↔ ∃ s, structFacts U cfg rs st = .ok (s, st') ∧ renderStruct U s = b :=
  bind_ret_ok (g := renderStruct U)

def aliasText (U : UnicodeOps) (cfg : Cfg) (a : RustTypeAlias) (ty : Str) : Str :=
  nl ++ comments U 0 a.comments ++ s%"public typealias " ++ kw (cfg.pfx ++ a.id.renamed) ++
    genericSuffix a.genericTypes ++ s%" = " ++ ty ++ nl

theorem writeAlias_ok {U : UnicodeOps} {cfg : Cfg} {a : RustTypeAlias} {st st' : St} {b : Str} :
    writeAlias U cfg a st = .ok (b, st') ↔
      ∃ ty, formatType cfg a.genericTypes a.ty st = .ok (ty, st') ∧ aliasText U cfg a ty = b :=
  bind_ret_ok (g := aliasText U cfg a)

/-- the case of an algebraic enum's variant, given its payload -/
def caseOf (U : UnicodeOps) (v : RustEnumVariant) (p : Option Payload) : EnumCase :=
  { comments := v.comments, caseName := algebraicCaseName U v, printedName := kw (algebraicCaseName U v),
    wireName := v.id.renamed, payload := p }

theorem algebraicCase_tuple_ok {U : UnicodeOps} {cfg : Cfg} {e : RustEnum} {id : Id} {cs : List Str} {ty : RustType}
    {st st' : St} {c : EnumCase} :
    algebraicCase U cfg e (.tuple id cs ty) st = .ok (c, st') ↔
      ∃ t, formatType cfg e.genericTypes ty st = .ok (t, st') ∧
        caseOf U (.tuple id cs ty) (some ⟨kw t, ty.isOptional⟩) = c :=
  bind_ret_ok (g := fun t => caseOf U (.tuple id cs ty) (some ⟨kw t, ty.isOptional⟩))

/-- the record `write_enum` builds from the cases -/
def enumOf (U : UnicodeOps) (cfg : Cfg) (e : RustEnum) (cases : List EnumCase) : SwiftEnum :=
  { comments := e.comments,
    indirect := e.isRecursive,
    name := kw (cfg.pfx ++ e.id.renamed),
    generics := genericParams U cfg e.decorators e.genericTypes,
    conformances := enumConformances cfg e,
    cases,
    codingKeys := (match e.keys with | none => [] | some _ => cases.map caseCodingKey),
    codable := e.keys.map fun (tag, content) =>
      { tagKey := tag, contentKey := content, typeName := kw (cfg.pfx ++ e.id.renamed),
        decodeArms := cases.map decodeArmOf, encodeArms := cases.map encodeArmOf } }

theorem enumFacts_ok {U : UnicodeOps} {cfg : Cfg} {e : RustEnum} {st st' : St} {ss : List SwiftStruct} {se : SwiftEnum}
    (h : enumFacts U cfg e st = .ok (ss, se, st')) :
    ∃ st1 cases, anonymousStructs U cfg e (structVariants e) st = .ok (ss, st1) ∧
      (match e.keys with
       | none => Outcome.ok (e.variants.map (unitCase U), st1)
       | some _ => algebraicCases U cfg e e.variants st1) = .ok (cases, st') ∧
      enumOf U cfg e cases = se := by
  obtain ⟨structs, st1, hs, h⟩ := of_bind_pair_ok h
  obtain ⟨cases, st2, hc, h⟩ := of_bind_pair_ok h
  obtain ⟨rfl, h2⟩ := Prod.mk.inj (Outcome.ok.inj h)
  obtain ⟨hse, rfl⟩ := Prod.mk.inj h2
  exact ⟨st1, cases, hs, hc, hse⟩

theorem writeEnum_ok {U : UnicodeOps} {cfg : Cfg} {e : RustEnum} {st st' : St} {b : Str}
    (h : writeEnum U cfg e st = .ok (b, st')) :
    ∃ ss se, enumFacts U cfg e st = .ok (ss, se, st') ∧ nl ++ ss.flatMap (renderStruct U) ++ renderEnum U se = b := by
  obtain ⟨⟨ss, se, st1⟩, hf, h⟩ := of_bind_ok h
  obtain ⟨hb, rfl⟩ := ok_pair_inj h
  exact ⟨ss, se, hf, hb⟩

/-- one helper struct per struct variant: whatever `structFacts` determines from the variant holds list-wise -/
theorem anonymousStructs_map {γ : Type} {U : UnicodeOps} {cfg : Cfg} {e : RustEnum}
    (P : SwiftStruct → γ) (Q : Id × List RustField → γ)
    (hf : ∀ p st d st', structFacts U cfg
      (anonymousStruct e (anonymousStructName e p.1.original) p.1.original p.2) st = .ok (d, st') → P d = Q p)
    {vs : List (Id × List RustField)} {st st' : St} {ds : List SwiftStruct}
    (h : anonymousStructs U cfg e vs st = .ok (ds, st')) : ds.map P = vs.map Q :=
  thread_map (fun _ => rfl) (fun _ _ _ => rfl) P Q hf h

end TsV.Lang.Swift
