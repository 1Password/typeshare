import TsV.Lemmas.Printers
/-!
# The Kotlin back end, read once

Every failure of the Kotlin printer comes from `formatType` (or is the `const` / topsort error).  For each
model function that branches, one lemma lists the ways an `.ok` result arises (`caseFacts_inv`,
`structFacts_inv`, `aliasFacts_inv`, `enumFacts_inv` with `EnumDecl`, `generate_inv`); a function that is a
single bind needs none (`Outcome.of_bind_ret`), and the list walks are `mapM'` (`Lemmas/Printers`).
`DeclOf` says where a declaration of a file comes from, for the properties that hold of every
declaration.
-/
namespace TsV.Lang.Kotlin
open TsV TsV.Lang TsV.Outcome

variable {cfg : Cfg} {e : RustEnum} {ck : Str} {v : RustEnumVariant} {c : KtCase} {rs : RustStruct}
  {a : RustTypeAlias} {d : KtDecl} {ds : List KtDecl} {it : RustItem}

/-- the one part of a subclass that depends on the kind of variant -/
def payloadFacts (cfg : Cfg) (e : RustEnum) (ck : Str) : RustEnumVariant → Outcome KtPayload
  | .unit _ _ => .ok .object
  | .tuple _ _ ty => (formatType cfg e.genericTypes ty).bind fun t => .ok (.content ck t)
  | .anonymousStruct id _ fields =>
    .ok (.inner ck (cfg.pfx ++ e.id.renamed ++ id.original ++ s%"Inner") (genericSuffix (usedGenerics e fields)))

theorem caseFacts_inv (h : caseFacts cfg e ck v = .ok c) :
    ∃ pl, payloadFacts cfg e ck v = .ok pl ∧
      { comments := v.comments, serialName := v.id.renamed, name := variantName cfg.U v.id.original,
        generics := genericSuffix e.genericTypes, payload := pl, parent := cfg.pfx ++ e.id.renamed,
        parentGenerics := genericSuffix e.genericTypes } = c := by
  cases v with
  | unit _ _ => exact ⟨_, rfl, ok.inj h⟩
  | tuple _ _ ty =>
    obtain ⟨t, ht, rfl⟩ := of_bind_ret h
    exact ⟨_, show (formatType cfg e.genericTypes ty).bind _ = _ by rw [ht]; rfl, rfl⟩
  | anonymousStruct _ _ _ => exact ⟨_, rfl, ok.inj h⟩

/-- `requires_serial_name` -/
def dashed (rs : RustStruct) : Bool := rs.fields.any fun f => f.id.renamed.contains '-'

/-- `write_struct`: an `object` without fields, else a `data class` -/
theorem structFacts_inv (h : structFacts cfg rs = .ok d) :
    (rs.fields = [] ∧ .object rs.comments (cfg.pfx ++ rs.id.renamed) = d) ∨
    (rs.fields.isEmpty = false ∧ ∃ ps, paramsFacts cfg rs.genericTypes (dashed rs) rs.fields = .ok ps ∧
      .dataClass rs.comments (cfg.pfx ++ rs.id.renamed) (genericSuffix rs.genericTypes) ps
        (if rs.isRedacted then some rs.id.renamed else none) = d) := by
  unfold structFacts at h
  cases he : rs.fields.isEmpty with
  | true => rw [he, if_pos rfl] at h; exact .inl ⟨List.isEmpty_iff.1 he, ok.inj h⟩
  | false => rw [he, if_neg Bool.false_ne_true] at h; exact .inr ⟨rfl, of_bind_ret h⟩

/-- `write_type_alias`: a value class for `JvmInline`, else a `typealias` -/
theorem aliasFacts_inv (h : aliasFacts cfg a = .ok d) :
    (isInline a.decorators = true ∧ ∃ p, paramFacts cfg [] false a.isRedacted (valueField a.ty) = .ok p ∧
      .valueClass a.comments (cfg.pfx ++ a.id.renamed) p a.isRedacted = d) ∨
    (isInline a.decorators = false ∧ ∃ ty, formatType cfg a.genericTypes a.ty = .ok ty ∧
      .typeAlias a.comments (cfg.pfx ++ a.id.renamed) (genericSuffix a.genericTypes) ty = d) := by
  unfold aliasFacts at h
  cases hi : isInline a.decorators with
  | true => rw [hi, if_pos rfl] at h; exact .inl ⟨rfl, of_bind_ret h⟩
  | false => rw [hi, if_neg Bool.false_ne_true] at h; exact .inr ⟨rfl, of_bind_ret h⟩

/-- the enum's own declaration, which `write_enum` writes after the helper classes -/
inductive EnumDecl (cfg : Cfg) (e : RustEnum) : KtDecl → Prop
  | unit : e.keys = none →
      EnumDecl cfg e (.enumClass e.comments (cfg.pfx ++ e.id.renamed) (genericSuffix e.genericTypes)
        (e.variants.map entryFacts))
  | algebraic {tag ck : Str} {cases : List KtCase} : e.keys = some (tag, ck) →
      casesFacts cfg e ck e.variants = .ok cases →
      EnumDecl cfg e (.sealedClass e.comments (cfg.pfx ++ e.id.renamed) (genericSuffix e.genericTypes) cases)

/-- the helper class of one struct variant -/
def innerStruct (e : RustEnum) (p : Id × List RustField) : RustStruct :=
  anonymousStruct e (e.id.renamed ++ p.1.original ++ s%"Inner") p.1.original p.2

/-- the helper classes, one per struct variant -/
theorem innerStructs_inv {inners : List KtDecl} (h : structsFacts cfg (innerStructs e) = .ok inners) :
    mapM' (fun p => structFacts cfg (innerStruct e p)) (structVariants e) = .ok inners := by
  rw [structsFacts_eq, innerStructs, mapM'_map_left] at h
  exact h

/-- `write_enum`: the helper classes, then the enum's own declaration -/
theorem enumFacts_inv (h : enumFacts cfg e = .ok ds) :
    ∃ inners d, structsFacts cfg (innerStructs e) = .ok inners ∧ EnumDecl cfg e d ∧ inners ++ [d] = ds := by
  unfold enumFacts at h
  obtain ⟨inners, hi, h⟩ := of_bind_ok h
  cases hk : e.keys with
  | none => rw [hk] at h; exact ⟨inners, _, hi, .unit hk, ok.inj h⟩
  | some kc =>
    rw [hk] at h
    obtain ⟨cases, hc, rfl⟩ := of_bind_ret h
    exact ⟨inners, _, hi, .algebraic hk hc, rfl⟩

/-- where a declaration of a successful run comes from -/
inductive DeclOf (cfg : Cfg) : RustItem → KtDecl → Prop
  | struct {s x} : structFacts cfg s = .ok x → DeclOf cfg (.struct s) x
  | alias {t x} : aliasFacts cfg t = .ok x → DeclOf cfg (.alias t) x
  | inner {en q x} : q ∈ structVariants en → structFacts cfg (innerStruct en q) = .ok x → DeclOf cfg (.enum en) x
  | own {en x} : EnumDecl cfg en x → DeclOf cfg (.enum en) x

theorem itemFacts_mem (h : itemFacts cfg it = .ok ds) : ∀ d ∈ ds, DeclOf cfg it d := by
  intro d hd
  cases it with
  | struct s =>
    obtain ⟨d', hs, rfl⟩ := of_bind_ret h
    rw [List.mem_singleton.1 hd]; exact .struct hs
  | alias a =>
    obtain ⟨d', ha, rfl⟩ := of_bind_ret h
    rw [List.mem_singleton.1 hd]; exact .alias ha
  | const c => cases h
  | «enum» e =>
    obtain ⟨inners, own, hi, ho, rfl⟩ := enumFacts_inv (show enumFacts cfg e = .ok ds from h)
    rcases List.mem_append.1 hd with hd | hd
    · obtain ⟨p, hp, hpd⟩ := mapM'_ok_mem (innerStructs_inv hi) d hd
      exact .inner hp hpd
    · rw [List.mem_singleton.1 hd]; exact .own ho

/-- `itemsFacts` appends what `itemFacts` returns item by item -/
theorem itemsFacts_inv {its : List RustItem} (h : itemsFacts cfg its = .ok ds) :
    ∃ dss, mapM' (itemFacts cfg) its = .ok dss ∧ dss.flatten = ds := by
  induction its generalizing ds with
  | nil => exact ⟨[], rfl, ok.inj h⟩
  | cons it its ih =>
    obtain ⟨a, ha, h⟩ := of_bind_ok (x := itemFacts cfg it) h
    obtain ⟨b, hb, rfl⟩ := of_bind_ret h
    obtain ⟨dss, hm, rfl⟩ := ih hb
    exact ⟨a :: dss, by rw [mapM'_cons, ha, hm]; rfl, rfl⟩

theorem itemsFacts_mem {its : List RustItem} (h : itemsFacts cfg its = .ok ds) :
    ∀ d ∈ ds, ∃ it ∈ its, DeclOf cfg it d := by
  obtain ⟨dss, hm, rfl⟩ := itemsFacts_inv h
  intro d hd
  obtain ⟨ds', hds', hd'⟩ := List.mem_flatten.1 hd
  obtain ⟨it, hit, hds⟩ := mapM'_ok_mem hm ds' hds'
  exact ⟨it, hit, itemFacts_mem hds d hd'⟩

/-- one output file: the header, then the declarations of the items in `generateOrder` -/
theorem generate_inv {pd : ParsedData} {imports : Option Pipeline.ScopedCrateTypes} {text : Str}
    (h : generate cfg pd imports = .ok text) :
    ∃ items decls, Pipeline.generateOrder pd = some items ∧ itemsFacts cfg items = .ok decls ∧
      beginFile cfg pd ++ (if pd.multiFile then writeImports cfg (imports.getD []) else []) ++
        decls.flatMap renderDecl = text := by
  unfold generate at h
  cases ho : Pipeline.generateOrder pd with
  | none => rw [ho] at h; cases h
  | some items =>
    rw [ho] at h
    obtain ⟨decls, hd, rfl⟩ := of_bind_ret h
    exact ⟨items, decls, rfl, hd, rfl⟩

end TsV.Lang.Kotlin
