import TsV.Model.Lang.Scala
import TsV.Lemmas.Outcome
/-!
# The Scala back end, read once

The counterpart of `Lemmas/Lang/Kotlin`: every failure of the Scala printer is a failure of `formatType`
(or the package / const error).  The model's walks are `mapM'` already and most functions are a single
bind (`Outcome.of_bind_ret`); stated here is how an `.ok` result of the branching ones arises: a member
of a companion object (`CaseOf`), an enum, and the file, which is `fileOf` of the records of its aliases,
structs and enums whatever parts of it are written.
-/
/-- a class has no parameters exactly when the struct has no fields -/
theorem TsV.Outcome.mapM'_ok_isEmpty {α β : Type} {f : α → Outcome β} {l : List α} {r : List β}
    (h : Outcome.mapM' f l = .ok r) : r.isEmpty = l.isEmpty := by
  have hl := Outcome.mapM'_ok_length _ _ _ h
  cases r <;> cases l <;> first | rfl | cases hl

namespace TsV.C03E.Sc
open TsV.Lang.Scala

/-- whether the package object / the package block is written -/
def hasObject (d : ParsedData) : Bool := unsignedIntegerUsed d || !d.aliases.isEmpty
def hasBody (d : ParsedData) : Bool := !d.structs.isEmpty || !d.enums.isEmpty

end TsV.C03E.Sc

namespace TsV.Lang.Scala
open TsV TsV.Lang TsV.Outcome TsV.C03E.Sc

variable {cfg : Cfg} {e : RustEnum} {v : RustEnumVariant} {se : ScEnum} {d : ParsedData}
  {as : List ScAlias} {cs : List ScClass} {es : List ScEnum}

/-- the payload of a member of an algebraic enum's companion object -/
def contentFacts (cfg : Cfg) (e : RustEnum) (ck : Str) : RustEnumVariant → Outcome (Option (List Str × Str × Str))
  | .unit _ _ => .ok none
  | .tuple _ _ ty => (formatType cfg e.genericTypes ty).bind fun t => .ok (some (e.genericTypes, ck, t))
  | .anonymousStruct id _ fs =>
    .ok (some (e.genericTypes, ck, e.id.renamed ++ id.original ++ s%"Inner" ++ genericSq (usedGenerics e fs)))

/-- how a member of the companion object arises: by the kind of enum, and for an algebraic enum with
the payload of `contentFacts` -/
inductive CaseOf (cfg : Cfg) (e : RustEnum) (v : RustEnumVariant) : ScCase → Prop
  | unit : e.keys = none →
      CaseOf cfg e v
        { comments := v.comments, name := v.id.original, content := none,
          parent := e.id.renamed, parentGenerics := [], serialName := v.id.renamed }
  | algebraic {tag ck : Str} {content} : e.keys = some (tag, ck) → contentFacts cfg e ck v = .ok content →
      CaseOf cfg e v
        { comments := v.comments, name := variantName v.id.original, content,
          parent := e.id.renamed, parentGenerics := e.genericTypes, serialName := v.id.renamed }

theorem caseFacts_inv {c : ScCase} (h : caseFacts cfg e v = .ok c) : CaseOf cfg e v c := by
  unfold caseFacts at h
  cases hk : e.keys with
  | none => rw [hk] at h; obtain rfl := ok.inj h; exact .unit hk
  | some kc =>
    rw [hk] at h
    cases v with
    | unit _ _ => obtain rfl := ok.inj h; exact .algebraic hk rfl
    | tuple _ _ ty =>
      obtain ⟨t, ht, rfl⟩ := of_bind_ret h
      exact .algebraic hk (show (formatType cfg e.genericTypes ty).bind _ = _ by rw [ht]; rfl)
    | anonymousStruct _ _ _ => obtain rfl := ok.inj h; exact .algebraic hk rfl

theorem enumFacts_inv (h : enumFacts cfg e = .ok se) :
    ∃ inner cases, innerClasses cfg e = .ok inner ∧
      mapM' (caseFacts cfg e) e.variants = .ok cases ∧
      { inner, comments := e.comments, name := e.id.renamed, generics := e.genericTypes, cases } = se := by
  obtain ⟨inner, hi, h⟩ := of_bind_ok h
  obtain ⟨cases, hc, rfl⟩ := of_bind_ret h
  exact ⟨inner, cases, hi, hc, rfl⟩

/-! ## the file -/

/-- the file of a run whose aliases, structs and enums gave the records `as`, `cs`, `es` -/
def fileOf (cfg : Cfg) (d : ParsedData) (as : List ScAlias) (cs : List ScClass) (es : List ScEnum) : ScFile :=
  { header := cfg.versionHeader, parent := (rsplitOnceDot cfg.package).map (·.1),
    last := lastPackageSegment cfg.package,
    packageObject := if hasObject d then some (unsignedIntegerUsed d, as) else none,
    packageBody := if hasBody d then some (cs, es) else none }

theorem fileOf_object {x : Bool × List ScAlias} (h : (fileOf cfg d as cs es).packageObject = some x) :
    hasObject d = true ∧ x = (unsignedIntegerUsed d, as) := by
  unfold fileOf at h
  cases ho : hasObject d with
  | true => rw [ho] at h; exact ⟨rfl, (Option.some.inj h).symm⟩
  | false => rw [ho] at h; cases h

theorem fileOf_body {x : List ScClass × List ScEnum} (h : (fileOf cfg d as cs es).packageBody = some x) :
    hasBody d = true ∧ x = (cs, es) := by
  unfold fileOf at h
  cases hb : hasBody d with
  | true => rw [hb] at h; exact ⟨rfl, (Option.some.inj h).symm⟩
  | false => rw [hb] at h; cases h

theorem hasObject_false (h : hasObject d = false) : d.aliases = [] :=
  List.isEmpty_iff.1 (by simpa using (Bool.or_eq_false_iff.1 h).2)

theorem hasBody_false (h : hasBody d = false) : d.structs = [] ∧ d.enums = [] :=
  have := Bool.or_eq_false_iff.1 h
  ⟨List.isEmpty_iff.1 (by simpa using this.1), List.isEmpty_iff.1 (by simpa using this.2)⟩

/-- a package is set, there is no const, every alias, struct and enum gave its record -/
theorem fileFacts_inv {f : ScFile} (h : fileFacts cfg d = .ok f) :
    cfg.package.isEmpty = false ∧ d.consts = [] ∧ ∃ as cs es,
      mapM' (aliasFacts cfg) d.aliases = .ok as ∧ mapM' (classFacts cfg) d.structs = .ok cs ∧
      mapM' (enumFacts cfg) d.enums = .ok es ∧ fileOf cfg d as cs es = f := by
  unfold fileFacts at h
  by_cases hp : cfg.package.isEmpty = true
  · rw [if_pos hp] at h; cases h
  rw [if_neg hp] at h
  by_cases hc : (!d.consts.isEmpty) = true
  · rw [if_pos hc] at h; cases h
  rw [if_neg hc] at h
  obtain ⟨po, hpo, h⟩ := of_bind_ok h
  obtain ⟨pb, hpb, rfl⟩ := of_bind_ret h
  refine ⟨Bool.eq_false_iff.2 hp, List.isEmpty_iff.1 (by simpa using hc), ?_⟩
  -- a part that is not written has nothing to write: its lists are empty, and `mapM'` of them is `[]`
  obtain ⟨as, has, rfl⟩ : ∃ as, mapM' (aliasFacts cfg) d.aliases = .ok as ∧
      po = if hasObject d then some (unsignedIntegerUsed d, as) else none := by
    cases ho : hasObject d with
    | true =>
      rw [show (unsignedIntegerUsed d || !d.aliases.isEmpty) = true from ho, if_pos rfl] at hpo
      obtain ⟨as, has, rfl⟩ := of_bind_ret hpo
      exact ⟨as, has, rfl⟩
    | false =>
      rw [show (unsignedIntegerUsed d || !d.aliases.isEmpty) = false from ho, if_neg Bool.false_ne_true] at hpo
      exact ⟨[], by rw [hasObject_false ho]; rfl, (ok.inj hpo).symm⟩
  obtain ⟨cs, es, hcs, hes, rfl⟩ : ∃ cs es, mapM' (classFacts cfg) d.structs = .ok cs ∧
      mapM' (enumFacts cfg) d.enums = .ok es ∧ pb = if hasBody d then some (cs, es) else none := by
    cases hb : hasBody d with
    | true =>
      rw [show (!d.structs.isEmpty || !d.enums.isEmpty) = true from hb, if_pos rfl] at hpb
      obtain ⟨cs, hcs, hpb⟩ := of_bind_ok hpb
      obtain ⟨es, hes, rfl⟩ := of_bind_ret hpb
      exact ⟨cs, es, hcs, hes, rfl⟩
    | false =>
      rw [show (!d.structs.isEmpty || !d.enums.isEmpty) = false from hb, if_neg Bool.false_ne_true] at hpb
      exact ⟨[], [], by rw [(hasBody_false hb).1]; rfl, by rw [(hasBody_false hb).2]; rfl, (ok.inj hpb).symm⟩
  exact ⟨as, cs, es, has, hcs, hes, rfl⟩

end TsV.Lang.Scala
