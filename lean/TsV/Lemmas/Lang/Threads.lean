import TsV.Lemmas.C12_Common
/-!
# Printers that thread a state they never read

The Go and Python printers carry a state (imports, type variables, …) through every call, but no
call ever branches on it: the state is a log that is only written.  `Threads k e` says so for one
call `k`: what `k` returns (value, error or panic) is the same from every state, and a successful
run takes the state `st` to `e st`.  It is closed under the constructions the printers are made of,
and each of the facts the properties want of a printer step — the value does not depend on the state
(C05), the state moves along a relation that the updates respect (C10, C12), where it ends up (C12) —
is a projection of it.
-/
namespace TsV.C05_StateIndependence
open TsV

/-- what a stateful printer call returns, the returned state forgotten (errors and panics kept) -/
def txt {α σ} : Outcome (α × σ) → Outcome α
  | .ok (a, _) => .ok a
  | .err e => .err e
  | .panic s => .panic s

@[simp] theorem txt_ok {α σ} (a : α) (s : σ) : txt (.ok (a, s) : Outcome (α × σ)) = .ok a := rfl
@[simp] theorem txt_err {α σ} (e) : txt (.err e : Outcome (α × σ)) = .err e := rfl
@[simp] theorem txt_panic {α σ} (p) : txt (.panic p : Outcome (α × σ)) = .panic p := rfl

end TsV.C05_StateIndependence

namespace TsV.Outcome
open TsV.C05_StateIndependence (txt)
variable {σ α β γ : Type}

def Threads (k : σ → Outcome (α × σ)) (e : σ → σ) : Prop :=
  ∀ st st₀, k st = (txt (k st₀)).bind fun a => ok (a, e st)

namespace Threads

theorem ret (a : α) (g : σ → σ) : Threads (fun st => ok (a, g st)) g := fun _ _ => rfl

theorem err (x : ErrKind) (e : σ → σ) : Threads (fun _ => (.err x : Outcome (α × σ))) e := fun _ _ => rfl

theorem panic (m : Str) (e : σ → σ) : Threads (fun _ => (.panic m : Outcome (α × σ))) e := fun _ _ => rfl

/-- the continuation is only asked about values the first call can return -/
theorem bind {k : σ → Outcome (α × σ)} {e e' : σ → σ} {F : α × σ → Outcome (β × σ)} (hk : Threads k e)
    (hF : ∀ a s s', k s = ok (a, s') → Threads (fun st => F (a, st)) e') :
    Threads (fun st => (k st).bind F) (e' ∘ e) := fun st st₀ => by
  show (k st).bind F = (txt ((k st₀).bind F)).bind _
  rw [hk st st₀]
  cases h : k st₀ with
  | ok p => exact hF p.1 st₀ p.2 h (e st) p.2
  | err x => rfl
  | panic m => rfl

/-- `bind` for a function whose body is a bind once it is unfolded (`fun _ => rfl`) -/
theorem bind_of {k : σ → Outcome (α × σ)} {e e' : σ → σ} {F : α × σ → Outcome (β × σ)}
    {K : σ → Outcome (β × σ)} (hK : ∀ st, K st = (k st).bind F) (hk : Threads k e)
    (hF : ∀ a s s', k s = ok (a, s') → Threads (fun st => F (a, st)) e') : Threads K (e' ∘ e) := by
  rw [funext hK]; exact bind hk hF

/-- a stateless computation in front -/
theorem pure_bind {x : Outcome γ} {G : γ → σ → Outcome (β × σ)} {e : σ → σ}
    (h : ∀ c, x = ok c → Threads (G c) e) : Threads (fun st => x.bind fun c => G c st) e := fun st st₀ => by
  cases x with
  | ok c => exact h c rfl st st₀
  | err x => rfl
  | panic m => rfl

theorem pure_bind_of {K : σ → Outcome (β × σ)} {x : Outcome γ} {G : γ → σ → Outcome (β × σ)} {e : σ → σ}
    (hK : ∀ st, K st = x.bind fun c => G c st) (h : ∀ c, x = ok c → Threads (G c) e) : Threads K e := by
  rw [funext hK]; exact pure_bind h

theorem of_eq {k k' : σ → Outcome (α × σ)} {e : σ → σ} (h : ∀ st, k st = k' st) (hk : Threads k' e) : Threads k e := by
  rw [funext h]; exact hk

theorem comp {k : σ → Outcome (α × σ)} {e : σ → σ} (hk : Threads k e) (g : σ → σ) :
    Threads (fun st => k (g st)) (e ∘ g) := fun st st₀ => hk (g st) (g st₀)

theorem congr {k : σ → Outcome (α × σ)} {e e' : σ → σ} (hk : Threads k e) (h : ∀ st, e st = e' st) :
    Threads k e' := fun st st₀ => by rw [hk st st₀, h st]

/-- a loop over a list replays the effects of its steps in order -/
theorem listOn {ι : Type} {step : ι → σ → Outcome (α × σ)} {run : List ι → σ → Outcome (γ × σ)} {c0 : γ}
    {comb : ι → α → γ → γ} (nil : ∀ st, run [] st = ok (c0, st))
    (cons : ∀ i is st, run (i :: is) st =
      (step i st).bind fun (a, st) => (run is st).bind fun (c, st) => ok (comb i a c, st))
    {e : ι → σ → σ} : ∀ is, (∀ i ∈ is, Threads (step i) (e i)) →
      Threads (run is) fun st => is.foldl (fun s i => e i s) st := by
  intro is
  induction is with
  | nil => intro _; rw [funext nil]; exact ret c0 id
  | cons i is ih =>
    intro h
    rw [funext (cons i is)]
    have h2 := ih fun j hj => h j (List.mem_cons_of_mem _ hj)
    exact bind (F := fun p => (run is p.2).bind fun q => ok (comb i p.1 q.1, q.2)) (h i List.mem_cons_self)
      fun a _ _ _ => bind (F := fun q => ok (comb i a q.1, q.2)) h2 fun c _ _ _ => ret (comb i a c) id

theorem list {ι : Type} {step : ι → σ → Outcome (α × σ)} {run : List ι → σ → Outcome (γ × σ)} {c0 : γ}
    {comb : ι → α → γ → γ} (nil : ∀ st, run [] st = ok (c0, st))
    (cons : ∀ i is st, run (i :: is) st =
      (step i st).bind fun (a, st) => (run is st).bind fun (c, st) => ok (comb i a c, st))
    {e : ι → σ → σ} (h : ∀ i, Threads (step i) (e i)) (is : List ι) :
    Threads (run is) fun st => is.foldl (fun s i => e i s) st :=
  listOn nil cons is fun i _ => h i

/-! ### what it gives -/

variable {k : σ → Outcome (α × σ)} {e : σ → σ}

/-- where a successful run leaves the state -/
theorem state (hk : Threads k e) {st a st'} (h : k st = ok (a, st')) : st' = e st := by
  have := hk st st
  rw [h] at this
  exact (ok_pair_inj this).2

theorem txt_eq (hk : Threads k e) (st st' : σ) : txt (k st) = txt (k st') := by
  rw [hk st st']
  cases txt (k st') <;> rfl

theorem indep (hk : Threads k e) : C12L.Indep k := fun st a st' h st2 => by
  refine ⟨e st2, ?_⟩
  rw [hk st2 st, h]; rfl

theorem along (hk : Threads k e) {R : σ → σ → Prop} (hR : ∀ st, R st (e st)) : C12L.Along R k :=
  fun st _ _ h => hk.state h ▸ hR st

theorem np (hk : Threads k e) {st₀ : σ} (h : NP (k st₀)) (st : σ) : NP (k st) := by
  rw [hk st st₀]
  cases h0 : k st₀ with
  | ok p => rfl
  | err x => rfl
  | panic m => rw [h0] at h; cases h

end Threads

/-- replaying a list of effects keeps every relation that is reflexive, transitive and kept by each -/
theorem foldl_rel {ι : Type} {R : σ → σ → Prop} (refl : ∀ st, R st st) (trans : ∀ {a b c}, R a b → R b c → R a c)
    (f : σ → ι → σ) : ∀ (is : List ι) (st : σ), (∀ i ∈ is, ∀ s, R s (f s i)) → R st (is.foldl f st) := by
  intro is
  induction is with
  | nil => exact fun st _ => refl st
  | cons i is ih =>
    exact fun st h => trans (h i List.mem_cons_self st) (ih _ fun j hj => h j (List.mem_cons_of_mem _ hj))

end TsV.Outcome
