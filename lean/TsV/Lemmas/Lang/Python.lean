import TsV.Lemmas.Lang.Threads
import TsV.Lemmas.C09
/-!
# The Python printer and its state

The state of the Python printer is changed by four updates only (`addImport`, `addImports`,
`addCustom`, `addTypeVar`), and no printer function reads it.  `Writes G k` says both of a call `k`:
it `Threads` the state by a composition of those updates.  Every relation on states that the four
updates respect is then respected by every printer function (`Writes.along`), and what a call
returns does not depend on the state (`Writes.indep`).
-/
namespace TsV.C12L.Python
open TsV TsV.Lang TsV.Lang.Python TsV.C12L TsV.Outcome

/-- the (module, name) pairs the printer registers with `addImport` -/
def imports : List (Str × Str) :=
  [(kTyping, s%"List"), (kTyping, s%"Optional"), (kTyping, s%"Dict"), (s%"datetime", s%"datetime"),
   (kTyping, s%"TypeVar"), (kTyping, s%"Generic"), (kTyping, s%"Literal"), (kTyping, s%"Union"),
   (kTyping, s%"Annotated"), (kPydantic, s%"BeforeValidator"), (kPydantic, s%"PlainSerializer"), (kPydantic, s%"Field"),
   (kPydantic, s%"BaseModel"), (kPydantic, s%"ConfigDict"), (s%"enum", s%"Enum")]

/-- compositions of the printer's state updates; `G` are the type variables that may be declared -/
inductive Upd (G : Str → Prop) : (St → St) → Prop
  | id : Upd G fun st => st
  | imp (m i : Str) (h : (m, i) ∈ imports := by decide) : Upd G (addImport · m i)
  | imps (tp : Str) : Upd G (addImports · tp)
  | custom (t : Str) : Upd G (addCustom · t)
  | tv (g : Str) : G g → Upd G (addTypeVar · g)
  | comp {e e' : St → St} : Upd G e → Upd G e' → Upd G (e' ∘ e)

variable {G : Str → Prop}

theorem Upd.ite {c : Prop} [Decidable c] {e e' : St → St} (h : Upd G e) (h' : Upd G e') :
    Upd G fun st => if c then e st else e' st := by
  by_cases hc : c
  · simp only [hc, if_true]; exact h
  · simp only [hc, if_false]; exact h'

theorem Upd.foldl_tv : ∀ gs : List Str, (∀ g ∈ gs, G g) → Upd G fun st => gs.foldl addTypeVar st := by
  intro gs
  induction gs with
  | nil => exact fun _ => .id
  | cons g gs ih => exact fun h => (Upd.tv g (h g List.mem_cons_self)).comp (ih fun x hx => h x (List.mem_cons_of_mem _ hx))

/-- a relation the four updates respect is respected by their compositions -/
theorem Upd.rel {R : St → St → Prop} (refl : ∀ st, R st st) (trans : ∀ {a b c}, R a b → R b c → R a c)
    (imp : ∀ st, ∀ p ∈ imports, R st (addImport st p.1 p.2)) (imps : ∀ st t, R st (addImports st t))
    (cust : ∀ st t, R st (addCustom st t)) (tv : ∀ st g, G g → R st (addTypeVar st g)) {e : St → St} (h : Upd G e) :
    ∀ st, R st (e st) := by
  induction h with
  | id => exact refl
  | imp m i h => exact fun st => imp st (m, i) h
  | imps tp => exact fun st => imps st tp
  | custom t => exact fun st => cust st t
  | tv g hg => exact fun st => tv st g hg
  | comp _ _ ih ih' => exact fun st => trans (ih st) (ih' _)

variable {α β γ : Type}

def Writes (G : Str → Prop) (k : St → Outcome (α × St)) : Prop := ∃ e, Upd G e ∧ Threads k e

namespace Writes

theorem ret (a : α) {g : St → St} (hg : Upd G g) : Writes G fun st => .ok (a, g st) := ⟨g, hg, Threads.ret a g⟩

theorem err (x : ErrKind) : Writes G fun _ => (.err x : Outcome (α × St)) := ⟨_, .id, Threads.err x _⟩

theorem panic (m : Str) : Writes G fun _ => (.panic m : Outcome (α × St)) := ⟨_, .id, Threads.panic m _⟩

theorem of_eq {k k' : St → Outcome (α × St)} (h : ∀ st, k st = k' st) (hk : Writes G k') : Writes G k := by
  rw [funext h]; exact hk

/-- the continuation may change the state in a way that depends on the value it is given: the first
call returns the same value from every state -/
theorem bind {k : St → Outcome (α × St)} {F : α × St → Outcome (β × St)} (hk : Writes G k)
    (hF : ∀ a, Writes G fun st => F (a, st)) : Writes G fun st => (k st).bind F := by
  obtain ⟨e, he, hk⟩ := hk
  cases h0 : k {} with
  | ok p =>
    obtain ⟨e', he', hF⟩ := hF p.1
    refine ⟨e' ∘ e, he.comp he', Threads.bind hk fun a s s' hs => ?_⟩
    have hv := hk.txt_eq s {}
    rw [hs, h0] at hv
    cases hv
    exact hF
  | err x =>
    refine ⟨e, he, fun st st₀ => ?_⟩
    show (k st).bind F = (C05_StateIndependence.txt ((k st₀).bind F)).bind _
    rw [hk st {}, hk st₀ {}, h0]; rfl
  | panic m =>
    refine ⟨e, he, fun st st₀ => ?_⟩
    show (k st).bind F = (C05_StateIndependence.txt ((k st₀).bind F)).bind _
    rw [hk st {}, hk st₀ {}, h0]; rfl

theorem bind_of {K : St → Outcome (β × St)} {k : St → Outcome (α × St)} {F : α × St → Outcome (β × St)}
    (hK : ∀ st, K st = (k st).bind F) (hk : Writes G k) (hF : ∀ a, Writes G fun st => F (a, st)) : Writes G K :=
  of_eq hK (bind hk hF)

theorem pure_bind {x : Outcome γ} {H : γ → St → Outcome (β × St)} (h : ∀ c, Writes G (H c)) :
    Writes G fun st => x.bind fun c => H c st := by
  cases x with
  | ok c => exact h c
  | err x => exact err x
  | panic m => exact panic m

theorem comp {k : St → Outcome (α × St)} (hk : Writes G k) {g : St → St} (hg : Upd G g) : Writes G fun st => k (g st) :=
  let ⟨e, he, hk⟩ := hk; ⟨e ∘ g, hg.comp he, hk.comp g⟩

theorem list {ι : Type} {step : ι → St → Outcome (α × St)} {run : List ι → St → Outcome (γ × St)} {c0 : γ}
    {comb : ι → α → γ → γ} (nil : ∀ st, run [] st = .ok (c0, st))
    (cons : ∀ i is st, run (i :: is) st =
      (step i st).bind fun (a, st) => (run is st).bind fun (c, st) => .ok (comb i a c, st)) :
    ∀ is, (∀ i ∈ is, Writes G (step i)) → Writes G (run is) := by
  intro is
  induction is with
  | nil => intro _; exact of_eq nil (ret c0 .id)
  | cons i is ih =>
    intro h
    exact bind_of (F := fun p => (run is p.2).bind fun q => .ok (comb i p.1 q.1, q.2)) (cons i is)
      (h i List.mem_cons_self) fun a =>
      bind (F := fun q => .ok (comb i a q.1, q.2)) (ih fun j hj => h j (List.mem_cons_of_mem _ hj))
        fun c => ret (comb i a c) .id

variable {k : St → Outcome (α × St)}

theorem along (hk : Writes G k) {R : St → St → Prop} (refl : ∀ st, R st st) (trans : ∀ {a b c}, R a b → R b c → R a c)
    (imp : ∀ st, ∀ p ∈ imports, R st (addImport st p.1 p.2)) (imps : ∀ st t, R st (addImports st t))
    (cust : ∀ st t, R st (addCustom st t)) (tv : ∀ st g, G g → R st (addTypeVar st g)) : Along R k :=
  let ⟨_, he, hk⟩ := hk; hk.along (he.rel refl trans imp imps cust tv)

theorem indep (hk : Writes G k) : Indep k := let ⟨_, _, hk⟩ := hk; hk.indep

theorem txt_eq (hk : Writes G k) (st st' : St) : C05_StateIndependence.txt (k st) = C05_StateIndependence.txt (k st') :=
  let ⟨_, _, hk⟩ := hk; hk.txt_eq st st'

end Writes

theorem special_writes (cfg : Cfg) (t : RustType) {k : St → Outcome (Str × St)} (hk : Writes G k) :
    Writes G fun st => special cfg t st k := by
  unfold special
  cases mapGet cfg.typeMappings t.display with
  | some m => exact Writes.ret m (Upd.ite (.custom m) .id)
  | none => exact hk

/-- register the import, format the component, bracket it -/
theorem wrap_writes {k : St → Outcome (Str × St)} (hk : Writes G k) (m i pre post : Str)
    (h : (m, i) ∈ imports := by decide) :
    Writes G fun st => (k (addImport st m i)).bind fun (s, st) => .ok (pre ++ s ++ post, st) :=
  Writes.bind (F := fun p => .ok (pre ++ p.1 ++ post, p.2)) (hk.comp (.imp m i h)) fun a => Writes.ret (pre ++ a ++ post) .id

theorem dict_writes {cfg : Cfg} {gens : List Str} {k v : RustType} (hk : Writes G (formatType cfg gens k))
    (hv : Writes G (formatType cfg gens v)) : Writes G fun st =>
      (formatType cfg gens k (addImport st kTyping s%"Dict")).bind fun (ks, st) =>
        (formatType cfg gens v st).bind fun (vs, st) => .ok (s%"Dict[" ++ ks ++ s%", " ++ vs ++ s%"]", st) :=
  Writes.bind (F := fun p => (formatType cfg gens v p.2).bind fun q => .ok (s%"Dict[" ++ p.1 ++ s%", " ++ q.1 ++ s%"]", q.2))
    (hk.comp (.imp _ _)) fun ks =>
    Writes.bind (F := fun q => .ok (s%"Dict[" ++ ks ++ s%", " ++ q.1 ++ s%"]", q.2)) hv fun vs => Writes.ret (s%"Dict[" ++ ks ++ s%", " ++ vs ++ s%"]") .id

theorem formatTypes_writes_of (cfg : Cfg) (gens : List Str) (ts : List RustType)
    (h : ∀ t ∈ ts, Writes G (formatType cfg gens t)) : Writes G (formatTypes cfg gens ts) :=
  Writes.list (fun _ => rfl) (fun _ _ _ => rfl) ts h

theorem formatType_writes (cfg : Cfg) (gens : List Str) (t : RustType) : Writes G (formatType cfg gens t) := by
  induction t using rustType_induct with
  | simple id => exact Writes.ret _ (.imps id)
  | generic id ps ih =>
    refine Writes.of_eq (fun st => by rw [formatType]) ?_
    cases mapGet cfg.typeMappings id with
    | some m => exact Writes.ret m (.imps id)
    | none =>
      -- the model spells this bind out as a three-way match
      refine Writes.of_eq (k' := fun st => (formatTypes cfg gens ps (addImports st id)).bind fun p =>
        .ok ((mapGet cfg.typeMappings id).getD id ++ bracketSuffix p.1, addImports p.2 id)) (fun st => ?_)
        (Writes.bind ((formatTypes_writes_of cfg gens ps ih).comp (.imps id)) fun strs =>
          Writes.ret ((mapGet cfg.typeMappings id).getD id ++ bracketSuffix strs) (.imps id))
      dsimp only
      cases formatTypes cfg gens ps (addImports st id) with
      | ok p => obtain ⟨_, _⟩ := p; rfl
      | err x => rfl
      | panic m => rfl
  | vec r ih | slice r ih | array r n ih => exact special_writes cfg _ (wrap_writes ih kTyping s%"List" s%"List[" s%"]")
  | option r ih => exact special_writes cfg _ (wrap_writes ih kTyping s%"Optional" s%"Optional[" s%"]")
  | hashMap k v ihk ihv =>
    refine special_writes cfg _ ?_
    split
    · split
      · exact Writes.err _
      · exact dict_writes ihk ihv
    · exact dict_writes ihk ihv
  | prim p =>
    refine special_writes cfg _ ?_
    cases p <;> first | exact Writes.ret _ .id | exact Writes.ret _ (.imp _ _)

theorem formatTypes_writes (cfg : Cfg) (gens : List Str) (ts : List RustType) : Writes G (formatTypes cfg gens ts) :=
  formatTypes_writes_of cfg gens ts fun t _ => formatType_writes cfg gens t

theorem Upd.addCommonImports (a b c : Bool) : Upd G (addCommonImports · a b c) := by
  unfold Python.addCommonImports
  exact Upd.comp (Upd.comp (Upd.ite (c := a = true) (.imp _ _) .id)
      (Upd.ite (c := b = true) ((Upd.imp _ _).comp ((Upd.imp _ _).comp (.imp _ _))) .id))
    (Upd.ite (c := (c || a) = true) (.imp _ _) .id)

theorem fieldFacts_writes (E : Ext) (cfg : Cfg) (gens : List Str) (f : RustField) : Writes G (fieldFacts E cfg gens f) := by
  refine Writes.bind_of (fun _ => rfl) (formatType_writes cfg gens f.ty) fun pt => ?_
  cases hj : jsonTranslation pt with
  | none => exact ⟨_, Upd.addCommonImports _ false _, fun _ _ => by simp only [hj]; rfl⟩
  | some c => exact ⟨_, (Upd.addCommonImports _ true _).comp (.custom pt), fun _ _ => by simp only [hj]; rfl⟩

theorem fieldsFacts_writes (E : Ext) (cfg : Cfg) (gens : List Str) (fs : List RustField) :
    Writes G (fieldsFacts E cfg gens fs) :=
  Writes.list (fun _ => rfl) (fun _ _ _ => rfl) fs fun f _ => fieldFacts_writes E cfg gens f

theorem structFacts_writes (E : Ext) (cfg : Cfg) (rs : RustStruct) (hG : ∀ g ∈ rs.genericTypes, G g) :
    Writes G (structFacts E cfg rs) :=
  Writes.bind_of (F := fun p => .ok (_, p.2)) (fun _ => rfl)
    ((fieldsFacts_writes E cfg rs.genericTypes rs.fields).comp
      (((Upd.imp _ _).comp (Upd.foldl_tv rs.genericTypes hG)).comp ((Upd.ite .id (.imp _ _)).comp (Upd.ite (.imp _ _) .id))))
    fun _ => ⟨_, .id, fun _ _ => rfl⟩

theorem innerFacts_writes (E : Ext) (cfg : Cfg) (e : RustEnum) (hG : ∀ g ∈ e.genericTypes, G g)
    (l : List (Id × List RustField)) : Writes G (innerFacts E cfg e l) :=
  Writes.list (step := fun p => structFacts E cfg (anonymousStruct e (innerName e p.1.original) p.1.original p.2))
    (fun _ => rfl) (fun _ _ _ => rfl) l fun _ _ =>
      structFacts_writes E cfg _ fun g hg => hG g (C09.mem_anonymousStruct_generics.1 hg).1

theorem variantFacts_writes (E : Ext) (cfg : Cfg) (e : RustEnum) (tag content : Str) (v : RustEnumVariant) :
    Writes G (variantFacts E cfg e tag content v) := by
  cases v with
  | unit i c => exact Writes.ret _ (.imp _ _)
  | anonymousStruct i c fs => exact Writes.ret _ (.imp _ _)
  | tuple i c ty =>
    exact Writes.bind_of (fun _ => rfl) (formatType_writes cfg e.genericTypes ty) fun _ => ⟨_, .imp _ _, fun _ _ => rfl⟩

theorem variantsFacts_writes (E : Ext) (cfg : Cfg) (e : RustEnum) (tag content : Str) (vs : List RustEnumVariant) :
    Writes G (variantsFacts E cfg e tag content vs) :=
  Writes.list (fun _ => rfl) (fun _ _ _ => rfl) vs fun v _ => variantFacts_writes E cfg e tag content v

theorem unionFacts_writes (E : Ext) (cfg : Cfg) (e : RustEnum) (hG : ∀ g ∈ e.genericTypes, G g) (tag content : Str) :
    Writes G (unionFacts E cfg e tag content) :=
  Writes.bind_of (fun _ => rfl) (innerFacts_writes E cfg e hG _) fun _ =>
    Writes.bind_of (fun _ => rfl)
      ((variantsFacts_writes E cfg e tag content e.variants).comp
        (((Upd.foldl_tv e.genericTypes hG).comp (.imp _ _)).comp (.imp _ _)))
      fun vs => ⟨_, Upd.ite (c := (vs.length == 1) = true) .id (.imp _ _), fun _ _ => rfl⟩

theorem writeEnum_writes (E : Ext) (cfg : Cfg) (e : RustEnum) (hG : ∀ g ∈ e.genericTypes, G g) :
    Writes G (writeEnum E cfg e) := by
  refine Writes.of_eq (fun st => by rw [writeEnum]) ?_
  cases e.keys with
  | none =>
    exact Writes.bind_of (fun _ => rfl) (innerFacts_writes E cfg e hG _) fun _ =>
      Writes.pure_bind (x := unitMembers E e.variants) fun _ => ⟨_, .imp s%"enum" s%"Enum", fun _ _ => rfl⟩
  | some k => exact Writes.bind_of (fun _ => rfl) (unionFacts_writes E cfg e hG _ _) fun _ => ⟨_, .id, fun _ _ => rfl⟩

/-- the type variables the text of an item declares -/
def declares : RustItem → List Str
  | .struct s => s.genericTypes
  | .enum e => e.genericTypes
  | .alias a => a.genericTypes
  | .const _ => []

theorem writeItem_writes (E : Ext) (cfg : Cfg) (it : RustItem) (hG : ∀ g ∈ declares it, G g) :
    Writes G (writeItem E cfg it) := by
  cases it with
  | struct rs => exact Writes.bind_of (fun _ => rfl) (structFacts_writes E cfg rs hG) fun _ => ⟨_, .id, fun _ _ => rfl⟩
  | «enum» e => exact writeEnum_writes E cfg e hG
  | alias a =>
    exact Writes.bind_of (fun _ => rfl)
      (Writes.bind_of (fun _ => rfl) (formatType_writes cfg a.genericTypes a.ty) fun _ =>
        ⟨_, Upd.foldl_tv a.genericTypes hG, fun _ _ => rfl⟩) fun _ => ⟨_, .id, fun _ _ => rfl⟩
  | const c =>
    exact Writes.bind_of (fun _ => rfl)
      (Writes.bind_of (fun _ => rfl) (formatType_writes cfg [] c.ty) fun _ => ⟨_, .id, fun _ _ => rfl⟩)
      fun _ => ⟨_, .id, fun _ _ => rfl⟩

theorem writeItems_writes (E : Ext) (cfg : Cfg) (its : List RustItem) (hG : ∀ it ∈ its, ∀ g ∈ declares it, G g) :
    Writes G (writeItems E cfg its) :=
  Writes.list (fun _ => rfl) (fun _ _ _ => rfl) its fun it hit => writeItem_writes E cfg it (hG it hit)

/-- a successful `generate`: the order, the body the items wrote and the state they left, the text -/
theorem generate_ok {E : Ext} {cfg : Cfg} {d : ParsedData} {st0 st : St} {text : Str}
    (h : generate E cfg d st0 = .ok (text, st)) : ∃ items body st1, Pipeline.generateOrder d = some items ∧
      writeItems E cfg items st0 = .ok (body, st1) ∧ st = addDatetimeImport st1 ∧
      text = beginFile cfg ++ writeAllImports st ++ writeCustomFns st ++ body := by
  unfold generate at h
  cases ho : Pipeline.generateOrder d with
  | none => rw [ho] at h; cases h
  | some items =>
    rw [ho] at h
    obtain ⟨⟨body, st1⟩, h1, h2⟩ := Outcome.of_bind_ok h
    obtain ⟨rfl, rfl⟩ := Outcome.ok_pair_inj h2
    exact ⟨items, body, st1, rfl, h1, rfl, rfl⟩

end TsV.C12L.Python

/-! ## how a successful run of a record-building function arises

The states in between are left existential: what is returned does not depend on them (`Writes.indep`). -/

namespace TsV.Lang.Python

/-- `pt` is the printed type of the field; the state is left out -/
theorem fieldFacts_inv {E : Ext} {cfg : Cfg} {gens : List Str} {f : RustField} {st st' : St} {pf : PyField}
    (h : fieldFacts E cfg gens f st = .ok (pf, st')) : ∃ pt st1 inner, formatType cfg gens f.ty st = .ok (pt, st1) ∧
      inner = (if !f.ty.isOptional && f.hasDefault then s%"Optional[" ++ pt ++ s%"]" else pt) ∧
      ({ comments := f.comments, name := propertyAwareRename E f.id.original,
         alias := if propertyAwareRename E f.id.original != f.id.renamed then some f.id.renamed else none,
         ty := (match jsonTranslation pt with
           | some c => s%"Annotated[" ++ inner ++ s%", BeforeValidator(" ++ c.deserializationName ++
               s%"), PlainSerializer(" ++ c.serializationName ++ s%")]"
           | none => inner),
         default := if (f.ty.isOptional || f.hasDefault) || (!f.ty.isOptional && f.hasDefault) then some s%"None"
           else none } : PyField) = pf := by
  obtain ⟨⟨pt, st1⟩, hpt, h⟩ := Outcome.of_bind_ok h
  refine ⟨pt, st1, _, hpt, rfl, ?_⟩
  dsimp only at h
  cases hj : jsonTranslation pt <;> rw [hj] at h <;> exact (Outcome.ok_pair_inj h).1

theorem structFacts_inv {E : Ext} {cfg : Cfg} {rs : RustStruct} {st st' : St} {c : PyClass}
    (h : structFacts E cfg rs st = .ok (c, st')) : ∃ st0 fields,
      fieldsFacts E cfg rs.genericTypes rs.fields st0 = .ok (fields, st') ∧
      ({ name := rs.id.renamed, generics := rs.genericTypes, comments := rs.comments,
         modelConfig := rs.fields.any fun f => propertyAwareRename E f.id.original != f.id.renamed, fields } : PyClass) = c := by
  obtain ⟨fields, hf, rfl⟩ := Outcome.bind_ret_ok.1 h
  exact ⟨_, fields, hf, rfl⟩

theorem aliasFacts_inv {cfg : Cfg} {a : RustTypeAlias} {st st' : St} {pa : PyAlias}
    (h : aliasFacts cfg a st = .ok (pa, st')) : ∃ ty st1, formatType cfg a.genericTypes a.ty st = .ok (ty, st1) ∧
      a.genericTypes.foldl addTypeVar st1 = st' ∧
      ({ name := a.id.renamed, generics := a.genericTypes, ty, comments := a.comments } : PyAlias) = pa := by
  obtain ⟨⟨ty, st1⟩, hty, h⟩ := Outcome.of_bind_ok h
  obtain ⟨rfl, rfl⟩ := Outcome.ok_pair_inj h
  exact ⟨ty, st1, hty, rfl, rfl⟩

theorem constFacts_inv {E : Ext} {cfg : Cfg} {c : RustConst} {st st' : St} {pc : PyConst}
    (h : constFacts E cfg c st = .ok (pc, st')) : ∃ ty, formatType cfg [] c.ty st = .ok (ty, st') ∧
      ({ name := E.U.upperStr (Rename.toSnake E.U c.id.renamed), ty, value := c.expr } : PyConst) = pc := by
  obtain ⟨⟨ty, st1⟩, hty, h⟩ := Outcome.of_bind_ok h
  obtain ⟨rfl, rfl⟩ := Outcome.ok_pair_inj h
  exact ⟨ty, hty, rfl⟩

/-- the variant class, and per kind of variant where its content type comes from -/
theorem variantFacts_inv {E : Ext} {cfg : Cfg} {e : RustEnum} {tag content : Str} {v : RustEnumVariant} {st st' : St}
    {pv : PyVariant} (h : variantFacts E cfg e tag content v st = .ok (pv, st')) : ∃ contentType,
      ({ className := e.id.renamed ++ v.id.original, comments := v.comments, tagKey := tag,
         tagLiteral := e.id.renamed ++ s%"Types." ++ tagMemberName E v.id.renamed, wire := v.id.renamed,
         contentKey := content, contentType } : PyVariant) = pv ∧
      match v with
      | .unit _ _ => none = contentType
      | .tuple _ _ ty => ∃ t st1, formatType cfg e.genericTypes ty st = .ok (t, st1) ∧ some t = contentType
      | .anonymousStruct id _ _ => some (innerName e id.original) = contentType := by
  cases v with
  | unit i c => obtain ⟨rfl, -⟩ := Outcome.ok_pair_inj h; exact ⟨_, rfl, rfl⟩
  | anonymousStruct i c fs => obtain ⟨rfl, -⟩ := Outcome.ok_pair_inj h; exact ⟨_, rfl, rfl⟩
  | tuple i c ty =>
    obtain ⟨⟨t, st1⟩, ht, h⟩ := Outcome.of_bind_ok h
    obtain ⟨rfl, -⟩ := Outcome.ok_pair_inj h
    exact ⟨_, rfl, t, st1, ht, rfl⟩

theorem unionFacts_inv {E : Ext} {cfg : Cfg} {e : RustEnum} {tag content : Str} {st st' : St} {u : PyUnion}
    (h : unionFacts E cfg e tag content st = .ok (u, st')) : ∃ inner st1 st2 variants st3,
      innerFacts E cfg e (structVariants e) st = .ok (inner, st1) ∧
      variantsFacts E cfg e tag content e.variants st2 = .ok (variants, st3) ∧
      ({ name := e.id.renamed, comments := e.comments, inner, typesName := e.id.renamed ++ s%"Types",
         tags := e.variants.map fun v => { name := tagMemberName E v.id.renamed, wire := v.id.renamed, comments := [] },
         variants } : PyUnion) = u := by
  obtain ⟨⟨inner, st1⟩, hi, h⟩ := Outcome.of_bind_ok h
  obtain ⟨⟨variants, st3⟩, hv, h⟩ := Outcome.of_bind_ok h
  obtain ⟨rfl, -⟩ := Outcome.ok_pair_inj h
  exact ⟨inner, st1, _, variants, st3, hi, hv, rfl⟩

end TsV.Lang.Python
