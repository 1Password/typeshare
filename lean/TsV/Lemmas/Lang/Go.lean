import TsV.Lemmas.Lang.Threads
/-!
# The Go printer and its import set

Below `generate` the Go printer does one thing to its state: it records the import `time` when it
prints `time.Time`.  Whether it does is a function of the item (`timeIn` … `itemTime`), so every
printer function `Threads` the state by `eff (… its argument …)`.
-/
namespace TsV.C12L.Go
open TsV TsV.Lang TsV.Lang.Go TsV.C12L TsV.Outcome

def kTime : Str := s%"time"
def kJson : Str := s%"encoding/json"

mutual
  /-- does formatting `t` print `time.Time` on typeshare's account?  Follows `formatType` arm by arm:
  a mapped generic or a mapped special type is replaced wholesale by the user's string. -/
  def timeIn (cfg : Cfg) : RustType → Bool
    | .simple _ => false
    | .generic id ps => if (mapGet cfg.typeMappings id).isSome then false else timeInList cfg ps
    | t@(.vec r) => if (mapGet cfg.typeMappings t.display).isSome then false else timeIn cfg r
    | t@(.array r _) => if (mapGet cfg.typeMappings t.display).isSome then false else timeIn cfg r
    | t@(.slice r) => if (mapGet cfg.typeMappings t.display).isSome then false else timeIn cfg r
    | t@(.option r) => if (mapGet cfg.typeMappings t.display).isSome then false else timeIn cfg r
    | t@(.hashMap k v) =>
      if (mapGet cfg.typeMappings t.display).isSome then false else timeIn cfg k || timeIn cfg v
    | t@(.prim p) => if (mapGet cfg.typeMappings t.display).isSome then false else p == .dateTime
  def timeInList (cfg : Cfg) : List RustType → Bool
    | [] => false
    | t :: ts => timeIn cfg t || timeInList cfg ts
end

/-- a field prints `time.Time` on typeshare's account iff it has no user-written type override and
its (unmapped) type tree contains `OffsetDateTime` -/
def fieldTime (cfg : Cfg) (f : RustField) : Bool :=
  match typeOverride f .go with
  | some _ => false
  | none => timeIn cfg f.ty

def variantTime (cfg : Cfg) : RustEnumVariant → Bool
  | .tuple _ _ ty => timeIn cfg ty
  | _ => false

def enumTime (cfg : Cfg) (e : RustEnum) : Bool :=
  ((structVariants e).any fun p => p.2.any (fieldTime cfg)) ||
  (match e.keys with | none => false | some _ => e.variants.any (variantTime cfg))

/-- does generating the item print `time.Time` -/
def itemTime (cfg : Cfg) : RustItem → Bool
  | .struct s => s.fields.any (fieldTime cfg)
  | .enum e => enumTime cfg e
  | .alias a => timeIn cfg a.ty
  | .const c => timeIn cfg c.ty

/-- record `time` or leave the imports alone -/
def eff (b : Bool) (st : Imports) : Imports := if b then addImport st kTime else st

theorem insertSorted_idem (x : Str) : ∀ l : List Str,
    Parser.insertSorted Str.lt x (Parser.insertSorted Str.lt x l) = Parser.insertSorted Str.lt x l := by
  intro l
  induction l with
  | nil => simp [Parser.insertSorted, Order.lt_irrefl]
  | cons y ys ih =>
    by_cases h1 : Str.lt x y = true
    · simp [Parser.insertSorted, h1, Order.lt_irrefl]
    · by_cases h2 : Str.lt y x = true
      · simp [Parser.insertSorted, h1, h2, ih]
      · simp [Parser.insertSorted, h1, h2]

theorem eff_eff (a b : Bool) (st : Imports) : eff b (eff a st) = eff (a || b) st := by
  cases a <;> cases b <;> first | rfl | exact insertSorted_idem _ _

theorem foldl_eff {ι : Type} (w : ι → Bool) : ∀ (is : List ι) (st : Imports),
    is.foldl (fun s i => eff (w i) s) st = eff (is.any w) st := by
  intro is
  induction is with
  | nil => exact fun _ => rfl
  | cons i is ih => exact fun st => by rw [List.foldl_cons, ih, eff_eff, List.any_cons]

/-- two steps in a row -/
theorem seq {α β} {k : Imports → Outcome (α × Imports)} {F : α × Imports → Outcome (β × Imports)} {a b : Bool}
    {K : Imports → Outcome (β × Imports)} (hK : ∀ st, K st = (k st).bind F) (hk : Threads k (eff a))
    (hF : ∀ x, Threads (fun st => F (x, st)) (eff b)) : Threads K (eff (a || b)) :=
  (Threads.bind_of hK hk fun x _ _ _ => hF x).congr (eff_eff a b)

/-- a step and then a return -/
theorem last {α β} {k : Imports → Outcome (α × Imports)} {F : α × Imports → Outcome (β × Imports)} {a : Bool}
    {K : Imports → Outcome (β × Imports)} (hK : ∀ st, K st = (k st).bind F) (hk : Threads k (eff a))
    (hF : ∀ x, Threads (fun st => F (x, st)) fun st => st) : Threads K (eff a) :=
  Threads.bind_of hK hk fun x _ _ _ => hF x

theorem loop {ι α γ : Type} {step : ι → Imports → Outcome (α × Imports)} {run : List ι → Imports → Outcome (γ × Imports)}
    {c0 : γ} {comb : ι → α → γ → γ} (nil : ∀ st, run [] st = .ok (c0, st))
    (cons : ∀ i is st, run (i :: is) st =
      (step i st).bind fun (a, st) => (run is st).bind fun (c, st) => .ok (comb i a c, st))
    {w : ι → Bool} (is : List ι) (h : ∀ i ∈ is, Threads (step i) (eff (w i))) : Threads (run is) (eff (is.any w)) :=
  (Threads.listOn nil cons is h).congr (foldl_eff w is)

theorem special_threads (cfg : Cfg) (t : RustType) {k : Imports → Outcome (Str × Imports)} {b : Bool}
    (hk : Threads k (eff b)) :
    Threads (fun st => special cfg t st k) (eff (if (mapGet cfg.typeMappings t.display).isSome then false else b)) := by
  unfold special
  cases mapGet cfg.typeMappings t.display with
  | some m => exact Threads.ret m id
  | none => exact hk

theorem formatTypes_threads_of (cfg : Cfg) (ts : List RustType)
    (h : ∀ t ∈ ts, Threads (formatType cfg t) (eff (timeIn cfg t))) :
    Threads (formatTypes cfg ts) (eff (timeInList cfg ts)) :=
  (loop (w := timeIn cfg) (fun _ => rfl) (fun _ _ _ => rfl) ts h).congr fun st => by
    congr 1
    induction ts with
    | nil => rfl
    | cons t ts ih => rw [List.any_cons, timeInList, ih fun t ht => h t (List.mem_cons_of_mem _ ht)]

theorem formatType_threads (cfg : Cfg) (t : RustType) : Threads (formatType cfg t) (eff (timeIn cfg t)) := by
  induction t using rustType_induct with
  | simple id => exact Threads.ret _ fun st => st
  | generic id ps ih =>
    have hps := formatTypes_threads_of cfg ps ih
    rw [timeIn]
    refine Threads.of_eq (fun st => by rw [formatType]) ?_
    cases mapGet cfg.typeMappings id with
    | some m => exact Threads.ret m fun st => st
    | none => exact last (fun _ => rfl) hps fun _ => Threads.ret _ _
  | vec r ih | slice r ih | array r n ih | option r ih =>
    exact special_threads cfg _ (last (fun _ => rfl) ih fun _ => Threads.ret _ _)
  | hashMap k v ihk ihv =>
    exact special_threads cfg _ (seq (fun _ => rfl) ihk fun _ => last (fun _ => rfl) ihv fun _ => Threads.ret _ _)
  | prim p =>
    refine special_threads cfg _ ?_
    cases p <;> exact Threads.ret _ _

theorem formatTypes_threads (cfg : Cfg) (ts : List RustType) : Threads (formatTypes cfg ts) (eff (timeInList cfg ts)) :=
  formatTypes_threads_of cfg ts fun t _ => formatType_threads cfg t

theorem fieldFacts_threads (U : UnicodeOps) (cfg : Cfg) (f : RustField) :
    Threads (fieldFacts U cfg f) (eff (fieldTime cfg f)) := by
  refine last (fun _ => rfl) ?_ fun _ =>
    Threads.pure_bind fun _ _ => Threads.pure_bind fun _ _ => Threads.ret _ _
  unfold fieldTime
  cases typeOverride f .go with
  | some t => exact Threads.ret t fun st => st
  | none => exact formatType_threads cfg f.ty

theorem fieldsFacts_threads (U : UnicodeOps) (cfg : Cfg) (fs : List RustField) :
    Threads (fieldsFacts U cfg fs) (eff (fs.any (fieldTime cfg))) :=
  loop (fun _ => rfl) (fun _ _ _ => rfl) fs fun f _ => fieldFacts_threads U cfg f

theorem structFacts_threads (U : UnicodeOps) (cfg : Cfg) (rs : RustStruct) :
    Threads (structFacts U cfg rs) (eff (rs.fields.any (fieldTime cfg))) :=
  Threads.pure_bind_of (fun _ => rfl) fun _ _ =>
    last (fun _ => rfl) (fieldsFacts_threads U cfg rs.fields) fun _ => Threads.ret _ _

theorem anonStructs_threads (U : UnicodeOps) (cfg : Cfg) (e : RustEnum) (l : List (Id × List RustField)) :
    Threads (anonStructs U cfg e l) (eff (l.any fun p => p.2.any (fieldTime cfg))) := by
  induction l with
  | nil => exact Threads.ret _ fun st => st
  | cons p rest ih =>
    obtain ⟨i, fs⟩ := p
    rw [List.any_cons]
    exact Threads.pure_bind_of (fun _ => rfl) fun _ _ => seq (fun _ => rfl) (structFacts_threads U cfg _) fun _ =>
      last (fun _ => rfl) ih fun _ => Threads.ret _ _

theorem algVariant_threads (U : UnicodeOps) (cfg : Cfg) (e : RustEnum) (sn tk : Str) (cs : List Str)
    (v : RustEnumVariant) : Threads (algVariant U cfg e sn tk cs v) (eff (variantTime cfg v)) := by
  refine Threads.pure_bind_of (fun _ => rfl) fun vn _ => last (fun _ => rfl) ?_ fun _ =>
    Threads.pure_bind fun _ _ => Threads.pure_bind fun _ _ => Threads.ret _ _
  cases v with
  | unit i c => exact Threads.ret _ fun st => st
  | anonymousStruct i c fs => exact Threads.pure_bind fun _ _ => Threads.ret _ fun st => st
  | tuple i c ty =>
    -- `format_type(..).unwrap()`: an error becomes a panic, the state is handed on as it is
    intro st st₀
    have h := formatType_threads cfg ty st st₀
    dsimp only [variantTime]
    rw [h]
    cases formatType cfg ty st₀ with
    | ok p => rfl
    | err x => rfl
    | panic m => rfl

theorem algVariants_threads (U : UnicodeOps) (cfg : Cfg) (e : RustEnum) (sn tk : Str) (cs : List Str)
    (vs : List RustEnumVariant) : Threads (algVariants U cfg e sn tk cs vs) (eff (vs.any (variantTime cfg))) :=
  loop (fun _ => rfl) (fun _ _ _ => rfl) vs fun v _ => algVariant_threads U cfg e sn tk cs v

theorem writeEnum_threads (U : UnicodeOps) (cfg : Cfg) (e : RustEnum) (cs : List Str) :
    Threads (writeEnum U cfg e cs) (eff (enumTime cfg e)) := by
  unfold enumTime
  refine Threads.of_eq (fun st => by rw [writeEnum]) ?_
  cases e.keys with
  | none =>
    rw [Bool.or_false]
    exact last (fun _ => rfl) (anonStructs_threads U cfg e _) fun _ =>
      Threads.pure_bind fun _ _ => Threads.pure_bind fun _ _ => Threads.ret _ _
  | some k =>
    refine last (fun _ => rfl) ?_ fun _ => Threads.ret _ _
    exact seq (fun _ => rfl) (anonStructs_threads U cfg e _) fun _ =>
      Threads.pure_bind fun _ _ => Threads.pure_bind fun _ _ => Threads.pure_bind fun _ _ =>
        Threads.pure_bind fun _ _ => last (fun _ => rfl) (algVariants_threads U cfg e _ _ cs _) fun _ => Threads.ret _ _

theorem writeItem_threads (U : UnicodeOps) (cfg : Cfg) (cs : List Str) (it : RustItem) :
    Threads (writeItem U cfg cs it) (eff (itemTime cfg it)) := by
  cases it with
  | struct rs => exact last (fun _ => rfl) (structFacts_threads U cfg rs) fun _ => Threads.ret _ _
  | «enum» e => exact writeEnum_threads U cfg e cs
  | alias a =>
    exact last (fun _ => rfl) (Threads.pure_bind_of (fun _ => rfl) fun _ _ =>
      last (fun _ => rfl) (formatType_threads cfg a.ty) fun _ => Threads.ret _ _) fun _ => Threads.ret _ _
  | const c =>
    exact last (fun _ => rfl) (last (fun _ => rfl) (formatType_threads cfg c.ty) fun _ => Threads.ret _ _)
      fun _ => Threads.ret _ _

theorem writeItems_threads (U : UnicodeOps) (cfg : Cfg) (cs : List Str) (its : List RustItem) :
    Threads (writeItems U cfg cs its) (eff (its.any (itemTime cfg))) :=
  loop (fun _ => rfl) (fun _ _ _ => rfl) its fun it _ => writeItem_threads U cfg cs it

/-- a successful `generate`: the text, and the import set it leaves, as functions of the input -/
theorem generate_ok {U : UnicodeOps} {cfg : Cfg} {d : ParsedData} {st0 st : Imports} {text : Str}
    (h : generate U cfg d st0 = .ok (text, st)) : ∃ items body, Pipeline.generateOrder d = some items ∧
      writeItems U cfg (typesMappingToStruct items) items (addImport st0 kJson) = .ok (body, st) ∧
      st = eff (items.any (itemTime cfg)) (addImport st0 kJson) ∧ text = beginFile cfg ++ renderImports st ++ body := by
  unfold generate at h
  cases ho : Pipeline.generateOrder d with
  | none => rw [ho] at h; cases h
  | some items =>
    rw [ho] at h
    obtain ⟨⟨body, st1⟩, h1, h2⟩ := Outcome.of_bind_ok h
    obtain ⟨rfl, rfl⟩ := Outcome.ok_pair_inj h2
    exact ⟨items, body, rfl, h1, (writeItems_threads U cfg _ items).state h1, rfl⟩

end TsV.C12L.Go

/-! ## how a successful run of a record-building function arises -/

namespace TsV.Lang.Go

theorem fieldFacts_inv {U : UnicodeOps} {cfg : Cfg} {f : RustField} {st st' : Imports} {g : GoField}
    (h : fieldFacts U cfg f st = .ok (g, st')) : ∃ typeName goType name,
      (match typeOverride f .go with
       | some t => Outcome.ok (t, st)
       | none => formatType cfg f.ty st) = .ok (typeName, st') ∧
      acr U cfg typeName = .ok goType ∧ fieldName U cfg f.id.original = .ok name ∧
      ({ comments := f.comments, name, ty := (if f.hasDefault && !f.ty.isOptional then s%"*" else []) ++ goType,
         jsonName := debugInner f.id.renamed, omitempty := f.ty.isOptional || f.hasDefault } : GoField) = g := by
  obtain ⟨⟨typeName, st1⟩, htn, h⟩ := Outcome.of_bind_ok h
  obtain ⟨goType, hgt, h⟩ := Outcome.of_bind_ok h
  obtain ⟨name, hn, h⟩ := Outcome.of_bind_ok h
  obtain ⟨rfl, rfl⟩ := Outcome.ok_pair_inj h
  exact ⟨typeName, goType, name, htn, hgt, hn, rfl⟩

theorem aliasFacts_inv {U : UnicodeOps} {cfg : Cfg} {a : RustTypeAlias} {st st' : Imports} {d : GoAlias}
    (h : aliasFacts U cfg a st = .ok (d, st')) : ∃ name ty, acr U cfg a.id.renamed = .ok name ∧
      formatType cfg a.ty st = .ok (ty, st') ∧ ({ comments := a.comments, name, ty } : GoAlias) = d := by
  obtain ⟨name, hn, h⟩ := Outcome.of_bind_ok h
  obtain ⟨ty, hty, rfl⟩ := Outcome.bind_ret_ok.1 h
  exact ⟨name, ty, hn, hty, rfl⟩

theorem constFacts_inv {U : UnicodeOps} {cfg : Cfg} {c : RustConst} {st st' : Imports} {d : GoValue}
    (h : constFacts U cfg c st = .ok (d, st')) : ∃ ty, formatType cfg c.ty st = .ok (ty, st') ∧
      ({ name := Rename.toPascal U c.id.renamed, ty, value := c.expr } : GoValue) = d := by
  obtain ⟨⟨ty, st1⟩, hty, h⟩ := Outcome.of_bind_ok h
  obtain ⟨rfl, rfl⟩ := Outcome.ok_pair_inj h
  exact ⟨ty, hty, rfl⟩

theorem structFacts_inv {U : UnicodeOps} {cfg : Cfg} {rs : RustStruct} {st st' : Imports} {d : GoStruct}
    (h : structFacts U cfg rs st = .ok (d, st')) : ∃ name fields, acr U cfg rs.id.renamed = .ok name ∧
      fieldsFacts U cfg rs.fields st = .ok (fields, st') ∧
      ({ comments := rs.comments, name, generics := rs.genericTypes, fields } : GoStruct) = d := by
  obtain ⟨name, hn, h⟩ := Outcome.of_bind_ok h
  obtain ⟨fields, hf, rfl⟩ := Outcome.bind_ret_ok.1 h
  exact ⟨name, fields, hn, hf, rfl⟩

theorem algEnumFacts_inv {U : UnicodeOps} {cfg : Cfg} {e : RustEnum} {tag content : Str} {cs : List Str}
    {st st' : Imports} {d : GoAlgEnum} (h : algEnumFacts U cfg e tag content cs st = .ok (d, st')) :
    ∃ anonymous st1 name tagField short tagAcr variants,
      anonStructs U cfg e (structVariants e) st = .ok (anonymous, st1) ∧ acr U cfg e.id.original = .ok name ∧
      fieldName U cfg tag = .ok tagField ∧ shortName U e.id.original = .ok short ∧ acr U cfg tag = .ok tagAcr ∧
      algVariants U cfg e name tag cs e.variants st1 = .ok (variants, st') ∧
      ({ comments := e.comments, anonymous, name, short, keyType := name ++ Rename.toPascal U tagAcr ++ s%"s",
         tagField, contentField := Rename.toCamel U content, tagKey := tag, contentKey := content, variants } : GoAlgEnum) = d := by
  obtain ⟨⟨anonymous, st1⟩, ha, h⟩ := Outcome.of_bind_ok h
  obtain ⟨name, hn, h⟩ := Outcome.of_bind_ok h
  obtain ⟨tagField, htf, h⟩ := Outcome.of_bind_ok h
  obtain ⟨short, hs, h⟩ := Outcome.of_bind_ok h
  obtain ⟨tagAcr, hta, h⟩ := Outcome.of_bind_ok h
  obtain ⟨variants, hvs, rfl⟩ := Outcome.bind_ret_ok.1 h
  exact ⟨anonymous, st1, name, tagField, short, tagAcr, variants, ha, hn, htf, hs, hta, hvs, rfl⟩

/-- the variant's name and constant, and per kind of variant where its payload type comes from -/
theorem algVariant_inv {U : UnicodeOps} {cfg : Cfg} {e : RustEnum} {sn tk : Str} {cs : List Str} {v : RustEnumVariant}
    {st st' : Imports} {g : GoAlgVariant} (h : algVariant U cfg e sn tk cs v st = .ok (g, st')) :
    ∃ vn tp payload, acr U cfg v.id.original = .ok vn ∧ acr U cfg (Rename.toPascal U tk) = .ok tp ∧
      ({ comments := v.comments, name := vn, constName := sn ++ tp ++ s%"Variant" ++ vn, wire := v.id.renamed,
         payload } : GoAlgVariant) = g ∧
      match v with
      | .unit _ _ => none = payload ∧ st = st'
      | .anonymousStruct _ _ _ => ∃ n ft, anonName U cfg e vn = .ok n ∧ acr U cfg n = .ok ft ∧
          some { ty := ft, byPointer := true } = payload ∧ st = st'
      | .tuple _ _ ty => ∃ t ft, formatType cfg ty st = .ok (t, st') ∧ acr U cfg t = .ok ft ∧
          some { ty := ft, byPointer := cs.contains t } = payload := by
  obtain ⟨vn, hvn, h⟩ := Outcome.of_bind_ok h
  obtain ⟨⟨vt, st1⟩, hvt, h⟩ := Outcome.of_bind_ok h
  obtain ⟨tp, htp, h⟩ := Outcome.of_bind_ok h
  obtain ⟨payload, hp, h⟩ := Outcome.of_bind_ok h
  obtain ⟨rfl, rfl⟩ := Outcome.ok_pair_inj h
  refine ⟨vn, tp, payload, hvn, htp, rfl, ?_⟩
  cases v with
  | unit i c =>
    obtain ⟨rfl, rfl⟩ := Outcome.ok_pair_inj hvt
    exact ⟨Outcome.ok.inj hp, rfl⟩
  | anonymousStruct i c fs =>
    obtain ⟨n, hn, hvt⟩ := Outcome.of_bind_ok hvt
    obtain ⟨rfl, rfl⟩ := Outcome.ok_pair_inj hvt
    obtain ⟨ft, hft, rfl⟩ := Outcome.of_bind_ret hp
    exact ⟨n, ft, hn, hft, rfl, rfl⟩
  | tuple i c ty =>
    dsimp only at hvt
    cases hf : formatType cfg ty st with
    | ok r =>
      obtain ⟨t, st2⟩ := r
      rw [hf] at hvt
      obtain ⟨rfl, rfl⟩ := Outcome.ok_pair_inj hvt
      obtain ⟨ft, hft, rfl⟩ := Outcome.of_bind_ret hp
      exact ⟨t, ft, hf, hft, rfl⟩
    | err x => rw [hf] at hvt; cases hvt
    | panic m => rw [hf] at hvt; cases hvt

end TsV.Lang.Go
