import TsV.Lemmas.Lang.Threads
import TsV.Lemmas.C05_Langs
import TsV.Lemmas.C01_Reviver_Trace
/-!
# The TypeScript printer, between the model and the properties

Every function of `Model/Lang/TypeScript.lean` above `formatType` has the shape
`(sub-run).bind fun (r, st) => .ok (text r, st)`.  This file names the texts and gives for each function
the one lemma that says how a successful run arises (`write*_ok`), so that a property about what is
printed never unfolds the model.

The printer never reads its state (`types_for_custom_json_translation`) to decide what it prints, and
writes it in two ways only (`C01R.Ev`).  So every function `Threads` the state by replaying a list of
events that is a function of its argument (`typeEvents` … `itemEvents`): a property about the reviver
registrations is a property of `C01R.run` on that list.
-/
namespace TsV.C03E.TS
open TsV TsV.Lang TsV.Lang.TypeScript

/-- the text before the blocks: version header and (multi-file mode) the import lines -/
def header (cfg : Cfg) (imports : Option Pipeline.ScopedCrateTypes) : Str :=
  beginFile cfg ++ (match imports with | some i => writeImports i | none => [])

end TsV.C03E.TS

namespace TsV.Lang.TypeScript
open TsV TsV.Lang TsV.Outcome

/-! ## the texts -/

def structText (rs : RustStruct) (body : Str) : Str :=
  comments 0 rs.comments ++ s%"export interface " ++ rs.id.renamed ++ genericSuffix rs.genericTypes ++
    s%" {\n" ++ body ++ s%"}\n\n"

def aliasText (a : RustTypeAlias) (ty : Str) : Str :=
  comments 0 a.comments ++ s%"export type " ++ a.id.renamed ++ genericSuffix a.genericTypes ++ s%" = " ++
    ty ++ (if a.ty.isOptional then s%" | undefined" else []) ++ s%";\n\n"

def constText (U : UnicodeOps) (c : RustConst) (ty : Str) : Str :=
  s%"export const " ++ U.upperStr (Rename.toSnake U c.id.renamed) ++ s%": " ++ ty ++ s%" = " ++
    Str.natToStr c.expr ++ s%";\n"

/-- what every member of a tagged union starts with, up to and including the content key -/
def memberHead (tag content : Str) (cs : List Str) (id : Id) : Str :=
  nl ++ comments 1 cs ++ s%"\t| { " ++ tag ++ s%": " ++ debugStr id.renamed ++ s%", " ++ content

def unitEnumText (e : RustEnum) : Str :=
  comments 0 e.comments ++ s%"export enum " ++ e.id.renamed ++ genericSuffix e.genericTypes ++ s%" {" ++
    (e.variants.flatMap fun v =>
      nl ++ comments 1 v.comments ++ s%"\t" ++ v.id.original ++ s%" = " ++ debugStr v.id.renamed ++ s%",") ++
    s%"\n}\n\n"

def unionText (e : RustEnum) (body : Str) : Str :=
  comments 0 e.comments ++ s%"export type " ++ e.id.renamed ++ genericSuffix e.genericTypes ++ s%" = " ++
    body ++ s%";\n\n"

/-! ## how a successful run arises -/

theorem fieldFacts_ok {cfg : Cfg} {gens : List Str} {f : RustField} {st st' : CustomMap} {tf : TsField}
    (h : fieldFacts cfg gens f st = .ok (tf, st')) :
    ∃ st1,
      (match typeOverride f .typescript with
       | some t => Outcome.ok (t, st)
       | none => formatType cfg gens f.ty st) = .ok (tf.ty, st1) ∧
      { comments := f.comments, readonly := hasDecoratorNamed f .typescript s%"readonly",
        name := propertyName f.id.renamed, optional := f.ty.isOptional || f.hasDefault, ty := tf.ty,
        orNull := f.ty.isDoubleOptional } = tf ∧
      (if hasCustom tf.ty then
          cmInsert st1 tf.ty (Parser.insertSorted Str.lt f.id.renamed ((cmGet st1 tf.ty).getD []))
        else st1) = st' := by
  obtain ⟨ty, st1, hty, h⟩ := of_bind_pair_ok h
  obtain ⟨rfl, rfl⟩ := ok_pair_inj h
  exact ⟨st1, hty, rfl, rfl⟩

theorem writeStruct_ok {cfg : Cfg} {rs : RustStruct} {st st' : CustomMap} {b : Str} :
    writeStruct cfg rs st = .ok (b, st') ↔
      ∃ body, writeFields cfg rs.genericTypes rs.fields st = .ok (body, st') ∧ structText rs body = b :=
  bind_ret_ok (g := structText rs)

theorem writeAlias_ok {cfg : Cfg} {a : RustTypeAlias} {st st' : CustomMap} {b : Str} :
    writeAlias cfg a st = .ok (b, st') ↔
      ∃ ty, formatType cfg a.genericTypes a.ty st = .ok (ty, st') ∧ aliasText a ty = b :=
  bind_ret_ok (g := aliasText a)

theorem writeConst_ok {U : UnicodeOps} {cfg : Cfg} {c : RustConst} {st st' : CustomMap} {b : Str} :
    writeConst U cfg c st = .ok (b, st') ↔
      ∃ ty, formatType cfg [] c.ty st = .ok (ty, st') ∧ constText U c ty = b :=
  bind_ret_ok (g := constText U c)

theorem writeVariant_unit_ok {cfg : Cfg} {e : RustEnum} {tag content : Str} {id : Id} {cs : List Str}
    {st st' : CustomMap} {b : Str} :
    writeVariant cfg e tag content (.unit id cs) st = .ok (b, st') ↔
      st = st' ∧ memberHead tag content cs id ++ s%"?: undefined }" = b :=
  ⟨fun h => ⟨(ok_pair_inj h).2, (ok_pair_inj h).1⟩, fun ⟨h1, h2⟩ => by rw [← h1, ← h2]; rfl⟩

theorem writeVariant_tuple_ok {cfg : Cfg} {e : RustEnum} {tag content : Str} {id : Id} {cs : List Str}
    {ty : RustType} {st st' : CustomMap} {b : Str} :
    writeVariant cfg e tag content (.tuple id cs ty) st = .ok (b, st') ↔
      ∃ t, formatType cfg e.genericTypes ty st = .ok (t, st') ∧
        memberHead tag content cs id ++ (if ty.isOptional then s%"?" else []) ++ s%": " ++ t ++ s%" }" = b :=
  bind_ret_ok (g := fun t =>
    memberHead tag content cs id ++ (if ty.isOptional then s%"?" else []) ++ s%": " ++ t ++ s%" }")

theorem writeVariant_struct_ok {cfg : Cfg} {e : RustEnum} {tag content : Str} {id : Id} {cs : List Str}
    {fs : List RustField} {st st' : CustomMap} {b : Str} :
    writeVariant cfg e tag content (.anonymousStruct id cs fs) st = .ok (b, st') ↔
      ∃ body, writeFields cfg e.genericTypes fs st = .ok (body, st') ∧
        memberHead tag content cs id ++ s%": {\n" ++ body ++ s%"}}" = b :=
  bind_ret_ok (g := fun body => memberHead tag content cs id ++ s%": {\n" ++ body ++ s%"}}")

theorem writeEnum_ok {cfg : Cfg} {e : RustEnum} {st st' : CustomMap} {b : Str}
    (h : writeEnum cfg e st = .ok (b, st')) :
    (e.keys = none ∧ st = st' ∧ unitEnumText e = b) ∨
    ∃ tag content body, e.keys = some (tag, content) ∧
      writeVariants cfg e tag content e.variants st = .ok (body, st') ∧ unionText e body = b := by
  unfold writeEnum at h
  cases hk : e.keys with
  | none =>
    rw [hk] at h
    exact .inl ⟨rfl, (ok_pair_inj h).2, (ok_pair_inj h).1⟩
  | some kc =>
    rw [hk] at h
    obtain ⟨body, hb, ht⟩ := (bind_ret_ok (g := unionText e)).1 h
    exact .inr ⟨kc.1, kc.2, body, rfl, hb, ht⟩

theorem generate_ok {U : UnicodeOps} {cfg : Cfg} {d : ParsedData} {imports : Option Pipeline.ScopedCrateTypes}
    {st0 st : CustomMap} {text : Str} (h : generate U cfg d imports st0 = .ok (text, st)) :
    ∃ items body, Pipeline.generateOrder d = some items ∧ writeItems U cfg items st0 = .ok (body, st) ∧
      C03E.TS.header cfg imports ++ body ++ endFile st = text := by
  unfold generate at h
  cases ho : Pipeline.generateOrder d with
  | none => rw [ho] at h; cases h
  | some items =>
    rw [ho] at h
    obtain ⟨body, st1, hb, h⟩ := of_bind_pair_ok h
    obtain ⟨ht, rfl⟩ := ok_pair_inj h
    exact ⟨items, body, rfl, hb, ht⟩

end TsV.Lang.TypeScript

/-! ## the events of a type, a field, a variant, an item -/

namespace TsV.C01R
open TsV TsV.Lang TsV.Lang.TypeScript

/-- the type-mapping prelude of `format_special_type`, on the reset list -/
def spResets (cfg : Cfg) (t : RustType) (inner : List Str) : List Str :=
  match mapGet cfg.typeMappings t.display with
  | some m => if hasCustom m then [m] else []
  | none => inner

mutual
  /-- the custom-translated types whose entry `format_type` resets, in order -/
  def resetsOf (cfg : Cfg) : RustType → List Str
    | .simple _ => []
    | .generic id ps =>
      match mapGet cfg.typeMappings id with
      | some _ => []
      | none => resetsOfList cfg ps
    | t@(.vec r) => spResets cfg t (resetsOf cfg r)
    | t@(.slice r) => spResets cfg t (resetsOf cfg r)
    | t@(.array r _) => spResets cfg t (resetsOf cfg r)
    | t@(.option r) => spResets cfg t (resetsOf cfg r)
    | t@(.hashMap k v) => spResets cfg t (resetsOf cfg k ++ resetsOf cfg v)
    | t@(.prim _) => spResets cfg t []
  def resetsOfList (cfg : Cfg) : List RustType → List Str
    | [] => []
    | t :: ts => resetsOf cfg t ++ resetsOfList cfg ts
end

def resetEvents (rs : List Str) : List Ev := rs.map Ev.reset

theorem resetEvents_append (a b : List Str) : resetEvents (a ++ b) = resetEvents a ++ resetEvents b :=
  List.map_append

end TsV.C01R

namespace TsV.C12L.TypeScript
open TsV TsV.Lang TsV.Lang.TypeScript TsV.C12L

/-- the TypeScript type a field is printed with: the user's override, else what `format_type`
prints (the string does not depend on the printer state: `formatType_threads`) -/
def fieldTy (cfg : Cfg) (gens : List Str) (f : RustField) : Option Str :=
  match typeOverride f .typescript with
  | some t => some t
  | none =>
    match formatType cfg gens f.ty [] with
    | .ok (s, _) => some s
    | _ => none

/-- the custom-translated type (`Uint8Array`, `Date`) a field is printed with, if any: such a field
relies on the matching clause of `ReviverFunc` / `ReplacerFunc` -/
def fieldNeeds (cfg : Cfg) (gens : List Str) (f : RustField) : List Str :=
  match fieldTy cfg gens f with
  | some ty => if hasCustom ty then [ty] else []
  | none => []

def variantNeeds (cfg : Cfg) (e : RustEnum) : RustEnumVariant → List Str
  | .anonymousStruct _ _ fs => fs.flatMap (fieldNeeds cfg e.genericTypes)
  | _ => []

/-- the custom-translated field types one item is printed with -/
def itemNeeds (cfg : Cfg) : RustItem → List Str
  | .struct s => s.fields.flatMap (fieldNeeds cfg s.genericTypes)
  | .enum e => (match e.keys with
    | none => []
    | some _ => e.variants.flatMap (variantNeeds cfg e))
  | _ => []

end TsV.C12L.TypeScript

namespace TsV.Lang.TypeScript
open TsV TsV.Lang TsV.Outcome TsV.C01R TsV.C12L.TypeScript

def fieldEvents (cfg : Cfg) (gens : List Str) (f : RustField) : List Ev :=
  (match typeOverride f .typescript with
   | some _ => []
   | none => resetEvents (resetsOf cfg f.ty)) ++ (fieldNeeds cfg gens f).map (Ev.add · f.id.renamed)

def variantEvents (cfg : Cfg) (e : RustEnum) : RustEnumVariant → List Ev
  | .unit _ _ => []
  | .tuple _ _ ty => resetEvents (resetsOf cfg ty)
  | .anonymousStruct _ _ fs => fs.flatMap (fieldEvents cfg e.genericTypes)

def itemEvents (cfg : Cfg) : RustItem → List Ev
  | .struct s => s.fields.flatMap (fieldEvents cfg s.genericTypes)
  | .enum e => (match e.keys with
    | none => []
    | some _ => e.variants.flatMap (variantEvents cfg e))
  | .alias a => resetEvents (resetsOf cfg a.ty)
  | .const c => resetEvents (resetsOf cfg c.ty)

/-! ## the state half: every function replays the events of its argument -/

section tower
variable {α β γ ι : Type}

/-- two steps in a row; the second may use that its argument was returned by the first -/
theorem seq {k : CustomMap → Outcome (α × CustomMap)} {F : α × CustomMap → Outcome (β × CustomMap)} {a b : List Ev}
    {K : CustomMap → Outcome (β × CustomMap)} (hK : ∀ st, K st = (k st).bind F) (hk : Threads k (run · a))
    (hF : ∀ x s s', k s = ok (x, s') → Threads (fun st => F (x, st)) (run · b)) : Threads K (run · (a ++ b)) :=
  (Threads.bind_of hK hk hF).congr fun st => (run_append st a b).symm

/-- a step and then a return -/
theorem last {k : CustomMap → Outcome (α × CustomMap)} {F : α × CustomMap → Outcome (β × CustomMap)} {a : List Ev}
    {K : CustomMap → Outcome (β × CustomMap)} (hK : ∀ st, K st = (k st).bind F) (hk : Threads k (run · a))
    (hF : ∀ x, Threads (fun st => F (x, st)) fun st => st) : Threads K (run · a) :=
  Threads.bind_of hK hk fun x _ _ _ => hF x

theorem loop {step : ι → CustomMap → Outcome (α × CustomMap)} {walk : List ι → CustomMap → Outcome (γ × CustomMap)}
    {c0 : γ} {comb : ι → α → γ → γ} (nil : ∀ st, walk [] st = .ok (c0, st))
    (cons : ∀ i is st, walk (i :: is) st =
      (step i st).bind fun (a, st) => (walk is st).bind fun (c, st) => .ok (comb i a c, st))
    {w : ι → List Ev} (is : List ι) (h : ∀ i ∈ is, Threads (step i) (run · (w i))) :
    Threads (walk is) (run · (is.flatMap w)) :=
  (Threads.listOn nil cons is h).congr fun st => by
    induction is generalizing st with
    | nil => rfl
    | cons i is ih =>
      rw [List.foldl_cons, ih (fun j hj => h j (List.mem_cons_of_mem _ hj)), List.flatMap_cons, run_append]

end tower

theorem special_threads (cfg : Cfg) (gens : List Str) (t : RustType) {k : CustomMap → Outcome (Str × CustomMap)}
    {inner : List Str} (hk : Threads k (run · (resetEvents inner))) :
    Threads (fun st => special cfg gens t st k) (run · (resetEvents (spResets cfg t inner))) := by
  unfold special spResets
  cases mapGet cfg.typeMappings t.display with
  | some m =>
    exact (Threads.ret m _).congr fun st => by
      show (if hasCustom m = true then cmInsert st m [] else st) = run st (resetEvents (if hasCustom m = true then [m] else []))
      split <;> rfl
  | none => exact hk

theorem formatTypes_threads_of (cfg : Cfg) (gens : List Str) (ts : List RustType)
    (h : ∀ t ∈ ts, Threads (formatType cfg gens t) (run · (resetEvents (resetsOf cfg t)))) :
    Threads (formatTypes cfg gens ts) (run · (resetEvents (resetsOfList cfg ts))) :=
  (loop (w := fun t => resetEvents (resetsOf cfg t)) (fun _ => rfl) (fun _ _ _ => rfl) ts h).congr fun st => by
    congr 1
    induction ts with
    | nil => rw [resetsOfList]; rfl
    | cons t ts ih =>
      rw [List.flatMap_cons, resetsOfList, resetEvents_append, ih fun t ht => h t (List.mem_cons_of_mem _ ht)]

/-- **`format_type`**: the text is the same from every state, and the entries `resetsOf` computes are reset -/
theorem formatType_threads (cfg : Cfg) (gens : List Str) (t : RustType) :
    Threads (formatType cfg gens t) (run · (resetEvents (resetsOf cfg t))) := by
  induction t using rustType_induct with
  | simple id => rw [resetsOf]; exact Threads.ret _ fun st => st
  | generic id ps ih =>
    have hps := formatTypes_threads_of cfg gens ps ih
    rw [resetsOf]
    refine Threads.of_eq (fun st => by rw [formatType]) ?_
    cases mapGet cfg.typeMappings id with
    | some m => exact Threads.ret m fun st => st
    | none =>
      intro st st₀
      have h := hps st st₀
      dsimp only
      rw [h]
      cases formatTypes cfg gens ps st₀ with
      | ok p => rfl
      | err x => rfl
      | panic m => rfl
  | vec r ih | slice r ih | array r n ih =>
    rw [resetsOf]
    exact special_threads cfg gens _ (last (fun _ => rfl) ih fun _ => Threads.ret _ _)
  | option r ih => rw [resetsOf]; exact special_threads cfg gens _ ih
  | hashMap k v ihk ihv =>
    rw [resetsOf]
    refine Threads.of_eq (fun st => by rw [formatType]) (special_threads cfg gens _ ?_)
    have record := (seq (fun _ => rfl) ihk fun _ _ _ _ => last (fun _ => rfl) ihv fun _ => Threads.ret _ _ :
      Threads (fun st => (formatType cfg gens k st).bind fun (ks, st) => (formatType cfg gens v st).bind fun (vs, st) =>
        .ok (s%"Record<" ++ ks ++ s%", " ++ vs ++ s%">", st)) _)
    rw [resetEvents_append]
    split
    · split
      · exact Threads.err _ _
      · exact record
    · exact record
  | prim p =>
    rw [resetsOf]
    refine Threads.of_eq (fun st => by rw [formatType]) (special_threads cfg gens _ ?_)
    cases p <;> first | exact Threads.ret _ _ | exact Threads.panic _ _

theorem formatTypes_threads (cfg : Cfg) (gens : List Str) (ts : List RustType) :
    Threads (formatTypes cfg gens ts) (run · (resetEvents (resetsOfList cfg ts))) :=
  formatTypes_threads_of cfg gens ts fun t _ => formatType_threads cfg gens t

/-- the type a field is printed with is `fieldTy`, whatever the state -/
theorem fieldTy_eq {cfg : Cfg} {gens : List Str} {f : RustField} {st st' : CustomMap} {ty : Str}
    (h : (match typeOverride f .typescript with
       | some t => Outcome.ok (t, st)
       | none => formatType cfg gens f.ty st) = .ok (ty, st')) : fieldTy cfg gens f = some ty := by
  unfold fieldTy
  cases ho : typeOverride f .typescript with
  | some t => rw [ho] at h; rw [(ok_pair_inj h).1]
  | none =>
    rw [ho] at h
    obtain ⟨st2, h2⟩ := (formatType_threads cfg gens f.ty).indep st ty st' h []
    simp only [h2]

theorem fieldFacts_threads (cfg : Cfg) (gens : List Str) (f : RustField) :
    Threads (fieldFacts cfg gens f) (run · (fieldEvents cfg gens f)) := by
  refine seq (fun _ => rfl) ?_ fun ty s s' h => ?_
  · cases typeOverride f .typescript with
    | some t => exact Threads.ret t fun st => st
    | none => exact formatType_threads cfg gens f.ty
  · rw [fieldNeeds, fieldTy_eq h]
    exact (Threads.ret _ _).congr fun st => by
      show (if hasCustom ty = true then _ else st) = run st (List.map _ (if hasCustom ty = true then [ty] else []))
      split <;> rfl

theorem writeFields_threads (cfg : Cfg) (gens : List Str) (fs : List RustField) :
    Threads (writeFields cfg gens fs) (run · (fs.flatMap (fieldEvents cfg gens))) :=
  loop (comb := fun _ tf rest => renderField tf ++ rest) (fun _ => rfl) (fun _ _ _ => rfl) fs
    fun f _ => fieldFacts_threads cfg gens f

theorem writeVariant_threads (cfg : Cfg) (e : RustEnum) (tag content : Str) (v : RustEnumVariant) :
    Threads (writeVariant cfg e tag content v) (run · (variantEvents cfg e v)) := by
  cases v with
  | unit id cs => exact Threads.ret _ fun st => st
  | tuple id cs ty => exact last (fun _ => rfl) (formatType_threads cfg _ ty) fun _ => Threads.ret _ _
  | anonymousStruct id cs fs => exact last (fun _ => rfl) (writeFields_threads cfg _ fs) fun _ => Threads.ret _ _

theorem writeVariants_threads (cfg : Cfg) (e : RustEnum) (tag content : Str) (vs : List RustEnumVariant) :
    Threads (writeVariants cfg e tag content vs) (run · (vs.flatMap (variantEvents cfg e))) :=
  loop (fun _ => rfl) (fun _ _ _ => rfl) vs fun v _ => writeVariant_threads cfg e tag content v

/-- **`write_item`** -/
theorem writeItem_threads (U : UnicodeOps) (cfg : Cfg) (it : RustItem) :
    Threads (writeItem U cfg it) (run · (itemEvents cfg it)) := by
  cases it with
  | struct rs => exact last (fun _ => rfl) (writeFields_threads cfg _ rs.fields) fun _ => Threads.ret _ _
  | «enum» e =>
    refine Threads.of_eq (fun st => by rw [writeItem, writeEnum]) ?_
    rw [itemEvents]
    cases e.keys with
    | none => exact Threads.ret _ fun st => st
    | some k => exact last (fun _ => rfl) (writeVariants_threads cfg e k.1 k.2 e.variants) fun _ => Threads.ret _ _
  | alias a => exact last (fun _ => rfl) (formatType_threads cfg _ a.ty) fun _ => Threads.ret _ _
  | const c => exact last (fun _ => rfl) (formatType_threads cfg _ c.ty) fun _ => Threads.ret _ _

theorem writeItems_threads (U : UnicodeOps) (cfg : Cfg) (its : List RustItem) :
    Threads (writeItems U cfg its) (run · (its.flatMap (itemEvents cfg))) :=
  loop (fun _ => rfl) (fun _ _ _ => rfl) its fun it _ => writeItem_threads U cfg it

/-! ### reading the events -/

theorem add_not_mem_resetEvents {t k : Str} {rs : List Str} : Ev.add t k ∉ resetEvents rs := fun h => by
  obtain ⟨_, _, he⟩ := List.mem_map.1 h; cases he

theorem add_mem_fieldEvents {cfg : Cfg} {gens : List Str} {f : RustField} {t k : Str} :
    Ev.add t k ∈ fieldEvents cfg gens f ↔ t ∈ fieldNeeds cfg gens f ∧ k = f.id.renamed := by
  unfold fieldEvents
  rw [List.mem_append]
  constructor
  · rintro (h | h)
    · split at h
      · cases h
      · exact absurd h add_not_mem_resetEvents
    · obtain ⟨x, hx, he⟩ := List.mem_map.1 h
      cases he; exact ⟨hx, rfl⟩
  · rintro ⟨h, rfl⟩
    exact .inr (List.mem_map.2 ⟨t, h, rfl⟩)

/-- every needed type is added -/
theorem itemNeeds_added {cfg : Cfg} {it : RustItem} {t : Str} (h : t ∈ itemNeeds cfg it) :
    ∃ k, Ev.add t k ∈ itemEvents cfg it := by
  have field : ∀ {gens : List Str} {fs : List RustField}, t ∈ fs.flatMap (fieldNeeds cfg gens) → ∃ k, Ev.add t k ∈ fs.flatMap (fieldEvents cfg gens) :=
    fun h => let ⟨f, hf, hn⟩ := List.mem_flatMap.1 h
      ⟨_, List.mem_flatMap.2 ⟨f, hf, add_mem_fieldEvents.2 ⟨hn, rfl⟩⟩⟩
  cases it with
  | struct s => exact field h
  | «enum» e =>
    simp only [itemNeeds] at h
    simp only [itemEvents]
    cases hk : e.keys with
    | none => rw [hk] at h; cases h
    | some kc =>
      rw [hk] at h
      obtain ⟨v, hv, hm⟩ := List.mem_flatMap.1 h
      cases v with
      | unit id cs => cases hm
      | tuple id cs ty => cases hm
      | anonymousStruct id cs fs =>
        obtain ⟨k, hk⟩ := field hm
        exact ⟨k, List.mem_flatMap.2 ⟨_, hv, hk⟩⟩
  | alias a => cases h
  | const c => cases h

end TsV.Lang.TypeScript
