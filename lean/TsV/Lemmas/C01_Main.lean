import TsV.Lemmas.C01_Backends
/-!
# C01: gluing the parse half to the back-end half
-/
namespace TsV.C01
open TsV TsV.Str TsV.Syn TsV.Parser TsV.Serde TsV.Lang TsV.Outcome

theorem forall₂_map_both {α β γ δ} {R : γ → δ → Prop} (g : α → γ) (k : β → δ) :
    ∀ {l1 : List α} {l2 : List β}, Forall₂ (fun a b => R (g a) (k b)) l1 l2 → Forall₂ R (l1.map g) (l2.map k) := by
  intro l1 l2 h
  induction h with
  | nil => exact .nil
  | cons hab _ ih => exact .cons hab ih

theorem inScopeB_sound (E : Ext) (L : TsV.Lang) (ra : Option Str) (f : Field)
    (h : inScopeB E L ra f = true) : InScope E L ra f := by
  unfold inScopeB at h
  simp only [Bool.and_eq_true] at h
  obtain ⟨⟨h1, h2⟩, h3⟩ := h
  refine ⟨⟨?_, ?_⟩, ?_⟩
  · cases hi : f.ident with
    | none => rw [hi] at h1; simp at h1
    | some i => rw [hi] at h1; exact ⟨i, rfl, by simpa using h1⟩
  · intro k hk
    rw [hk] at h2
    simpa using h2
  · intro k hk
    rw [hk] at h3
    simpa using h3

theorem inScopeB_all (E : Ext) (L : TsV.Lang) (ra : Option Str) (fs : List Field)
    (h : fs.all (inScopeB E L ra) = true) : ∀ f ∈ fs, InScope E L ra f :=
  fun f hf => inScopeB_sound E L ra f (List.all_eq_true.1 h f hf)

theorem variantsInScopeB_sound (E : Ext) (L : TsV.Lang) (targetOs : List Str) (vs : List Variant)
    (h : variantsInScopeB E L targetOs vs = true) :
    ∀ v ∈ vs, ∀ fs, v.fields = .named fs → ∀ f ∈ kept targetOs fs, InScope E L (serdeRenameAll E v.attrs) f := by
  intro v hv fs hfs f hf
  have := List.all_eq_true.1 h v hv
  rw [hfs] at this
  exact inScopeB_sound _ _ _ _ (List.all_eq_true.1 this f hf)

theorem keyOk_of_scope (E : Ext) (L : TsV.Lang) (ra : Option Str) (f : Field) (k : Str)
    (hs : InScope E L ra f) (hk : fieldKeyOf E ra f = .ok k) : KeyOk L k := by
  have h1 := fieldKeyOf_keyStr E ra f k hs.1 hk
  have h2 := hs.2 k hk
  cases L <;> first | exact h1 | exact h2 | trivial

theorem forall₂_of_map_left {α β γ} {R : γ → β → Prop} (g : α → γ) :
    ∀ {l1 : List α} {l2 : List β}, Forall₂ R (l1.map g) l2 → Forall₂ (fun a b => R (g a) b) l1 l2 := by
  intro l1 l2 h
  induction l1 generalizing l2 with
  | nil => cases h; exact .nil
  | cons a t ih => cases h with | cons hab h' => exact .cons hab (ih h')

theorem forall₂_map_left {α β γ} {R : γ → β → Prop} (g : α → γ) :
    ∀ {l1 : List α} {l2 : List β}, Forall₂ (fun a b => R (g a) b) l1 l2 → Forall₂ R (l1.map g) l2 := by
  intro l1 l2 h
  induction h with
  | nil => exact .nil
  | cons hab _ ih => exact .cons hab ih

/-- composition of the two halves on one field list -/
theorem compose_fields (E : Ext) (L : TsV.Lang) (ra : Option Str) (fs : List Field) (ids : List Id)
    (rfs' : List RustField) (ks : List Str)
    (hp : Forall₂ (fun f id => ParsedKey E ra f id) fs ids)
    (hids : fieldIds rfs' = ids)
    (hs : ∀ f ∈ fs, InScope E L ra f)
    (hb : Forall₂ (Binds L) rfs' ks) : Forall₂ (SerdeKey E ra) fs ks := by
  subst hids
  have hp' := forall₂_mem_left (Forall₂.map_right_iff.1 hp) hs
  refine Forall₂.imp ?_ (Forall₂.comp hp' hb)
  rintro f k ⟨rf, ⟨hsc, hpk⟩, hbk⟩ v hv
  have hag := hpk.2 (Or.inl hsc.1.1) v hv
  cases hag
  have := hbk (keyOk_of_scope E L ra f _ hsc hv)
  rw [this]

/-- source variant ↔ parsed variant, in both directions -/
def VariantRel (E : Ext) (targetOs : List Str) (v : Variant) (rv : RustEnumVariant) : Prop :=
  (namedFields v = true → ∃ id cs rfs, rv = .anonymousStruct id cs rfs) ∧
  (∀ id cs rfs, rv = .anonymousStruct id cs rfs → namedFields v = true ∧
    ∃ fs, v.fields = .named fs ∧
      Forall₂ (fun f rf => ParsedKey E (serdeRenameAll E v.attrs) f rf.id) (kept targetOs fs) rfs)

theorem parseEnumVariant_rel (E : Ext) (hU : E.U.AsciiCorrect) (targetOs : List Str) (enumRa : Option Str)
    (v : Variant) (rv : RustEnumVariant) (h : parseEnumVariant E targetOs enumRa v = .ok rv) :
    VariantRel E targetOs v rv := by
  constructor
  · intro hn
    obtain ⟨attrs, ident, fields⟩ := v
    cases fields with
    | named fs =>
      cases (parseEnumVariant_ok h).2 with
      | unit hf => cases hf
      | tuple hf => cases hf
      | named => exact ⟨_, _, _, rfl⟩
    | unnamed fs => simp [namedFields] at hn
    | unit => simp [namedFields] at hn
  · intro id cs rfs hrv
    subst hrv
    obtain ⟨fs, hfs, hk⟩ := parseEnumVariant_keys E hU targetOs enumRa v id cs rfs h
    refine ⟨?_, fs, hfs, hk⟩
    obtain ⟨attrs, ident, fields⟩ := v
    simp only at hfs
    subst hfs
    rfl

theorem parseEnum_rel (E : Ext) (hU : E.U.AsciiCorrect) (targetOs : List Str) (attrs : List Attr)
    (ident : Str) (gens : List GenericParam) (variants : List Variant) (e : RustEnum)
    (h : parseEnum E targetOs attrs ident gens variants = .ok (.enum e)) :
    Forall₂ (VariantRel E targetOs) (variants.filter fun v => !isSkipped v.attrs targetOs) e.variants :=
  Forall₂.imp (fun v rv hv => parseEnumVariant_rel E hU targetOs _ v rv hv)
    (mapM'_forall₂ _ _ _ (parseEnum_enum_ok h).2)

/-- the struct variants of the source line up with `structVariants` of the parsed enum -/
theorem struct_variants_aligned (E : Ext) (targetOs : List Str) :
    ∀ {vs : List Variant} {rvs : List RustEnumVariant}, Forall₂ (VariantRel E targetOs) vs rvs →
      Forall₂ (fun v (p : Id × List RustField) => ∃ fs, v.fields = .named fs ∧
          Forall₂ (fun f rf => ParsedKey E (serdeRenameAll E v.attrs) f rf.id) (kept targetOs fs) p.2)
        (vs.filter namedFields)
        (rvs.filterMap fun rv => match rv with
          | .anonymousStruct id _ fs => some (id, fs)
          | _ => none) := by
  intro vs rvs h
  induction h with
  | nil => exact .nil
  | @cons v rv vs rvs hrel _ ih =>
    cases hn : namedFields v with
    | true =>
      obtain ⟨id, cs, rfs, hrv⟩ := hrel.1 hn
      subst hrv
      obtain ⟨_, fs, hfs, hk⟩ := hrel.2 id cs rfs rfl
      simp only [List.filter_cons, hn, if_true]
      exact .cons ⟨fs, hfs, hk⟩ ih
    | false =>
      simp only [List.filter_cons, hn, Bool.false_eq_true, if_false]
      cases rv with
      | unit id cs => exact ih
      | tuple id cs ty => exact ih
      | anonymousStruct id cs rfs =>
        have := (hrel.2 id cs rfs rfl).1
        rw [hn] at this
        cases this

end TsV.C01
