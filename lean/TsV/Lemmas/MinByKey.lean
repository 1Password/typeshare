import TsV.Lemmas.Order
import TsV.Model.Generate
/-!
# `Pipeline.minByKey` (`Iterator::min_by_key` with `String` keys) does not depend on the iteration order

Since the `fix:` commit "resolve a type name imported from several crates the same way in every run" the three
look-ups that iterate a hash container (`find_type`, `resolve_renamed`, the fallback of `used_imports`) take the
candidate with the smallest crate name.  The lemmas here show that this choice is a function of the *set* of
candidates: `minByKey` returns a member with a smallest key (`minByKey_mem`, `minByKey_le`), two lists with the
same members have the same smallest key (`minByKey_key_congr_mem`), and when the value is determined by the key
they have the same result (`minByKey_congr_mem`).
-/
namespace TsV.MinByKey
open TsV TsV.Pipeline

/-- the running minimum ends at the start value or at an element, and its key is below all of theirs -/
theorem foldl_min_spec {α} (l : List (Str × α)) : ∀ x : Str × α,
    l.foldl (fun m y => if Str.lt y.1 m.1 then y else m) x ∈ x :: l ∧
      ∀ y ∈ x :: l, Str.le (l.foldl (fun m y => if Str.lt y.1 m.1 then y else m) x).1 y.1 = true := by
  induction l with
  | nil =>
    intro x
    exact ⟨List.mem_singleton.2 rfl, fun y hy => by
      cases List.mem_singleton.1 hy; simp [Str.le, Order.lt_irrefl]⟩
  | cons a t ih =>
    intro x
    rw [List.foldl_cons]
    by_cases h : Str.lt a.1 x.1 = true
    · rw [if_pos h]
      obtain ⟨h1, h2⟩ := ih a
      refine ⟨List.mem_cons_of_mem _ h1, fun y hy => ?_⟩
      rcases List.mem_cons.1 hy with rfl | hy
      · exact Order.le_trans _ _ _ (h2 a List.mem_cons_self) (by simp [Str.le, Order.lt_asymm _ _ h])
      · exact h2 y hy
    · rw [if_neg h]
      obtain ⟨h1, h2⟩ := ih x
      refine ⟨?_, fun y hy => ?_⟩
      · rcases List.mem_cons.1 h1 with e | h1
        · rw [e]; exact List.mem_cons_self
        · exact List.mem_cons_of_mem _ (List.mem_cons_of_mem _ h1)
      · rcases List.mem_cons.1 hy with rfl | hy
        · exact h2 y List.mem_cons_self
        · rcases List.mem_cons.1 hy with rfl | hy
          · exact Order.le_trans _ _ _ (h2 x List.mem_cons_self) (by simpa [Str.le] using h)
          · exact h2 y (List.mem_cons_of_mem _ hy)

theorem minByKey_eq_none {α} {l : List (Str × α)} : minByKey l = none ↔ l = [] := by
  cases l <;> simp [minByKey]

theorem minByKey_nil {α} : minByKey ([] : List (Str × α)) = none := rfl

theorem minByKey_mem {α} {l : List (Str × α)} {m : Str × α} (h : minByKey l = some m) : m ∈ l := by
  cases l with
  | nil => cases h
  | cons x t => cases h; exact (foldl_min_spec t x).1

theorem minByKey_le {α} {l : List (Str × α)} {m : Str × α} (h : minByKey l = some m) :
    ∀ y ∈ l, Str.le m.1 y.1 = true := by
  cases l with
  | nil => cases h
  | cons x t => cases h; exact (foldl_min_spec t x).2

theorem minByKey_isSome {α} {l : List (Str × α)} (h : l ≠ []) : ∃ m, minByKey l = some m := by
  cases l with
  | nil => exact absurd rfl h
  | cons x t => exact ⟨_, rfl⟩

/-- the key `min_by_key` returns: a key of the list that is below every key of the list -/
theorem minByKey_key_eq_some {α} {l : List (Str × α)} {k : Str} :
    (minByKey l).map (·.1) = some k ↔ k ∈ l.map (·.1) ∧ ∀ k' ∈ l.map (·.1), Str.le k k' = true := by
  constructor
  · intro h
    obtain ⟨m, hm, rfl⟩ := Option.map_eq_some_iff.1 h
    refine ⟨List.mem_map_of_mem (minByKey_mem hm), fun k' hk' => ?_⟩
    obtain ⟨y, hy, rfl⟩ := List.mem_map.1 hk'
    exact minByKey_le hm y hy
  · rintro ⟨hk, hle⟩
    obtain ⟨x, hx, rfl⟩ := List.mem_map.1 hk
    obtain ⟨m, hm⟩ := minByKey_isSome (List.ne_nil_of_mem hx)
    rw [hm, Option.map_some, Option.some.injEq]
    exact Order.le_antisymm _ _ (minByKey_le hm x hx) (hle m.1 (List.mem_map_of_mem (minByKey_mem hm)))

/-- **the smallest key is a function of the set of keys** -/
theorem minByKey_key_congr_mem {α β} {l : List (Str × α)} {l' : List (Str × β)}
    (hk : ∀ k, k ∈ l.map (·.1) ↔ k ∈ l'.map (·.1)) :
    (minByKey l).map (·.1) = (minByKey l').map (·.1) :=
  Option.ext fun k => by
    rw [minByKey_key_eq_some, minByKey_key_eq_some]
    simp only [hk]

/-- **`min_by_key` is a function of the set of candidates** when no two candidates share a key (as for the keys of
a map), or more generally when candidates with the same key are equal -/
theorem minByKey_congr_mem {α} {l l' : List (Str × α)} (hm : ∀ x, x ∈ l ↔ x ∈ l')
    (hf : ∀ x ∈ l, ∀ y ∈ l, x.1 = y.1 → x = y) : minByKey l = minByKey l' := by
  have hk : ∀ k, k ∈ l.map (·.1) ↔ k ∈ l'.map (·.1) := by
    intro k
    simp only [List.mem_map]
    exact ⟨fun ⟨x, hx, e⟩ => ⟨x, (hm x).1 hx, e⟩, fun ⟨x, hx, e⟩ => ⟨x, (hm x).2 hx, e⟩⟩
  have hkey := minByKey_key_congr_mem hk
  cases h : minByKey l with
  | none =>
    rw [h] at hkey
    cases h' : minByKey l' with
    | none => rfl
    | some m' => rw [h'] at hkey; simp at hkey
  | some m =>
    rw [h] at hkey
    cases h' : minByKey l' with
    | none => rw [h'] at hkey; simp at hkey
    | some m' =>
      rw [h'] at hkey
      simp only [Option.map_some, Option.some.injEq] at hkey
      rw [hf m (minByKey_mem h) m' ((hm m').2 (minByKey_mem h')) hkey]

theorem minByKey_perm {α} {l l' : List (Str × α)} (hp : l.Perm l')
    (hf : ∀ x ∈ l, ∀ y ∈ l, x.1 = y.1 → x = y) : minByKey l = minByKey l' :=
  minByKey_congr_mem (fun _ => hp.mem_iff) hf

/-- the candidates of `resolve_renamed`: (crate, new name) for every import of `id` whose crate renames it -/
def renCands (r : Renames) (imports : List ImportedType) (id : Str) : List (Str × Str) :=
  (imports.filter (·.typeName == id)).filterMap fun i => (renameOf r id i.baseCrate).map fun n => (i.baseCrate, n)

theorem resolveRenamed_eq (crate : Str) (r : Renames) (imports : List ImportedType) (id : Str) :
    resolveRenamed crate r imports id =
      if !hasRename r id then none
      else match minByKey (renCands r imports id) with
        | some (_, n) => some n
        | none => renameOf r id crate := rfl

theorem mem_renCands {r : Renames} {imports : List ImportedType} {id : Str} {x : Str × Str} :
    x ∈ renCands r imports id ↔ (⟨x.1, id⟩ : ImportedType) ∈ imports ∧ renameOf r id x.1 = some x.2 := by
  unfold renCands
  simp only [List.mem_filterMap, List.mem_filter, beq_iff_eq, Option.map_eq_some_iff]
  constructor
  · rintro ⟨i, ⟨hi, hn⟩, n, hr, rfl⟩
    obtain ⟨b, t⟩ := i
    simp only at hn hr ⊢
    subst hn
    exact ⟨hi, hr⟩
  · rintro ⟨hi, hr⟩
    exact ⟨⟨x.1, id⟩, ⟨hi, rfl⟩, x.2, hr, rfl⟩

/-- in the candidate list the new name is a function of the crate -/
theorem renCands_functional {r : Renames} {imports : List ImportedType} {id : Str} :
    ∀ x ∈ renCands r imports id, ∀ y ∈ renCands r imports id, x.1 = y.1 → x = y := by
  intro x hx y hy e
  have h1 := (mem_renCands.1 hx).2
  have h2 := (mem_renCands.1 hy).2
  rw [e, h2] at h1
  obtain ⟨a, b⟩ := x
  obtain ⟨c, d⟩ := y
  simp only at e h1
  simp only [Option.some.injEq] at h1
  rw [e, h1]

/-- **hash order of `import_types` in `resolve_renamed`**: the result only depends on the import *set* — no
hypothesis on the imports -/
theorem resolve_congr_mem (c : Str) (r : Renames) (imps imps' : List ImportedType) (id : Str)
    (hi : ∀ i, i ∈ imps ↔ i ∈ imps') : resolveRenamed c r imps id = resolveRenamed c r imps' id := by
  rw [resolveRenamed_eq, resolveRenamed_eq]
  have : minByKey (renCands r imps id) = minByKey (renCands r imps' id) :=
    minByKey_congr_mem (fun x => by rw [mem_renCands, mem_renCands, hi]) renCands_functional
  rw [this]

theorem resolve_perm (c : Str) (r : Renames) (imps imps' : List ImportedType) (id : Str)
    (hp : imps.Perm imps') : resolveRenamed c r imps id = resolveRenamed c r imps' id :=
  resolve_congr_mem c r imps imps' id fun _ => hp.mem_iff

theorem resolveRenamed_nil (c : Str) (r : Renames) (id : Str) :
    resolveRenamed c r [] id = if !hasRename r id then none else renameOf r id c := by
  rw [resolveRenamed_eq]; rfl

/-! ### the fallback of `used_imports` -/

/-- **hash order of `all_types`**: the crate the re-export fallback finds does not depend on the iteration order
of the map, nor on the order inside the name sets — no hypothesis -/
theorem firstOther_congr_mem (all all' : List (Str × List Str)) (cur name : Str)
    (h : ∀ c, (∃ ns, (c, ns) ∈ all ∧ c ≠ cur ∧ name ∈ ns) ↔ (∃ ns, (c, ns) ∈ all' ∧ c ≠ cur ∧ name ∈ ns)) :
    Generate.firstOther all cur name = Generate.firstOther all' cur name := by
  unfold Generate.firstOther
  apply minByKey_key_congr_mem
  intro k
  simp only [List.mem_map, List.mem_filter, Bool.and_eq_true, bne_iff_ne, ne_eq, List.contains_iff_mem]
  constructor
  · rintro ⟨⟨c, ns⟩, ⟨hm, hc, hn⟩, rfl⟩
    obtain ⟨ns', h1, h2, h3⟩ := (h c).1 ⟨ns, hm, hc, hn⟩
    exact ⟨(c, ns'), ⟨h1, h2, h3⟩, rfl⟩
  · rintro ⟨⟨c, ns⟩, ⟨hm, hc, hn⟩, rfl⟩
    obtain ⟨ns', h1, h2, h3⟩ := (h c).2 ⟨ns, hm, hc, hn⟩
    exact ⟨(c, ns'), ⟨h1, h2, h3⟩, rfl⟩

theorem firstOther_perm (all all' : List (Str × List Str)) (cur name : Str) (hp : all.Perm all') :
    Generate.firstOther all cur name = Generate.firstOther all' cur name :=
  firstOther_congr_mem all all' cur name fun _ =>
    ⟨fun ⟨ns, h1, h2⟩ => ⟨ns, hp.mem_iff.1 h1, h2⟩, fun ⟨ns, h1, h2⟩ => ⟨ns, hp.mem_iff.2 h1, h2⟩⟩

/-- the fallback finds a crate other than the current one that defines the name, and no such crate has a
smaller name -/
theorem firstOther_spec {all : List (Str × List Str)} {cur name c : Str}
    (h : Generate.firstOther all cur name = some c) :
    (∃ ns, (c, ns) ∈ all ∧ c ≠ cur ∧ name ∈ ns) ∧
      ∀ c' ns, (c', ns) ∈ all → c' ≠ cur → name ∈ ns → Str.le c c' = true := by
  unfold Generate.firstOther at h
  cases hm : minByKey (all.filter fun (c, names) => c != cur && names.contains name) with
  | none => rw [hm] at h; simp at h
  | some m =>
    rw [hm] at h
    simp only [Option.map_some, Option.some.injEq] at h
    subst h
    have h1 := minByKey_mem hm
    have h2 := minByKey_le hm
    simp only [List.mem_filter, Bool.and_eq_true, bne_iff_ne, ne_eq, List.contains_iff_mem] at h1
    refine ⟨⟨m.2, h1.1, h1.2.1, h1.2.2⟩, fun c' ns hc hne hn => ?_⟩
    exact h2 (c', ns) (by simp [List.mem_filter, hc, hne, hn])

theorem firstOther_eq_none {all : List (Str × List Str)} {cur name : Str} :
    Generate.firstOther all cur name = none ↔ ∀ c ns, (c, ns) ∈ all → c ≠ cur → name ∉ ns := by
  unfold Generate.firstOther
  rw [Option.map_eq_none_iff, minByKey_eq_none, List.filter_eq_nil_iff]
  constructor
  · intro h c ns hc hne hn
    exact h (c, ns) hc (by simp [hne, hn])
  · intro h p hp
    simp only [Bool.and_eq_true, bne_iff_ne, ne_eq, List.contains_iff_mem, not_and]
    exact fun hne => h p.1 p.2 hp hne

end TsV.MinByKey
