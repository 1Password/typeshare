import TsV.Lemmas.C07_Backends_Type
/-!
# C07, generation side — Kotlin, Scala, Swift, TypeScript, Python: one `NP` lemma per model function

Kotlin, Scala and Swift have no panic site besides the ordering pass (discharged by
`generateOrder_total`; Scala does not sort at all).  TypeScript's `format_special_type` panics on the
four 64-bit primitives (typescript.rs:137) — unreachable for types without them (`no64`).
Python's `write_enum` has an `unreachable!()` for a non-unit variant of a `RustEnum::Unit`
(python.rs:368) — unreachable for enums that satisfy `enumUnitOk`.

A function that is a chain of `bind`s is panic-free by `np_bind` on its steps (the unifier unfolds the
application; no `unfold` is needed), a list traversal by `traverse_np` / `thread_np` from its step.
Where the model writes a bind as an explicit three-way `match`, the proof splits it and the `panic` arm
contradicts the fact about the scrutinee (`np_absurd`).
-/
namespace TsV.C07BE

namespace Kotlin
open TsV TsV.Outcome TsV.Lang TsV.Lang.Kotlin

theorem formatType_np (cfg : Cfg) (gens : List Str) (t : RustType) : NP (formatType cfg gens t) := by
  rw [C05L.kt_formatType]; exact C05L.omap_np (C05L.translate_np _ _ _ t nofun)

theorem formatTypes_np (cfg : Cfg) (gens : List Str) : ∀ ts : List RustType, NP (formatTypes cfg gens ts) :=
  fun ts => by rw [C05L.kt_formatTypes]; exact C05L.omap_np (C05L.translateList_np _ _ _ ts nofun)

theorem paramFacts_np (cfg : Cfg) (gens : List Str) (a b : Bool) (f : RustField) :
    NP (paramFacts cfg gens a b f) := by
  refine np_bind _ _ ?_ fun _ => np_ok _
  split
  · exact np_ok _
  · exact formatType_np cfg gens f.ty

theorem paramsFacts_np (cfg : Cfg) (gens : List Str) (a : Bool) (fs) : NP (paramsFacts cfg gens a fs) :=
  traverse_np (paramsFacts cfg gens a) (np_ok _) (fun _ _ => rfl) fun f _ => paramFacts_np cfg gens a false f

theorem caseFacts_np (cfg : Cfg) (e : RustEnum) (k : Str) (v : RustEnumVariant) : NP (caseFacts cfg e k v) := by
  cases v with
  | unit _ _ | anonymousStruct _ _ _ => exact np_ok _
  | tuple _ _ ty => exact np_bind _ _ (formatType_np cfg e.genericTypes ty) fun _ => np_ok _

theorem casesFacts_np (cfg : Cfg) (e : RustEnum) (k : Str) (vs) : NP (casesFacts cfg e k vs) :=
  traverse_np (casesFacts cfg e k) (np_ok _) (fun _ _ => rfl) fun v _ => caseFacts_np cfg e k v

theorem structFacts_np (cfg : Cfg) (rs : RustStruct) : NP (structFacts cfg rs) :=
  np_ite _ _ _ (np_ok _) (np_bind _ _ (paramsFacts_np cfg rs.genericTypes _ rs.fields) fun _ => np_ok _)

theorem aliasFacts_np (cfg : Cfg) (a : RustTypeAlias) : NP (aliasFacts cfg a) :=
  np_ite _ _ _ (np_bind _ _ (paramFacts_np cfg [] _ _ _) fun _ => np_ok _)
    (np_bind _ _ (formatType_np cfg a.genericTypes a.ty) fun _ => np_ok _)

theorem structsFacts_np (cfg : Cfg) (ss) : NP (structsFacts cfg ss) :=
  traverse_np (structsFacts cfg) (np_ok _) (fun _ _ => rfl) fun s _ => structFacts_np cfg s

theorem enumFacts_np (cfg : Cfg) (e : RustEnum) : NP (enumFacts cfg e) := by
  refine np_bind _ _ (structsFacts_np cfg _) fun _ => ?_
  split
  · exact np_ok _
  · exact np_bind _ _ (casesFacts_np cfg e _ e.variants) fun _ => np_ok _

theorem itemFacts_np (cfg : Cfg) : ∀ it, NP (itemFacts cfg it)
  | .struct s => np_bind _ _ (structFacts_np cfg s) fun _ => np_ok _
  | .enum e => enumFacts_np cfg e
  | .alias a => np_bind _ _ (aliasFacts_np cfg a) fun _ => np_ok _
  | .const _ => np_err _

theorem itemsFacts_np (cfg : Cfg) (its) : NP (itemsFacts cfg its) :=
  traverse_np (itemsFacts cfg) (np_ok _) (fun _ _ => rfl) fun it _ => itemFacts_np cfg it

theorem generate_np (cfg : Cfg) (d : ParsedData) (imps : Option Pipeline.ScopedCrateTypes) :
    NP (generate cfg d imps) := by
  obtain ⟨out, ho, _⟩ := generateOrder_total d
  simp only [generate, ho]
  exact np_bind _ _ (itemsFacts_np cfg out) fun _ => np_ok _

theorem generateFrom_np (cfg : Cfg) (jobs) : NP (generateFrom cfg jobs) :=
  traverse_np (generateFrom cfg) (np_ok _) (fun _ _ => rfl) fun p _ => generate_np cfg p.2.1 p.2.2

theorem generateAll_np (E : Ext) (cfg : Cfg) (multi : Bool) (jobs : List Job) :
    NP (generateAll E cfg multi jobs) := generateFrom_np cfg jobs

end Kotlin

namespace Scala
open TsV TsV.Outcome TsV.Lang TsV.Lang.Scala

theorem formatType_np (cfg : Cfg) (gens : List Str) (t : RustType) : NP (formatType cfg gens t) := by
  rw [C05L.sc_formatType]; exact C05L.omap_np (C05L.translate_np _ _ _ t nofun)

theorem formatTypes_np (cfg : Cfg) (gens : List Str) : ∀ ts : List RustType, NP (formatTypes cfg gens ts) :=
  fun ts => by rw [C05L.sc_formatTypes]; exact C05L.omap_np (C05L.translateList_np _ _ _ ts nofun)

theorem paramFacts_np (cfg : Cfg) (gens : List Str) (f : RustField) : NP (paramFacts cfg gens f) := by
  refine np_bind _ _ ?_ fun _ => np_ok _
  split
  · exact np_ok _
  · exact formatType_np cfg gens f.ty

theorem classFacts_np (cfg : Cfg) (rs : RustStruct) : NP (classFacts cfg rs) :=
  np_bind _ _ (mapM'_np _ (paramFacts_np cfg rs.genericTypes) _) fun _ => np_ok _

theorem aliasFacts_np (cfg : Cfg) (a : RustTypeAlias) : NP (aliasFacts cfg a) :=
  np_bind _ _ (formatType_np cfg a.genericTypes a.ty) fun _ => np_ok _

theorem caseFacts_np (cfg : Cfg) (e : RustEnum) (v : RustEnumVariant) : NP (caseFacts cfg e v) := by
  unfold caseFacts; split
  · exact np_ok _
  · cases v with
    | unit _ _ | anonymousStruct _ _ _ => exact np_ok _
    | tuple _ _ ty => exact np_bind _ _ (formatType_np cfg e.genericTypes ty) fun _ => np_ok _

theorem innerClasses_np (cfg : Cfg) (e : RustEnum) : NP (innerClasses cfg e) :=
  mapM'_np _ (fun _ => classFacts_np cfg _) _

theorem enumFacts_np (cfg : Cfg) (e : RustEnum) : NP (enumFacts cfg e) :=
  np_bind _ _ (innerClasses_np cfg e) fun _ => np_bind _ _ (mapM'_np _ (caseFacts_np cfg e) _) fun _ => np_ok _

theorem fileFacts_np (cfg : Cfg) (d : ParsedData) : NP (fileFacts cfg d) := by
  unfold fileFacts
  refine np_ite _ _ _ (np_err _) (np_ite _ _ _ (np_err _) ?_)
  refine np_bind _ _ (np_ite _ _ _ ?_ (np_ok _)) fun _ => np_bind _ _ (np_ite _ _ _ ?_ (np_ok _)) fun _ => np_ok _
  · exact np_bind _ _ (mapM'_np _ (aliasFacts_np cfg) _) fun _ => np_ok _
  · exact np_bind _ _ (mapM'_np _ (classFacts_np cfg) _) fun _ =>
      np_bind _ _ (mapM'_np _ (enumFacts_np cfg) _) fun _ => np_ok _

theorem generate_np (cfg : Cfg) (d : ParsedData) : NP (generate cfg d) :=
  np_bind _ _ (fileFacts_np cfg d) fun _ => np_ok _

theorem generateFrom_np (cfg : Cfg) (jobs) : NP (generateFrom cfg jobs) :=
  traverse_np (generateFrom cfg) (np_ok _) (fun _ _ => rfl) fun p _ => generate_np cfg p.2.1

theorem generateAll_np (E : Ext) (cfg : Cfg) (multi : Bool) (jobs : List Job) :
    NP (generateAll E cfg multi jobs) := generateFrom_np cfg jobs

end Scala

namespace Swift
open TsV TsV.Outcome TsV.Lang TsV.Lang.Swift

theorem formatType_np (cfg : Cfg) (gens : List Str) (t : RustType) (st : St) : NP (formatType cfg gens t st) :=
  C05L.np_of_text (C05L.sw_formatType cfg gens t st) (C05L.translate_np _ _ _ t nofun)

theorem formatTypes_np (cfg : Cfg) (gens : List Str) : ∀ (ts : List RustType) (st : St),
      NP (formatTypes cfg gens ts st) :=
  fun ts st => C05L.np_of_text (C05L.sw_formatTypes cfg gens ts st) (C05L.translateList_np _ _ _ ts nofun)

theorem fieldType_np (cfg : Cfg) (gens : List Str) (f : RustField) (st : St) : NP (fieldType cfg gens f st) := by
  unfold fieldType; split
  · exact np_ok _
  · exact formatType_np cfg gens f.ty st

theorem storedProps_np (cfg : Cfg) (gens : List Str) (fs) : ∀ st, NP (storedProps cfg gens fs st) :=
  thread_np (storedProps cfg gens) (fun _ => np_ok _) (fun _ _ _ => rfl) fun f _ => fieldType_np cfg gens f

theorem initParams_np (cfg : Cfg) (gens : List Str) (fs) : ∀ st, NP (initParams cfg gens fs st) :=
  thread_np (initParams cfg gens) (fun _ => np_ok _) (fun _ _ _ => rfl) fun f _ => fieldType_np cfg gens f

theorem structFacts_np (U : UnicodeOps) (cfg : Cfg) (rs : RustStruct) (st : St) : NP (structFacts U cfg rs st) :=
  np_bind _ _ (storedProps_np cfg rs.genericTypes rs.fields st) fun ⟨_, _⟩ =>
    np_bind _ _ (initParams_np cfg rs.genericTypes rs.fields _) fun ⟨_, _⟩ => np_ok _

theorem writeStruct_np (U : UnicodeOps) (cfg : Cfg) (rs : RustStruct) (st : St) : NP (writeStruct U cfg rs st) :=
  np_bind _ _ (structFacts_np U cfg rs st) fun ⟨_, _⟩ => np_ok _

theorem writeAlias_np (U : UnicodeOps) (cfg : Cfg) (a : RustTypeAlias) (st : St) : NP (writeAlias U cfg a st) :=
  np_bind _ _ (formatType_np cfg a.genericTypes a.ty st) fun ⟨_, _⟩ => np_ok _

theorem algebraicCase_np (U : UnicodeOps) (cfg : Cfg) (e : RustEnum) (v : RustEnumVariant) (st : St) :
    NP (algebraicCase U cfg e v st) := by
  cases v with
  | unit _ _ | anonymousStruct _ _ _ => exact np_ok _
  | tuple _ _ ty => exact np_bind _ _ (formatType_np cfg e.genericTypes ty st) fun ⟨_, _⟩ => np_ok _

theorem algebraicCases_np (U : UnicodeOps) (cfg : Cfg) (e : RustEnum) (vs) : ∀ st, NP (algebraicCases U cfg e vs st) :=
  thread_np (algebraicCases U cfg e) (fun _ => np_ok _) (fun _ _ _ => rfl) fun v _ => algebraicCase_np U cfg e v

theorem anonymousStructs_np (U : UnicodeOps) (cfg : Cfg) (e : RustEnum) (ps) : ∀ st, NP (anonymousStructs U cfg e ps st) :=
  thread_np (anonymousStructs U cfg e) (fun _ => np_ok _) (fun _ _ _ => rfl) fun _ _ => structFacts_np U cfg _

theorem enumFacts_np (U : UnicodeOps) (cfg : Cfg) (e : RustEnum) (st : St) : NP (enumFacts U cfg e st) := by
  refine np_bind _ _ (anonymousStructs_np U cfg e _ st) fun ⟨_, st⟩ => np_bind _ _ ?_ fun ⟨_, _⟩ => np_ok _
  split
  · exact np_ok _
  · exact algebraicCases_np U cfg e e.variants st

theorem writeEnum_np (U : UnicodeOps) (cfg : Cfg) (e : RustEnum) (st : St) : NP (writeEnum U cfg e st) :=
  np_bind _ _ (enumFacts_np U cfg e st) fun ⟨_, _, _⟩ => np_ok _

theorem writeItem_np (U : UnicodeOps) (cfg : Cfg) : ∀ it st, NP (writeItem U cfg it st)
  | .struct s, st => writeStruct_np U cfg s st
  | .enum e, st => writeEnum_np U cfg e st
  | .alias a, st => writeAlias_np U cfg a st
  | .const _, _ => np_err _

theorem writeItems_np (U : UnicodeOps) (cfg : Cfg) (its) : ∀ st, NP (writeItems U cfg its st) :=
  thread_np (writeItems U cfg) (fun _ => np_ok _) (fun _ _ _ => rfl) fun it _ => writeItem_np U cfg it

theorem generate_np (U : UnicodeOps) (cfg : Cfg) (multi : Bool) (d : ParsedData) (st : St) :
    NP (generate U cfg multi d st) := by
  obtain ⟨out, ho, _⟩ := generateOrder_total d
  simp only [generate, ho]
  exact np_bind _ _ (writeItems_np U cfg out st) fun ⟨_, _⟩ => np_ok _

theorem generateFrom_np (U : UnicodeOps) (cfg : Cfg) (multi : Bool) (jobs) : ∀ st, NP (generateFrom U cfg multi jobs st) :=
  thread_np (generateFrom U cfg multi) (fun _ => np_ok _) (fun _ _ _ => rfl) fun p _ => generate_np U cfg multi p.2.1

theorem generateAll_np (E : Ext) (cfg : Cfg) (multi : Bool) (jobs : List Job) :
    NP (generateAll E cfg multi jobs) :=
  np_bind _ _ (generateFrom_np E.U cfg multi jobs false) fun ⟨_, _⟩ => np_ok _

end Swift

namespace TypeScript
open TsV TsV.Outcome TsV.Lang TsV.Lang.TypeScript

/-- the only panic of `format_type` (typescript.rs:137) needs a 64-bit primitive -/
theorem formatType_np (cfg : Cfg) (gens : List Str) (t : RustType) (st : CustomMap) (h : no64 t = true) :
    NP (formatType cfg gens t st) :=
  C05L.np_of_text (C05L.ts_formatType cfg gens t st) (C05L.translate_np _ _ _ t fun _ => h)

theorem formatTypes_np (cfg : Cfg) (gens : List Str) : ∀ (ts : List RustType) (st : CustomMap),
      no64List ts = true → NP (formatTypes cfg gens ts st) :=
  fun ts st h => C05L.np_of_text (C05L.ts_formatTypes cfg gens ts st) (C05L.translateList_np _ _ _ ts fun _ => h)

theorem fieldFacts_np (cfg : Cfg) (gens : List Str) (f : RustField) (st : CustomMap) (h : no64 f.ty = true) :
    NP (fieldFacts cfg gens f st) := by
  refine np_bind _ _ ?_ fun ⟨_, _⟩ => np_ok _
  split
  · exact np_ok _
  · exact formatType_np cfg gens f.ty st h

theorem writeFields_np (cfg : Cfg) (gens : List Str) (fs : List RustField) : ∀ (st : CustomMap),
    fs.all (fun f => no64 f.ty) = true → NP (writeFields cfg gens fs st) :=
  fun st h => thread_np (writeFields cfg gens) (fun _ => np_ok _) (fun _ _ _ => rfl)
    (fun f hf st => fieldFacts_np cfg gens f st (List.all_eq_true.1 h f hf)) st

theorem writeStruct_np (cfg : Cfg) (rs : RustStruct) (st : CustomMap)
    (h : rs.fields.all (fun f => no64 f.ty) = true) : NP (writeStruct cfg rs st) :=
  np_bind _ _ (writeFields_np cfg rs.genericTypes rs.fields st h) fun ⟨_, _⟩ => np_ok _

theorem writeAlias_np (cfg : Cfg) (a : RustTypeAlias) (st : CustomMap) (h : no64 a.ty = true) :
    NP (writeAlias cfg a st) :=
  np_bind _ _ (formatType_np cfg a.genericTypes a.ty st h) fun ⟨_, _⟩ => np_ok _

theorem writeConst_np (U : UnicodeOps) (cfg : Cfg) (c : RustConst) (st : CustomMap) (h : no64 c.ty = true) :
    NP (writeConst U cfg c st) :=
  np_bind _ _ (formatType_np cfg [] c.ty st h) fun ⟨_, _⟩ => np_ok _

theorem writeVariant_np (cfg : Cfg) (e : RustEnum) (tag content : Str) : ∀ (v : RustEnumVariant) (st : CustomMap),
    variantNo64 v = true → NP (writeVariant cfg e tag content v st)
  | .unit _ _, _, _ => np_ok _
  | .tuple _ _ ty, st, h => np_bind _ _ (formatType_np cfg e.genericTypes ty st h) fun ⟨_, _⟩ => np_ok _
  | .anonymousStruct _ _ fs, st, h => np_bind _ _ (writeFields_np cfg e.genericTypes fs st h) fun ⟨_, _⟩ => np_ok _

theorem writeVariants_np (cfg : Cfg) (e : RustEnum) (tag content : Str) (vs : List RustEnumVariant) :
    ∀ st : CustomMap, vs.all variantNo64 = true → NP (writeVariants cfg e tag content vs st) :=
  fun st h => thread_np (writeVariants cfg e tag content) (fun _ => np_ok _) (fun _ _ _ => rfl)
    (fun v hv st => writeVariant_np cfg e tag content v st (List.all_eq_true.1 h v hv)) st

theorem writeEnum_np (cfg : Cfg) (e : RustEnum) (st : CustomMap) (h : e.variants.all variantNo64 = true) :
    NP (writeEnum cfg e st) := by
  unfold writeEnum; split
  · exact np_ok _
  · exact np_bind _ _ (writeVariants_np cfg e _ _ e.variants st h) fun ⟨_, _⟩ => np_ok _

theorem writeItem_np (U : UnicodeOps) (cfg : Cfg) (it : RustItem) (st : CustomMap) (h : itemNo64 it = true) :
    NP (writeItem U cfg it st) := by
  cases it with
  | struct s => exact writeStruct_np cfg s st h
  | enum e => exact writeEnum_np cfg e st h
  | alias a => exact writeAlias_np cfg a st h
  | const c => exact writeConst_np U cfg c st h

theorem writeItems_np (U : UnicodeOps) (cfg : Cfg) (its : List RustItem) : ∀ (st : CustomMap),
    (∀ it ∈ its, itemNo64 it = true) → NP (writeItems U cfg its st) :=
  fun st h => thread_np (writeItems U cfg) (fun _ => np_ok _) (fun _ _ _ => rfl)
    (fun it hit st => writeItem_np U cfg it st (h it hit)) st

theorem generate_np (U : UnicodeOps) (cfg : Cfg) (d : ParsedData) (imps : Option Pipeline.ScopedCrateTypes)
    (st : CustomMap) (h : dataNo64 d = true) : NP (generate U cfg d imps st) := by
  obtain ⟨out, ho, _⟩ := generateOrder_total d
  simp only [generate, ho]
  exact np_bind _ _ (writeItems_np U cfg out st (order_no64 h ho)) fun ⟨_, _⟩ => np_ok _

theorem generateFrom_np (U : UnicodeOps) (cfg : Cfg) (jobs : List Job) : ∀ (st : CustomMap),
    jobsNo64 jobs = true → NP (generateFrom U cfg jobs st) :=
  fun st h => thread_np (generateFrom U cfg) (fun _ => np_ok _) (fun _ _ _ => rfl)
    (fun p hp st => generate_np U cfg p.2.1 p.2.2 st (List.all_eq_true.1 h p hp)) st

theorem generateAll_np (E : Ext) (cfg : Cfg) (multi : Bool) (jobs : List Job) (h : jobsNo64 jobs = true) :
    NP (generateAll E cfg multi jobs) := generateFrom_np E.U cfg jobs [] h

end TypeScript

namespace Python
open TsV TsV.Outcome TsV.Lang TsV.Lang.Python

theorem formatType_np (cfg : Cfg) (gens : List Str) (t : RustType) (st : St) : NP (formatType cfg gens t st) :=
  C05L.np_of_text (C05L.py_formatType cfg gens t st) (C05L.translate_np _ _ _ t nofun)

theorem formatTypes_np (cfg : Cfg) (gens : List Str) : ∀ (ts : List RustType) (st : St),
      NP (formatTypes cfg gens ts st) :=
  fun ts st => C05L.np_of_text (C05L.py_formatTypes cfg gens ts st) (C05L.translateList_np _ _ _ ts nofun)

theorem fieldFacts_np (E : Ext) (cfg : Cfg) (gens : List Str) (f : RustField) (st : St) :
    NP (fieldFacts E cfg gens f st) := by
  refine np_bind _ _ (formatType_np cfg gens f.ty st) fun ⟨_, _⟩ => ?_
  dsimp only
  exact np_ok _

theorem fieldsFacts_np (E : Ext) (cfg : Cfg) (gens : List Str) (fs) : ∀ st, NP (fieldsFacts E cfg gens fs st) :=
  thread_np (fieldsFacts E cfg gens) (fun _ => np_ok _) (fun _ _ _ => rfl) fun f _ => fieldFacts_np E cfg gens f

theorem structFacts_np (E : Ext) (cfg : Cfg) (rs : RustStruct) (st : St) : NP (structFacts E cfg rs st) :=
  np_bind _ _ (fieldsFacts_np E cfg rs.genericTypes rs.fields _) fun ⟨_, _⟩ => np_ok _

theorem writeStruct_np (E : Ext) (cfg : Cfg) (rs : RustStruct) (st : St) : NP (writeStruct E cfg rs st) :=
  np_bind _ _ (structFacts_np E cfg rs st) fun ⟨_, _⟩ => np_ok _

theorem aliasFacts_np (cfg : Cfg) (a : RustTypeAlias) (st : St) : NP (aliasFacts cfg a st) :=
  np_bind _ _ (formatType_np cfg a.genericTypes a.ty st) fun ⟨_, _⟩ => np_ok _

theorem constFacts_np (E : Ext) (cfg : Cfg) (c : RustConst) (st : St) : NP (constFacts E cfg c st) :=
  np_bind _ _ (formatType_np cfg [] c.ty st) fun ⟨_, _⟩ => np_ok _

/-- python.rs:368 (`unreachable!()`) needs a non-unit variant -/
theorem unitMembers_np (E : Ext) : ∀ vs : List RustEnumVariant, vs.all Parser.variantIsUnit = true →
    NP (unitMembers E vs) := by
  intro vs
  induction vs with
  | nil => exact fun _ => np_ok _
  | cons v vs ih =>
    intro h
    cases v with
    | unit _ _ => exact np_bind _ _ (ih h) fun _ => np_ok _
    | tuple _ _ _ | anonymousStruct _ _ _ => cases h

theorem innerFacts_np (E : Ext) (cfg : Cfg) (e : RustEnum) (ps) : ∀ st, NP (innerFacts E cfg e ps st) :=
  thread_np (innerFacts E cfg e) (fun _ => np_ok _) (fun _ _ _ => rfl) fun _ _ => structFacts_np E cfg _

theorem variantFacts_np (E : Ext) (cfg : Cfg) (e : RustEnum) (tag content : Str) :
    ∀ (v : RustEnumVariant) (st : St), NP (variantFacts E cfg e tag content v st)
  | .unit _ _, _ => np_ok _
  | .tuple _ _ ty, st => np_bind _ _ (formatType_np cfg e.genericTypes ty st) fun ⟨_, _⟩ => np_ok _
  | .anonymousStruct _ _ _, _ => np_ok _

theorem variantsFacts_np (E : Ext) (cfg : Cfg) (e : RustEnum) (tag content : Str) (vs) :
    ∀ st, NP (variantsFacts E cfg e tag content vs st) :=
  thread_np (variantsFacts E cfg e tag content) (fun _ => np_ok _) (fun _ _ _ => rfl) fun v _ => variantFacts_np E cfg e tag content v

theorem unionFacts_np (E : Ext) (cfg : Cfg) (e : RustEnum) (tag content : Str) (st : St) :
    NP (unionFacts E cfg e tag content st) :=
  np_bind _ _ (innerFacts_np E cfg e _ st) fun ⟨_, _⟩ =>
    np_bind _ _ (variantsFacts_np E cfg e tag content e.variants _) fun ⟨_, _⟩ => np_ok _

theorem writeEnum_np (E : Ext) (cfg : Cfg) (e : RustEnum) (st : St) (h : enumUnitOk e = true) :
    NP (writeEnum E cfg e st) := by
  unfold writeEnum
  unfold enumUnitOk at h
  split
  · rename_i hk
    rw [hk] at h
    exact np_bind _ _ (innerFacts_np E cfg e _ st) fun ⟨_, _⟩ =>
      np_bind _ _ (unitMembers_np E e.variants h) fun _ => np_ok _
  · exact np_bind _ _ (unionFacts_np E cfg e _ _ st) fun ⟨_, _⟩ => np_ok _

theorem writeItem_np (E : Ext) (cfg : Cfg) (it : RustItem) (st : St) (h : itemUnitOk it = true) :
    NP (writeItem E cfg it st) := by
  cases it with
  | enum e => exact writeEnum_np E cfg e st h
  | struct s => exact writeStruct_np E cfg s st
  | alias a => exact np_bind _ _ (aliasFacts_np cfg a st) fun ⟨_, _⟩ => np_ok _
  | const c => exact np_bind _ _ (constFacts_np E cfg c st) fun ⟨_, _⟩ => np_ok _

theorem writeItems_np (E : Ext) (cfg : Cfg) (its : List RustItem) : ∀ (st : St),
    (∀ it ∈ its, itemUnitOk it = true) → NP (writeItems E cfg its st) :=
  fun st h => thread_np (writeItems E cfg) (fun _ => np_ok _) (fun _ _ _ => rfl)
    (fun it hit st => writeItem_np E cfg it st (h it hit)) st

theorem generate_np (E : Ext) (cfg : Cfg) (d : ParsedData) (st : St) (h : dataUnitOk d = true) :
    NP (generate E cfg d st) := by
  obtain ⟨out, ho, _⟩ := generateOrder_total d
  simp only [generate, ho]
  exact np_bind _ _ (writeItems_np E cfg out st (order_unitOk h ho)) fun ⟨_, _⟩ => np_ok _

theorem generateFrom_np (E : Ext) (cfg : Cfg) (jobs : List Job) : ∀ (st : St),
    jobsUnitOk jobs = true → NP (generateFrom E cfg jobs st) :=
  fun st h => thread_np (generateFrom E cfg) (fun _ => np_ok _) (fun _ _ _ => rfl)
    (fun p hp st => generate_np E cfg p.2.1 st (List.all_eq_true.1 h p hp)) st

theorem generateAll_np (E : Ext) (cfg : Cfg) (multi : Bool) (jobs : List Job) (h : jobsUnitOk jobs = true) :
    NP (generateAll E cfg multi jobs) := generateFrom_np E cfg jobs {} h

end Python

end TsV.C07BE
