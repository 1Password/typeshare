import TsV.Model.Lang.Swift
import TsV.Lemmas.C04_Common
import TsV.Lemmas.Lang.Swift
/-!
# C04 for the Swift back end (the two field loops of `write_struct` in swift.rs)
-/
namespace TsV.C04.Sw
open TsV TsV.Lang TsV.Lang.Swift TsV.C04

/-! ## binding semantics (trusted specification)

Swift's idiom is the optional type `T?`, on the stored property and on the parameter of the
memberwise initialiser.  The printed type is `ty` followed by `?` when the `optional` flag of the
fact record is set. -/

abbrev kQ : Str := s%"?"

def isOptional (ty : Str) (flag : Bool) : Bool := flag || endsWith ty kQ

/-- the type without the marker -/
def stripOptional (ty : Str) (flag : Bool) : Str :=
  if flag then ty else if endsWith ty kQ then ty.dropLast else ty

def propIsOptional (p : StoredProp) : Bool := isOptional p.ty p.optional
def propStripOptional (p : StoredProp) : Str := stripOptional p.ty p.optional
def initIsOptional (p : InitParam) : Bool := isOptional p.ty p.optional
def initStripOptional (p : InitParam) : Str := stripOptional p.ty p.optional

theorem formatType_option (cfg : Cfg) (gens : List Str) (r : RustType) (st : St) :
    formatType cfg gens (.option r) st =
      (formatType cfg gens r st).bind fun (x : Str × St) => .ok (x.1 ++ s%"?", x.2) := rfl

theorem formatType_option_ok {cfg : Cfg} {gens : List Str} {r : RustType} {st st' : St} {t : Str}
    (h : formatType cfg gens (.option r) st = .ok (t, st')) :
    ∃ s, formatType cfg gens r st = .ok (s, st') ∧ t = s ++ s%"?" := by
  rw [formatType_option] at h
  obtain ⟨⟨s, st1⟩, hs, h⟩ := Outcome.of_bind_ok h
  obtain ⟨h1, rfl⟩ := Outcome.ok_pair_inj h
  exact ⟨s, hs, h1.symm⟩

/-! ## the translated non-optional type does not itself end in `?` -/

/-- the head identifier of a user type is not translated to text that ends in `?` (Rust
identifiers, prefixes and sensible type mappings never are).  This is the one place where the
property needs a well-formedness assumption: Swift's only marker is a trailing `?`. -/
def HeadNoQ (cfg : Cfg) (gens : List Str) : RustType → Prop
  | .simple id => endsWith (formatSimple cfg gens id) kQ = false
  | .generic id _ => endsWith (formatSimple cfg gens id) kQ = false
  | _ => True

theorem formatSimple_mapped {cfg : Cfg} {gens : List Str} {id m : Str}
    (h : mapGet cfg.typeMappings id = some m) : formatSimple cfg gens id = m := by
  simp [formatSimple, h]

theorem endsWith_append_nonempty (a b : Str) (d : Char) (hb : b ≠ []) :
    endsWith (a ++ b) [d] = endsWith b [d] := by
  have hb' : b = b.dropLast ++ [b.getLast hb] := (List.dropLast_concat_getLast hb).symm
  rw [hb', ← List.append_assoc, endsWith_snoc, endsWith_snoc]

/-- `HeadNoQ` holds whenever the identifier is non-empty, does not end in `?` (true of every Rust
identifier) and is not mapped to text ending in `?` -/
theorem formatSimple_noQ (cfg : Cfg) (gens : List Str) (id : Str)
    (hm : ∀ m, mapGet cfg.typeMappings id = some m → endsWith m kQ = false)
    (hne : id ≠ []) (hid : endsWith id kQ = false) :
    endsWith (formatSimple cfg gens id) kQ = false := by
  unfold formatSimple
  cases h : mapGet cfg.typeMappings id with
  | some m => exact hm m h
  | none =>
    simp only
    split
    · exact hid
    · rw [endsWith_append_nonempty _ _ _ hne]; exact hid

/-- text that ends in a character other than `?` -/
theorem endsWith_snoc_noQ (x : Str) (c : Char) (hc : ('?' == c) = false) : endsWith (x ++ [c]) kQ = false := by
  rw [kQ, endsWith_snoc]; exact hc

theorem formatType_prim_noQ {cfg : Cfg} {gens : List Str} {p : Prim} {st st' : St} {s : Str}
    (h : formatType cfg gens (.prim p) st = .ok (s, st')) : endsWith s kQ = false := by
  cases p <;> first | (cases h; decide) | cases h

theorem formatType_noQ {cfg : Cfg} {gens : List Str} {t : RustType} {st st' : St} {s : Str}
    (hno : t.isOptional = false) (hh : HeadNoQ cfg gens t)
    (h : formatType cfg gens t st = .ok (s, st')) : endsWith s kQ = false := by
  rw [formatType.eq_def] at h
  cases t with
  | simple id =>
    cases h
    exact hh
  | generic id ps =>
    dsimp only at h
    cases hm : mapGet cfg.typeMappings id with
    | some m =>
      rw [hm] at h
      cases h
      rw [← formatSimple_mapped (gens := gens) hm]; exact hh
    | none =>
      rw [hm] at h
      cases hf : formatTypes cfg gens ps st with
      | ok r =>
        obtain ⟨strs, st1⟩ := r
        rw [hf] at h
        cases h
        cases strs with
        | nil => rw [List.isEmpty_nil, if_pos rfl, List.append_nil]; exact hh
        | cons a as =>
          rw [List.isEmpty_cons, if_neg Bool.false_ne_true, angle, ← List.append_assoc]
          exact endsWith_snoc_noQ _ _ (by decide)
      | err e => rw [hf] at h; cases h
      | panic p => rw [hf] at h; cases h
  | vec r =>
    obtain ⟨⟨x, st1⟩, _, h⟩ := Outcome.of_bind_ok h
    cases h
    exact endsWith_snoc_noQ _ _ (by decide)
  | array r n =>
    obtain ⟨⟨x, st1⟩, _, h⟩ := Outcome.of_bind_ok h
    cases h
    exact endsWith_snoc_noQ _ _ (by decide)
  | slice r =>
    obtain ⟨⟨x, st1⟩, _, h⟩ := Outcome.of_bind_ok h
    cases h
    exact endsWith_snoc_noQ _ _ (by decide)
  | hashMap k v =>
    obtain ⟨⟨ks, st1⟩, _, h⟩ := Outcome.of_bind_ok h
    obtain ⟨⟨vs, st2⟩, _, h⟩ := Outcome.of_bind_ok h
    cases h
    exact endsWith_snoc_noQ _ _ (by decide)
  | option r => cases hno
  | prim p => exact formatType_prim_noQ (cfg := cfg) (gens := gens) h

theorem fieldType_no_override {cfg : Cfg} {gens : List Str} {f : RustField} {st : St}
    (hov : typeOverride f .swift = none) : fieldType cfg gens f st = formatType cfg gens f.ty st := by
  simp [fieldType, hov]

/-- **Swift, one field** (no `swift(type = …)` override), stated for the pair (printed type, flag)
that both the stored property and the initialiser parameter carry: `T?` exactly when the field is
`Option<_>` or has `serde(default)`; without the marker the type is the translation of the
`Option`-stripped type -/
theorem field {cfg : Cfg} {gens : List Str} {f : RustField} {st st' : St} {ty : Str}
    (hov : typeOverride f .swift = none)
    (hq : f.ty.isOptional = false → HeadNoQ cfg gens f.ty)
    (h : fieldType cfg gens f st = .ok (ty, st')) :
    isOptional ty (fieldOptional f) = opt f ∧
    formatType cfg gens (stripOption f.ty) st = .ok (stripOptional ty (fieldOptional f), st') := by
  rw [fieldType_no_override hov] at h
  by_cases ho : f.ty.isOptional = true
  · obtain ⟨r, hr⟩ := (isOptional_iff _).1 ho
    rw [hr] at h
    obtain ⟨s, hs, hts⟩ := formatType_option_ok h
    have hfo : fieldOptional f = false := by simp [fieldOptional, ho]
    subst hts
    have he : endsWith (s ++ s%"?") kQ = true := endsWith_append _ _
    refine ⟨by simp [isOptional, hfo, he, opt, ho], ?_⟩
    simp [stripOptional, hfo, he, hr, stripOption, hs]
  · have ho' : f.ty.isOptional = false := by simpa using ho
    rw [stripOption_of_not_optional _ ho']
    have he := formatType_noQ ho' (hq ho') h
    cases hdef : f.hasDefault with
    | true =>
      have hfo : fieldOptional f = true := by simp [fieldOptional, ho', hdef]
      exact ⟨by simp [isOptional, hfo, opt, hdef], by simpa [stripOptional, hfo] using h⟩
    | false =>
      have hfo : fieldOptional f = false := by simp [fieldOptional, hdef]
      exact ⟨by simp [isOptional, hfo, he, opt, hdef, ho'], by simpa [stripOptional, hfo, he] using h⟩

/-- with a `swift(type = "t")` override the text replaces the translated type including the `?`
that `Option` would have contributed; the `serde(default)` marker is still appended -/
theorem field_override {cfg : Cfg} {gens : List Str} {f : RustField} {st st' : St} {ty t : Str}
    (hov : typeOverride f .swift = some t) (h : fieldType cfg gens f st = .ok (ty, st')) :
    ty = t ∧ isOptional ty (fieldOptional f) = ((f.hasDefault && !f.ty.isOptional) || endsWith t kQ) := by
  simp only [fieldType, hov, Outcome.ok.injEq, Prod.mk.injEq] at h
  refine ⟨h.1.symm, ?_⟩
  simp [isOptional, fieldOptional, h.1]

/-- the stored property belongs to the field -/
def PropGen (cfg : Cfg) (gens : List Str) (f : RustField) (p : StoredProp) : Prop :=
  p.optional = fieldOptional f ∧ ∃ st st', fieldType cfg gens f st = .ok (p.ty, st')

/-- the initialiser parameter belongs to the field -/
def InitGen (cfg : Cfg) (gens : List Str) (f : RustField) (p : InitParam) : Prop :=
  p.optional = fieldOptional f ∧ ∃ st st', fieldType cfg gens f st = .ok (p.ty, st')

theorem storedProps_pointwise (cfg : Cfg) (gens : List Str)
    (fs : List RustField) (st : St) (ps : List StoredProp) (st' : St)
    (h : storedProps cfg gens fs st = .ok (ps, st')) : Pointwise (PropGen cfg gens) fs ps := by
  refine Pointwise.imp ?_ (thread_pointwise
    (f := fun (f : RustField) st => (fieldType cfg gens f st).bind fun p =>
      .ok (({ comments := f.comments, name := memberName f, ty := p.1, optional := fieldOptional f } : StoredProp), p.2))
    h (fun _ => rfl) fun _ _ _ => by rw [Outcome.bind_assoc]; rfl)
  rintro f p ⟨st, st1, hp⟩
  obtain ⟨⟨ty, st2⟩, hty, hp⟩ := Outcome.of_bind_ok hp
  cases hp
  exact ⟨rfl, st, _, hty⟩

theorem initParams_pointwise (cfg : Cfg) (gens : List Str)
    (fs : List RustField) (st : St) (ps : List InitParam) (st' : St)
    (h : initParams cfg gens fs st = .ok (ps, st')) : Pointwise (InitGen cfg gens) fs ps := by
  refine Pointwise.imp ?_ (thread_pointwise
    (f := fun (f : RustField) st => (fieldType cfg gens f st).bind fun p =>
      .ok (({ label := removeDash f.id.renamed, ty := p.1, optional := fieldOptional f } : InitParam), p.2))
    h (fun _ => rfl) fun _ _ _ => by rw [Outcome.bind_assoc]; rfl)
  rintro f p ⟨st, st1, hp⟩
  obtain ⟨⟨ty, st2⟩, hty, hp⟩ := Outcome.of_bind_ok hp
  cases hp
  exact ⟨rfl, st, _, hty⟩

/-- **every field of every struct** has its stored property and its initialiser parameter -/
theorem struct_fields {U : UnicodeOps} {cfg : Cfg} {rs : RustStruct} {st st' : St} {s : SwiftStruct}
    (h : structFacts U cfg rs st = .ok (s, st')) :
    Pointwise (PropGen cfg rs.genericTypes) rs.fields s.props ∧
    Pointwise (InitGen cfg rs.genericTypes) rs.fields s.initParams := by
  obtain ⟨props, st1, params, hp, hi, rfl⟩ := structFacts_ok h
  exact ⟨storedProps_pointwise _ _ _ _ _ _ hp, initParams_pointwise _ _ _ _ _ _ hi⟩

theorem anonymousStructs_pointwise (U : UnicodeOps) (cfg : Cfg) (e : RustEnum)
    (vs : List (Id × List RustField)) (st : St) (ss : List SwiftStruct) (st' : St)
    (h : anonymousStructs U cfg e vs st = .ok (ss, st')) :
    Pointwise (fun (v : Id × List RustField) s => ∃ gens,
      Pointwise (PropGen cfg gens) v.2 s.props ∧ Pointwise (InitGen cfg gens) v.2 s.initParams) vs ss :=
  (thread_pointwise h (fun _ => rfl) fun _ _ _ => rfl).imp fun _ _ ⟨_, _, hs⟩ => ⟨_, struct_fields hs⟩

/-- **every field of every struct variant**: one struct per struct variant, in order -/
theorem variant_fields {U : UnicodeOps} {cfg : Cfg} {e : RustEnum} {st st' : St}
    {structs : List SwiftStruct} {se : SwiftEnum}
    (h : enumFacts U cfg e st = .ok (structs, se, st')) :
    Pointwise (fun (v : Id × List RustField) s => ∃ gens,
      Pointwise (PropGen cfg gens) v.2 s.props ∧ Pointwise (InitGen cfg gens) v.2 s.initParams)
      (structVariants e) structs := by
  obtain ⟨_, _, hss, _, _⟩ := enumFacts_ok h
  exact anonymousStructs_pointwise _ _ _ _ _ _ _ hss

/-- a string that ends in `?` is not a Swift keyword, so `swift_keyword_aware_rename` leaves it -/
theorem kw_q (s : Str) : kw (s ++ s%"?") = s ++ s%"?" := by
  have hall : ∀ k ∈ keywords, endsWith k kQ = false := by decide +kernel
  have hmem : s ++ s%"?" ∉ keywords := by
    intro hk
    have := hall _ hk
    rw [endsWith_append] at this
    exact absurd this (by simp)
  simp [kw, hmem]

/-- **newtype-variant payload**: printed as the (keyword-escaped) translation of the payload
type, so `Option<T>` gives `T?` (`formatType_option`, `kw_q`); the `optional` flag of the payload
(which selects the `decodeNil` fallback) is `is_optional()` -/
theorem payload {U : UnicodeOps} {cfg : Cfg} {e : RustEnum} {id : Id} {cs : List Str} {ty : RustType} {st st' : St} {c : EnumCase}
    (h : algebraicCase U cfg e (.tuple id cs ty) st = .ok (c, st')) :
    ∃ t, c.payload = some ⟨kw t, ty.isOptional⟩ ∧ formatType cfg e.genericTypes ty st = .ok (t, st') := by
  obtain ⟨t, ht, rfl⟩ := algebraicCase_tuple_ok.1 h
  exact ⟨t, rfl, ht⟩

/-- **alias**: `public typealias X = <translation of the type>` -/
theorem alias {U : UnicodeOps} {cfg : Cfg} {a : RustTypeAlias} {st st' : St} {text : Str}
    (h : writeAlias U cfg a st = .ok (text, st')) :
    ∃ ty, formatType cfg a.genericTypes a.ty st = .ok (ty, st') ∧
      text = nl ++ comments U 0 a.comments ++ s%"public typealias " ++ kw (cfg.pfx ++ a.id.renamed) ++
        genericSuffix a.genericTypes ++ s%" = " ++ ty ++ nl :=
  let ⟨ty, ht, hb⟩ := writeAlias_ok.1 h; ⟨ty, ht, hb.symm⟩

end TsV.C04.Sw
