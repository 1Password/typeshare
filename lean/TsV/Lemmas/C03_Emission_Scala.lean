import TsV.Lemmas.C03_Emission_Common
import TsV.Lemmas.Lang.Scala
/-!
# C03, emission clause — Scala

`Scala::generate_types` does not sort: the aliases go into the package object, the structs and the
enums into the package block, each list in `ParsedData` order; a const makes the run fail.
-/
namespace TsV.C03E.Sc
open TsV TsV.Lang TsV.Lang.Scala TsV.C03E

def writeItem (cfg : Cfg) : RustItem → Outcome Str
  | .alias a => writeAlias cfg a
  | .struct s => writeStruct cfg s
  | .enum e => writeEnum cfg e
  | .const _ => .err (.formatError s%"ConstUnsupported")

/-- the text before the alias blocks: version header, parent package, opening of the package object
and the four unsigned-integer aliases when an unsigned integer is used -/
def pre (cfg : Cfg) (d : ParsedData) : Str :=
  (match cfg.versionHeader with
   | some v => s%"/**\n * Generated by typeshare " ++ v ++ s%"\n */\n"
   | none => []) ++
  (match rsplitOnceDot cfg.package with
   | some (parent, _) => s%"package " ++ parent ++ s%"\n\n"
   | none => []) ++
  (if hasObject d then
    s%"package object " ++ lastPackageSegment cfg.package ++ s%" {\n\n" ++
    (if unsignedIntegerUsed d then unsignedAliases else [])
   else [])

/-- between the alias blocks and the struct blocks: closing of the package object, opening of the
package block -/
def mid (cfg : Cfg) (d : ParsedData) : Str :=
  (if hasObject d then s%"}\n" else []) ++
  (if hasBody d then s%"package " ++ lastPackageSegment cfg.package ++ s%" {\n\n" else [])

def post (d : ParsedData) : Str := if hasBody d then s%"}\n" else []

/-- two optional parts, each an opening, a content and a closing; a part that is not written has no
content, so the contents can be taken out of the conditionals -/
theorem layout {o b : Bool} {A B E : Str} (H O C M Z : Str) (hA : o = false → A = [])
    (hB : b = false → B = [] ∧ E = []) :
    H ++ (if o then O ++ A ++ C else []) ++ (if b then M ++ B ++ E ++ Z else []) =
      (H ++ if o then O else []) ++ A ++ ((if o then C else []) ++ if b then M else []) ++ (B ++ E) ++
        if b then Z else [] := by
  cases o <;> cases b <;> simp [hA, hB]

/-- the file of the records `as`, `cs`, `es` (one per alias, struct, enum): the scaffolding around the
rendered records -/
theorem renderFile_fileOf {cfg : Cfg} {d : ParsedData} {as : List ScAlias} {cs : List ScClass} {es : List ScEnum}
    (ha : as.length = d.aliases.length) (hc : cs.length = d.structs.length) (he : es.length = d.enums.length) :
    renderFile (fileOf cfg d as cs es) = pre cfg d ++ (as.map renderAlias).flatten ++ mid cfg d ++
      ((cs.map renderClass).flatten ++ (es.map renderEnum).flatten) ++ post d := by
  refine Eq.trans ?_ (layout _ _ _ _ _ (fun h => ?_) fun h => ?_)
  · unfold fileOf
    cases rsplitOnceDot cfg.package <;> cases hasObject d <;> cases hasBody d <;> rfl
  · rw [hasObject_false h] at ha; rw [List.eq_nil_of_length_eq_zero ha]; rfl
  · rw [(hasBody_false h).1] at hc; rw [(hasBody_false h).2] at he
    rw [List.eq_nil_of_length_eq_zero hc, List.eq_nil_of_length_eq_zero he]; exact ⟨rfl, rfl⟩

/-- the rendered records of a successful `mapM'`, one block per source item (`writeItem` on an item of
kind `K` is `facts` followed by `render`) -/
theorem mapM'_blocks {α β} {cfg : Cfg} {facts : α → Outcome β} (render : β → Str) (K : α → RustItem)
    (hw : ∀ a, writeItem cfg (K a) = (facts a).bind fun x => .ok (render x)) {l : List α} {r : List β}
    (h : Outcome.mapM' facts l = .ok r) :
    Paired (fun it b => writeItem cfg it = .ok b) (l.map K) (r.map render) :=
  paired_iff.2 (C01.Forall₂.map_left_iff.2 (C01.Forall₂.map_right_iff.2
    ((Outcome.mapM'_forall₂ _ _ _ h).imp fun a b hab => by rw [hw, hab]; rfl)))

/-- all blocks of a file, paired with `itemsOf d` (aliases, structs, enums — consts are absent) -/
theorem generate_items (cfg : Cfg) (d : ParsedData) (text : Str) (h : generate cfg d = .ok text) :
    d.consts = [] ∧ ∃ blocks, Paired (fun it b => writeItem cfg it = .ok b) (C12L.itemsOf d) blocks ∧
      text = pre cfg d ++ (blocks.take d.aliases.length).flatten ++ mid cfg d ++
        (blocks.drop d.aliases.length).flatten ++ post d := by
  obtain ⟨f, hf, rfl⟩ := Outcome.of_bind_ret h
  obtain ⟨-, hc, as, cs, es, has, hcs, hes, rfl⟩ := fileFacts_inv hf
  refine ⟨hc, as.map renderAlias ++ (cs.map renderClass ++ es.map renderEnum), ?_, ?_⟩
  · rw [C12L.itemsOf, hc, List.map_nil, List.append_nil, List.append_assoc]
    exact (mapM'_blocks renderAlias .alias (fun _ => rfl) has).append
      ((mapM'_blocks renderClass .struct (fun _ => rfl) hcs).append (mapM'_blocks renderEnum .enum (fun _ => rfl) hes))
  · have hl := Outcome.mapM'_ok_length _ _ _ has
    rw [← hl, ← List.length_map renderAlias, List.take_left, List.drop_left, List.flatten_append]
    exact renderFile_fileOf hl (Outcome.mapM'_ok_length _ _ _ hcs) (Outcome.mapM'_ok_length _ _ _ hes)

/-! ## one block defines its item -/

theorem comments_lineStart (n : Nat) (cs : List Str) : LineStart (comments n cs) :=
  lineStart_lines _ cs

theorem nameEnd_genericSq (gs : List Str) {q : Str} (h : NameEnd q) : NameEnd (genericSq gs ++ q) := by
  unfold genericSq
  split
  · simpa using h
  · exact nameEnd_append _ (nameEnd_cons _ (by decide))

def headOf (c : ScClass) : Str × Str := (if c.params.isEmpty then s%"class " else s%"case class ", c.name)

theorem renderClass_defines (c : ScClass) : DefinesHead (headOf c).1 (headOf c).2 (renderClass c) := by
  unfold renderClass headOf
  split
  · simp only [List.append_assoc]
    exact definesHead_r _ _ (comments_lineStart _ _) (nameEnd_cons _ (by decide))
  · simp only [List.append_assoc]
    exact definesHead_r _ _ (comments_lineStart _ _)
      (nameEnd_genericSq _ (nameEnd_cons _ (by decide)))

/-- a struct without fields is a class without parameters -/
theorem classFacts_head (cfg : Cfg) (rs : RustStruct) (c : ScClass) (h : classFacts cfg rs = .ok c) :
    headOf c = (scStructKw rs.fields, rs.id.renamed) := by
  obtain ⟨params, hp, rfl⟩ := Outcome.of_bind_ret h
  simp only [headOf, scStructKw, Outcome.mapM'_ok_isEmpty hp]

theorem classFacts_defines (cfg : Cfg) (rs : RustStruct) (c : ScClass) (h : classFacts cfg rs = .ok c) :
    DefinesHead (scStructKw rs.fields) rs.id.renamed (renderClass c) := by
  have := renderClass_defines c
  rwa [classFacts_head cfg rs c h] at this

/-- the helper classes, the sealed trait, the companion object -/
theorem renderEnum_splits (f : ScEnum) :
    SplitsInto (f.inner.map headOf ++ [(s%"sealed trait ", f.name), (s%"object ", f.name)]) (renderEnum f) := by
  rw [show [(s%"sealed trait ", f.name), (s%"object ", f.name)] = [(s%"sealed trait ", f.name)] ++ [(s%"object ", f.name)]
    from rfl, ← List.append_assoc]
  unfold renderEnum
  iterate 2 apply splitsInto_text
  apply splitsInto_snoc_head₀ _ _ (nameEnd_cons _ (by decide))
  iterate 2 apply splitsInto_text
  exact splitsInto_snoc_head₂ _ (genericSq _) _ (splitsInto_flatMap _ _ _ fun c _ => renderClass_defines c)
    (comments_lineStart _ _) (nameEnd_genericSq _ (nameEnd_cons _ (by decide)))

/-- the records written for an enum carry exactly the keywords and names `scDefs` lists -/
theorem enumFacts_heads (cfg : Cfg) (e : RustEnum) (f : ScEnum) (h : enumFacts cfg e = .ok f) :
    f.inner.map headOf ++ [(s%"sealed trait ", f.name), (s%"object ", f.name)] = scDefs (.enum e) := by
  obtain ⟨inner, kases, hi, -, rfl⟩ := enumFacts_inv h
  have hin := Outcome.mapM'_map _ headOf
    (fun (p : Id × List RustField) => (scStructKw p.2, e.id.renamed ++ p.1.original ++ s%"Inner"))
    (fun p c hpc => classFacts_head cfg _ c hpc) _ _ hi
  exact congrArg (· ++ _) hin

/-- **the block of an item splits into exactly the definitions `scDefs` lists** -/
theorem block_defines (cfg : Cfg) (it : RustItem) (b : Str) (h : writeItem cfg it = .ok b) :
    SplitsInto (scDefs it) b := by
  cases it with
  | struct s =>
    obtain ⟨c, hc, rfl⟩ := Outcome.of_bind_ret (show writeStruct cfg s = _ from h)
    exact splitsInto_single (classFacts_defines cfg s c hc)
  | alias a =>
    obtain ⟨f, hf, rfl⟩ := Outcome.of_bind_ret (show writeAlias cfg a = _ from h)
    obtain ⟨ty, -, rfl⟩ := Outcome.of_bind_ret hf
    simp only [renderAlias, List.append_assoc]
    exact splitsInto_single (definesHead_r _ _ (comments_lineStart _ _)
      (nameEnd_genericSq _ (nameEnd_cons _ (by decide))))
  | const c => simp [writeItem] at h
  | «enum» e =>
    obtain ⟨f, hf, rfl⟩ := Outcome.of_bind_ret (show writeEnum cfg e = _ from h)
    rw [← enumFacts_heads cfg e f hf]
    exact renderEnum_splits f

theorem generateAll_single (E : Ext) (cfg : Cfg) (mf : Bool) (c : Str) (d : ParsedData)
    (imps : Option Pipeline.ScopedCrateTypes) :
    generateAll E cfg mf [(c, d, imps)] = (generate cfg d).bind fun r => .ok [(c, r)] := by
  simp only [generateAll, generateFrom]
  generalize generate cfg d = g
  cases g <;> rfl

theorem generateAll_nil (E : Ext) (cfg : Cfg) (mf : Bool) : generateAll E cfg mf [] = .ok [] := rfl

end TsV.C03E.Sc
