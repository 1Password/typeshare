import TsV.Lemmas.Lang.Scala
import TsV.Props.C11_Modules
import TsV.Props.C14_Imports
/-!
# C20, folder output — lemmas: where the configured package is in a module's text
-/
namespace TsV.C20F
open TsV TsV.Lang TsV.Pipeline TsV.C14I

/-- the version comment of a Kotlin module (`--version-header`; absent by default) -/
def ktVersion (cfg : Kotlin.Cfg) : Str :=
  match cfg.versionHeader with
  | some v => s%"/**\n * Generated by typeshare " ++ v ++ s%"\n */\n\n"
  | none => []

/-- the two fixed imports after the package line -/
def ktStdImports : Str :=
  s%"\nimport kotlinx.serialization.Serializable\nimport kotlinx.serialization.SerialName\n\n"

def goVersion (cfg : Go.Cfg) : Str :=
  match cfg.versionHeader with
  | some v => s%"// Code generated by typeshare " ++ v ++ s%". DO NOT EDIT.\n"
  | none => []

def scVersion (cfg : Scala.Cfg) : Str :=
  match cfg.versionHeader with
  | some v => s%"/**\n * Generated by typeshare " ++ v ++ s%"\n */\n"
  | none => []

/-- the `package <parent>` line of a Scala module: written when the package name has a dot -/
def scParentLine (package : Str) : Str :=
  match Scala.rsplitOnceDot package with
  | some (parent, _) => s%"package " ++ parent ++ s%"\n\n"
  | none => []

/-- in a folder run of a back end that writes no post-generation file, every output is the module of a job -/
theorem folder_out_module (E : Ext) (lang : Generate.LangCfg) (hpost : ∀ jobs post, C11M.postOf lang jobs post → post = [])
    (targetOs : List Str) (pick : List ImportedType → Option ImportedType) (files : List Generate.SourceFile)
    (outs : List (Str × Str)) (h : Generate.run E lang true targetOs pick files = .ok (.outputs outs))
    (p : Str × Str) (hp : p ∈ outs) :
    ∃ arrivals, Generate.parseAll E { ignoredTypes := Generate.ignoredTypes lang, multiFile := true, targetOs } pick files =
        .ok arrivals ∧
      ∃ j ∈ C06M.jobsWith id (collect arrivals), j.1 = p.1 ∧ C11M.ModuleOf E lang j p.2 := by
  obtain ⟨arrivals, mods, post, ha, _, hsplit, hm, hpo⟩ := C11_Modules.run_modules E lang targetOs pick files outs h
  rw [hpost _ post hpo, List.append_nil] at hsplit
  subst hsplit
  exact ⟨arrivals, ha, hm.mem_out p hp⟩

theorem kt_beginFile_package (cfg : Kotlin.Cfg) (d : ParsedData) (hmf : d.multiFile = true) (hp : cfg.package ≠ []) :
    Kotlin.beginFile cfg d =
      ktVersion cfg ++ s%"package " ++ cfg.package ++ s%"." ++ d.crateName ++ s%"\n" ++ ktStdImports := by
  unfold Kotlin.beginFile ktVersion ktStdImports
  rw [if_neg (by rw [List.isEmpty_eq_false_iff.2 hp]; exact Bool.false_ne_true), if_pos hmf]
  simp only [List.append_assoc, Lang.nl]
  rfl

theorem kt_beginFile_empty (cfg : Kotlin.Cfg) (d : ParsedData) (hp : cfg.package = []) :
    Kotlin.beginFile cfg d = [] := by
  unfold Kotlin.beginFile
  simp [hp]

/-- `write_imports`, line by line: every line is `import <package>.<crate>.<prefix><type>` with the one
configured package -/
theorem writeImports_lines (cfg : Kotlin.Cfg) (imps : ScopedCrateTypes) :
    Kotlin.writeImports cfg imps =
      (imps.flatMap fun ct => ct.2.flatMap fun t => ktImportLine cfg ct.1 t) ++ s%"\n" := rfl

theorem go_beginFile (cfg : Go.Cfg) :
    Go.beginFile cfg = goVersion cfg ++ s%"package " ++ cfg.package ++ s%"\n\n" := by
  unfold Go.beginFile goVersion
  cases cfg.versionHeader <;> simp only [Lang.nl, List.append_assoc, List.nil_append] <;> rfl

/-- in every printer state the module starts with the configured package line -/
theorem go_generate_package (U : UnicodeOps) (cfg : Go.Cfg) (d : ParsedData) (st : Go.Imports) (text : Str)
    (st' : Go.Imports) (h : Go.generate U cfg d st = .ok (text, st')) :
    ∃ rest, text = goVersion cfg ++ s%"package " ++ cfg.package ++ s%"\n\n" ++ rest := by
  obtain ⟨items, blocks, _, _, _, htext⟩ := C03_Emission.blocks_go U cfg d st text st' h
  refine ⟨Go.renderImports st' ++ blocks.flatten, ?_⟩
  rw [htext, go_beginFile]
  simp [List.append_assoc]

theorem span_loop_eq {α} (p : α → Bool) : ∀ (l acc : List α),
    List.span.loop p l acc = (acc.reverse ++ l.takeWhile p, l.dropWhile p) := by
  intro l
  induction l with
  | nil => intro acc; simp [List.span.loop]
  | cons a t ih =>
    intro acc
    simp only [List.span.loop, List.takeWhile_cons, List.dropWhile_cons]
    cases p a with
    | true => simp [ih (a :: acc)]
    | false => simp

theorem span_eq_takeWhile_dropWhile {α} (p : α → Bool) (l : List α) :
    l.span p = (l.takeWhile p, l.dropWhile p) := by
  simpa [List.span] using span_loop_eq p l []

theorem dropWhile_head {α} (p : α → Bool) (l : List α) (c : α) (r : List α) (h : l.dropWhile p = c :: r) :
    p c = false := by
  have := List.head_dropWhile_not p (l := l) (by rw [h]; exact List.cons_ne_nil _ _)
  simpa only [h, List.head_cons] using this

/-- `rsplit_once('.')` splits at the *last* dot -/
theorem rsplitOnceDot_spec (s : Str) :
    (∀ parent last, Scala.rsplitOnceDot s = some (parent, last) → s = parent ++ s%"." ++ last ∧ '.' ∉ last) ∧
    (Scala.rsplitOnceDot s = none → '.' ∉ s) := by
  unfold Scala.rsplitOnceDot
  rw [span_eq_takeWhile_dropWhile]
  have happ := List.takeWhile_append_dropWhile (p := fun c => c != '.') (l := s.reverse)
  have htw : ∀ c ∈ s.reverse.takeWhile (fun c => c != '.'), c ≠ '.' := by
    intro c hc
    simpa using List.all_eq_true.1 List.all_takeWhile c hc
  cases hd : s.reverse.dropWhile (fun c => c != '.') with
  | nil =>
    refine ⟨fun _ _ h => by simp at h, fun _ hmem => ?_⟩
    rw [hd, List.append_nil] at happ
    have : '.' ∈ s.reverse := by simpa using hmem
    rw [← happ] at this
    exact htw _ this rfl
  | cons c rest =>
    refine ⟨fun parent last h => ?_, fun h => by simp at h⟩
    simp only [Option.some.injEq, Prod.mk.injEq] at h
    obtain ⟨rfl, rfl⟩ := h
    have hc : c = '.' := by
      have := dropWhile_head _ _ c rest hd
      simpa using this
    subst hc
    rw [hd] at happ
    constructor
    · have := congrArg List.reverse happ
      simp only [List.reverse_append, List.reverse_cons, List.reverse_reverse] at this
      exact this.symm
    · intro hmem
      exact htw '.' (by simpa using hmem) rfl

theorem sc_renderFile_prefix (f : Scala.ScFile) :
    ∃ rest, Scala.renderFile f =
      (match f.header with
       | some v => s%"/**\n * Generated by typeshare " ++ v ++ s%"\n */\n"
       | none => []) ++
      (match f.parent with
       | some parent => s%"package " ++ parent ++ s%"\n\n"
       | none => []) ++ rest := by
  unfold Scala.renderFile
  exact ⟨_, List.append_assoc _ _ _⟩

/-- a Scala module is `renderFile` of facts that carry the configured package, split at its last dot -/
theorem sc_generate_package (cfg : Scala.Cfg) (d : ParsedData) (text : Str) (h : Scala.generate cfg d = .ok text) :
    ∃ (f : Scala.ScFile) (rest : Str),
      text = Scala.renderFile f ∧ f.parent = (Scala.rsplitOnceDot cfg.package).map (·.1) ∧
      f.last = Scala.lastPackageSegment cfg.package ∧
      text = scVersion cfg ++ scParentLine cfg.package ++ rest := by
  obtain ⟨f, hf, rfl⟩ := Outcome.of_bind_ret h
  have hfacts : f.header = cfg.versionHeader ∧ f.parent = (Scala.rsplitOnceDot cfg.package).map (·.1) ∧
      f.last = Scala.lastPackageSegment cfg.package := by
    obtain ⟨-, -, as, cs, es, -, -, -, rfl⟩ := Scala.fileFacts_inv hf
    exact ⟨rfl, rfl, rfl⟩
  obtain ⟨rest, hr⟩ := sc_renderFile_prefix f
  refine ⟨f, rest, rfl, hfacts.2.1, hfacts.2.2, ?_⟩
  rw [hr, hfacts.1, hfacts.2.1]
  unfold scVersion scParentLine
  cases Scala.rsplitOnceDot cfg.package with
  | none => rfl
  | some pl => rfl

end TsV.C20F
