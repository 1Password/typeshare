import TsV.Model.Lang.TypeScript
import TsV.Lemmas.C12_Common
/-!
# C01, the reviver — the printer state as a trace of events

TypeScript's `types_for_custom_json_translation` (`CustomMap`) is written in two places only:
`format_special_type` *resets* the entry of a custom-translated type (`Date` / `Uint8Array`) to the
empty set when a special Rust type is mapped to it, and `write_field` *adds* the field's wire name
to the entry of the type it printed.  This file describes the state after any sequence of such
events exactly (`mem_run_iff`).
-/
namespace TsV.C01R
open TsV TsV.Lang TsV.Lang.TypeScript

/-- one write to `types_for_custom_json_translation` -/
inductive Ev where
  | reset (t : Str)            -- `.insert(mapped, BTreeSet::new())` in `format_special_type`
  | add (t : Str) (k : Str)    -- `.entry(ts_ty)…insert(field.id.renamed)` in `write_field`
deriving DecidableEq, Repr

/-- the keys recorded for the translated type `t` -/
def keysOf (st : CustomMap) (t : Str) : List Str := (cmGet st t).getD []

def Ev.apply (st : CustomMap) : Ev → CustomMap
  | .reset t => cmInsert st t []
  | .add t k => cmInsert st t (Parser.insertSorted Str.lt k (keysOf st t))

def run (st : CustomMap) (evs : List Ev) : CustomMap := evs.foldl Ev.apply st

theorem run_nil (st : CustomMap) : run st [] = st := rfl
theorem run_cons (st : CustomMap) (e : Ev) (evs : List Ev) : run st (e :: evs) = run (e.apply st) evs := rfl
theorem run_append (st : CustomMap) (a b : List Ev) : run st (a ++ b) = run (run st a) b := by
  simp [run, List.foldl_append]

/-! ## `BTreeMap::insert` / `get` on the association list -/

/-- `BTreeMap::insert`: the pair is there, a pair under another key stays, nothing else comes.  (No "iff":
without the invariant that keys are distinct an old pair under `k` may survive behind the first.) -/
theorem mem_cmInsert (k : Str) (v : List Str) (p : Str × List Str) : ∀ m : CustomMap,
    (k, v) ∈ cmInsert m k v ∧ (p ∈ cmInsert m k v → p = (k, v) ∨ p ∈ m) ∧
      (p ∈ m → p.1 ≠ k → p ∈ cmInsert m k v) := by
  intro m
  induction m with
  | nil => exact ⟨List.mem_singleton_self _, fun h => .inl (List.mem_singleton.1 h), fun h => nomatch h⟩
  | cons q rest ih =>
    obtain ⟨k', v'⟩ := q
    unfold cmInsert
    by_cases h1 : (k' == k) = true
    · rw [if_pos h1]
      refine ⟨List.mem_cons_self, fun h => (List.mem_cons.1 h).imp id (List.mem_cons_of_mem _), fun h hne => ?_⟩
      rcases List.mem_cons.1 h with rfl | h
      · exact absurd (eq_of_beq h1) hne
      · exact List.mem_cons_of_mem _ h
    · rw [if_neg h1]
      split
      · exact ⟨List.mem_cons_self, List.mem_cons.1, fun h _ => List.mem_cons_of_mem _ h⟩
      · refine ⟨List.mem_cons_of_mem _ ih.1, fun h => ?_, fun h hne => ?_⟩
        · rcases List.mem_cons.1 h with rfl | h
          · exact .inr List.mem_cons_self
          · exact (ih.2.1 h).imp id (List.mem_cons_of_mem _)
        · rcases List.mem_cons.1 h with rfl | h
          · exact List.mem_cons_self
          · exact List.mem_cons_of_mem _ (ih.2.2 h hne)

theorem cmGet_cons (a : Str) (b : List Str) (m : CustomMap) (k' : Str) :
    cmGet ((a, b) :: m) k' = if a = k' then some b else cmGet m k' := by
  by_cases h : a = k' <;> simp [cmGet, h]

theorem cmGet_cmInsert (k k' : Str) (v : List Str) : ∀ m : CustomMap,
    cmGet (cmInsert m k v) k' = if k' = k then some v else cmGet m k' := by
  intro m
  induction m with
  | nil => rw [cmInsert, cmGet_cons]; simp only [eq_comm (a := k)]
  | cons p rest ih =>
    obtain ⟨a, b⟩ := p
    rw [cmInsert]
    split
    · rename_i h
      have ha : a = k := by simpa using h
      subst ha
      rw [cmGet_cons, cmGet_cons]
      simp only [eq_comm (a := a)]
      split <;> rfl
    · split
      · rw [cmGet_cons]; simp only [eq_comm (a := k)]
      · rename_i h _
        have ha : a ≠ k := by simpa using h
        rw [cmGet_cons, cmGet_cons, ih]
        by_cases h1 : a = k'
        · subst h1; simp [ha]
        · simp [h1]

theorem keysOf_reset (st : CustomMap) (t t' : Str) :
    keysOf (Ev.apply st (.reset t')) t = if t = t' then [] else keysOf st t := by
  unfold keysOf Ev.apply
  rw [cmGet_cmInsert]
  split <;> rfl

theorem keysOf_add (st : CustomMap) (t t' k : Str) :
    keysOf (Ev.apply st (.add t' k)) t =
      if t = t' then Parser.insertSorted Str.lt k (keysOf st t') else keysOf st t := by
  unfold Ev.apply
  show (cmGet (cmInsert st t' _) t).getD [] = _
  rw [cmGet_cmInsert]
  split <;> rfl

/-- one event: `k` is recorded for `t` afterwards iff it was recorded and the event does not reset `t`,
or the event adds it -/
theorem mem_apply_iff (t k : Str) (e : Ev) (st : CustomMap) :
    k ∈ keysOf (e.apply st) t ↔ (k ∈ keysOf st t ∧ e ≠ .reset t) ∨ e = .add t k := by
  cases e with
  | reset t' =>
    rw [keysOf_reset]
    by_cases h : t = t'
    · subst h; simp
    · have : ¬ t' = t := fun e => h e.symm
      simp [h, this]
  | add t' k' =>
    rw [keysOf_add]
    by_cases h : t = t'
    · subst h
      simp only [if_true, TsV.Order.mem_insertSorted_iff, ne_eq, reduceCtorEq, not_false_eq_true, and_true,
        Ev.add.injEq, true_and]
      rw [or_comm, eq_comm]
    · have : ¬ t' = t := fun e => h e.symm
      simp [h, this]

/-- `k` is recorded for `t` after the events iff it was recorded before and no reset of `t`
happened, or some field added it and no reset of `t` happened afterwards -/
theorem mem_run_iff (t k : Str) : ∀ (evs : List Ev) (st : CustomMap),
    k ∈ keysOf (run st evs) t ↔
      (k ∈ keysOf st t ∧ Ev.reset t ∉ evs) ∨
      ∃ pre post, evs = pre ++ Ev.add t k :: post ∧ Ev.reset t ∉ post := by
  intro evs
  induction evs with
  | nil => intro st; simp [run_nil]
  | cons e r ih =>
    intro st
    rw [run_cons, ih, mem_apply_iff]
    constructor
    · rintro (⟨⟨hk, he⟩ | rfl, hr⟩ | ⟨pre, post, rfl, hp⟩)
      · exact Or.inl ⟨hk, fun hm => (List.mem_cons.1 hm).elim (fun h => he h.symm) hr⟩
      · exact Or.inr ⟨[], r, rfl, hr⟩
      · exact Or.inr ⟨e :: pre, post, rfl, hp⟩
    · rintro (⟨hk, hr⟩ | ⟨pre, post, h, hp⟩)
      · exact Or.inl ⟨Or.inl ⟨hk, fun he => hr (he ▸ List.mem_cons_self)⟩, fun hm => hr (List.mem_cons_of_mem _ hm)⟩
      · cases pre with
        | nil =>
          obtain ⟨rfl, rfl⟩ := List.cons.inj h
          exact Or.inl ⟨Or.inr rfl, hp⟩
        | cons a pre' =>
          obtain ⟨rfl, rfl⟩ := List.cons.inj h
          exact Or.inr ⟨pre', post, rfl, hp⟩

/-- soundness direction: whatever is recorded was recorded before or was added -/
theorem mem_run_sound (t k : Str) (evs : List Ev) (st : CustomMap) (h : k ∈ keysOf (run st evs) t) :
    k ∈ keysOf st t ∨ Ev.add t k ∈ evs := by
  rcases (mem_run_iff t k evs st).1 h with ⟨h, _⟩ | ⟨pre, post, rfl, _⟩
  · exact Or.inl h
  · exact Or.inr (by simp)

/-- completeness direction: without resets nothing is lost -/
theorem mem_run_complete (t k : Str) (evs : List Ev) (st : CustomMap) (hr : Ev.reset t ∉ evs)
    (h : k ∈ keysOf st t ∨ Ev.add t k ∈ evs) : k ∈ keysOf (run st evs) t := by
  refine (mem_run_iff t k evs st).2 ?_
  rcases h with h | h
  · exact Or.inl ⟨h, hr⟩
  · obtain ⟨pre, post, rfl⟩ := List.append_of_mem h
    exact Or.inr ⟨pre, post, rfl, fun hp => hr (by simp [hp])⟩

end TsV.C01R
