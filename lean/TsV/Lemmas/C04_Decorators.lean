import TsV.Props.C04
/-!
# C04, decorators — the field facts of every back end read a field's decorators only through the
per-language `type = "…"` override (and TypeScript's `readonly` flag)

`SameBut f g`: `g` is `f` with other decorators.  With the same type override for the language, the
facts record (hence the rendered line) of `g` is that of `f` — for TypeScript up to the `readonly`
flag, which only selects the prefix of the property line.
-/
namespace TsV.C04D
open TsV TsV.Lang TsV.Outcome

/-- `g` differs from `f` at most in its decorators -/
def SameBut (f g : RustField) : Prop :=
  g.id = f.id ∧ g.ty = f.ty ∧ g.comments = f.comments ∧ g.hasDefault = f.hasDefault

theorem SameBut.refl (f : RustField) : SameBut f f := ⟨rfl, rfl, rfl, rfl⟩
theorem SameBut.symm {f g : RustField} (h : SameBut f g) : SameBut g f := ⟨h.1.symm, h.2.1.symm, h.2.2.1.symm, h.2.2.2.symm⟩

/-- `f` with the decorator list `ds` -/
def withDecorators (f : RustField) (ds : List (Lang × List FieldDecorator)) : RustField := { f with decorators := ds }

theorem sameBut_with (f : RustField) (ds : List (Lang × List FieldDecorator)) : SameBut f (withDecorators f ds) :=
  ⟨rfl, rfl, rfl, rfl⟩

theorem sameBut_iff (f g : RustField) : SameBut f g ↔ g = withDecorators f g.decorators := by
  obtain ⟨i, t, c, h, d⟩ := f
  obtain ⟨i', t', c', h', d'⟩ := g
  simp [SameBut, withDecorators]

namespace Ts
open TsV.Lang.TypeScript

/-- the property line after the `readonly` prefix -/
def lineCore (tf : TsField) : Str :=
  tf.name ++ (if tf.optional then s%"?" else []) ++ s%": " ++ tf.ty ++ (if tf.orNull then s%" | null" else []) ++ s%";\n"

theorem renderField_split (tf : TsField) :
    renderField tf = comments 1 tf.comments ++ s%"\t" ++ (if tf.readonly then s%"readonly " else []) ++ lineCore tf := by
  simp [renderField, lineCore, List.append_assoc]

/-- the two components of the record that come from the field unchanged -/
theorem fieldFacts_readonly_comments {cfg : Cfg} {gens : List Str} {f : RustField} {st st' : CustomMap}
    {tf : TsField} (hf : fieldFacts cfg gens f st = .ok (tf, st')) :
    tf.readonly = hasDecoratorNamed f .typescript s%"readonly" ∧ tf.comments = f.comments := by
  unfold fieldFacts at hf
  obtain ⟨⟨ty, st1⟩, _, hf⟩ := Outcome.of_bind_ok hf
  rw [← (Outcome.ok_pair_inj hf).1]
  exact ⟨rfl, rfl⟩

theorem fieldFacts_congr (cfg : Cfg) (gens : List Str) {f g : RustField} (h : SameBut f g)
    (ho : typeOverride g .typescript = typeOverride f .typescript) (st : CustomMap) :
    fieldFacts cfg gens g st = (fieldFacts cfg gens f st).bind fun (tf, st') =>
      .ok ({ tf with readonly := hasDecoratorNamed g .typescript s%"readonly" }, st') := by
  obtain ⟨h1, h2, h3, h4⟩ := h
  unfold fieldFacts
  rw [ho, h1, h2, h3, h4]
  cases typeOverride f .typescript with
  | some t => rfl
  | none =>
    show (formatType cfg gens f.ty st).bind _ = ((formatType cfg gens f.ty st).bind _).bind _
    cases formatType cfg gens f.ty st with
    | ok p => rfl
    | err e => rfl
    | panic s => rfl

end Ts

theorem kotlin_paramFacts_congr (cfg : Kotlin.Cfg) (gens : List Str) (rsn priv : Bool) {f g : RustField}
    (h : SameBut f g) (ho : typeOverride g .kotlin = typeOverride f .kotlin) :
    Kotlin.paramFacts cfg gens rsn priv g = Kotlin.paramFacts cfg gens rsn priv f := by
  obtain ⟨h1, h2, h3, h4⟩ := h
  unfold Kotlin.paramFacts Kotlin.defaultSuffix
  rw [ho, h1, h2, h3, h4]

theorem scala_paramFacts_congr (cfg : Scala.Cfg) (gens : List Str) {f g : RustField}
    (h : SameBut f g) (ho : typeOverride g .scala = typeOverride f .scala) :
    Scala.paramFacts cfg gens g = Scala.paramFacts cfg gens f := by
  obtain ⟨h1, h2, h3, h4⟩ := h
  unfold Scala.paramFacts
  rw [ho, h1, h2, h3, h4]

theorem swift_fieldType_congr (cfg : Swift.Cfg) (gens : List Str) {f g : RustField}
    (h : SameBut f g) (ho : typeOverride g .swift = typeOverride f .swift) (st : Swift.St) :
    Swift.fieldType cfg gens g st = Swift.fieldType cfg gens f st ∧ Swift.fieldOptional g = Swift.fieldOptional f ∧
      Swift.memberName g = Swift.memberName f ∧ Swift.fieldCodingKey g = Swift.fieldCodingKey f := by
  obtain ⟨h1, h2, h3, h4⟩ := h
  unfold Swift.fieldType Swift.fieldOptional Swift.fieldCodingKey Swift.memberName
  rw [ho, h1, h2, h4]
  exact ⟨rfl, rfl, rfl, rfl⟩

theorem go_fieldFacts_congr (U : UnicodeOps) (cfg : Go.Cfg) {f g : RustField}
    (h : SameBut f g) (ho : typeOverride g .go = typeOverride f .go) (st : Go.Imports) :
    Go.fieldFacts U cfg g st = Go.fieldFacts U cfg f st := by
  obtain ⟨h1, h2, h3, h4⟩ := h
  unfold Go.fieldFacts
  rw [ho, h1, h2, h3, h4]

/-- the Python back end reads no field decorator at all -/
theorem python_fieldFacts_congr (E : Ext) (cfg : Python.Cfg) (gens : List Str) {f g : RustField}
    (h : SameBut f g) (st : Python.St) :
    Python.fieldFacts E cfg gens g st = Python.fieldFacts E cfg gens f st := by
  obtain ⟨h1, h2, h3, h4⟩ := h
  unfold Python.fieldFacts
  rw [h1, h2, h3, h4]

end TsV.C04D
