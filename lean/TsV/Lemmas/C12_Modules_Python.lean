import TsV.Lemmas.C12_Python
/-!
# C12_Modules, Python — the printer state along a folder run

`Python::generate_types` never clears `imports`, `type_variables` and
`types_for_custom_json_translation`: the state of one crate's module is the start state of the next.
`C12L.Python.generate_spec` holds for every start state; what it cannot say is that the *header* a
module writes from a leaked state is closed in itself: the lines `X = TypeVar("X")` (one per leaked
type variable) use the name `TypeVar`.  This file proves the run invariant that makes it so:

* `TV st st'` — a printer step leaves the set of type variables alone or ends in a state that
  imports `TypeVar`; proved for every printer function (`generate_tv`);
* `Inv st` — "type variables declared ⇒ `TypeVar` imported" holds for the empty state and is
  preserved by every module of a run (`generate_inv`).
-/
namespace TsV.C12_Modules.Py
open TsV TsV.Lang TsV.Lang.Python TsV.C12L TsV.C12L.Python

/-- a printer step either does not touch the type variables or ends with `TypeVar` imported -/
def TV (st st' : St) : Prop := st'.typeVars = st.typeVars ∨ Provides st' impTypeVar

theorem TV.refl (st : St) : TV st st := .inl rfl

theorem TV.of_eq {st st' : St} (h : st'.typeVars = st.typeVars) : TV st st' := .inl h

theorem TV.trans {a b c : St} (h1 : TV a b) (h2 : TV b c) (hm : Mono b c) : TV a c := by
  rcases h2 with h2 | h2
  · rcases h1 with h1 | h1
    · exact .inl (h2.trans h1)
    · exact .inr (hm _ h1)
  · exact .inr h2

@[simp] theorem tv_addImport (st : St) (m i : Str) : (addImport st m i).typeVars = st.typeVars := rfl
@[simp] theorem tv_addCustom (st : St) (t : Str) : (addCustom st t).typeVars = st.typeVars := rfl
@[simp] theorem tv_addImports (st : St) (t : Str) : (addImports st t).typeVars = st.typeVars := by
  unfold addImports
  split
  · rfl
  · split <;> rfl
@[simp] theorem tv_addDatetimeImport (st : St) : (addDatetimeImport st).typeVars = st.typeVars := by
  unfold addDatetimeImport; split <;> rfl

theorem formatTypes_tv (cfg : Cfg) (gens : List Str) : ∀ (ts : List RustType) (st : St) (ss : List Str) (st' : St),
    formatTypes cfg gens ts st = .ok (ss, st') → st'.typeVars = st.typeVars :=
  formatTypes_along (R := fun a b => b.typeVars = a.typeVars) (fun _ => rfl) (fun h1 h2 => h2.trans h1)
    (fun _ _ _ => rfl) tv_addImports (fun _ _ => rfl) cfg gens

/-- a printer function that registers no type variable leaves them alone -/
theorem writes_tv_eq {α : Type} {k : St → Outcome (α × St)} (hk : Writes (fun _ => False) k) :
    Along (fun a b => b.typeVars = a.typeVars) k :=
  hk.along (fun _ => rfl) (fun h1 h2 => h2.trans h1) (fun _ _ _ => rfl) tv_addImports (fun _ _ => rfl)
    fun _ _ h => h.elim

theorem fieldsFacts_tv (E : Ext) (cfg : Cfg) (gens : List Str) (fs : List RustField) (st : St) r (st' : St)
    (h : fieldsFacts E cfg gens fs st = .ok (r, st')) : st'.typeVars = st.typeVars :=
  writes_tv_eq (fieldsFacts_writes E cfg gens fs) st r st' h

/-- every printer function: each of the four state updates leaves the type variables alone or imports
`TypeVar`, and only adds -/
theorem writes_tv {α : Type} {k : St → Outcome (α × St)} (hk : Writes (fun _ => True) k) :
    Along (fun a b => TV a b ∧ Mono a b) k :=
  hk.along (fun st => ⟨TV.refl st, Mono.refl st⟩) (fun h1 h2 => ⟨h1.1.trans h2.1 h2.2, h1.2.trans h2.2⟩)
    (fun st p _ => ⟨.inl rfl, mono_addImport st p.1 p.2⟩) (fun st t => ⟨.inl (tv_addImports st t), mono_addImports st t⟩)
    (fun st t => ⟨.inl rfl, mono_addCustom st t⟩)
    fun st g _ => ⟨.inr (provides_addTypeVar st g).2, mono_addTypeVar st g⟩

/-- **one module**: the type variables are left alone or `TypeVar` is imported afterwards -/
theorem generate_tv (E : Ext) (cfg : Cfg) (d : ParsedData) (st0 : St) (text : Str) (st : St)
    (h : generate E cfg d st0 = .ok (text, st)) : TV st0 st := by
  obtain ⟨items, body, st1, _, h1, rfl, _⟩ := generate_ok h
  exact TV.trans (writes_tv (writeItems_writes E cfg items fun _ _ _ _ => trivial) st0 body st1 h1).1
    (.inl (tv_addDatetimeImport st1)) (mono_addDatetimeImport st1)

/-! ## the run invariant -/

/-- whenever the header declares a type variable it imports `TypeVar` -/
def Inv (st : St) : Prop := st.typeVars ≠ [] → Provides st impTypeVar

instance (st : St) : Decidable (Inv st) := by unfold Inv; infer_instance

theorem inv_empty : Inv {} := fun h => absurd rfl h

theorem inv_step {st st' : St} (hi : Inv st) (ht : TV st st') (hm : Mono st st') : Inv st' := by
  intro hne
  rcases ht with h | h
  · exact hm _ (hi (h ▸ hne))
  · exact h

/-- **the invariant is carried from one module of a run to the next** -/
theorem generate_inv (E : Ext) (cfg : Cfg) (d : ParsedData) (st0 : St) (text : Str) (st : St)
    (h : generate E cfg d st0 = .ok (text, st)) (hi : Inv st0) : Inv st :=
  inv_step hi (generate_tv E cfg d st0 text st h) (generate_spec E cfg d st0 text st h).1

end TsV.C12_Modules.Py
