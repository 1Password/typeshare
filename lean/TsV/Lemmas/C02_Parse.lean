import TsV.Lemmas.C02_Base
/-!
# C02, parse half: `parse_enum` gives every variant serde's name
-/
namespace TsV.C02
open TsV TsV.Str TsV.Syn TsV.Parser TsV.Serde TsV.Outcome

/-- serde's `apply_to_variant` never fails on an UpperCamelCase identifier -/
theorem applyVariant_ok (U : UnicodeOps) (rule : Rule) (s : Str) (h : C16.UpperCamel s) :
    ∃ w, applyVariant U rule s = .ok w := by
  obtain ⟨c, rest, rfl, hc⟩ := upperCamel_head s h
  cases rule <;> simp only [applyVariant] <;> first
    | exact ⟨_, rfl⟩
    | (simp only [Serde.lowerFirst, RenameLemmas.upper_ascii c hc, if_true]; exact ⟨_, rfl⟩)

/-- typeshare's `rename_all` on an UpperCamelCase variant identifier is serde's -/
theorem renameAll_variant (U : UnicodeOps) (hU : U.AsciiCorrect) (s : Str) (hs : C16.UpperCamel s)
    (ra : Option Str) (x : Str) (h : Rename.renameAllToCase U s ra = .ok x) :
    (match ra.bind Rule.ofStr with
     | some rule => okVal? (applyVariant U rule s)
     | none => some s) = some x := by
  cases ra with
  | none =>
    rw [C16.no_rule] at h
    simp only [Option.bind_none]
    cases h; rfl
  | some r =>
    simp only [Option.bind_some]
    cases hr : Rule.ofStr r with
    | none =>
      rw [C16.unknown_rule U s r hr] at h
      cases h; rfl
    | some rule =>
      obtain ⟨w, hw⟩ := applyVariant_ok U rule s hs
      have := C16.C16_variant U hU r rule hr s hs w hw
      rw [this] at h
      cases h
      simp [hw, okVal?]

/-- `get_ident` on a variant: the renamed name is serde's -/
theorem getIdent_variant (E : Ext) (hU : E.U.AsciiCorrect) (v : Variant) (hs : C16.UpperCamel v.ident)
    (ra : Option Str) (id : Id) (h : getIdent E (some v.ident) v.attrs ra = .ok id) :
    some id.renamed = variantName? E ra v ∧ id.original = v.ident := by
  obtain ⟨r, hr, ho, hren⟩ := C01.getIdent_ok E _ _ ra id h
  have ho' : id.original = v.ident := ho.trans (unraw_upperCamel v.ident hs)
  rw [ho'] at hr
  refine ⟨?_, ho'⟩
  unfold variantName?
  rw [hren]
  cases serdeRename E v.attrs with
  | some k => rfl
  | none => exact (renameAll_variant E.U hU v.ident hs ra r hr).symm

/-- **wire names**: the parsed variants carry, in source order, serde's names of the non-skipped
source variants -/
theorem parseEnum_names (E : Ext) (hU : E.U.AsciiCorrect) (T : List Str) (attrs : List Attr) (ident : Str)
    (gens : List GenericParam) (vs : List Variant) (e : RustEnum)
    (hs : ∀ v ∈ vs, C16.UpperCamel v.ident)
    (h : parseEnum E T attrs ident gens vs = .ok (.enum e)) :
    (e.variants.map fun v => some v.id.renamed) =
      (vs.filter fun v => !isSkipped v.attrs T).map (variantName? E (serdeRenameAll E attrs)) := by
  refine mapM'_map_mem _ _ _ _ _ ?_ (parseEnum_enum_ok h).2
  intro v hv rv hrv
  have hv' : v ∈ vs := (List.mem_filter.1 hv).1
  exact (getIdent_variant E hU v (hs v hv') _ rv.id (parseEnumVariant_ok hrv).1).1

/-- the identifiers of the parsed variants are the source identifiers (no `r#` to strip) -/
theorem parseEnum_originals (E : Ext) (hU : E.U.AsciiCorrect) (T : List Str) (attrs : List Attr) (ident : Str)
    (gens : List GenericParam) (vs : List Variant) (e : RustEnum)
    (hs : ∀ v ∈ vs, C16.UpperCamel v.ident)
    (h : parseEnum E T attrs ident gens vs = .ok (.enum e)) :
    e.variants.map (·.id.original) = (vs.filter fun v => !isSkipped v.attrs T).map (·.ident) := by
  refine mapM'_map_mem _ _ _ _ _ ?_ (parseEnum_enum_ok h).2
  intro v hv rv hrv
  have hv' : v ∈ vs := (List.mem_filter.1 hv).1
  exact (getIdent_variant E hU v (hs v hv') _ rv.id (parseEnumVariant_ok hrv).1).2

/-- a parsed in-scope source enum is in the scope of the back-end half -/
theorem parseEnum_inScope (E : Ext) (hU : E.U.AsciiCorrect) (T : List Str) (attrs : List Attr) (ident : Str)
    (gens : List GenericParam) (vs : List Variant) (e : RustEnum)
    (hs : ∀ v ∈ vs, C16.UpperCamel v.ident) (hd : (vs.map (·.ident)).Nodup)
    (h : parseEnum E T attrs ident gens vs = .ok (.enum e)) : InScopeEnum e := by
  have ho := parseEnum_originals E hU T attrs ident gens vs e hs h
  constructor
  · intro rv hrv
    have : rv.id.original ∈ e.variants.map (·.id.original) := List.mem_map.2 ⟨rv, hrv, rfl⟩
    rw [ho] at this
    obtain ⟨v, hv, hveq⟩ := List.mem_map.1 this
    rw [← hveq]
    exact hs v (List.mem_filter.1 hv).1
  · rw [ho]
    exact List.Pairwise.sublist (List.Sublist.map _ List.filter_sublist) hd

end TsV.C02
