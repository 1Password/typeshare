import TsV.Lemmas.C03_Emission_Common
import TsV.Lemmas.Run
/-!
# C03, emission clause — a single-file run, from the source file to the one job handed to a back end
-/
namespace TsV.C03E
open TsV TsV.Syn TsV.Parser TsV.Visitor TsV.Pipeline TsV.Generate TsV.Outcome

theorem genAll_nil (E : Ext) (lang : LangCfg) : genAll E lang false [] = .ok [] := by
  cases lang <;> rfl

/-! ## what the visitor collects -/

theorem collectAll_spec (path : Str) (outs : List (Outcome RustItem)) (d : ParsedData) (h : ∀ o ∈ outs, NP o) :
    ∃ d', C03.collectAll path d outs = .ok d' ∧
      d'.structs = d.structs ++ structsOf (okItems outs) ∧ d'.enums = d.enums ++ enumsOf (okItems outs) ∧
      d'.aliases = d.aliases ++ aliasesOf (okItems outs) ∧ d'.consts = d.consts ++ constsOf (okItems outs) ∧
      d'.errors = d.errors ++ (errKinds outs).map (fun e => (e, path)) ∧
      d'.crateName = d.crateName ∧ d'.fileName = d.fileName ∧ d'.multiFile = d.multiFile ∧
      d'.importTypes = d.importTypes := by
  obtain ⟨d', hd'⟩ := Visit.collectAll_ok_of_np path outs d h
  refine ⟨d', hd', Visit.collectAll_ok_rec ?_ ?_ ?_ hd'⟩
  · exact fun d => by simp [okItems, errKinds, structsOf, enumsOf, aliasesOf, constsOf]
  · intro d it os d' ih
    cases it <;>
      simpa only [push, okItems, errKinds, structsOf, enumsOf, aliasesOf, constsOf, List.filterMap_cons,
        List.append_assoc, List.cons_append, List.nil_append] using ih
  · intro d e os d' ih
    simpa only [okItems, errKinds, List.map_cons, List.append_assoc, List.cons_append, List.nil_append] using ih

/-- the four item lists put back together are the list, up to order -/
theorem split_perm : ∀ l : List RustItem,
    ((aliasesOf l).map RustItem.alias ++ (structsOf l).map RustItem.struct ++ (enumsOf l).map RustItem.enum ++
      (constsOf l).map RustItem.const).Perm l := by
  intro l
  induction l with
  | nil => simp [aliasesOf, structsOf, enumsOf, constsOf]
  | cons it l ih =>
    -- the new item stands at the head of one of the four lists: move it to the front
    cases it <;>
      simp only [aliasesOf, structsOf, enumsOf, constsOf, List.filterMap_cons, List.map_cons, List.append_assoc,
        List.cons_append] at ih ⊢
    case struct s => exact List.perm_middle.trans (ih.cons _)
    case «enum» e => exact ((List.perm_middle.append_left _).trans List.perm_middle).trans (ih.cons _)
    case alias a => exact ih.cons _
    case const c =>
      exact (((List.perm_middle.append_left _).append_left _).trans
        ((List.perm_middle.append_left _).trans List.perm_middle)).trans (ih.cons _)

/-- reconciliation acts on each of the four item lists separately: `recItem` keeps the kind of an item -/
theorem structsOf_map_rec (c : Str) (r : Renames) (l : List RustItem) :
    structsOf (l.map (recItem c r)) =
      (structsOf l).map fun s => { s with fields := s.fields.map (checkField c r []) } := by
  unfold structsOf
  rw [List.filterMap_map, List.map_filterMap]
  exact congrArg (List.filterMap · l) (funext fun it => by cases it <;> rfl)

theorem enumsOf_map_rec (c : Str) (r : Renames) (l : List RustItem) :
    enumsOf (l.map (recItem c r)) =
      (enumsOf l).map fun e => { e with variants := e.variants.map (checkVariant c r []) } := by
  unfold enumsOf
  rw [List.filterMap_map, List.map_filterMap]
  exact congrArg (List.filterMap · l) (funext fun it => by cases it <;> rfl)

theorem aliasesOf_map_rec (c : Str) (r : Renames) (l : List RustItem) :
    aliasesOf (l.map (recItem c r)) = (aliasesOf l).map fun a => { a with ty := checkType c r [] a.ty } := by
  unfold aliasesOf
  rw [List.filterMap_map, List.map_filterMap]
  exact congrArg (List.filterMap · l) (funext fun it => by cases it <;> rfl)

theorem constsOf_map_rec (c : Str) (r : Renames) (l : List RustItem) :
    constsOf (l.map (recItem c r)) = constsOf l := by
  unfold constsOf
  rw [List.filterMap_map]
  exact congrArg (List.filterMap · l) (funext fun it => by cases it <;> rfl)

/-- the reconciled data of a one-crate, no-import run holds the reconciled parsed items, each once -/
theorem reconciled_perm (c : Str) (d : ParsedData) (P : List RustItem)
    (hs : d.structs = structsOf P) (he : d.enums = enumsOf P) (ha : d.aliases = aliasesOf P)
    (hc : d.consts = constsOf P) (hi : d.importTypes = []) (r : Renames) :
    (C12L.itemsOf (reconcileOne r c d)).Perm (P.map (recItem c r)) := by
  refine List.Perm.trans ?_ (split_perm (P.map (recItem c r)))
  rw [structsOf_map_rec, enumsOf_map_rec, aliasesOf_map_rec, constsOf_map_rec]
  unfold C12L.itemsOf
  simp only [reconcileOne, hi, hs, he, ha, hc, sortBy]
  exact (((List.mergeSort_perm _ _).map _).append ((List.mergeSort_perm _ _).map _)).append
    ((List.mergeSort_perm _ _).map _) |>.append ((List.mergeSort_perm _ _).map _)

/-- the visit of a file that mentions `typeshare`, in terms of the parse half -/
theorem visitFile_single (E : Ext) (ctx : ParseContext) (hmf : ctx.multiFile = false) (crateName fileName path : Str)
    (f : Syn.File) (hm : f.marker = true) :
    visitFile E ctx crateName fileName path f =
      C03.collectAll path { crateName, fileName, multiFile := false } ((sourceItems ctx f).map (C03.parseItem E ctx)) := by
  rw [← Visit.view_id (visitFile ..), Visit.visitFile_view (Visit.blind_id hmf), sourceItems, hm, Bool.true_and,
    Visit.d0, hmf, apply_ite (List.map _)]
  rfl

/-- what `parser::parse` returns for the file, in terms of the parse half -/
theorem parseFile_single (E : Ext) (lang : LangCfg) (targetOs : List Str)
    (pick : List ImportedType → Option ImportedType) (f : SourceFile) :
    ∃ d : ParsedData,
      d.structs = structsOf (parsedItems E (ctxOf lang targetOs) f.file) ∧
      d.enums = enumsOf (parsedItems E (ctxOf lang targetOs) f.file) ∧
      d.aliases = aliasesOf (parsedItems E (ctxOf lang targetOs) f.file) ∧
      d.consts = constsOf (parsedItems E (ctxOf lang targetOs) f.file) ∧
      d.errors = (parseErrs E (ctxOf lang targetOs) f.file).map (fun e => (e, f.path)) ∧
      d.crateName = f.crateName ∧ d.multiFile = false ∧ d.importTypes = [] ∧
      parseFile E (ctxOf lang targetOs) pick f.crateName f.fileName f.path f.file =
        .ok (if Visitor.isEmpty d then none else some d) := by
  obtain ⟨d, hcol, h1, h2, h3, h4, h5, h6, _, h8, h9⟩ := collectAll_spec f.path
    ((sourceItems (ctxOf lang targetOs) f.file).map (C03.parseItem E (ctxOf lang targetOs)))
    { crateName := f.crateName, fileName := f.fileName, multiFile := false }
    (by intro o ho; simp only [List.mem_map] at ho; obtain ⟨it, _, rfl⟩ := ho; exact NoPanic.parseItem_np E _ it)
  refine ⟨d, h1, h2, h3, h4, h5, h6, h8, h9, ?_⟩
  cases hm : f.file.marker with
  | false =>
    -- the quick check of `parser::parse`: nothing is visited, and nothing was collected
    have hsrc : sourceItems (ctxOf lang targetOs) f.file = [] := by simp [sourceItems, hm]
    rw [hsrc] at hcol
    cases hcol
    rw [parseFile, hm]
    rfl
  | true => exact Visit.parseFile_of_visit hm ((visitFile_single E _ rfl _ _ _ _ hm).trans hcol)

/-- **a single-file run**: nothing at all when no annotated item parses or fails; the parse errors
when there are any; otherwise one job for the back end, holding the reconciled parsed items -/
theorem run_single (E : Ext) (lang : LangCfg) (targetOs : List Str)
    (pick : List ImportedType → Option ImportedType) (f : SourceFile) :
    ∃ d' : ParsedData,
      (C12L.itemsOf d').Perm ((parsedItems E (ctxOf lang targetOs) f.file).map
        (recItem f.crateName (renamesFor f.crateName (parsedItems E (ctxOf lang targetOs) f.file)))) ∧
      d'.multiFile = false ∧ d'.crateName = f.crateName ∧
      run E lang false targetOs pick [f] =
        if parsedItems E (ctxOf lang targetOs) f.file = [] ∧ parseErrs E (ctxOf lang targetOs) f.file = [] then
          .ok (.outputs [])
        else if parseErrs E (ctxOf lang targetOs) f.file ≠ [] then
          .ok (.parseErrors ((parseErrs E (ctxOf lang targetOs) f.file).map fun e => (e, f.path)))
        else (genAll E lang false [(f.crateName, d', none)]).bind fun o => .ok (.outputs o) := by
  obtain ⟨d, hs, he, ha, hc, herr, hcr, hmf, himp, hparse⟩ := parseFile_single E lang targetOs pick f
  generalize hP : parsedItems E (ctxOf lang targetOs) f.file = P at *
  generalize hErr : parseErrs E (ctxOf lang targetOs) f.file = errs at *
  let a := addAssign {} d
  have has : a.structs = structsOf P := by rw [← hs]; rfl
  have hae : a.enums = enumsOf P := by rw [← he]; rfl
  have haa : a.aliases = aliasesOf P := by rw [← ha]; rfl
  have hac : a.consts = constsOf P := by rw [← hc]; rfl
  have hai : a.importTypes = [] := by simp [a, addAssign, himp]
  have hren : collectSerdeRenames [(f.crateName, a)] = renamesFor f.crateName P := by
    simp [collectSerdeRenames, renamesFor, has, hae, haa]
  refine ⟨reconcileOne (renamesFor f.crateName P) f.crateName a,
    reconciled_perm f.crateName a P has hae haa hac hai _, by simp [reconcileOne, a, addAssign, hmf],
    by simp [reconcileOne, a, addAssign, hcr], ?_⟩
  have hempty : Visitor.isEmpty d = true ↔ P = [] ∧ errs = [] := by
    have hPe : P = [] ↔ structsOf P = [] ∧ enumsOf P = [] ∧ aliasesOf P = [] ∧ constsOf P = [] := by
      refine ⟨by rintro rfl; exact ⟨rfl, rfl, rfl, rfl⟩, fun ⟨h1, h2, h3, h4⟩ => ?_⟩
      have := split_perm P
      rw [h1, h2, h3, h4] at this
      exact this.nil_eq.symm
    simp only [Visitor.isEmpty, hs, he, ha, hc, herr, Bool.and_eq_true, List.isEmpty_iff, List.map_eq_nil_iff, hPe,
      and_assoc]
  have hpa : parseAll E { ignoredTypes := ignoredTypes lang, multiFile := false, targetOs } pick [f] =
      .ok (if Visitor.isEmpty d then [] else [d]) := by
    have : ({ ignoredTypes := ignoredTypes lang, multiFile := false, targetOs } : ParseContext) = ctxOf lang targetOs := rfl
    simp only [parseAll, this, hparse, Outcome.bind_ok]
    cases Visitor.isEmpty d <;> rfl
  rw [Run.run_of_parse hpa, Run.finish, Run.jobs_single]
  by_cases hem : Visitor.isEmpty d = true
  · rw [if_pos hem, if_pos (hempty.1 hem)]
    show (genAll E lang false []).bind _ = _
    rw [genAll_nil]
    rfl
  · have hne : ¬ (P = [] ∧ errs = []) := fun h => hem (hempty.2 h)
    rw [if_neg hem, if_neg hne]
    have hcollect : collect [d] = [(d.crateName, a)] := by simp [collect, upsert, a]
    have hrec : reconcile [(d.crateName, a)] =
        [(f.crateName, reconcileOne (renamesFor f.crateName P) f.crateName a)] := by
      simp only [reconcile, List.map_cons, List.map_nil, hcr, hren]
    have herrs : allErrors [(f.crateName, reconcileOne (renamesFor f.crateName P) f.crateName a)] =
        errs.map fun e => (e, f.path) := by
      simp [allErrors, reconcileOne, a, addAssign, herr]
    simp only [hcollect, hrec, herrs]
    cases errs with
    | nil => rfl
    | cons x t => rfl

/-! ## reconciliation changes no definition: the `*Defs` of an item only read its kind, its names
and the names / emptiness of its members -/

open TsV.Lang

theorem checkVariant_id (c : Str) (r : Renames) (v : RustEnumVariant) : (checkVariant c r [] v).id = v.id := by
  cases v <;> rfl

theorem structVariantsOf_rec (c : Str) (r : Renames) (e : RustEnum) :
    structVariantsOf { e with variants := e.variants.map (checkVariant c r []) } =
      (structVariantsOf e).map fun p => (p.1, p.2.map (checkField c r [])) := by
  unfold structVariantsOf
  show List.filterMap _ (List.map (checkVariant c r []) e.variants) = _
  rw [List.filterMap_map, List.map_filterMap]
  exact congrArg (List.filterMap · e.variants) (funext fun v => by cases v <;> rfl)

theorem tsDefs_rec (U : UnicodeOps) (c : Str) (r : Renames) (it : RustItem) :
    tsDefs U (recItem c r it) = tsDefs U it := by
  cases it <;> rfl

theorem ktDefs_rec (cfg : Kotlin.Cfg) (c : Str) (r : Renames) (it : RustItem) :
    ktDefs cfg (recItem c r it) = ktDefs cfg it := by
  cases it with
  | struct s => simp [ktDefs, recItem, ktStructKw]
  | alias a => rfl
  | const k => rfl
  | «enum» e =>
    simp only [ktDefs, recItem, structVariantsOf_rec]
    simp [ktStructKw, Function.comp_def]

theorem swDefs_rec (cfg : Swift.Cfg) (c : Str) (r : Renames) (it : RustItem) :
    swDefs cfg (recItem c r it) = swDefs cfg it := by
  cases it with
  | struct s => rfl
  | alias a => rfl
  | const k => rfl
  | «enum» e =>
    simp only [swDefs, recItem, structVariantsOf_rec]
    simp [Function.comp_def]

theorem scDefs_rec (c : Str) (r : Renames) (it : RustItem) : scDefs (recItem c r it) = scDefs it := by
  cases it with
  | struct s => simp [scDefs, recItem, scStructKw]
  | alias a => rfl
  | const k => rfl
  | «enum» e =>
    simp only [scDefs, recItem, structVariantsOf_rec]
    simp [scStructKw, Function.comp_def]

theorem goDefs_rec (U : UnicodeOps) (cfg : Go.Cfg) (c : Str) (r : Renames) (it : RustItem) :
    goDefs U cfg (recItem c r it) = goDefs U cfg it := by
  cases it with
  | struct s => rfl
  | alias a => rfl
  | const k => rfl
  | «enum» e =>
    simp only [goDefs, recItem, structVariantsOf_rec, Outcome.mapM'_map_left]

theorem pyDefs_rec (E : Ext) (c : Str) (r : Renames) (it : RustItem) : pyDefs E (recItem c r it) = pyDefs E it := by
  cases it with
  | struct s => rfl
  | alias a => rfl
  | const k => rfl
  | «enum» e =>
    simp only [pyDefs, recItem, structVariantsOf_rec]
    simp [Function.comp_def, checkVariant_id]

theorem isConst_rec (c : Str) (r : Renames) (it : RustItem) : isConst (recItem c r it) = isConst it := by
  cases it <;> rfl

/-- a file whose only annotated accepted item parses to `p`: the back end gets exactly `[rec p]` -/
theorem run_single_one (E : Ext) (lang : LangCfg) (targetOs : List Str)
    (pick : List ImportedType → Option ImportedType) (f : SourceFile) (p : RustItem)
    (hP : parsedItems E (ctxOf lang targetOs) f.file = [p]) (hE : parseErrs E (ctxOf lang targetOs) f.file = []) :
    ∃ d' : ParsedData, C12L.itemsOf d' = [recItem f.crateName (renamesFor f.crateName [p]) p] ∧
      d'.multiFile = false ∧ d'.crateName = f.crateName ∧
      run E lang false targetOs pick [f] =
        (genAll E lang false [(f.crateName, d', none)]).bind fun o => .ok (.outputs o) := by
  obtain ⟨d', hperm, hmf, hcr, hrun⟩ := run_single E lang targetOs pick f
  rw [hP] at hperm hrun
  rw [hE] at hrun
  refine ⟨d', by simpa using hperm, hmf, hcr, ?_⟩
  rw [hrun]
  simp

theorem filterMap_none {α β} (l : List α) : l.filterMap (fun _ => (none : Option β)) = [] := by
  induction l <;> simp_all

theorem structsOf_itemsOf (d : ParsedData) : structsOf (C12L.itemsOf d) = d.structs := by
  simp [structsOf, C12L.itemsOf, List.filterMap_append, List.filterMap_map, Function.comp_def, filterMap_none]
theorem enumsOf_itemsOf (d : ParsedData) : enumsOf (C12L.itemsOf d) = d.enums := by
  simp [enumsOf, C12L.itemsOf, List.filterMap_append, List.filterMap_map, Function.comp_def, filterMap_none]
theorem aliasesOf_itemsOf (d : ParsedData) : aliasesOf (C12L.itemsOf d) = d.aliases := by
  simp [aliasesOf, C12L.itemsOf, List.filterMap_append, List.filterMap_map, Function.comp_def, filterMap_none]
theorem constsOf_itemsOf (d : ParsedData) : constsOf (C12L.itemsOf d) = d.consts := by
  simp [constsOf, C12L.itemsOf, List.filterMap_append, List.filterMap_map, Function.comp_def, filterMap_none]

/-- a job whose item list is one enum holds exactly that enum -/
theorem itemsOf_enum (d : ParsedData) (e : RustEnum) (h : C12L.itemsOf d = [.enum e]) :
    d.aliases = [] ∧ d.structs = [] ∧ d.enums = [e] ∧ d.consts = [] :=
  ⟨by rw [← aliasesOf_itemsOf d, h]; rfl, by rw [← structsOf_itemsOf d, h]; rfl,
    by rw [← enumsOf_itemsOf d, h]; rfl, by rw [← constsOf_itemsOf d, h]; rfl⟩

end TsV.C03E
