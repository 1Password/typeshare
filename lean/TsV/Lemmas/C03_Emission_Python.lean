import TsV.Lemmas.C03_Emission_Common
import TsV.Lemmas.C02_Python
/-!
# C03, emission clause — Python
-/
namespace TsV.C03E.Py
open TsV TsV.Lang TsV.Lang.Python TsV.C03E

/-- the blocks come after the doc-string header, the imports / `TypeVar` declarations and the
custom JSON helper functions (all three computed from the final printer state: the state `st1` the
items leave, plus the `datetime` import when the datetime functions are written) -/
theorem generate_blocks (E : Ext) (cfg : Cfg) (d : ParsedData) (st0 : St) (text : Str) (st : St)
    (h : generate E cfg d st0 = .ok (text, st)) :
    ∃ items blocks st1, Pipeline.generateOrder d = some items ∧ Threaded (writeItem E cfg) items st0 blocks st1 ∧
      st = addDatetimeImport st1 ∧
      text = beginFile cfg ++ writeAllImports st ++ writeCustomFns st ++ blocks.flatten := by
  obtain ⟨items, body, st1, ho, hb, hst, rfl⟩ := C12L.Python.generate_ok h
  obtain ⟨blocks, hth, rfl⟩ :=
    Threaded.of_writeItems (ws := writeItems E cfg) (fun _ => rfl) (fun _ _ _ => rfl) items st0 body st1 hb
  exact ⟨items, blocks, st1, ho, hth, hst, rfl⟩

theorem hashComments_lineStart (n : Nat) (cs : List Str) : LineStart (hashComments n cs) := by
  unfold hashComments
  split
  · exact lineStart_nil
  · exact lineStart_append_right _ (by simp [nl])

theorem nameEnd_bracketSuffix (gs : List Str) {q : Str} (h : NameEnd q) : NameEnd (bracketSuffix gs ++ q) := by
  unfold bracketSuffix
  split
  · simpa using h
  · exact nameEnd_append _ (nameEnd_cons _ (by decide))

theorem renderClass_defines (c : PyClass) : DefinesHead s%"class " c.name (renderClass c) := by
  unfold renderClass
  simp only [List.append_assoc]
  exact definesHead_r0 _ (nameEnd_cons _ (by decide))

theorem renderEnumClass_defines (c : PyEnumClass) : DefinesHead s%"class " c.name (renderEnumClass c) := by
  unfold renderEnumClass
  simp only [List.append_assoc]
  exact definesHead_r0 _ (nameEnd_cons _ (by decide))

theorem renderVariant_defines (v : PyVariant) : DefinesHead s%"class " v.className (renderVariant v) := by
  unfold renderVariant
  simp only [List.append_assoc]
  exact definesHead_r0 _ (nameEnd_cons _ (by decide))

theorem renderUnion_aux (u : PyUnion) (tail : Str) (hl : DefinesHead [] u.name (hashComments 0 u.comments ++ tail)) :
    SplitsInto ((u.inner.map fun c => (s%"class ", c.name)) ++ [(s%"class ", u.typesName)] ++
      (u.variants.map fun v => (s%"class ", v.className)) ++ [([], u.name)])
      ((u.inner.flatMap renderClass) ++ s%"class " ++ u.typesName ++ s%"(str, Enum):\n" ++
        Str.intercalate nl (u.tags.map fun m => s%"    " ++ m.name ++ s%" = \"" ++ m.wire ++ s%"\"") ++ nl ++ nl ++
        (u.variants.flatMap renderVariant) ++ hashComments 0 u.comments ++ tail) := by
  rw [List.append_assoc _ (hashComments 0 u.comments) tail]
  refine splitsInto_snoc (splitsInto_append_flatMap (fun v => (s%"class ", v.className)) renderVariant _ ?_
    fun v _ => renderVariant_defines v) hl
  iterate 3 apply splitsInto_text
  exact splitsInto_snoc_head₀ _ (splitsInto_flatMap _ _ _ fun c _ => renderClass_defines c)
    (nameEnd_cons _ (by decide))

/-- an algebraic enum: helper classes, the `Types` enumeration, one class per variant, the union -/
theorem renderUnion_splits (u : PyUnion) :
    SplitsInto ((u.inner.map fun c => (s%"class ", c.name)) ++ [(s%"class ", u.typesName)] ++
      (u.variants.map fun v => (s%"class ", v.className)) ++ [([], u.name)]) (renderUnion u) := by
  unfold renderUnion
  split
  · refine renderUnion_aux u _ ?_
    simp only [List.append_assoc]
    exact definesHead_r (kw := []) _ _ (hashComments_lineStart _ _) (nameEnd_cons _ (by decide))
  · refine renderUnion_aux u _ ?_
    simp only [List.append_assoc]
    exact definesHead_r (kw := []) _ _ (hashComments_lineStart _ _) (nameEnd_cons _ (by decide))

theorem innerFacts_heads {E : Ext} {cfg : Cfg} {e : RustEnum} {vs : List (Id × List RustField)} {st st' : St}
    {cs : List PyClass} (h : innerFacts E cfg e vs st = .ok (cs, st')) :
    (cs.map fun c => (s%"class ", c.name)) = vs.map fun p => (s%"class ", e.id.renamed ++ p.1.original ++ s%"Inner") :=
  Outcome.thread_map (fs := innerFacts E cfg e)
    (f := fun p st => structFacts E cfg (anonymousStruct e (innerName e p.1.original) p.1.original p.2) st)
    (fun _ => rfl) (fun _ _ _ => rfl) _ _
    (fun p st c st' hc => let ⟨_, _, _, e⟩ := structFacts_inv hc; e ▸ rfl) h

theorem variantsFacts_heads {E : Ext} {cfg : Cfg} {e : RustEnum} {tag content : Str} {vs : List RustEnumVariant}
    {st st' : St} {pvs : List PyVariant} (h : variantsFacts E cfg e tag content vs st = .ok (pvs, st')) :
    (pvs.map fun v => (s%"class ", v.className)) = vs.map fun v => (s%"class ", e.id.renamed ++ v.id.original) :=
  Outcome.thread_map (fs := variantsFacts E cfg e tag content) (f := variantFacts E cfg e tag content)
    (fun _ => rfl) (fun _ _ _ => rfl) _ _
    (fun v st pv st' hpv => let ⟨_, e, _⟩ := variantFacts_inv hpv; e ▸ rfl) h

/-- the records written for an algebraic enum carry exactly the keywords and names `pyDefs` lists -/
theorem unionFacts_heads {E : Ext} {cfg : Cfg} {e : RustEnum} {tag content : Str} {st st' : St} {u : PyUnion}
    (hk : e.keys = some (tag, content)) (h : unionFacts E cfg e tag content st = .ok (u, st')) :
    (u.inner.map fun c => (s%"class ", c.name)) ++ [(s%"class ", u.typesName)] ++
      (u.variants.map fun v => (s%"class ", v.className)) ++ [([], u.name)] = pyDefs E (.enum e) := by
  obtain ⟨inner, _, _, variants, _, hi, hv, rfl⟩ := unionFacts_inv h
  simp only [pyDefs, hk, structVariantsOf_eq, innerFacts_heads hi, variantsFacts_heads hv, List.append_assoc]

/-- **the block of an item splits into exactly the definitions `pyDefs` lists** -/
theorem block_defines (E : Ext) (cfg : Cfg) (it : RustItem) (st : St) (b : Str) (st' : St)
    (h : writeItem E cfg it st = .ok (b, st')) : SplitsInto (pyDefs E it) b := by
  cases it with
  | struct s =>
    obtain ⟨c, hc, rfl⟩ := Outcome.bind_ret_ok.1 h
    obtain ⟨_, _, _, rfl⟩ := structFacts_inv hc
    exact splitsInto_single (renderClass_defines _)
  | alias a =>
    obtain ⟨pa, hpa, rfl⟩ := Outcome.bind_ret_ok.1 h
    obtain ⟨_, _, _, _, rfl⟩ := aliasFacts_inv hpa
    exact splitsInto_single (definesHead_append _ (definesHead_append _ (definesHead_append _
      (definesHead_head₀ (kw := []) _ (nameEnd_cons _ (by decide))))))
  | const c =>
    obtain ⟨pc, hpc, rfl⟩ := Outcome.bind_ret_ok.1 h
    obtain ⟨_, _, rfl⟩ := constFacts_inv hpc
    exact splitsInto_single (definesHead_append _ (definesHead_append _ (definesHead_append _ (definesHead_append _
      (definesHead_head₀ (kw := []) _ (nameEnd_cons _ (by decide)))))))
  | «enum» e =>
    obtain ⟨d, hd, rfl⟩ := C02.Py.writeEnum_inv h
    rcases C02.Py.enumFacts_inv hd with ⟨hk, inner, _, members, hi, _, _, rfl⟩ | ⟨tag, content, u, hk, hu, rfl⟩
    · have hdefs : pyDefs E (.enum e) = (inner.map fun c => (s%"class ", c.name)) ++ [(s%"class ", e.id.renamed)] := by
        simp only [pyDefs, hk, structVariantsOf_eq, innerFacts_heads hi]
      rw [hdefs]
      exact splitsInto_snoc (splitsInto_flatMap _ _ _ fun c _ => renderClass_defines c)
        (renderEnumClass_defines ⟨e.id.renamed, e.comments, members⟩)
    · rw [← unionFacts_heads hk hu]
      exact renderUnion_splits u

theorem generateAll_single (E : Ext) (cfg : Cfg) (mf : Bool) (c : Str) (d : ParsedData)
    (imps : Option Pipeline.ScopedCrateTypes) :
    generateAll E cfg mf [(c, d, imps)] = (generate E cfg d {}).bind fun r => .ok [(c, r.1)] := by
  simp only [generateAll, generateFrom]
  generalize generate E cfg d {} = g
  cases g <;> rfl

theorem generateAll_nil (E : Ext) (cfg : Cfg) (mf : Bool) : generateAll E cfg mf [] = .ok [] := rfl

end TsV.C03E.Py
