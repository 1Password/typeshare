import TsV.Lemmas.C12_Modules_Python
import TsV.Lemmas.C12_Scala
import TsV.Lemmas.C12_Go
import TsV.Lemmas.C12_TypeScript
/-!
# C12_Modules — the modules of a folder run, one by one

`generateAll … jobs` writes one module per crate, the printer state of one module being the start
state of the next (Python, Go, TypeScript; Swift's flag is handled in `Lemmas/C14_Helpers.lean`;
Scala and Kotlin have no state).  For each back end: every output of the run is what `generate`
writes for that crate's data from *some* start state — for Python a state that satisfies the run
invariant `Py.Inv` and that provides everything the start state of the run provided.
-/
namespace TsV.C12_Modules
open TsV TsV.Lang TsV.C12L

/-- the same without a printer state -/
theorem plain_each {step : Job → Outcome Str} {run : List Job → Outcome (List (Str × Str))}
    (nil : run [] = .ok [])
    (cons : ∀ j rest, run (j :: rest) = (step j).bind fun text => (run rest).bind fun outs => .ok ((j.1, text) :: outs)) :
    ∀ (jobs : List Job) (res : List (Str × Str)), run jobs = .ok res →
      res.map (·.1) = jobs.map (·.1) ∧ ∀ p ∈ jobs.zip res, step p.1 = .ok p.2.2 := by
  intro jobs
  induction jobs with
  | nil =>
    intro res h
    rw [nil] at h; cases h
    exact ⟨rfl, fun p hp => nomatch hp⟩
  | cons j rest ih =>
    intro res h
    rw [cons] at h
    obtain ⟨text, h1, h2⟩ := Outcome.of_bind_ok h
    obtain ⟨outs, h3, h4⟩ := Outcome.of_bind_ok h2
    cases h4
    obtain ⟨hn, hall⟩ := ih outs h3
    refine ⟨congrArg (j.1 :: ·) hn, fun p hp => ?_⟩
    rcases List.mem_cons.1 hp with rfl | hp
    · exact h1
    · exact hall p hp

namespace Py
open Python TsV.C12L.Python

theorem generateFrom_each (E : Ext) (cfg : Cfg) (jobs : List Job) (st0 : St) (res : List (Str × Str))
    (h : generateFrom E cfg jobs st0 = .ok res) (hi : Inv st0) :
    res.map (·.1) = jobs.map (·.1) ∧
    ∀ p ∈ jobs.zip res, ∃ stIn st, Inv stIn ∧ Mono st0 stIn ∧ generate E cfg p.1.2.1 stIn = .ok (p.2.2, st) :=
  threaded_each (step := fun j st => generate E cfg j.2.1 st) (fun _ => rfl) (fun _ _ _ => rfl)
    Mono.refl Mono.trans jobs st0 res
    (fun _ _ st text st' h hi => ⟨generate_inv E cfg _ st text st' h hi, (generate_spec E cfg _ st text st' h).1⟩) h hi

/-- consecutive modules: the state the later one is written from provides everything the earlier
one's did -/
theorem generateFrom_grows (E : Ext) (cfg : Cfg) : ∀ (jobs : List Job) (st0 : St) (res : List (Str × Str)),
    generateFrom E cfg jobs st0 = .ok res →
    ∃ sts : List St, sts.length = jobs.length ∧ sts.Pairwise Mono ∧ (∀ s ∈ sts, Mono st0 s) ∧
      ∀ p ∈ (jobs.zip res).zip sts, ∃ body,
        p.1.2.2 = beginFile cfg ++ writeAllImports p.2 ++ writeCustomFns p.2 ++ body := by
  intro jobs
  induction jobs with
  | nil => intro st0 res h; refine ⟨[], rfl, .nil, ?_, ?_⟩ <;> intro _ hx <;> cases hx
  | cons j rest ih =>
    intro st0 res h
    obtain ⟨⟨text, st1⟩, h1, h⟩ := Outcome.of_bind_ok h
    obtain ⟨outs, h2, h3⟩ := Outcome.of_bind_ok h
    cases h3
    obtain ⟨hm1, _, body, hb⟩ := generate_spec E cfg j.2.1 st0 text st1 h1
    obtain ⟨sts, hl, hp, hall, hz⟩ := ih st1 outs h2
    refine ⟨st1 :: sts, congrArg (· + 1) hl, List.pairwise_cons.2 ⟨hall, hp⟩, ?_, ?_⟩
    · intro s hs
      rcases List.mem_cons.1 hs with rfl | hs
      · exact hm1
      · exact hm1.trans (hall s hs)
    · intro p hp'
      rcases List.mem_cons.1 hp' with rfl | hp'
      · exact ⟨body, hb⟩
      · exact hz p hp'

end Py

namespace Sc
open Scala

/-- Scala has no printer state: every module is `generate` of its own data -/
theorem generateFrom_each (cfg : Cfg) (jobs : List Job) (res : List (Str × Str))
    (h : generateFrom cfg jobs = .ok res) :
    res.map (·.1) = jobs.map (·.1) ∧ ∀ p ∈ jobs.zip res, generate cfg p.1.2.1 = .ok p.2.2 :=
  plain_each (step := fun j => generate cfg j.2.1) rfl (fun _ _ => rfl) jobs res h

end Sc

namespace Kt
open Kotlin

/-- Kotlin has no printer state either -/
theorem generateFrom_each (cfg : Cfg) (jobs : List Job) (res : List (Str × Str))
    (h : generateFrom cfg jobs = .ok res) :
    res.map (·.1) = jobs.map (·.1) ∧ ∀ p ∈ jobs.zip res, generate cfg p.1.2.1 p.1.2.2 = .ok p.2.2 :=
  plain_each (step := fun j => generate cfg j.2.1 j.2.2) rfl (fun _ _ => rfl) jobs res h

end Kt

namespace Go
open Go

theorem generateFrom_each (U : UnicodeOps) (cfg : Cfg) (jobs : List Job) (st0 : Imports) (res : List (Str × Str))
    (h : generateFrom U cfg jobs st0 = .ok res) :
    res.map (·.1) = jobs.map (·.1) ∧ ∀ p ∈ jobs.zip res, ∃ stIn st, generate U cfg p.1.2.1 stIn = .ok (p.2.2, st) :=
  have ⟨hn, hall⟩ := threaded_each (step := fun j st => generate U cfg j.2.1 st) (I := fun _ => True)
    (R := fun _ _ => True) (fun _ => rfl) (fun _ _ _ => rfl) (fun _ => trivial) (fun _ _ => trivial) jobs st0 res
    (fun _ _ _ _ _ _ _ => ⟨trivial, trivial⟩) h trivial
  ⟨hn, fun p hp => let ⟨stIn, st, _, _, hg⟩ := hall p hp; ⟨stIn, st, hg⟩⟩

end Go

namespace TS
open TypeScript

theorem generateFrom_each (U : UnicodeOps) (cfg : Cfg) (jobs : List Job) (st0 : CustomMap) (res : List (Str × Str))
    (h : generateFrom U cfg jobs st0 = .ok res) :
    res.map (·.1) = jobs.map (·.1) ∧
    ∀ p ∈ jobs.zip res, ∃ stIn st, generate U cfg p.1.2.1 p.1.2.2 stIn = .ok (p.2.2, st) :=
  have ⟨hn, hall⟩ := threaded_each (step := fun j st => generate U cfg j.2.1 j.2.2 st) (I := fun _ => True)
    (R := fun _ _ => True) (fun _ => rfl) (fun _ _ _ => rfl) (fun _ => trivial) (fun _ _ => trivial) jobs st0 res
    (fun _ _ _ _ _ _ _ => ⟨trivial, trivial⟩) h trivial
  ⟨hn, fun p hp => let ⟨stIn, st, _, _, hg⟩ := hall p hp; ⟨stIn, st, hg⟩⟩

end TS

end TsV.C12_Modules
