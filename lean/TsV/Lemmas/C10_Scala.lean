import TsV.Lemmas.C10_Type
import TsV.Lemmas.RustTypes
import TsV.Lemmas.Lang.Scala
/-!
# C10 — Scala: every declaration the model renders is lexically well-formed
-/
namespace TsV.C10Scala
open TsV TsV.Lang TsV.C10Lex TsV.Lang.Scala

/-- Scala's lexer: generics are `[…]`, `<`/`>` mean nothing -/
def S : LexCfg := ⟨false, false⟩

def CfgOk (cfg : Cfg) : Prop := ∀ p ∈ cfg.typeMappings, wellBracketed S p.2 = true

theorem CfgOk.mapped {cfg : Cfg} (H : CfgOk cfg) {k v : Str} (h : mapGet cfg.typeMappings k = some v) : NB S v :=
  mapGet_nb H h

theorem bracket_nb (ps : List Str) (h : ∀ p ∈ ps, NB S p) : NB S (bracket ps) :=
  NB.square (NB.intercalate _ nb_commaSep ps h)

theorem genericSq_nb (gs : List Str) (h : ∀ g ∈ gs, IdentStr g) : NB S (genericSq gs) := by
  unfold genericSq
  split
  · exact NB.nil
  · exact bracket_nb gs fun g hg => IdentStr.nb (h g hg)

theorem formatType_nb {cfg : Cfg} (H : CfgOk cfg) (gens : List Str) (t : RustType) :
    ∀ (s : Str), TypeOk t → formatType cfg gens t = .ok s → NB S s :=
  fun _ ht h => C05L.pure_nb (lx := S) (c := C05L.tcfgSc cfg) .scala ⟨fun _ h => (by cases h), H⟩ gens ht (C05L.sc_formatType cfg gens t) h

/-- doc lines: no line break (C15's class for `//` comments) -/
def DocsOk (cs : List Str) : Prop := ∀ c ∈ cs, '\n' ∉ c
instance (cs : List Str) : Decidable (DocsOk cs) := by unfold DocsOk; infer_instance

theorem comments_nb (n : Nat) (cs : List Str) (h : DocsOk cs) : NB S (comments n cs) :=
  NB.flatMap _ _ fun c hc => NB.commentLine n s%" " c (by decide) (h c hc)

abbrev FieldOk := FieldScope Lang.scala S DocsOk
abbrev StructOk := StructScope Lang.scala S DocsOk
abbrev AliasOk := AliasScope DocsOk
abbrev VariantOk := VariantScope Lang.scala S DocsOk
abbrev EnumOk := EnumScope Lang.scala S DocsOk

structure ParamOk (p : ScParam) : Prop where
  docs : DocsOk p.comments
  name : NB S p.name
  ty : NB S p.ty
  default : NB S p.default

theorem renderParam_nb (p : ScParam) (h : ParamOk p) : NB S (renderParam p) :=
  (Tr.h0 (comments_nb 1 _ h.docs)).l.h h.name |>.l.h h.ty |>.h h.default |>.nb (by decide +kernel)

theorem paramFacts_ok {cfg : Cfg} (H : CfgOk cfg) (gens : List Str) (f : RustField) (p : ScParam)
    (hf : FieldOk f) (h : paramFacts cfg gens f = .ok p) : ParamOk p := by
  obtain ⟨ty, hty, rfl⟩ := Outcome.of_bind_ret h
  refine ⟨hf.docs, KeyStr.nb (replaceDash_key hf.key), ?_, ?_⟩
  · split at hty
    · rename_i t ht; cases hty; exact nb_of_wb (hf.override _ ht)
    · exact formatType_nb H gens f.ty ty hf.ty hty
  · exact (Tr.ite _ .lit (.ite _ .lit .nil)).nb (by decide +kernel)

structure ClassOk (c : ScClass) : Prop where
  docs : DocsOk c.comments
  name : NB S c.name
  generics : ∀ g ∈ c.generics, IdentStr g
  params : ∀ p ∈ c.params, ParamOk p

theorem renderClass_nb (c : ScClass) (h : ClassOk c) : NB S (renderClass c) := by
  unfold renderClass
  refine (comments_nb 0 _ h.docs).append ?_
  split
  · exact Tr.l0.h h.name |>.l.nb (by decide +kernel)
  · refine Tr.l0.h h.name |>.h (genericSq_nb _ h.generics) |>.l.h (NB.intercalate _ (Tr.l0.nb (by decide +kernel)) _ fun x hx => ?_)
      |>.l.nb (by decide +kernel)
    obtain ⟨p, hp, rfl⟩ := List.mem_map.1 hx
    exact renderParam_nb p (h.params p hp)

theorem classFacts_ok {cfg : Cfg} (H : CfgOk cfg) (rs : RustStruct) (c : ScClass) (hs : StructOk rs)
    (h : classFacts cfg rs = .ok c) : ClassOk c := by
  obtain ⟨params, hp, rfl⟩ := Outcome.of_bind_ret h
  refine ⟨hs.docs, KeyStr.nb hs.name, hs.generics, ?_⟩
  intro p hpm
  obtain ⟨f, hf, hfp⟩ := Outcome.mapM'_ok_mem hp p hpm
  exact paramFacts_ok H _ f p (hs.fields f hf) hfp

theorem aliasFacts_nb {cfg : Cfg} (H : CfgOk cfg) (a : RustTypeAlias) (f : ScAlias) (ha : AliasOk a)
    (h : aliasFacts cfg a = .ok f) : NB S (renderAlias f) := by
  obtain ⟨ty, hty, rfl⟩ := Outcome.of_bind_ret h
  exact (Tr.h0 (comments_nb 0 _ ha.docs)).l.h (KeyStr.nb ha.renamed) |>.h (genericSq_nb _ ha.generics) |>.l.h
    (formatType_nb H _ a.ty ty ha.ty hty) |>.l.nb (by decide +kernel)

structure CaseOk (c : ScCase) : Prop where
  docs : DocsOk c.comments
  name : NB S c.name
  content : ∀ x, c.content = some x → (∀ g ∈ x.1, IdentStr g) ∧ NB S x.2.1 ∧ NB S x.2.2
  parent : NB S c.parent
  parentGenerics : ∀ g ∈ c.parentGenerics, IdentStr g

theorem renderCase_nb (c : ScCase) (h : CaseOk c) : NB S (renderCase c) := by
  refine (Tr.h0 (comments_nb 1 _ h.docs)).h ?_ |>.l.h h.parent |>.h (genericSq_nb _ h.parentGenerics) |>.l.l.h
    (NB.debugStr c.serialName) |>.l.nb (by decide +kernel)
  split
  · exact Tr.l0.h h.name |>.nb (by decide +kernel)
  · rename_i gs p ty heq
    obtain ⟨hg, hp, hty⟩ := h.content _ heq
    exact Tr.l0.h h.name |>.h (genericSq_nb _ hg) |>.l.h hp |>.l.h hty |>.l.nb (by decide +kernel)

theorem variantName_ident {s : Str} (h : IdentStr s) : IdentStr (variantName s) := h.guard

theorem caseFacts_ok {cfg : Cfg} (H : CfgOk cfg) (e : RustEnum) (he : EnumOk e) (v : RustEnumVariant)
    (hv : VariantOk v) (c : ScCase) (h : caseFacts cfg e v = .ok c) : CaseOk c := by
  cases caseFacts_inv h with
  | unit _ => exact ⟨hv.docs, IdentStr.nb hv.original, (by intro x hx; cases hx), KeyStr.nb he.renamed, (by simp)⟩
  | @algebraic tag contentKey content hk hc =>
    have hck := he.content _ hk
    refine ⟨hv.docs, IdentStr.nb (variantName_ident hv.original), fun x hx => ?_, KeyStr.nb he.renamed, he.generics⟩
    obtain rfl : content = some x := hx
    cases v with
    | unit id cs => cases hc
    | tuple id cs ty =>
      obtain ⟨t, ht, hx⟩ := Outcome.of_bind_ret hc
      obtain rfl := Option.some.inj hx
      exact ⟨he.generics, KeyStr.nb hck, formatType_nb H _ ty t hv.2.2.2 ht⟩
    | anonymousStruct id cs fs =>
      obtain rfl := Option.some.inj (Outcome.ok.inj hc)
      exact ⟨he.generics, KeyStr.nb hck, (Tr.h0 (KeyStr.nb he.renamed)).h (IdentStr.nb hv.original) |>.l.h
        (genericSq_nb _ fun g hg => he.generics g (usedGenerics_mem _ fs g hg)) |>.nb (by decide +kernel)⟩

theorem innerClasses_ok {cfg : Cfg} (H : CfgOk cfg) (e : RustEnum) (he : EnumOk e) (cs : List ScClass)
    (h : innerClasses cfg e = .ok cs) : ∀ c ∈ cs, ClassOk c := by
  intro c hc
  obtain ⟨p, hmem, hcf⟩ := Outcome.mapM'_ok_mem h c hc
  obtain ⟨hid, hfs⟩ := structVariants_scope e he p hmem
  exact classFacts_ok H _ c (anonymousStruct_scope he
    (KeyStr.append (KeyStr.append he.renamed (IdentStr.key hid)) (by decide : KeyStr s%"Inner"))
    (anonymousStruct_docs e _ _ p.2 hid he.original) hfs) hcf

theorem enumFacts_nb {cfg : Cfg} (H : CfgOk cfg) (e : RustEnum) (he : EnumOk e) (f : ScEnum)
    (h : enumFacts cfg e = .ok f) : NB S (renderEnum f) := by
  obtain ⟨inner, cases, hi, hc, rfl⟩ := enumFacts_inv h
  have hin := innerClasses_ok H e he inner hi
  have hcs : ∀ c ∈ cases, CaseOk c := by
    intro c hcm
    obtain ⟨v, hv, hvc⟩ := Outcome.mapM'_ok_mem hc c hcm
    exact caseFacts_ok H e he v (he.variants v hv) c hvc
  exact (Tr.h0 (NB.flatMap renderClass inner fun c hcm => renderClass_nb c (hin c hcm))).h (comments_nb 0 _ he.docs)
    |>.l.h (KeyStr.nb he.renamed) |>.h (genericSq_nb _ he.generics) |>.l.l.l.l.h (KeyStr.nb he.renamed) |>.l.h
    (NB.flatMap renderCase cases fun c hcm => renderCase_nb c (hcs c hcm)) |>.l.nb (by decide +kernel)

theorem span_loop_append (p : Char → Bool) : ∀ (l acc : List Char),
    (List.span.loop p l acc).1 ++ (List.span.loop p l acc).2 = acc.reverse ++ l := by
  intro l
  induction l with
  | nil => intro acc; simp [List.span.loop]
  | cons a t ih =>
    intro acc
    simp only [List.span.loop]
    split
    · rw [ih (a :: acc)]; simp
    · simp

theorem span_append (p : Char → Bool) (l : List Char) : (l.span p).1 ++ (l.span p).2 = l := by
  simpa [List.span] using span_loop_append p l []

/-- the two halves `rsplit_once('.')` returns consist of characters of the string -/
theorem rsplitOnceDot_mem {s parent last : Str} (h : rsplitOnceDot s = some (parent, last)) :
    (∀ c ∈ parent, c ∈ s) ∧ (∀ c ∈ last, c ∈ s) := by
  unfold rsplitOnceDot at h
  have happ := span_append (· != '.') s.reverse
  split at h
  · cases h
  · rename_i lastRev x parentRev heq
    cases h
    rw [heq] at happ
    have hm : ∀ c, c ∈ lastRev ++ x :: parentRev → c ∈ s := by
      intro c hc; rw [happ] at hc; exact List.mem_reverse.1 hc
    exact ⟨fun c hc => hm c (by simp [List.mem_reverse.1 hc]), fun c hc => hm c (by simp [List.mem_reverse.1 hc])⟩

theorem dotted_of_subset {s t : Str} (hs : Dotted s) (h : ∀ c ∈ t, c ∈ s) : Dotted t := fun c hc => hs c (h c hc)

/-- `last_package_segment()` of a dotted name is a dotted fragment (the whole name when it has no dot) -/
theorem lastPackageSegment_dotted {pkg : Str} (h : Dotted pkg) : Dotted (lastPackageSegment pkg) := by
  unfold lastPackageSegment
  split
  · rename_i parent last hsp; exact dotted_of_subset h (rsplitOnceDot_mem hsp).2
  · exact h

/-- a file in scope: every piece of it is, the version text, the parent package (when there is one)
and the innermost package name are dotted identifier fragments.  (Since the `fix:` commit 653aee1
the package name need not contain a dot: `package object <last> {` / `package <last> {` are always
written, so their closing braces are always matched.) -/
structure FileOk (f : ScFile) : Prop where
  version : ∀ v, f.header = some v → Dotted v
  parent : ∀ p, f.parent = some p → Dotted p
  last : Dotted f.last
  aliases : ∀ x, f.packageObject = some x → ∀ a ∈ x.2, NB S (renderAlias a)
  body : ∀ x, f.packageBody = some x → (∀ c ∈ x.1, ClassOk c) ∧ ∀ e ∈ x.2, NB S (renderEnum e)

theorem renderFile_nb (f : ScFile) (h : FileOk f) : NB S (renderFile f) := by
  have hlast := h.last
  unfold renderFile
  refine NB.append (NB.append (NB.append ?_ ?_) ?_) ?_
  · split
    · rename_i v hv
      exact Tr.l0.b (dotted_block v (h.version v hv)) |>.l.nb (by decide +kernel)
    · exact NB.nil
  · split
    · rename_i p hp
      exact Tr.l0.h (h.parent p hp).nb |>.l.nb (by decide +kernel)
    · exact NB.nil
  · split
    · rename_i unsigned aliases hpo
      exact Tr.l0.h hlast.nb |>.l.append (.ite _ .lit .nil) |>.h (NB.flatMap renderAlias aliases (h.aliases _ hpo)) |>.l.nb
        (by decide +kernel)
    · exact NB.nil
  · split
    · rename_i classes enums hpb
      obtain ⟨hc, he⟩ := h.body _ hpb
      exact Tr.l0.h hlast.nb |>.l.h (NB.flatMap renderClass classes fun c hcm => renderClass_nb c (hc c hcm))
        |>.h (NB.flatMap renderEnum enums he) |>.l.nb (by decide +kernel)
    · exact NB.nil

structure DataOk (d : ParsedData) : Prop where
  structs : ∀ s ∈ d.structs, StructOk s
  enums : ∀ e ∈ d.enums, EnumOk e
  aliases : ∀ a ∈ d.aliases, AliasOk a

theorem fileFacts_ok {cfg : Cfg} (H : CfgOk cfg) (d : ParsedData) (hd : DataOk d) (f : ScFile)
    (hv : ∀ v, cfg.versionHeader = some v → Dotted v)
    (hpkg : Dotted cfg.package)
    (h : fileFacts cfg d = .ok f) : FileOk f := by
  obtain ⟨-, -, as, cs, es, has, hcs, hes, rfl⟩ := fileFacts_inv h
  refine ⟨hv, ?_, lastPackageSegment_dotted hpkg, fun x hx a ha => ?_, fun x hx => ⟨fun c hc => ?_, fun e he => ?_⟩⟩
  · intro p hp
    obtain ⟨⟨parent, last⟩, hsp, rfl⟩ := Option.map_eq_some_iff.1 hp
    exact dotted_of_subset hpkg (rsplitOnceDot_mem hsp).1
  · obtain ⟨-, rfl⟩ := fileOf_object hx
    obtain ⟨ra, hra, hfa⟩ := Outcome.mapM'_ok_mem has a ha
    exact aliasFacts_nb H ra a (hd.aliases ra hra) hfa
  · obtain ⟨-, rfl⟩ := fileOf_body hx
    obtain ⟨rs, hrs, hfc⟩ := Outcome.mapM'_ok_mem hcs c hc
    exact classFacts_ok H rs c (hd.structs rs hrs) hfc
  · obtain ⟨-, rfl⟩ := fileOf_body hx
    obtain ⟨re, hre, hfe⟩ := Outcome.mapM'_ok_mem hes e he
    exact enumFacts_nb H re (hd.enums re hre) e hfe

end TsV.C10Scala
