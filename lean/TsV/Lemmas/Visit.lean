import TsV.Lemmas.Outcome
import TsV.Model.Visitor
/-!
# What the visitor records, in every mode

The visitor does two things to a `ParsedData`: it records the parse of each annotated, accepted item (`collect_result`),
and, in folder mode, it inserts imports, which depend on the data only through its crate name.  `visit_eq`: a visit
*is* the fold of these two kinds of steps (`Ev`) over a list read off the syntax (`events`), in every mode, failures
included; what holds of a visit is then a fact about a fold over a list (`run_ok_rec`, `run_preserves`).
`visit_view` separates the two: under any view `π` of `ParsedData` that import insertion does not change and that
commutes with `collect_result`, a visit is the fold of `collect_result` over the parse outcomes of the annotated
items, in visit order.  `forget` (drop the raw import set) is such a view in both modes, the identity is one in
single-file mode.  Everything that does not speak of the raw import set — which items are recorded, in which order,
with which errors, whether the visit panics, invariants of the item lists, and that two item lists with the same
annotated items are visited alike — needs the outcomes only.
-/
namespace TsV.C03
open TsV TsV.Syn TsV.Parser TsV.Visitor

mutual
  /-- the annotated, accepted items of a file in visit order -/
  def annotated (ctx : ParseContext) : Item → List Item
    | .struct a i g f => if accepted ctx a then [.struct a i g f] else []
    | .enum a i g v => if accepted ctx a then [.enum a i g v] else []
    | .alias a i g t => if accepted ctx a then [.alias a i g t] else []
    | .const a i t l => if accepted ctx a then [.const a i t l] else []
    | .use _ => []
    | .mod _ _ items => annotatedList ctx items
    | .other _ items => annotatedList ctx items
  def annotatedList (ctx : ParseContext) : List Item → List Item
    | [] => []
    | i :: is => annotated ctx i ++ annotatedList ctx is
end

/-- the item parser the visitor dispatches to -/
def parseItem (E : Ext) (ctx : ParseContext) : Item → Outcome RustItem
  | .struct a i g f => parseStruct E ctx.targetOs a i g f
  | .enum a i g v => parseEnum E ctx.targetOs a i g v
  | .alias a i g t => parseTypeAlias E a i g t
  | .const a i t l => parseConst E a i t l
  | _ => .err .synError   -- never reached: `annotated` only lists the four kinds

/-- fold `collect_result` over a list of parse outcomes -/
def collectAll (path : Str) : ParsedData → List (Outcome RustItem) → Outcome ParsedData
  | d, [] => pure d
  | d, o :: os => (collectResult d path o).bind fun d' => collectAll path d' os

theorem collectAll_append (path : Str) : ∀ (l1 l2 : List (Outcome RustItem)) (d : ParsedData),
    collectAll path d (l1 ++ l2) = (collectAll path d l1).bind fun d' => collectAll path d' l2 := by
  intro l1 l2
  induction l1 with
  | nil => intro d; simp [collectAll]
  | cons o os ih =>
    intro d
    simp only [List.cons_append, collectAll]
    cases h : collectResult d path o with
    | ok d' => simp [ih d']
    | err e => rfl
    | panic s => rfl

theorem addPaths_single (E : Ext) (ctx : ParseContext) (h : ctx.multiFile = false) (d : ParsedData)
    (ps : List (List Str)) : addPaths E ctx d ps = d := by simp [addPaths, h]

end TsV.C03

namespace TsV.C13P
/-- everything the parse of a file records, except the raw import set -/
def forget (d : ParsedData) : ParsedData := { d with importTypes := [] }
end TsV.C13P

namespace TsV.Visit
open TsV TsV.Syn TsV.Parser TsV.Visitor TsV.Outcome TsV.C03

/-- the parse outcomes the visitor records for an item list, in visit order -/
def outcomes (E : Ext) (ctx : ParseContext) (items : List Item) : List (Outcome RustItem) :=
  (annotatedList ctx items).map (parseItem E ctx)

/-- a view of `ParsedData` that import insertion (which only happens in folder mode) does not change and that
commutes with the two ways `collect_result` records an outcome -/
structure Blind (ctx : ParseContext) (π : ParsedData → ParsedData) : Prop where
  imports : ctx.multiFile = true → ∀ d imps, π (addImports d imps) = π d
  push : ∀ d ri, π (push d ri) = push (π d) ri
  error : ∀ (d : ParsedData) e, π { d with errors := d.errors ++ [e] } = { π d with errors := (π d).errors ++ [e] }

theorem blind_forget (ctx : ParseContext) : Blind ctx C13P.forget :=
  ⟨fun _ _ _ => rfl, fun _ ri => by cases ri <;> rfl, fun _ _ => rfl⟩

theorem blind_id {ctx : ParseContext} (h : ctx.multiFile = false) : Blind ctx id :=
  ⟨fun h' => Bool.noConfusion (h.symm.trans h'), fun _ _ => rfl, fun _ _ => rfl⟩

/-- an outcome seen through `π` -/
def view (π : ParsedData → ParsedData) (x : Outcome ParsedData) : Outcome ParsedData := x.bind fun d => .ok (π d)

theorem view_id (x : Outcome ParsedData) : view id x = x := bind_pure x

theorem view_bind (π : ParsedData → ParsedData) (x : Outcome ParsedData) (f : ParsedData → Outcome ParsedData) :
    view π (x.bind f) = x.bind fun d => view π (f d) := bind_assoc _ _ _

theorem bind_view (π : ParsedData → ParsedData) (x : Outcome ParsedData) (g : ParsedData → Outcome ParsedData) :
    (view π x).bind g = x.bind fun d => g (π d) := by cases x <;> rfl

theorem view_eq_ok {π : ParsedData → ParsedData} {x : Outcome ParsedData} {e : ParsedData} :
    view π x = .ok e ↔ ∃ d, x = .ok d ∧ π d = e := by
  cases x <;> simp [view]

theorem view_np {π : ParsedData → ParsedData} {x : Outcome ParsedData} (h : NP (view π x)) : NP x := by
  cases x <;> first | rfl | exact h

variable {ctx : ParseContext} {π : ParsedData → ParsedData}

theorem Blind.collectResult (hπ : Blind ctx π) (fp : Str) (d : ParsedData) (p : Outcome RustItem) :
    view π (collectResult d fp p) = collectResult (π d) fp p := by
  cases p with
  | ok ri => exact congrArg Outcome.ok (hπ.push d ri)
  | err e => exact congrArg Outcome.ok (hπ.error d (e, fp))
  | panic s => rfl

/-! ### the visitor as a fold over events -/

/-- the two things the visitor does to a `ParsedData`: record a parse outcome; in folder mode, insert imports that
depend on the data only through its crate name (`visit_path` on some paths, `visit_item_use` on a tree) -/
inductive Ev
  | out (o : Outcome RustItem)
  | ins (g : Str → List ImportedType)

def Ev.run (ctx : ParseContext) (fp : Str) (d : ParsedData) : Ev → Outcome ParsedData
  | .out o => collectResult d fp o
  | .ins g => .ok (if ctx.multiFile then addImports d (g d.crateName) else d)

/-- `visit_path` on each of `ps` -/
def pathsEv (E : Ext) (ctx : ParseContext) (ps : List (List Str)) : Ev :=
  .ins fun cn => ps.filterMap (importOfPath E ctx cn)

/-- `visit_item_use` -/
def useEv (E : Ext) (ctx : ParseContext) (t : UseTree) : Ev :=
  .ins fun cn => (useIter E cn (useSize t + 1) [t] none []).filter fun i => !ctx.ignoredTypes.contains i.typeName

/-- a declaring item: its parse outcome if the attributes are accepted, then its paths -/
def declEv (E : Ext) (ctx : ParseContext) (a : List Attr) (p : Outcome RustItem) (ps : List (List Str)) : List Ev :=
  (if accepted ctx a then [.out p] else []) ++ [pathsEv E ctx ps]

mutual
  /-- what the visitor does on an item tree, in order; read off the syntax -/
  def events (E : Ext) (ctx : ParseContext) : Item → List Ev
    | .struct a i g f => declEv E ctx a (parseStruct E ctx.targetOs a i g f) (attrPaths a ++ fieldsPaths f)
    | .enum a i g v => declEv E ctx a (parseEnum E ctx.targetOs a i g v)
        (attrPaths a ++ v.flatMap fun x => attrPaths x.attrs ++ fieldsPaths x.fields)
    | .alias a i g t => declEv E ctx a (parseTypeAlias E a i g t) (attrPaths a ++ typePaths t)
    | .const a i t l => declEv E ctx a (parseConst E a i t l) (attrPaths a ++ typePaths t)
    | .use t => [useEv E ctx t]
    | .mod a _ items => pathsEv E ctx (attrPaths a) :: eventsList E ctx items
    | .other ps items => pathsEv E ctx ps :: eventsList E ctx items
  def eventsList (E : Ext) (ctx : ParseContext) : List Item → List Ev
    | [] => []
    | i :: is => events E ctx i ++ eventsList E ctx is
end

def run (ctx : ParseContext) (fp : Str) : ParsedData → List Ev → Outcome ParsedData
  | d, [] => .ok d
  | d, e :: es => (e.run ctx fp d).bind fun d' => run ctx fp d' es

theorem run_append (ctx : ParseContext) (fp : Str) : ∀ (l1 l2 : List Ev) (d : ParsedData),
    run ctx fp d (l1 ++ l2) = (run ctx fp d l1).bind fun d' => run ctx fp d' l2 := by
  intro l1 l2
  induction l1 with
  | nil => exact fun _ => rfl
  | cons e es ih =>
    intro d
    rw [List.cons_append, run, run, bind_assoc]
    exact congrArg _ (funext ih)

/-- **the visitor is the fold of `Ev.run` over the events of the item tree**, in every mode, failures included -/
theorem visit_eq (E : Ext) (ctx : ParseContext) (fp : Str) : ∀ (it : Item) (d : ParsedData),
    visitItem E ctx fp d it = run ctx fp d (events E ctx it) := by
  intro it
  induction it using Item.rec (motive_2 := fun items => ∀ d,
    visitItems E ctx fp d items = run ctx fp d (eventsList E ctx items)) with
  | struct a i g f | enum a i g v | alias a i g t | const a i t l =>
    intro d
    rw [visitItem, events]
    unfold collectIf declEv
    split <;> rfl
  | use t =>
    intro d
    rw [visitItem, events]
    split <;> rename_i h <;> simp only [run, Ev.run, useEv, h] <;> rfl
  | mod _ _ items ih | other _ items ih =>
    intro d
    rw [visitItem, ih]
    rfl
  | nil => rfl
  | cons i is ihi ihis =>
    rw [visitItems, ihi, eventsList, run_append]
    exact congrArg _ (funext ihis)

/-- the parse outcomes among the events -/
def outs (l : List Ev) : List (Outcome RustItem) :=
  l.filterMap fun | .out o => some o | .ins _ => none

theorem outs_events (E : Ext) (ctx : ParseContext) : ∀ it : Item,
    outs (events E ctx it) = (annotated ctx it).map (parseItem E ctx) := by
  intro it
  induction it using Item.rec (motive_2 := fun items =>
    outs (eventsList E ctx items) = (annotatedList ctx items).map (parseItem E ctx)) with
  | struct a i g f | enum a i g v | alias a i g t | const a i t l =>
    rw [events, annotated, declEv]
    split <;> rfl
  | use t => rfl
  | mod _ _ items ih | other _ items ih => exact ih
  | nil => rfl
  | cons i is ihi ihis => rw [eventsList, outs, List.filterMap_append, ← outs, ← outs, ihi, ihis, annotatedList, List.map_append]

/-- through a blind view only the outcomes are seen -/
theorem run_view (hπ : Blind ctx π) (fp : Str) : ∀ (l : List Ev) (d : ParsedData),
    view π (run ctx fp d l) = collectAll fp (π d) (outs l) := by
  intro l
  induction l with
  | nil => exact fun _ => rfl
  | cons e es ih =>
    intro d
    rw [run, view_bind]
    cases e with
    | out o =>
      show _ = collectAll fp (π d) (o :: outs es)
      rw [collectAll, ← hπ.collectResult, bind_view]
      exact congrArg _ (funext ih)
    | ins g =>
      refine (ih _).trans (congrArg (collectAll fp · _) ?_)
      split
      · exact hπ.imports ‹_› _ _
      · rfl

/-- **the visitor through a blind view is the fold of `collect_result` over the annotated items' outcomes** -/
theorem visit_view (hπ : Blind ctx π) (E : Ext) (fp : Str) (it : Item) (d : ParsedData) :
    view π (visitItem E ctx fp d it) = collectAll fp (π d) ((annotated ctx it).map (parseItem E ctx)) := by
  rw [visit_eq, run_view hπ, outs_events]

/-- an item list is visited like the body that holds it: what is proved of every `Item` holds of every list -/
theorem visitItem_other_nil (E : Ext) (ctx : ParseContext) (fp : Str) (d : ParsedData) (items : List Item) :
    visitItem E ctx fp d (.other [] items) = visitItems E ctx fp d items := by
  rw [visitItem]
  congr 1
  unfold addPaths
  split <;> rfl

theorem visitItems_eq (E : Ext) (ctx : ParseContext) (fp : Str) (items : List Item) (d : ParsedData) :
    visitItems E ctx fp d items = run ctx fp d (eventsList E ctx items) := by
  rw [← visitItem_other_nil, visit_eq]
  show run ctx fp (if ctx.multiFile then addImports d [] else d) _ = _
  split <;> rfl

theorem visitItems_view (hπ : Blind ctx π) (E : Ext) (fp : Str) (items : List Item) (d : ParsedData) :
    view π (visitItems E ctx fp d items) = collectAll fp (π d) (outcomes E ctx items) :=
  visitItem_other_nil E ctx fp d items ▸ visit_view hπ E fp (.other [] items) d

/-- the visitor's start value -/
def d0 (ctx : ParseContext) (cn fn : Str) : ParsedData := { crateName := cn, fileName := fn, multiFile := ctx.multiFile }

/-- the events of a file: the paths in its inner attributes, then its items -/
def fileEvents (E : Ext) (ctx : ParseContext) (f : File) : List Ev :=
  pathsEv E ctx (attrPaths f.attrs) :: eventsList E ctx f.items

theorem visitFile_run (E : Ext) (ctx : ParseContext) (cn fn fp : Str) (f : File) :
    visitFile E ctx cn fn fp f =
      if (TargetOs.accept f.attrs ctx.targetOs).getD true then run ctx fp (d0 ctx cn fn) (fileEvents E ctx f)
      else .ok (d0 ctx cn fn) := by
  unfold visitFile
  split
  · rw [visitItems_eq]; rfl
  · rfl

theorem visitFile_view (hπ : Blind ctx π) (E : Ext) (cn fn fp : Str) (f : File) :
    view π (visitFile E ctx cn fn fp f) =
      collectAll fp (π (d0 ctx cn fn))
        (if (TargetOs.accept f.attrs ctx.targetOs).getD true then outcomes E ctx f.items else []) := by
  rw [visitFile_run]
  split
  · exact (run_view hπ fp _ _).trans (congrArg _ (outs_events E ctx (.other [] f.items)))
  · rfl

/-! ### facts about the fold -/

/-- induction over a successful fold -/
@[elab_as_elim]
theorem collectAll_ok_rec {fp : Str} {P : ParsedData → List (Outcome RustItem) → ParsedData → Prop}
    (nil : ∀ d, P d [] d)
    (ok : ∀ d ri os d', P (push d ri) os d' → P d (.ok ri :: os) d')
    (err : ∀ d e os d', P { d with errors := d.errors ++ [(e, fp)] } os d' → P d (.err e :: os) d') :
    ∀ {outs d d'}, collectAll fp d outs = .ok d' → P d outs d' := by
  intro outs
  induction outs with
  | nil => intro d d' h; cases h; exact nil d
  | cons o os ih =>
    intro d d' h
    cases o with
    | ok ri => exact ok d ri os d' (ih h)
    | err e => exact err d e os d' (ih h)
    | panic s => cases h

/-- induction over a successful run of the visitor -/
@[elab_as_elim]
theorem run_ok_rec {fp : Str} {P : ParsedData → List Ev → ParsedData → Prop}
    (nil : ∀ d, P d [] d)
    (ok : ∀ d ri es d', P (push d ri) es d' → P d (.out (.ok ri) :: es) d')
    (err : ∀ d e es d', P { d with errors := d.errors ++ [(e, fp)] } es d' → P d (.out (.err e) :: es) d')
    (ins : ∀ d g es d', P (if ctx.multiFile then addImports d (g d.crateName) else d) es d' → P d (.ins g :: es) d') :
    ∀ {l d d'}, run ctx fp d l = .ok d' → P d l d' := by
  intro l
  induction l with
  | nil => intro d d' h; cases h; exact nil d
  | cons e es ih =>
    intro d d' h
    match e, h with
    | .out (.ok ri), h => exact ok d ri es d' (ih h)
    | .out (.err e), h => exact err d e es d' (ih h)
    | .ins g, h => exact ins d g es d' (ih h)

/-- a property that recording an item, recording an error and inserting imports that satisfy `R` keep is kept by a
run all of whose inserted imports satisfy `R` -/
theorem run_preserves (P : ParsedData → Prop) (R : ImportedType → Prop) {fp : Str} {l : List Ev} {d d' : ParsedData}
    (h : run ctx fp d l = .ok d')
    (hpush : ∀ d ri, P d → P (push d ri))
    (herr : ∀ (d : ParsedData) e, P d → P { d with errors := d.errors ++ [e] })
    (hins : ∀ d imps, (∀ i ∈ imps, R i) → P d → P (addImports d imps))
    (hR : ∀ g : Str → List ImportedType, .ins g ∈ l → ∀ cn, ∀ i ∈ g cn, R i) : P d → P d' :=
  run_ok_rec (P := fun d l d' => (∀ g : Str → List ImportedType, .ins g ∈ l → ∀ cn, ∀ i ∈ g cn, R i) → P d → P d')
    (fun _ _ hd => hd)
    (fun d ri _ _ ih hr hd => ih (fun g hg => hr g (List.mem_cons_of_mem _ hg)) (hpush d ri hd))
    (fun d e _ _ ih hr hd => ih (fun g hg => hr g (List.mem_cons_of_mem _ hg)) (herr d _ hd))
    (fun d g _ _ ih hr hd => ih (fun g' hg => hr g' (List.mem_cons_of_mem _ hg)) (by
      split
      · exact hins d _ (hr g List.mem_cons_self _) hd
      · exact hd)) h hR

/-- the fold succeeds unless an outcome is a panic -/
theorem collectAll_ok_of_np (fp : Str) : ∀ (outs : List (Outcome RustItem)) (d : ParsedData),
    (∀ o ∈ outs, NP o) → ∃ d', collectAll fp d outs = .ok d' := by
  intro outs
  induction outs with
  | nil => exact fun d _ => ⟨d, rfl⟩
  | cons o os ih =>
    intro d h
    have hos := fun x hx => h x (List.mem_cons_of_mem _ hx)
    cases o with
    | ok ri => exact ih (push d ri) hos
    | err e => exact ih _ hos
    | panic s => cases h _ List.mem_cons_self

theorem collectAll_np (fp : Str) (outs : List (Outcome RustItem)) (d : ParsedData) (h : ∀ o ∈ outs, NP o) :
    NP (collectAll fp d outs) :=
  let ⟨_, e⟩ := collectAll_ok_of_np fp outs d h
  e ▸ rfl

/-- a property that recording a successfully parsed item of the list and recording an error keep -/
theorem collectAll_preserves (P : ParsedData → Prop) {fp : Str} {outs : List (Outcome RustItem)} {d d' : ParsedData}
    (h : collectAll fp d outs = .ok d')
    (hpush : ∀ ri, .ok ri ∈ outs → ∀ d, P d → P (push d ri))
    (herr : ∀ (d : ParsedData) e, P d → P { d with errors := d.errors ++ [e] }) : P d → P d' :=
  collectAll_ok_rec (P := fun d outs d' => (∀ ri, .ok ri ∈ outs → ∀ d, P d → P (push d ri)) → P d → P d')
    (fun _ _ hd => hd)
    (fun d ri _ _ ih hp hd => ih (fun r hr => hp r (List.mem_cons_of_mem _ hr)) (hp ri List.mem_cons_self d hd))
    (fun d e _ _ ih hp hd => ih (fun r hr => hp r (List.mem_cons_of_mem _ hr)) (herr d _ hd)) h hpush

/-- a property that recording `ri` establishes and all recording keeps holds after a fold that recorded `ri` -/
theorem collectAll_records (P : ParsedData → Prop) {fp : Str} {outs : List (Outcome RustItem)} {d d' : ParsedData}
    (h : collectAll fp d outs = .ok d') {ri : RustItem} (hri : .ok ri ∈ outs) (hnew : ∀ d, P (push d ri))
    (hpush : ∀ r d, P d → P (push d r))
    (herr : ∀ (d : ParsedData) e, P d → P { d with errors := d.errors ++ [e] }) : P d' :=
  collectAll_ok_rec (P := fun d outs d' => P d ∨ .ok ri ∈ outs → P d')
    (fun _ hd => hd.elim id fun hm => nomatch hm)
    (fun d r _ _ ih hd => ih <| hd.elim (fun hd => .inl (hpush r d hd)) fun hm =>
      (List.mem_cons.1 hm).elim (fun e => .inl (Outcome.ok.inj e ▸ hnew d)) .inr)
    (fun d e _ _ ih hd => ih <| hd.elim (fun hd => .inl (herr d _ hd)) fun hm =>
      (List.mem_cons.1 hm).elim (fun e => nomatch e) .inr) h (.inr hri)

/-- a map of `ParsedData` that commutes with `collect_result` (under relabelling of the path) commutes with the fold -/
theorem collectAll_comm (φ : ParsedData → ParsedData) (p q : Str)
    (h : ∀ d o, collectResult (φ d) q o = view φ (collectResult d p o)) :
    ∀ (l : List (Outcome RustItem)) (d : ParsedData), collectAll q (φ d) l = view φ (collectAll p d l) := by
  intro l
  induction l with
  | nil => exact fun _ => rfl
  | cons o os ih =>
    intro d
    rw [collectAll, collectAll, h, view_bind, bind_view]
    exact congrArg _ (funext ih)

/-! ### one file -/

theorem visitFile_meta {E : Ext} {cn fn fp : Str} {f : File} {d : ParsedData}
    (h : visitFile E ctx cn fn fp f = .ok d) : d.crateName = cn ∧ d.fileName = fn ∧ d.multiFile = ctx.multiFile := by
  have hv := visitFile_view (blind_forget ctx) E cn fn fp f
  rw [h] at hv
  exact collectAll_preserves (fun x => x.crateName = cn ∧ x.fileName = fn ∧ x.multiFile = ctx.multiFile)
    (d' := C13P.forget d) hv.symm (fun ri _ _ hd => by cases ri <;> exact hd) (fun _ _ hd => hd) ⟨rfl, rfl, rfl⟩

/-- `parser::parse` on a file with the marker whose visit succeeds -/
theorem parseFile_of_visit {E : Ext} {pick : List ImportedType → Option ImportedType} {cn fn fp : Str} {f : File}
    {d : ParsedData} (hm : f.marker = true) (hv : visitFile E ctx cn fn fp f = .ok d) :
    parseFile E ctx pick cn fn fp f =
      .ok (if isEmpty d then none else some (if ctx.multiFile then reconcileReferencedTypes E.U pick d else d)) := by
  unfold parseFile
  rw [hm, hv, ← (visitFile_meta hv).2.2]
  simp only [Bool.not_true, Bool.false_eq_true, if_false, Outcome.bind_ok]
  cases isEmpty d <;> cases d.multiFile <;> rfl

/-- a file that `parser::parse` returns data for: it has the marker, and the data is the non-empty result of the
visit, in folder mode with the import set reconciled -/
theorem parseFile_some {E : Ext} {pick : List ImportedType → Option ImportedType} {cn fn fp : Str} {f : File}
    {a : ParsedData} (h : parseFile E ctx pick cn fn fp f = .ok (some a)) :
    f.marker = true ∧ ∃ d, visitFile E ctx cn fn fp f = .ok d ∧ isEmpty d = false ∧
      a = if ctx.multiFile then reconcileReferencedTypes E.U pick d else d := by
  cases hm : f.marker with
  | false => rw [parseFile, hm] at h; cases h
  | true =>
    refine ⟨rfl, ?_⟩
    cases hv : visitFile E ctx cn fn fp f with
    | ok d =>
      rw [parseFile_of_visit hm hv] at h
      cases he : isEmpty d with
      | true => rw [he] at h; cases h
      | false => rw [he] at h; exact ⟨d, rfl, he, (Option.some.inj (Outcome.ok.inj h)).symm⟩
    | err e => rw [parseFile, hm, hv] at h; cases h
    | panic s => rw [parseFile, hm, hv] at h; cases h

theorem parseFile_meta {E : Ext} {pick : List ImportedType → Option ImportedType} {cn fn fp : Str} {f : File}
    {a : ParsedData} (h : parseFile E ctx pick cn fn fp f = .ok (some a)) :
    a.crateName = cn ∧ a.fileName = fn ∧ a.multiFile = ctx.multiFile := by
  obtain ⟨_, d, hv, _, rfl⟩ := parseFile_some h
  have hm := visitFile_meta hv
  split
  · unfold reconcileReferencedTypes; exact hm
  · exact hm

end TsV.Visit
