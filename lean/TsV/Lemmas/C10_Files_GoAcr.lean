import TsV.Lemmas.C10_Files_Common
import TsV.Lemmas.C10_Go
import TsV.Lemmas.C03_Emission_Go
import TsV.Lemmas.C07_Backends_Go
/-!
# C10, Go with a non-empty `uppercase_acronyms`

`convert_acronyms_to_uppercase` splices the upper-cased acronym into the name at the positions where the
Pascal-cased acronym occurs.  When every configured acronym is an identifier fragment (`[A-Za-z0-9_]*`)
and the Unicode parameter is ASCII-correct, the result is a *variant* of the name (`VarStr`): same
length, and at every position either the same character or an identifier character in place of an
identifier character.  Identifier characters are inert for the lexer in every state, so a variant of a
neutral piece is a neutral piece (`nb_var`): the acronym pass is one that `C10Go.Conf` allows
(`CfgOk'.conf`).  The enum declarations, which also need the ASCII-correct lower-casing, close the file.
-/
namespace TsV.C10Files.GoAcr
open TsV TsV.Lang TsV.C10Lex TsV.Lang.Go TsV.C10Go TsV.C10Files TsV.C07BE.Go

def Var (r n : Char) : Prop := r = n ∨ (identChar r = true ∧ identChar n = true)

def VarStr : Str → Str → Prop
  | [], [] => True
  | r :: rs, n :: ns => Var r n ∧ VarStr rs ns
  | _, _ => False

theorem VarStr.refl : ∀ s : Str, VarStr s s := by
  intro s
  induction s with
  | nil => trivial
  | cons _ t ih => exact ⟨.inl rfl, ih⟩

theorem VarStr.append : ∀ {a c b d : Str}, VarStr a c → VarStr b d → VarStr (a ++ b) (c ++ d) := by
  intro a
  induction a with
  | nil =>
    intro c b d h1 h2
    cases c with
    | nil => exact h2
    | cons _ _ => exact h1.elim
  | cons x a ih =>
    intro c b d h1 h2
    cases c with
    | nil => exact h1.elim
    | cons y c => exact ⟨h1.1, ih h1.2 h2⟩

theorem VarStr.split : ∀ {a' a b' b : Str}, a'.length = a.length → VarStr (a' ++ b') (a ++ b) → VarStr a' a ∧ VarStr b' b := by
  intro a'
  induction a' with
  | nil =>
    intro a b' b hl h
    cases a with
    | nil => exact ⟨trivial, h⟩
    | cons _ _ => simp at hl
  | cons x a' ih =>
    intro a b' b hl h
    cases a with
    | nil => simp at hl
    | cons y a =>
      have := ih (a := a) (b' := b') (b := b) (by simpa using hl) h.2
      exact ⟨⟨h.1, this.1⟩, this.2⟩

theorem VarStr.ident : ∀ {r p : Str}, IdentStr r → IdentStr p → r.length = p.length → VarStr r p := by
  intro r
  induction r with
  | nil =>
    intro p _ _ hl
    cases p with
    | nil => trivial
    | cons _ _ => simp at hl
  | cons x r ih =>
    intro p hr hp hl
    cases p with
    | nil => simp at hl
    | cons y p =>
      exact ⟨.inr ⟨hr x (by simp), hp y (by simp)⟩,
        ih (fun c hc => hr c (by simp [hc])) (fun c hc => hp c (by simp [hc])) (by simpa using hl)⟩

theorem VarStr.length : ∀ {r n : Str}, VarStr r n → r.length = n.length := by
  intro r
  induction r with
  | nil =>
    intro n h
    cases n with
    | nil => rfl
    | cons _ _ => exact h.elim
  | cons _ r ih =>
    intro n h
    cases n with
    | nil => exact h.elim
    | cons _ n => simp [ih h.2]

/-- what a property of characters needs to be inherited by variants -/
theorem VarStr.all {P : Char → Prop} (hP : ∀ c, identChar c = true → P c) :
    ∀ {r n : Str}, VarStr r n → (∀ c ∈ n, P c) → ∀ c ∈ r, P c := by
  intro r
  induction r with
  | nil => intro _ _ _ c hc; cases hc
  | cons x r ih =>
    intro n h hn c hc
    cases n with
    | nil => exact h.elim
    | cons y n =>
      simp only [List.mem_cons] at hc
      rcases hc with rfl | hc
      · rcases h.1 with e | e
        · rw [e]; exact hn y (by simp)
        · exact hP _ e.1
      · exact ih h.2 (fun d hd => hn d (by simp [hd])) c hc

theorem VarStr.identStr {r n : Str} (h : VarStr r n) (hn : IdentStr n) : IdentStr r :=
  VarStr.all (P := fun c => identChar c = true) (fun _ h => h) h hn

theorem VarStr.keyStr {r n : Str} (h : VarStr r n) (hn : KeyStr n) : KeyStr r :=
  VarStr.all (P := fun c => keyChar c = true) (fun c h => by simp [keyChar, h]) h hn

/-! ## the acronym pass yields a variant -/

theorem length_of_lay {a b : Str} (h : lay a = lay b) : a.length = b.length := by
  have := congrArg List.length h
  simpa [lay] using this

theorem asciiStr_of_ident {s : Str} (h : IdentStr s) : asciiStr s = true := by
  simp only [asciiStr, List.all_eq_true]
  intro c hc
  simpa [Str.isAscii] using identChar_ascii c (h c hc)

theorem replace_step_var (name res pat rep pre post : Str) (hname : name = pre ++ pat ++ post)
    (hpat : IdentStr pat) (hrep : IdentStr rep) (hlen : rep.length = pat.length) (hres : lay res = lay name)
    (hv : VarStr res name) :
    ∃ r, replaceRange res (utf8Len pre) (utf8Len pre + pat.length) rep = .ok r ∧ lay r = lay name ∧ VarStr r name := by
  have hpa := asciiStr_of_ident hpat
  have hlay : lay rep = lay pat := by rw [lay_of_ascii hpa, lay_of_ascii (asciiStr_of_ident hrep), hlen]
  subst hname
  rw [List.append_assoc] at hres hv
  obtain ⟨pre', rest', hr, hpre, hrest⟩ := lay_split pre (pat ++ post) res hres
  obtain ⟨mid', post', hr2, hmid, hpost⟩ := lay_split pat post rest' hrest
  subst hr hr2
  have e1 : utf8Len pre = utf8Len pre' := (utf8Len_of_lay hpre).symm
  have e2 : pat.length = utf8Len mid' := by rw [utf8Len_of_lay hmid, utf8Len_of_ascii hpa]
  obtain ⟨v1, v2⟩ := VarStr.split (length_of_lay hpre) hv
  obtain ⟨_, v3⟩ := VarStr.split (length_of_lay hmid) v2
  refine ⟨pre' ++ rep ++ post', ?_, ?_, ?_⟩
  · rw [e1, e2, ← List.append_assoc]; exact replaceRange_ok _ _ _ _
  · simp only [lay_append, hpre, hlay, hpost]
  · exact VarStr.append (VarStr.append v1 (VarStr.ident hrep hpat hlen)) v3

/-- the acronyms are identifier fragments -/
def AcronymsOk (cfg : Cfg) : Prop := ∀ a ∈ cfg.uppercaseAcronyms, IdentStr a
instance (cfg : Cfg) : Decidable (AcronymsOk cfg) := by unfold AcronymsOk; infer_instance

theorem upperStr_length (U : UnicodeOps) (hU : U.AsciiCorrect) {s : Str} (h : IdentStr s) :
    (U.upperStr s).length = s.length := by
  rw [RenameLemmas.upperStr_ascii U hU s fun c hc => identChar_ascii c (h c hc)]
  simp [Str.toAsciiUpper]

theorem convertAcronyms_var (U : UnicodeOps) (hU : U.AsciiCorrect) (name : Str) (acronyms : List Str)
    (h : ∀ a ∈ acronyms, IdentStr a) (res : Str) (hres : lay res = lay name) (hv : VarStr res name) :
    ∃ r, acronyms.foldlM (init := res) (applyAcronym U name) = .ok r ∧ lay r = lay name ∧ VarStr r name :=
  convertAcronyms_inv U name (I := fun r => lay r = lay name ∧ VarStr r name) acronyms
    (fun a ha pre post res hname hI =>
      have hpat := toPascal_ident (U := U) (h a ha)
      replace_step_var name res _ _ pre post hname hpat (upperStr_ident U hU hpat) (upperStr_length U hU hpat) hI.1 hI.2)
    res ⟨hres, hv⟩

/-- **`acronyms_to_uppercase` returns a variant of its argument** -/
theorem acr_var (U : UnicodeOps) (hU : U.AsciiCorrect) {cfg : Cfg} (hA : AcronymsOk cfg) (name r : Str)
    (h : acr U cfg name = .ok r) : VarStr r name := by
  obtain ⟨r', hr', _, hv⟩ := convertAcronyms_var U hU name cfg.uppercaseAcronyms hA name rfl (VarStr.refl name)
  unfold acr convertAcronyms at h
  rw [hr'] at h
  cases h
  exact hv

/-! ## identifier characters are inert for the lexer -/

/-- the modes a run from code state can reach: literals are delimited by quote characters -/
def GoodMode : Mode → Prop
  | .str q | .strEsc q => isQuote q = true
  | _ => True

theorem identChar_ne {c : Char} (h : identChar c = true) (d : Char) (hd : identChar d = false) : c ≠ d := by
  intro e; subst e; rw [h] at hd; cases hd

/-- where an identifier character leaves the lexer: it ends the state after `/` or `*` or a back-slash
and is otherwise read over -/
def afterIdent : Mode → Mode
  | .slash => .code
  | .blockStar => .block
  | .strEsc q => .str q
  | m => m

theorem step_identChar (cfg : LexCfg) (m : Mode) (stk : List Char) (hm : GoodMode m) (c : Char) (hc : identChar c = true) :
    step cfg ⟨m, stk⟩ c = some ⟨afterIdent m, stk⟩ := by
  have n := fun x hx => identChar_ne hc x hx
  cases m with
  | code => exact codeStep_plain (identChar_plain cfg c hc)
  | slash =>
    simp only [step, n '/' (by decide +kernel), n '*' (by decide +kernel), if_false]
    exact codeStep_plain (identChar_plain cfg c hc)
  | line => simp only [step, n '\n' (by decide +kernel), if_false]; rfl
  | block => simp only [step, n '*' (by decide +kernel), if_false]; rfl
  | blockStar => simp only [step, n '/' (by decide +kernel), n '*' (by decide +kernel), if_false]; rfl
  | str q =>
    have hq : identChar q = false := by
      simp only [GoodMode, isQuote, Bool.or_eq_true, beq_iff_eq] at hm
      rcases hm with rfl | rfl <;> decide +kernel
    simp only [step, n '\\' (by decide +kernel), n q hq, n '\n' (by decide +kernel), if_false]; rfl
  | strEsc q => simp only [step, n '\n' (by decide +kernel), if_false]; rfl
  | raw => simp only [step, n '`' (by decide +kernel), if_false]; rfl

theorem step_ident (cfg : LexCfg) (a : St) (ha : GoodMode a.mode) (c d : Char) (hc : identChar c = true)
    (hd : identChar d = true) : step cfg a c = step cfg a d := by
  rw [step_identChar cfg a.mode a.stack ha c hc, step_identChar cfg a.mode a.stack ha d hd]

theorem codeStep_good {cfg : LexCfg} {stk : List Char} {c : Char} {b : St} (h : codeStep cfg stk c = some b) :
    GoodMode b.mode := by
  unfold codeStep at h
  by_cases h1 : c = '/'
  · rw [if_pos h1] at h; cases h; trivial
  rw [if_neg h1] at h
  by_cases h2 : isQuote c = true
  · rw [if_pos h2] at h; cases h; exact h2
  rw [if_neg h2] at h
  by_cases h3 : (cfg.rawTick && c == '`') = true
  · rw [if_pos h3] at h; cases h; trivial
  rw [if_neg h3] at h
  by_cases h4 : isOpen cfg c = true
  · rw [if_pos h4] at h; cases h; trivial
  rw [if_neg h4] at h
  -- what is left pops, or reads over the character: code state, if anything
  generalize opener? cfg c = op at h
  cases op with
  | none => cases h; trivial
  | some o =>
    cases stk with
    | nil => cases h
    | cons top rest =>
      by_cases e : top = o
      · simp only [if_pos e] at h; cases h; trivial
      · simp only [if_neg e] at h; cases h

theorem step_good {cfg : LexCfg} {a : St} {c : Char} {b : St} (ha : GoodMode a.mode) (h : step cfg a c = some b) :
    GoodMode b.mode := by
  cases a with | mk m stk =>
  cases m <;> simp only [step] at h
  case code => exact codeStep_good h
  case slash =>
    split at h
    · cases h; trivial
    split at h
    · cases h; trivial
    · exact codeStep_good h
  all_goals
    repeat' split at h
    all_goals first | cases h | skip
    all_goals first | trivial | exact ha

theorem scan_var (cfg : LexCfg) : ∀ (x y : Str) (a : St), GoodMode a.mode → VarStr x y → scan cfg a x = scan cfg a y := by
  intro x
  induction x with
  | nil =>
    intro y a _ h
    cases y with
    | nil => rfl
    | cons _ _ => exact h.elim
  | cons c x ih =>
    intro y a ha h
    cases y with
    | nil => exact h.elim
    | cons d y =>
      have hs : step cfg a c = step cfg a d := by
        rcases h.1 with e | e
        · rw [e]
        · exact step_ident cfg a ha c d e.1 e.2
      simp only [scan, hs]
      cases hd : step cfg a d with
      | none => rfl
      | some a' => exact ih y a' (step_good ha hd) h.2

/-- **a variant of a neutral piece is a neutral piece** -/
theorem nb_var {cfg : LexCfg} {x y : Str} (h : VarStr x y) (hy : NB cfg y) : NB cfg x := by
  intro stk
  have := hy stk
  unfold Run at *
  rw [scan_var cfg x y ⟨.code, stk⟩ trivial h]
  exact this


/-! ## the configuration with an acronym list -/

/-- the Go configuration with acronyms: every acronym an identifier fragment, every type mapping balanced -/
structure CfgOk' (cfg : Cfg) : Prop where
  acronyms : AcronymsOk cfg
  maps : ∀ p ∈ cfg.typeMappings, wellBracketed G p.2 = true

instance (cfg : Cfg) : Decidable (CfgOk' cfg) :=
  decidable_of_iff (AcronymsOk cfg ∧ ∀ p ∈ cfg.typeMappings, wellBracketed G p.2 = true)
    ⟨fun ⟨a, b⟩ => ⟨a, b⟩, fun h => ⟨h.acronyms, h.maps⟩⟩

theorem CfgOk'.mapped {cfg : Cfg} (H : CfgOk' cfg) {k v : Str} (h : mapGet cfg.typeMappings k = some v) : NB G v :=
  mapGet_nb H.maps h

theorem CfgOk'.conf (U : UnicodeOps) (hU : U.AsciiCorrect) {cfg : Cfg} (H : CfgOk' cfg) : Conf U cfg :=
  ⟨H.maps, fun hn h => nb_var (acr_var U hU H.acronyms _ _ h) hn,
    fun hn h => (acr_var U hU H.acronyms _ _ h).identStr hn, fun hn h => (acr_var U hU H.acronyms _ _ h).keyStr hn⟩

section enums
variable {U : UnicodeOps} {cfg : Cfg} (H : Conf U cfg)
include H

theorem anonStructs_ok (e : RustEnum) (he : EnumOk e) (l : List (Id × List RustField)) (st : Imports)
    (ds : List GoStruct) (st' : Imports) (hl : ∀ p ∈ l, IdentStr p.1.original ∧ ∀ f ∈ p.2, FieldOk f)
    (h : anonStructs U cfg e l st = .ok (ds, st')) : ∀ d ∈ ds, GoStructOk d := by
  refine thread_forall
    (f := fun (p : Id × List RustField) st =>
      (anonName U cfg e p.1.original).bind fun n => structFacts U cfg (anonymousStruct e n p.1.original p.2) st)
    (A := fun p => IdentStr p.1.original ∧ ∀ f ∈ p.2, FieldOk f)
    (fun _ => rfl) (fun p as st => ?_) (fun p st d st' hp hd => ?_) l st ds st' hl h
  · simp only [anonStructs]
    cases anonName U cfg e p.1.original <;> rfl
  · obtain ⟨sn, hsn, hd⟩ := Outcome.of_bind_ok hd
    have hsnk : KeyStr sn := H.key
      (KeyStr.append (KeyStr.append (IdentStr.key he.original) (IdentStr.key hp.1)) (by decide +kernel : KeyStr s%"Inner")) hsn
    exact structFacts_ok H _ (anonymousStruct_scope he hsnk (anonymousStruct_docs e _ _ p.2 hp.1 he.original) hp.2)
      st d st' hd

theorem algVariant_ok (e : RustEnum) (he : EnumOk e) (sn : Str) (hsn : IdentStr sn) (tagKey : Str)
    (htag : IdentStr tagKey) (cs : List Str) (v : RustEnumVariant) (hv : VariantOk v) (st : Imports)
    (g : GoAlgVariant) (st' : Imports) (h : algVariant U cfg e sn tagKey cs v st = .ok (g, st')) : AlgVariantOk g := by
  obtain ⟨vn, tp, payload, hvn, htp, rfl, hv'⟩ := algVariant_inv h
  have hvni : IdentStr vn := H.ident hv.original hvn
  refine ⟨hv.docs, IdentStr.nb hvni, IdentStr.nb (IdentStr.append (IdentStr.append (IdentStr.append hsn
    (H.ident (toPascal_ident htag) htp)) (by decide +kernel : IdentStr s%"Variant")) hvni), fun p hp => ?_⟩
  cases v with
  | unit id dcs => rw [← hv'.1] at hp; cases hp
  | tuple id dcs ty =>
    obtain ⟨t, ft, hf, hft, rfl⟩ := hv'
    cases hp
    exact H.nb (formatType_nb H.maps ty st t _ hv.2.2.2 hf) hft
  | anonymousStruct id dcs fs =>
    obtain ⟨n, ft, hn, hft, rfl, _⟩ := hv'
    cases hp
    exact H.nb (IdentStr.nb (H.ident
      (IdentStr.append (IdentStr.append he.original hvni) (by decide +kernel : IdentStr s%"Inner")) hn)) hft

theorem algVariants_ok (e : RustEnum) (he : EnumOk e) (sn : Str) (hsn : IdentStr sn) (tagKey : Str)
    (htag : IdentStr tagKey) (cs : List Str) (vs : List RustEnumVariant) (st : Imports) (gs : List GoAlgVariant)
    (st' : Imports) (hv : ∀ v ∈ vs, VariantOk v) (h : algVariants U cfg e sn tagKey cs vs st = .ok (gs, st')) :
    ∀ g ∈ gs, AlgVariantOk g :=
  thread_forall (fun _ => rfl) (fun _ _ _ => rfl)
    (fun v st g st' hv h => algVariant_ok H e he sn hsn tagKey htag cs v hv st g st' h) vs st gs st' hv h

omit H in
theorem shortName_ident (hU : U.AsciiCorrect) (original : Str) (ho : IdentStr original) (s : Str)
    (h : shortName U original = .ok s) : IdentStr s := by
  unfold shortName at h
  split at h
  · rename_i c r
    cases h
    exact lowerStr_ident U hU (fun d hd => by simp only [List.mem_singleton] at hd; subst hd; exact ho _ (by simp))
  · cases h; intro c hc; simp at hc

theorem algEnumFacts_ok (hU : U.AsciiCorrect) (e : RustEnum) (he : EnumOk e) (tagKey contentKey : Str)
    (hk : e.keys = some (tagKey, contentKey)) (cs : List Str) (st : Imports) (d : GoAlgEnum) (st' : Imports)
    (h : algEnumFacts U cfg e tagKey contentKey cs st = .ok (d, st')) : AlgEnumOk d := by
  have htag : IdentStr tagKey := he.tag _ hk
  have hcontent : KeyStr contentKey := he.content _ hk
  obtain ⟨anonymous, st1, name, tagField, short, tagAcr, variants, ha, hname, htf, hs, hta, hvs, rfl⟩ := algEnumFacts_inv h
  have hni : IdentStr name := H.ident he.original hname
  exact ⟨he.docs, anonStructs_ok H e he _ st anonymous st1 (structVariants_scope e he) ha,
    IdentStr.nb hni, IdentStr.nb (shortName_ident hU _ he.original short hs),
    IdentStr.nb (IdentStr.append (IdentStr.append hni (toPascal_ident (H.ident htag hta))) (by decide +kernel : IdentStr s%"s")),
    IdentStr.nb (H.ident (toPascal_ident htag) htf), KeyStr.nb (toCamel_key hcontent), IdentStr.key htag, hcontent,
    algVariants_ok H e he name hni tagKey htag cs e.variants st1 variants _ he.variants hvs⟩

/-- **Go enums from the parsed enum** -/
theorem writeEnum_nb (hU : U.AsciiCorrect) (e : RustEnum) (he : EnumOk e) (cs : List Str) (st : Imports) (text : Str)
    (st' : Imports) (h : writeEnum U cfg e cs st = .ok (text, st')) : NB G text := by
  obtain ⟨d, hd, rfl⟩ := C02.Go.writeEnum_inv h
  rcases C02.Go.enumFacts_inv hd with ⟨_, anonymous, name, consts, ha, hname, hc, rfl⟩ | ⟨tagKey, contentKey, g, hk, hg, rfl⟩
  · have hanon := anonStructs_ok H e he _ st anonymous _ (structVariants_scope e he) ha
    refine NB.append (NB.flatMap _ _ fun s hs => renderStruct_nb s (hanon s hs)) ?_
    exact renderUnitEnum_nb { comments := e.comments, name := name, consts := consts } he.docs
      (IdentStr.nb (H.ident he.original hname))
      (unitConsts_ok H e.id.original he.original e.variants consts he.variants hc)
  · exact renderAlgEnum_nb g (algEnumFacts_ok H hU e he tagKey contentKey hk cs st g _ hg)

theorem writeItem_nb (hU : U.AsciiCorrect) (cs : List Str) (it : RustItem) (hs : ItemScope Lang.go G DocsOk it)
    (st : Imports) (text : Str) (st' : Imports) (h : writeItem U cfg cs it st = .ok (text, st')) : NB G text := by
  cases it with
  | struct s => exact writeStruct_nb H s hs st text st' h
  | «enum» e => exact writeEnum_nb H hU e hs cs st text st' h
  | alias a => exact writeAlias_nb H a hs st text st' h
  | const c => exact writeConst_nb H.maps c hs st text st' h

end enums

end TsV.C10Files.GoAcr
