import TsV.Lemmas.C06_Multi_List
/-!
# `used_imports` builds a sorted map of sorted sets; the result is the *union* of the imports' contributions

`ScopedCrateTypes` models `BTreeMap<&CrateName, BTreeSet<&str>>`.  A well-formed value (`WFS`: keys strictly
increasing, every value strictly increasing) is determined by its key set and its membership relation
(`wfs_ext`).  `scopedInsert · · · true` and `scopedEnsure` preserve well-formedness and act on keys / members
as set insertion, so the fold in `Pipeline.usedImports` computes a union, which does not depend on the order of
the import list.
-/
namespace TsV.C06M
open TsV TsV.Pipeline

theorem insertSorted_sorted (t : Str) : ∀ v : List Str, SSorted v → SSorted (Parser.insertSorted Str.lt t v) := by
  intro v
  induction v with
  | nil => intro _; simp [Parser.insertSorted, SSorted]
  | cons y ys ih =>
    intro h
    unfold Parser.insertSorted
    have hy := List.pairwise_cons.1 h
    by_cases h1 : Str.lt t y = true
    · simp only [h1, if_true]
      refine List.pairwise_cons.2 ⟨?_, h⟩
      intro a ha
      simp only [List.mem_cons] at ha
      rcases ha with rfl | ha
      · exact h1
      · exact Order.lt_trans _ _ _ h1 (hy.1 a ha)
    · simp only [h1, Bool.false_eq_true, if_false]
      by_cases h2 : Str.lt y t = true
      · simp only [h2, if_true]
        refine List.pairwise_cons.2 ⟨?_, ih hy.2⟩
        intro a ha
        rcases Order.mem_insertSorted_iff.1 ha with rfl | ha
        · exact h2
        · exact hy.1 a ha
      · simp only [h2, Bool.false_eq_true, if_false]; exact h

def SKeys (m : ScopedCrateTypes) : List Str := m.map (·.1)

/-- `t` is in the set stored under crate `c` -/
def SMem (m : ScopedCrateTypes) (c t : Str) : Prop := ∃ v, (c, v) ∈ m ∧ t ∈ v

structure WFS (m : ScopedCrateTypes) : Prop where
  keys : SSorted (SKeys m)
  vals : ∀ p ∈ m, SSorted p.2

theorem wfs_nil : WFS [] := ⟨by simp [SKeys, SSorted], by simp⟩

theorem smem_nil (c t : Str) : ¬ SMem [] c t := by simp [SMem]

theorem smem_cons (k : Str) (v : List Str) (rest : ScopedCrateTypes) (c t : Str) :
    SMem ((k, v) :: rest) c t ↔ (c = k ∧ t ∈ v) ∨ SMem rest c t := by
  unfold SMem
  constructor
  · rintro ⟨w, hw, ht⟩
    simp only [List.mem_cons, Prod.mk.injEq] at hw
    rcases hw with ⟨rfl, rfl⟩ | hw
    · exact Or.inl ⟨rfl, ht⟩
    · exact Or.inr ⟨w, hw, ht⟩
  · rintro (⟨rfl, ht⟩ | ⟨w, hw, ht⟩)
    · exact ⟨v, by simp, ht⟩
    · exact ⟨w, by simp [hw], ht⟩

/-- in a well-formed map the set stored under a key is the one entry with that key -/
theorem smem_iff_of_mem {m : ScopedCrateTypes} (h : WFS m) {p : Str × List Str} (hp : p ∈ m) (t : Str) :
    SMem m p.1 t ↔ t ∈ p.2 :=
  ⟨fun ⟨_, hw, ht⟩ => mem_unique h.keys hp hw ▸ ht, fun ht => ⟨p.2, hp, ht⟩⟩

/-- **extensionality**: a well-formed scoped map is determined by its keys and members -/
theorem wfs_ext {m m' : ScopedCrateTypes} (h : WFS m) (h' : WFS m') (hk : ∀ c, c ∈ SKeys m ↔ c ∈ SKeys m')
    (hm : ∀ c t, SMem m c t ↔ SMem m' c t) : m = m' := by
  -- an entry of one map is an entry of the other: the key is there, and the two sorted sets have the same members
  have sub : ∀ {m m' : ScopedCrateTypes}, WFS m → WFS m' → (∀ c, c ∈ SKeys m → c ∈ SKeys m') →
      (∀ c t, SMem m c t ↔ SMem m' c t) → ∀ p ∈ m, p ∈ m' := by
    intro m m' h h' hk hm p hp
    obtain ⟨q, hq, hqp⟩ := List.mem_map.1 (hk p.1 (List.mem_map_of_mem hp))
    have hv : q.2 = p.2 := ssorted_ext (h'.vals q hq) (h.vals p hp) fun t => by
      rw [← smem_iff_of_mem h' hq, ← smem_iff_of_mem h hp, hqp, hm]
    rw [← Prod.ext hqp hv]
    exact hq
  exact sorted_ext_by (fun p : Str × List Str => p.1) h.keys h'.keys fun p =>
    ⟨sub h h' (fun c => (hk c).1) hm p, sub h' h (fun c => (hk c).2) (fun c t => (hm c t).symm) p⟩

/-! ### `scopedInsert · · · true` and `scopedEnsure` are `alter` -/

theorem scopedInsert_eq_alter (c t : Str) : ∀ m : ScopedCrateTypes,
    scopedInsert m c t true = alter c [t] (Parser.insertSorted Str.lt t) m := by
  intro m
  induction m with
  | nil => rfl
  | cons p rest ih => rw [scopedInsert, alter, ih]; rfl

theorem scopedEnsure_eq_alter (c : Str) : ∀ m : ScopedCrateTypes, scopedEnsure m c = alter c [] id m := by
  intro m
  induction m with
  | nil => rfl
  | cons p rest ih => rw [scopedEnsure, alter, ih]; rfl

/-- members after `alter`, when the fresh set holds exactly the `t'` with `P t'` and `f` adds exactly those -/
theorem smem_alter (c : Str) (v₀ : List Str) (f : List Str → List Str) (P : Str → Prop)
    (h₀ : ∀ x, x ∈ v₀ ↔ P x) (hf : ∀ v x, x ∈ f v ↔ P x ∨ x ∈ v) (c' t' : Str) (m : ScopedCrateTypes) :
    SMem (alter c v₀ f m) c' t' ↔ (c' = c ∧ P t') ∨ SMem m c' t' :=
  alter_rec c v₀ f (motive := fun m r => SMem r c' t' ↔ (c' = c ∧ P t') ∨ SMem m c' t')
    (by rw [smem_cons, h₀])
    (fun v rest => by
      rw [smem_cons, smem_cons, hf, and_or_left, or_assoc])
    (fun k v rest _ => by rw [smem_cons, h₀])
    (fun k v rest _ ih => by rw [smem_cons, smem_cons k, ih]; exact or_left_comm) m

theorem wfs_alter (c : Str) (v₀ : List Str) (f : List Str → List Str) (h₀ : SSorted v₀)
    (hf : ∀ v, SSorted v → SSorted (f v)) (m : ScopedCrateTypes) (h : WFS m) : WFS (alter c v₀ f m) :=
  ⟨alter_sorted c v₀ f m h.keys, forall_mem_alter c v₀ f (fun p => SSorted p.2) h₀ hf m h.vals⟩

theorem scopedInsert_keys (c t c' : Str) (m : ScopedCrateTypes) :
    c' ∈ SKeys (scopedInsert m c t true) ↔ c' = c ∨ c' ∈ SKeys m := by
  rw [scopedInsert_eq_alter]; exact mem_keys_alter c _ _ c' m

theorem scopedInsert_mem (c t c' t' : Str) (m : ScopedCrateTypes) :
    SMem (scopedInsert m c t true) c' t' ↔ (c' = c ∧ t' = t) ∨ SMem m c' t' := by
  rw [scopedInsert_eq_alter]
  exact smem_alter c _ _ (· = t) (fun _ => List.mem_singleton) (fun _ _ => Order.mem_insertSorted_iff) c' t' m

theorem scopedInsert_wfs (c t : Str) (m : ScopedCrateTypes) (h : WFS m) : WFS (scopedInsert m c t true) := by
  rw [scopedInsert_eq_alter]
  exact wfs_alter c _ _ (by simp [SSorted]) (insertSorted_sorted t) m h

theorem scopedEnsure_keys (c c' : Str) (m : ScopedCrateTypes) :
    c' ∈ SKeys (scopedEnsure m c) ↔ c' = c ∨ c' ∈ SKeys m := by
  rw [scopedEnsure_eq_alter]; exact mem_keys_alter c _ _ c' m

theorem scopedEnsure_mem (c c' t' : Str) (m : ScopedCrateTypes) :
    SMem (scopedEnsure m c) c' t' ↔ SMem m c' t' := by
  rw [scopedEnsure_eq_alter,
    smem_alter c [] id (fun _ => False) (fun _ => by simp) (fun _ _ => by simp) c' t' m]
  simp

theorem scopedEnsure_wfs (c : Str) (m : ScopedCrateTypes) (h : WFS m) : WFS (scopedEnsure m c) := by
  rw [scopedEnsure_eq_alter]
  exact wfs_alter c _ _ (by simp [SSorted]) (fun _ hv => hv) m h

/-- `entry(c).or_default()` followed by an insertion is the insertion -/
theorem scopedInsert_ensure (c t : Str) (m : ScopedCrateTypes) :
    scopedInsert (scopedEnsure m c) c t true = scopedInsert m c t true := by
  rw [scopedInsert_eq_alter, scopedEnsure_eq_alter, alter_alter, scopedInsert_eq_alter]
  rfl

/-! ### one contribution: make sure crate `c` has an entry and add the names `ns` to it -/

def applyC (m : ScopedCrateTypes) (x : Str × List Str) : ScopedCrateTypes :=
  x.2.foldl (fun m n => scopedInsert m x.1 n true) (scopedEnsure m x.1)

def applyOpt (m : ScopedCrateTypes) : Option (Str × List Str) → ScopedCrateTypes
  | none => m
  | some x => applyC m x

theorem insFold_keys (c c' : Str) : ∀ (ns : List Str) (m : ScopedCrateTypes), c ∈ SKeys m →
    (c' ∈ SKeys (ns.foldl (fun m n => scopedInsert m c n true) m) ↔ c' ∈ SKeys m) := by
  intro ns
  induction ns with
  | nil => exact fun _ _ => Iff.rfl
  | cons n ns ih =>
    intro m hc
    simp only [List.foldl_cons]
    rw [ih _ ((scopedInsert_keys c n c m).2 (Or.inl rfl)), scopedInsert_keys]
    constructor
    · rintro (rfl | h)
      · exact hc
      · exact h
    · exact Or.inr

theorem insFold_mem (c c' t' : Str) (ns : List Str) (m : ScopedCrateTypes) :
    SMem (ns.foldl (fun m n => scopedInsert m c n true) m) c' t' ↔ (c' = c ∧ t' ∈ ns) ∨ SMem m c' t' := by
  rw [foldl_or (fun m n => scopedInsert m c n true) (SMem · c' t') (fun n => c' = c ∧ t' = n)
    (fun m n => scopedInsert_mem c n c' t' m)]
  exact or_congr ⟨fun ⟨_, hn, hc, ht⟩ => ⟨hc, ht ▸ hn⟩, fun ⟨hc, ht⟩ => ⟨t', ht, hc, rfl⟩⟩ Iff.rfl

theorem insFold_wfs (c : Str) : ∀ (ns : List Str) (m : ScopedCrateTypes), WFS m →
    WFS (ns.foldl (fun m n => scopedInsert m c n true) m) := by
  intro ns
  induction ns with
  | nil => exact fun _ h => h
  | cons n ns ih => exact fun m h => ih _ (scopedInsert_wfs c n m h)

theorem applyC_keys (m : ScopedCrateTypes) (x : Str × List Str) (c' : Str) :
    c' ∈ SKeys (applyC m x) ↔ c' = x.1 ∨ c' ∈ SKeys m := by
  unfold applyC
  rw [insFold_keys x.1 c' x.2 _ ((scopedEnsure_keys x.1 x.1 m).2 (Or.inl rfl)), scopedEnsure_keys]

theorem applyC_mem (m : ScopedCrateTypes) (x : Str × List Str) (c' t' : Str) :
    SMem (applyC m x) c' t' ↔ (c' = x.1 ∧ t' ∈ x.2) ∨ SMem m c' t' := by
  unfold applyC
  rw [insFold_mem, scopedEnsure_mem]

theorem applyC_wfs (m : ScopedCrateTypes) (x : Str × List Str) (h : WFS m) : WFS (applyC m x) :=
  insFold_wfs x.1 x.2 _ (scopedEnsure_wfs x.1 m h)

theorem applyOpt_keys (m : ScopedCrateTypes) (o : Option (Str × List Str)) (c' : Str) :
    c' ∈ SKeys (applyOpt m o) ↔ (∃ x, o = some x ∧ c' = x.1) ∨ c' ∈ SKeys m := by
  cases o with
  | none => simp [applyOpt]
  | some x => simp [applyOpt, applyC_keys]

theorem applyOpt_mem (m : ScopedCrateTypes) (o : Option (Str × List Str)) (c' t' : Str) :
    SMem (applyOpt m o) c' t' ↔ (∃ x, o = some x ∧ c' = x.1 ∧ t' ∈ x.2) ∨ SMem m c' t' := by
  cases o with
  | none => simp [applyOpt]
  | some x => simp [applyOpt, applyC_mem]

theorem applyOpt_wfs (m : ScopedCrateTypes) (o : Option (Str × List Str)) (h : WFS m) : WFS (applyOpt m o) := by
  cases o with
  | none => exact h
  | some x => exact applyC_wfs m x h

/-! ### the fold over contributions computes a union -/

theorem foldC_keys {ι} (con : ι → Option (Str × List Str)) (c' : Str) : ∀ (l : List ι) (m : ScopedCrateTypes),
    c' ∈ SKeys (l.foldl (fun m i => applyOpt m (con i)) m) ↔
      (∃ i ∈ l, ∃ x, con i = some x ∧ c' = x.1) ∨ c' ∈ SKeys m :=
  foldl_or _ (c' ∈ SKeys ·) _ fun m i => applyOpt_keys m (con i) c'

theorem foldC_mem {ι} (con : ι → Option (Str × List Str)) (c' t' : Str) : ∀ (l : List ι) (m : ScopedCrateTypes),
    SMem (l.foldl (fun m i => applyOpt m (con i)) m) c' t' ↔
      (∃ i ∈ l, ∃ x, con i = some x ∧ c' = x.1 ∧ t' ∈ x.2) ∨ SMem m c' t' :=
  foldl_or _ (SMem · c' t') _ fun m i => applyOpt_mem m (con i) c' t'

theorem foldC_wfs {ι} (con : ι → Option (Str × List Str)) : ∀ (l : List ι) (m : ScopedCrateTypes), WFS m →
    WFS (l.foldl (fun m i => applyOpt m (con i)) m) := by
  intro l
  induction l with
  | nil => exact fun _ h => h
  | cons i l ih => exact fun m h => ih _ (applyOpt_wfs m (con i) h)

/-- two contributions that add the same thing -/
def ContribEq : Option (Str × List Str) → Option (Str × List Str) → Prop
  | none, none => True
  | some x, some y => x.1 = y.1 ∧ ∀ t, t ∈ x.2 ↔ t ∈ y.2
  | _, _ => False

theorem ContribEq.some_left {o o' : Option (Str × List Str)} (h : ContribEq o o') {x} (hx : o = some x) :
    ∃ y, o' = some y ∧ x.1 = y.1 ∧ ∀ t, t ∈ x.2 ↔ t ∈ y.2 := by
  subst hx
  cases o' with
  | none => exact h.elim
  | some y => exact ⟨y, rfl, h⟩

theorem ContribEq.symm {o o' : Option (Str × List Str)} (h : ContribEq o o') : ContribEq o' o := by
  cases o <;> cases o' <;> first | trivial | exact h.elim | exact ⟨h.1.symm, fun t => (h.2 t).symm⟩

/-- what one side contributes with a property that `ContribEq` respects, the other side contributes too -/
theorem ContribEq.exists_imp {ι} {con con' : ι → Option (Str × List Str)} {l l' : List ι}
    (hl : ∀ i ∈ l, i ∈ l') (hc : ∀ i ∈ l, ContribEq (con i) (con' i)) {P : Str × List Str → Prop}
    (hP : ∀ x y, x.1 = y.1 → (∀ t, t ∈ x.2 ↔ t ∈ y.2) → P x → P y) :
    (∃ i ∈ l, ∃ x, con i = some x ∧ P x) → ∃ i ∈ l', ∃ y, con' i = some y ∧ P y := by
  rintro ⟨i, hi, x, hx, hp⟩
  obtain ⟨y, hy, h1, h2⟩ := (hc i hi).some_left hx
  exact ⟨i, hl i hi, y, hy, hP x y h1 h2 hp⟩

/-- **the fold is a function of the set of contributions** -/
theorem foldC_congr {ι} (con con' : ι → Option (Str × List Str)) (l l' : List ι)
    (hl : ∀ i, i ∈ l ↔ i ∈ l') (hc : ∀ i ∈ l, ContribEq (con i) (con' i)) :
    l.foldl (fun m i => applyOpt m (con i)) [] = l'.foldl (fun m i => applyOpt m (con' i)) [] := by
  have hc' : ∀ i ∈ l', ContribEq (con' i) (con i) := fun i hi => (hc i ((hl i).2 hi)).symm
  apply wfs_ext (foldC_wfs con l [] wfs_nil) (foldC_wfs con' l' [] wfs_nil)
  · intro c
    rw [foldC_keys, foldC_keys]
    have hP : ∀ x y : Str × List Str, x.1 = y.1 → (∀ t, t ∈ x.2 ↔ t ∈ y.2) → c = x.1 → c = y.1 :=
      fun _ _ h1 _ h => h.trans h1
    exact or_congr_left ⟨ContribEq.exists_imp (fun i => (hl i).1) hc hP,
      ContribEq.exists_imp (fun i => (hl i).2) hc' hP⟩
  · intro c t
    rw [foldC_mem, foldC_mem]
    have hP : ∀ x y : Str × List Str, x.1 = y.1 → (∀ t, t ∈ x.2 ↔ t ∈ y.2) →
        c = x.1 ∧ t ∈ x.2 → c = y.1 ∧ t ∈ y.2 := fun _ _ h1 h2 h => ⟨h.1.trans h1, (h2 t).1 h.2⟩
    exact or_congr_left ⟨ContribEq.exists_imp (fun i => (hl i).1) hc hP,
      ContribEq.exists_imp (fun i => (hl i).2) hc' hP⟩

/-! ### `usedImports` as a fold of contributions -/

/-- what one import adds: the crate whose entry is created and the names put into it -/
def contrib (all : List (Str × List Str)) (fo : Str → Option Str) (imp : ImportedType) : Option (Str × List Str) :=
  match all.find? (·.1 == imp.baseCrate) with
  | some (_, names) =>
    if imp.typeName == s%"*" then some (imp.baseCrate, names)
    else if names.contains imp.typeName then some (imp.baseCrate, [imp.typeName])
    else (fo imp.typeName).map fun c => (c, [imp.typeName])
  | none => (fo imp.typeName).map fun c => (c, [imp.typeName])

theorem applyC_single (m : ScopedCrateTypes) (c n : Str) : applyC m (c, [n]) = scopedInsert m c n true := by
  simp [applyC, scopedInsert_ensure]

theorem usedImports_eq_fold (d : ParsedData) (all : List (Str × List Str)) (imports : List ImportedType)
    (fo : Str → Option Str) :
    usedImports d all imports fo =
      (imports.filter (·.baseCrate != d.crateName)).foldl (fun m i => applyOpt m (contrib all fo i)) [] := by
  unfold usedImports
  dsimp only
  congr 1
  funext m imp
  unfold contrib
  cases h : all.find? (·.1 == imp.baseCrate) with
  | none =>
    simp only
    cases fo imp.typeName with
    | none => rfl
    | some c => simp [applyOpt, applyC_single]
  | some p =>
    obtain ⟨k, names⟩ := p
    simp only
    by_cases h1 : (imp.typeName == s%"*") = true
    · simp only [h1, if_true]; rfl
    · simp only [h1, Bool.false_eq_true, if_false]
      by_cases h2 : names.contains imp.typeName = true
      · simp only [h2, if_true, applyOpt, applyC_single]
      · simp only [h2, Bool.false_eq_true, if_false]
        cases fo imp.typeName with
        | none => rfl
        | some c => simp [applyOpt, applyC_single]

/-- the result of `used_imports` is a sorted map of sorted sets -/
theorem usedImports_wfs (d : ParsedData) (all : List (Str × List Str)) (imports : List ImportedType)
    (fo : Str → Option Str) : WFS (usedImports d all imports fo) := by
  rw [usedImports_eq_fold]; exact foldC_wfs _ _ [] wfs_nil

/-- **`used_imports` depends on the import list only as a set, on `all_types` and the fallback choice
only through the contributions** -/
theorem usedImports_congr (d d' : ParsedData) (hcr : d.crateName = d'.crateName)
    (all all' : List (Str × List Str)) (imps imps' : List ImportedType) (fo fo' : Str → Option Str)
    (hi : ∀ i, i ∈ imps ↔ i ∈ imps')
    (hc : ∀ i ∈ imps, i.baseCrate ≠ d.crateName → ContribEq (contrib all fo i) (contrib all' fo' i)) :
    usedImports d all imps fo = usedImports d' all' imps' fo' := by
  rw [usedImports_eq_fold, usedImports_eq_fold, ← hcr]
  apply foldC_congr
  · intro i; simp only [List.mem_filter, hi i]
  · intro i hi'
    simp only [List.mem_filter, bne_iff_ne, ne_eq] at hi'
    exact hc i hi'.1 hi'.2

/-- hash order of `import_types`: every permutation of the import list gives the same scoped imports -/
theorem usedImports_perm (d : ParsedData) (all : List (Str × List Str)) (imports₁ imports₂ : List ImportedType)
    (fo : Str → Option Str) (hp : imports₁.Perm imports₂) :
    usedImports d all imports₁ fo = usedImports d all imports₂ fo := by
  apply usedImports_congr d d rfl all all imports₁ imports₂ fo fo (fun i => hp.mem_iff)
  intro i _ _
  cases contrib all fo i with
  | none => trivial
  | some x => exact ⟨rfl, fun _ => Iff.rfl⟩

/-! ### dependence on `all_types` (type-name sets) and on the fallback choice -/

/-- same crates in the same order, the same name *sets* -/
def AllRel (all all' : List (Str × List Str)) : Prop :=
  Rel₂ (fun x y => x.1 = y.1 ∧ ∀ t, t ∈ x.2 ↔ t ∈ y.2) all all'

theorem contains_congr {l l' : List Str} (h : ∀ t, t ∈ l ↔ t ∈ l') (x : Str) : l.contains x = l'.contains x := by
  rw [Bool.eq_iff_iff]; simp [h x]

theorem AllRel.find? {bc : Str} : ∀ {all all' : List (Str × List Str)}, AllRel all all' →
    (all.find? (·.1 == bc) = none ∧ all'.find? (·.1 == bc) = none) ∨
    (∃ k ns ns', all.find? (·.1 == bc) = some (k, ns) ∧ all'.find? (·.1 == bc) = some (k, ns') ∧
      ∀ t, t ∈ ns ↔ t ∈ ns') := by
  intro all all' h
  replace h := rel₂_iff.1 h
  induction h with
  | nil => exact Or.inl ⟨rfl, rfl⟩
  | @cons x y t t' hxy _ ih =>
    obtain ⟨k, ns⟩ := x
    obtain ⟨k', ns'⟩ := y
    obtain ⟨hk, hn⟩ := hxy
    simp only at hk hn
    subst hk
    by_cases h1 : (k == bc) = true
    · exact Or.inr ⟨k, ns, ns', by simp [h1], by simp [h1], hn⟩
    · simp only [List.find?_cons, h1]
      exact ih

/-- the import does not resolve directly, so the re-export fallback (`firstOther`) is consulted -/
def takesFallback (all : List (Str × List Str)) (imp : ImportedType) : Bool :=
  match all.find? (·.1 == imp.baseCrate) with
  | some (_, names) => !(imp.typeName == s%"*") && !names.contains imp.typeName
  | none => true

theorem contrib_congr (all all' : List (Str × List Str)) (fo fo' : Str → Option Str) (imp : ImportedType)
    (ha : AllRel all all') (hf : takesFallback all imp = true → fo imp.typeName = fo' imp.typeName) :
    ContribEq (contrib all fo imp) (contrib all' fo' imp) := by
  have fb : fo imp.typeName = fo' imp.typeName →
      ContribEq ((fo imp.typeName).map fun c => (c, [imp.typeName]))
        ((fo' imp.typeName).map fun c => (c, [imp.typeName])) := by
    intro h; rw [h]
    cases fo' imp.typeName with
    | none => trivial
    | some c => exact ⟨rfl, fun _ => Iff.rfl⟩
  unfold contrib
  unfold takesFallback at hf
  rcases ha.find? (bc := imp.baseCrate) with ⟨h1, h2⟩ | ⟨k, ns, ns', h1, h2, hn⟩
  · rw [h1] at hf; rw [h1, h2]
    exact fb (hf rfl)
  · rw [h1] at hf; rw [h1, h2]
    simp only at hf ⊢
    by_cases hs : (imp.typeName == s%"*") = true
    · simp only [hs, if_true]; exact ⟨rfl, hn⟩
    · simp only [hs, Bool.false_eq_true, if_false]
      rw [← contains_congr hn]
      by_cases hcn : ns.contains imp.typeName = true
      · simp only [hcn, if_true]; exact ⟨rfl, fun _ => Iff.rfl⟩
      · simp only [hcn, Bool.false_eq_true, if_false]
        exact fb (hf (by rw [Bool.eq_false_iff.2 hs, Bool.eq_false_iff.2 hcn]; rfl))

end TsV.C06M
