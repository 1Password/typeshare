import TsV.Model.Generate
import TsV.Lemmas.Outcome
/-!
# C05 — definitions: the target-side type tree, the structural translation, its rendering

`translate L c gens` is defined by structural recursion on the *shape* of the Rust type only; the
six `formatType` functions of the back-end models are proved equal to `show L ∘ translate L`
(text component) in `TsV.Lemmas.C05_Langs`.
-/
namespace TsV.C05L
open TsV TsV.Lang

/-- a target-side type expression -/
inductive TTy where
  | prim (name : Str)                    -- the target's built-in for a Rust primitive
  | seq (t : TTy)                        -- the target's sequence
  | fixedSeq (t : TTy) (n : Nat)         -- a sequence of statically known length (TypeScript tuple, Go array)
  | map (k v : TTy)                      -- the target's map
  | opt (t : TTy)                        -- the target's optional
  | user (name : Str) (args : List TTy)  -- a user type (name as printed, prefix included) with its arguments
  | param (name : Str)                   -- a generic parameter of the enclosing declaration
  | mapped (name : Str)                  -- the right-hand side of a configured type mapping
deriving Repr, Inhabited

/-- the part of a back-end configuration the type level depends on -/
structure TCfg where
  typeMappings : List (Str × Str) := []
  pfx : Str := []                 -- Kotlin / Swift `prefix`
  noPointerSlice : Bool := false  -- Go `no_pointer_slice`

/-- back ends whose `format_special_type` looks the special type up in the type mappings (by `Display`) -/
def usesDisplay : TsV.Lang → Bool
  | .typescript | .go | .python => true
  | _ => false

/-- back ends that prefix user type names -/
def prefixes : TsV.Lang → Bool
  | .kotlin | .swift => true
  | _ => false

/-- back ends with a fixed-length sequence type -/
def hasFixed : TsV.Lang → Bool
  | .typescript | .go => true
  | _ => false

/-- back ends that refuse a generic parameter as a map key -/
def genericKeyForbidden : TsV.Lang → Bool
  | .typescript | .python => true
  | _ => false

/-- the name a type is looked up by in the type mappings: the identifier for user types (all six
back ends), the `Display` string for special types (TypeScript, Go, Python only) -/
def lookupKey (L : TsV.Lang) : RustType → Option Str
  | .simple id => some id
  | .generic id _ => some id
  | t => if usesDisplay L then some t.display else none

/-- the configured replacement of a type, if any -/
def lookup (L : TsV.Lang) (c : TCfg) (t : RustType) : Option Str :=
  match lookupKey L t with
  | some k => mapGet c.typeMappings k
  | none => none

/-- **the primitive table**, read off the six `format_special_type`s -/
def primTarget : TsV.Lang → Prim → Outcome Str
  | .typescript, p =>
    (match p with
    | .unit => .ok s%"undefined"
    | .dateTime => .ok s%"Date"
    | .string | .char => .ok s%"string"
    | .bool => .ok s%"boolean"
    | .i8 | .u8 | .i16 | .u16 | .i32 | .u32 | .i54 | .u53 | .f32 | .f64 => .ok s%"number"
    | .u64 | .i64 | .isize | .usize => .panic s%"typescript.rs:137")
  | .kotlin, p => Kotlin.formatPrim p
  | .swift, p =>
    (match p with
    | .unit => .ok s%"CodableVoid"
    | .string => .ok s%"String"
    | .char => .ok s%"Unicode.Scalar"
    | .i8 => .ok s%"Int8"
    | .u8 => .ok s%"UInt8"
    | .i16 => .ok s%"Int16"
    | .u16 => .ok s%"UInt16"
    | .usize => .ok s%"UInt"
    | .isize => .ok s%"Int"
    | .i32 => .ok s%"Int32"
    | .u32 => .ok s%"UInt32"
    | .i54 | .i64 => .ok s%"Int64"
    | .u53 | .u64 => .ok s%"UInt64"
    | .bool => .ok s%"Bool"
    | .f32 => .ok s%"Float"
    | .f64 => .ok s%"Double"
    | .dateTime => .err (.formatError s%"UnsupportedSpecialType"))
  | .scala, p =>
    (match p with
    | .unit => .ok s%"Unit"
    | .string | .char => .ok s%"String"
    | .i8 => .ok s%"Byte"
    | .i16 => .ok s%"Short"
    | .isize | .i32 => .ok s%"Int"
    | .i54 | .i64 => .ok s%"Long"
    | .u8 => .ok s%"UByte"
    | .u16 => .ok s%"UShort"
    | .usize | .u32 => .ok s%"UInt"
    | .u53 | .u64 => .ok s%"ULong"
    | .bool => .ok s%"Boolean"
    | .f32 => .ok s%"Float"
    | .f64 => .ok s%"Double"
    | .dateTime => .err (.formatError s%"UnsupportedSpecialType"))
  | .go, p => .ok (Go.primType p).1
  | .python, p =>
    (match p with
    | .dateTime => .ok s%"datetime"
    | .unit => .ok s%"None"
    | .string | .char => .ok s%"str"
    | .i8 | .u8 | .i16 | .u16 | .i32 | .u32 | .i54 | .u53 | .u64 | .i64 | .isize | .usize => .ok s%"int"
    | .f32 | .f64 => .ok s%"float"
    | .bool => .ok s%"bool")

/-- the printed name of a (non-mapped) user type: prefixed in Kotlin and Swift unless the name is
a generic parameter of the enclosing declaration -/
def userName (L : TsV.Lang) (c : TCfg) (gens : List Str) (id : Str) : Str :=
  if prefixes L && !gens.contains id then c.pfx ++ id else id

/-- is the optional marker dropped at the type level?  TypeScript adds optionality above the type
(`?:` / `| undefined`, property C04); Go with `no_pointer_slice` writes `Option<Vec<T>>` as a slice -/
def dropsOption (L : TsV.Lang) (c : TCfg) (r : RustType) : Bool :=
  match L with
  | .typescript => true
  | .go => r.isVec && c.noPointerSlice
  | _ => false

/-- a map key that is a generic parameter of the enclosing declaration -/
def isGenericKey (gens : List Str) : RustType → Bool
  | .simple id => gens.contains id
  | _ => false

/-- the type-mapping prelude shared by every node: a mapped type is replaced as a whole -/
def withMap (L : TsV.Lang) (c : TCfg) (t : RustType) (k : Outcome TTy) : Outcome TTy :=
  match lookup L c t with
  | some m => .ok (.mapped m)
  | none => k

mutual
  /-- **the structural translation** -/
  def translate (L : TsV.Lang) (c : TCfg) (gens : List Str) : RustType → Outcome TTy
    | t@(.simple id) => withMap L c t
        (.ok (if gens.contains id then .param id else .user (userName L c gens id) []))
    | t@(.generic id ps) => withMap L c t
        ((translateList L c gens ps).bind fun args => .ok (.user (userName L c gens id) args))
    | t@(.vec r) => withMap L c t ((translate L c gens r).bind fun x => .ok (.seq x))
    | t@(.slice r) => withMap L c t ((translate L c gens r).bind fun x => .ok (.seq x))
    | t@(.array r n) => withMap L c t
        ((translate L c gens r).bind fun x => .ok (if hasFixed L then .fixedSeq x n else .seq x))
    | t@(.option r) => withMap L c t
        ((translate L c gens r).bind fun x => .ok (if dropsOption L c r then x else .opt x))
    | t@(.hashMap k v) => withMap L c t
        (if genericKeyForbidden L && isGenericKey gens k then .err (.formatError s%"GenericKeyForbiddenInTS")
         else (translate L c gens k).bind fun a => (translate L c gens v).bind fun b => .ok (.map a b))
    | t@(.prim p) => withMap L c t ((primTarget L p).bind fun n => .ok (.prim n))
  def translateList (L : TsV.Lang) (c : TCfg) (gens : List Str) : List RustType → Outcome (List TTy)
    | [] => .ok []
    | t :: ts =>
      (translate L c gens t).bind fun x => (translateList L c gens ts).bind fun xs => .ok (x :: xs)
end

def brOpen : TsV.Lang → Str
  | .typescript | .kotlin | .swift => s%"<"
  | _ => s%"["

def brClose : TsV.Lang → Str
  | .typescript | .kotlin | .swift => s%">"
  | _ => s%"]"

mutual
  /-- the text of a target type expression -/
  def «show» (L : TsV.Lang) : TTy → Str
    | .prim n => n
    | .param n => n
    | .mapped n => n
    | .user n args =>
      n ++ (if args.isEmpty then [] else brOpen L ++ Str.intercalate s%", " (showAll L args) ++ brClose L)
    | .seq t =>
      (match L with
      | .typescript => «show» L t ++ s%"[]"
      | .kotlin => s%"List<" ++ «show» L t ++ s%">"
      | .swift => s%"[" ++ «show» L t ++ s%"]"
      | .scala => s%"Vector[" ++ «show» L t ++ s%"]"
      | .go => s%"[]" ++ «show» L t
      | .python => s%"List[" ++ «show» L t ++ s%"]")
    | .fixedSeq t n =>
      (match L with
      | .typescript => s%"[" ++ Str.intercalate s%", " (List.replicate n («show» L t)) ++ s%"]"
      | .kotlin => s%"List<" ++ «show» L t ++ s%">"
      | .swift => s%"[" ++ «show» L t ++ s%"]"
      | .scala => s%"Vector[" ++ «show» L t ++ s%"]"
      | .go => s%"[" ++ Str.natToStr n ++ s%"]" ++ «show» L t
      | .python => s%"List[" ++ «show» L t ++ s%"]")
    | .map k v =>
      (match L with
      | .typescript => s%"Record<" ++ «show» L k ++ s%", " ++ «show» L v ++ s%">"
      | .kotlin => s%"HashMap<" ++ «show» L k ++ s%", " ++ «show» L v ++ s%">"
      | .swift => s%"[" ++ «show» L k ++ s%": " ++ «show» L v ++ s%"]"
      | .scala => s%"Map[" ++ «show» L k ++ s%", " ++ «show» L v ++ s%"]"
      | .go => s%"map[" ++ «show» L k ++ s%"]" ++ «show» L v
      | .python => s%"Dict[" ++ «show» L k ++ s%", " ++ «show» L v ++ s%"]")
    | .opt t =>
      (match L with
      | .typescript => «show» L t
      | .kotlin => «show» L t ++ s%"?"
      | .swift => «show» L t ++ s%"?"
      | .scala => s%"Option[" ++ «show» L t ++ s%"]"
      | .go => s%"*" ++ «show» L t
      | .python => s%"Optional[" ++ «show» L t ++ s%"]")
  def showAll (L : TsV.Lang) : List TTy → List Str
    | [] => []
    | t :: ts => «show» L t :: showAll L ts
end

theorem showAll_eq_map (L : TsV.Lang) : ∀ ts, showAll L ts = ts.map («show» L) := by
  intro ts
  induction ts with
  | nil => rfl
  | cons t ts ih => rw [showAll, ih, List.map_cons]

def omap {α β} (f : α → β) : Outcome α → Outcome β
  | .ok a => .ok (f a)
  | .err e => .err e
  | .panic s => .panic s

@[simp] theorem omap_ok {α β} (f : α → β) (a : α) : omap f (.ok a) = .ok (f a) := rfl
@[simp] theorem omap_err {α β} (f : α → β) (e) : omap f (.err e : Outcome α) = .err e := rfl
@[simp] theorem omap_panic {α β} (f : α → β) (s) : omap f (.panic s : Outcome α) = .panic s := rfl

theorem omap_bind_ok {α β γ} (x : Outcome α) (g : α → β) (f : β → γ) :
    omap f (x.bind fun a => .ok (g a)) = omap (fun a => f (g a)) x := by
  cases x <;> rfl

/-- the configuration each back end hands to the type level -/
def tcfgTS (c : TypeScript.Cfg) : TCfg := { typeMappings := c.typeMappings }
def tcfgKt (c : Kotlin.Cfg) : TCfg := { typeMappings := c.typeMappings, pfx := c.pfx }
def tcfgSw (c : Swift.Cfg) : TCfg := { typeMappings := c.typeMappings, pfx := c.pfx }
def tcfgSc (c : Scala.Cfg) : TCfg := { typeMappings := c.typeMappings }
def tcfgGo (c : Go.Cfg) : TCfg := { typeMappings := c.typeMappings, noPointerSlice := c.noPointerSlice }
def tcfgPy (c : Python.Cfg) : TCfg := { typeMappings := c.typeMappings }

end TsV.C05L
