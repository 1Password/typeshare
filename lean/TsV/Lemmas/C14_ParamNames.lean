import TsV.Lemmas.C14_Imports_Visit
/-!
# C14_ParamNames — helper lemmas: renaming an identifier inside a type
-/
namespace TsV.C14_ParamNames
open TsV TsV.Visitor TsV.C06M TsV.C14I

mutual
  /-- rename the identifier `p` to `q` wherever the type mentions it (a generic parameter being renamed
  in the item that binds it) -/
  def subst (p q : Str) : RustType → RustType
    | .simple i => .simple (if i == p then q else i)
    | .generic i ps => .generic (if i == p then q else i) (substList p q ps)
    | .vec t => .vec (subst p q t)
    | .array t n => .array (subst p q t) n
    | .slice t => .slice (subst p q t)
    | .option t => .option (subst p q t)
    | .hashMap k v => .hashMap (subst p q k) (subst p q v)
    | .prim x => .prim x
  def substList (p q : Str) : List RustType → List RustType
    | [] => []
    | t :: ts => subst p q t :: substList p q ts
end

/-- every identifier other than the renamed one is still mentioned -/
theorem mem_allIds_subst (p q x : Str) (hx : x ≠ p) : ∀ t : RustType, x ∈ t.allIds → x ∈ (subst p q t).allIds := by
  intro t
  induction t using RustType.rec
    (motive_2 := fun ts => x ∈ RustType.allIdsList ts → x ∈ RustType.allIdsList (substList p q ts)) with
  | simple i =>
    intro h
    simp only [RustType.allIds, List.mem_singleton] at h
    subst h
    simp [subst, RustType.allIds, hx]
  | generic i ps ih =>
    intro h
    simp only [RustType.allIds, List.mem_cons] at h
    simp only [subst, RustType.allIds, List.mem_cons]
    rcases h with rfl | h
    · left; simp [hx]
    · exact .inr (ih h)
  | vec t ih | array t n ih | slice t ih | option t ih =>
    intro h
    simp only [RustType.allIds, List.mem_cons] at h
    simp only [subst, RustType.allIds, List.mem_cons]
    exact h.imp id ih
  | hashMap k v ihk ihv =>
    intro h
    simp only [RustType.allIds, List.mem_cons, List.mem_append] at h
    simp only [subst, RustType.allIds, List.mem_cons, List.mem_append]
    exact h.imp id (Or.imp ihk ihv)
  | prim y => exact id
  | nil => assumption
  | cons t ts iht ihts =>
    rename_i h
    simp only [RustType.allIdsList, List.mem_append] at h
    simp only [substList, RustType.allIdsList, List.mem_append]
    exact h.imp iht ihts

theorem mem_allIdsList_subst (p q x : Str) (hx : x ≠ p) : ∀ ts : List RustType,
    x ∈ RustType.allIdsList ts → x ∈ RustType.allIdsList (substList p q ts) := by
  intro ts
  induction ts with
  | nil => exact id
  | cons t ts ih =>
    intro h
    simp only [RustType.allIdsList, List.mem_append] at h
    simp only [substList, RustType.allIdsList, List.mem_append]
    exact h.imp (mem_allIds_subst p q x hx t) ih

/-- the item that binds the parameter, with the parameter renamed: binder list and field types -/
def renameStruct (p q : Str) (s : RustStruct) : RustStruct :=
  { s with genericTypes := s.genericTypes.map (fun g => if g == p then q else g),
           fields := s.fields.map fun f => { f with ty := subst p q f.ty } }

end TsV.C14_ParamNames
