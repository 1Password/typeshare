import TsV.Lemmas.Lang.Scala
import TsV.Lemmas.C04_Common
/-!
# C04 for the Scala back end (`write_element` in scala.rs)
-/
namespace TsV.C04.Sc
open TsV TsV.Lang TsV.Lang.Scala TsV.C04

/-! ## binding semantics (trusted specification)

Scala's idiom for an optional case-class parameter is `name: Option[T] = None`. -/

def isOptional (p : ScParam) : Bool :=
  p.default == s%" = None" && (s%"Option[").isPrefixOf p.ty && endsWith p.ty s%"]"

/-- the type without the marker: what is inside `Option[…]` -/
def stripOptional (p : ScParam) : Str :=
  if isOptional p then (p.ty.drop 7).dropLast else p.ty

theorem formatType_option (cfg : Cfg) (gens : List Str) (r : RustType) :
    formatType cfg gens (.option r) =
      (formatType cfg gens r).bind fun s => .ok (s%"Option[" ++ s ++ s%"]") := rfl

theorem formatType_option_ok {cfg : Cfg} {gens : List Str} {r : RustType} {t : Str}
    (h : formatType cfg gens (.option r) = .ok t) :
    ∃ s, formatType cfg gens r = .ok s ∧ t = s%"Option[" ++ s ++ s%"]" := by
  rw [formatType_option] at h
  exact (Outcome.of_bind_ret h).imp fun _ h => ⟨h.1, h.2.symm⟩

/-- the default suffix `write_element` prints -/
def defaultSuffix (f : RustField) : Str :=
  if f.hasDefault && !f.ty.isOptional then s%" = _" else if f.ty.isOptional then s%" = None" else []

theorem paramFacts_ok {cfg : Cfg} {gens : List Str} {f : RustField} {p : ScParam}
    (h : paramFacts cfg gens f = .ok p) :
    p.default = defaultSuffix f ∧
    (match typeOverride f .scala with
     | some t => p.ty = t
     | none => formatType cfg gens f.ty = .ok p.ty) := by
  obtain ⟨ty, hty, rfl⟩ := Outcome.of_bind_ret h
  refine ⟨rfl, ?_⟩
  cases ho : typeOverride f .scala with
  | some t => rw [ho] at hty; simp at hty; simp [hty]
  | none => rw [ho] at hty; simpa using hty

/-- **Scala, one field** (no `scala(type = …)` override): the parameter is `Option[T] = None`
exactly when the Rust type is `Option<_>` — `serde(default)` does NOT make it optional (it prints
`T = _`) — and without the marker the type is the translation of the `Option`-stripped type -/
theorem field {cfg : Cfg} {gens : List Str} {f : RustField} {p : ScParam}
    (hov : typeOverride f .scala = none) (h : paramFacts cfg gens f = .ok p) :
    isOptional p = f.ty.isOptional ∧ formatType cfg gens (stripOption f.ty) = .ok (stripOptional p) := by
  obtain ⟨hd, ht⟩ := paramFacts_ok h
  rw [hov] at ht
  simp only at ht
  by_cases ho : f.ty.isOptional = true
  · obtain ⟨r, hr⟩ := (isOptional_iff _).1 ho
    rw [hr] at ht
    obtain ⟨s, hs, hts⟩ := formatType_option_ok ht
    have hdf : defaultSuffix f = s%" = None" := by simp [defaultSuffix, ho]
    rw [hdf] at hd
    have h3 : endsWith p.ty s%"]" = true := by rw [hts]; exact endsWith_append _ _
    have h2 : (s%"Option[").isPrefixOf p.ty = true := by
      rw [hts, List.append_assoc]; exact List.isPrefixOf_iff_prefix.2 (List.prefix_append _ _)
    have hopt : isOptional p = true := by simp [isOptional, hd, h2, h3]
    refine ⟨by rw [hopt, ho], ?_⟩
    simp [stripOptional, hopt, hts, hr, stripOption, hs]
  · have ho' : f.ty.isOptional = false := by simpa using ho
    rw [stripOption_of_not_optional _ ho']
    have hne : isOptional p = false := by
      cases hdef : f.hasDefault <;> simp [isOptional, hd, defaultSuffix, ho', hdef]
    refine ⟨by rw [hne, ho'], ?_⟩
    simp only [stripOptional, hne]
    exact ht

/-- the known class: a non-`Option` field with `serde(default)` is printed `name: T = _` -/
theorem field_default_non_option {cfg : Cfg} {gens : List Str} {f : RustField} {p : ScParam}
    (hd : f.hasDefault = true) (ho : f.ty.isOptional = false) (h : paramFacts cfg gens f = .ok p) :
    p.default = s%" = _" ∧ isOptional p = false ∧ opt f = true := by
  obtain ⟨hdf, _⟩ := paramFacts_ok h
  have : defaultSuffix f = s%" = _" := by simp [defaultSuffix, hd, ho]
  rw [this] at hdf
  exact ⟨hdf, by simp [isOptional, hdf], by simp [opt, hd]⟩

/-- with a `scala(type = "t")` override the text replaces the translated type including the
`Option[…]` wrapper -/
theorem field_override {cfg : Cfg} {gens : List Str} {f : RustField} {p : ScParam} {t : Str}
    (hov : typeOverride f .scala = some t) (h : paramFacts cfg gens f = .ok p) :
    p.ty = t ∧ p.default = defaultSuffix f := by
  obtain ⟨hd, ht⟩ := paramFacts_ok h
  rw [hov] at ht
  exact ⟨ht, hd⟩

def FieldGen (cfg : Cfg) (gens : List Str) (f : RustField) (p : ScParam) : Prop :=
  paramFacts cfg gens f = .ok p

/-- **every field of every struct** has its parameter, in order -/
theorem struct_fields {cfg : Cfg} {rs : RustStruct} {c : ScClass} (h : classFacts cfg rs = .ok c) :
    Pointwise (FieldGen cfg rs.genericTypes) rs.fields c.params := by
  obtain ⟨ps, hps, rfl⟩ := Outcome.of_bind_ret h
  exact mapM'_pointwise _ _ _ hps

/-- **every field of every struct variant**: one inner class per struct variant, in order -/
theorem variant_fields {cfg : Cfg} {e : RustEnum} {se : ScEnum} (h : enumFacts cfg e = .ok se) :
    Pointwise (fun (v : Id × List RustField) c => ∃ gens, Pointwise (FieldGen cfg gens) v.2 c.params)
      (structVariants e) se.inner := by
  obtain ⟨inner, cases, hin, -, rfl⟩ := enumFacts_inv h
  exact (mapM'_pointwise _ _ _ hin).imp fun _ _ hc => ⟨_, struct_fields hc⟩

/-- **newtype-variant payload**: printed as the translation of the payload type (so `Option<T>`
gives `Option[T]`, by `formatType_option`) -/
theorem payload {cfg : Cfg} {e : RustEnum} {tag ck : Str} {id : Id} {cs : List Str} {ty : RustType} {c : ScCase}
    (hk : e.keys = some (tag, ck)) (h : caseFacts cfg e (.tuple id cs ty) = .ok c) :
    ∃ t, c.content = some (e.genericTypes, ck, t) ∧ formatType cfg e.genericTypes ty = .ok t := by
  unfold caseFacts at h
  rw [hk] at h
  obtain ⟨t, ht, rfl⟩ := Outcome.of_bind_ret h
  exact ⟨t, rfl, ht⟩

/-- **alias**: `type X = <translation of the type>` -/
theorem alias {cfg : Cfg} {a : RustTypeAlias} {sa : ScAlias} (h : aliasFacts cfg a = .ok sa) :
    formatType cfg a.genericTypes a.ty = .ok sa.ty := by
  obtain ⟨ty, hty, rfl⟩ := Outcome.of_bind_ret h
  exact hty

end TsV.C04.Sc
