import TsV.Props.C16
import TsV.Props.C03
import TsV.Props.C08
import TsV.Model.Lang.Common
import TsV.Lemmas.Outcome
import TsV.Lemmas.C01_Parse
import TsV.Lemmas.Printers
/-!
# C02 — shared definitions: serde's variant name, what an emitted enum says on the wire, templates

*Specification side* (`Serde.variantName?`), the record every back end's output is read into
(`EnumWire`: one `WireCase` per emitted case plus every place a tag / content key is printed), the
template machinery for the synthesised Swift / Go codecs (`Seg`, `flat`, `holesOf`), and the
string / list lemmas the per-language files share.
-/
namespace TsV.C02
open TsV TsV.Str TsV.Syn TsV.Parser TsV.Serde TsV.RenameLemmas

/-! ## specification: the name serde gives a variant -/

/-- `some a` for a result, `none` where serde_derive itself fails (a compile error of the user's crate) -/
def okVal? {α} : Outcome α → Option α
  | .ok a => some a
  | _ => none

/-- **serde's wire name of a variant**: `#[serde(rename = "k")]` on the variant if present (the first
one in attribute order; the literal's value as `Parser.serdeRename` reads it, i.e. trimmed — the
identity on the rename alphabet, `trim_id`); otherwise the container's `rename_all` rule applied to
the identifier by `RenameRule::apply_to_variant` when the rule is one of serde's eight; otherwise
the identifier. -/
def variantName? (E : Ext) (renameAll : Option Str) (v : Variant) : Option Str :=
  match serdeRename E v.attrs with
  | some k => some k
  | none =>
    match renameAll.bind Rule.ofStr with
    | some rule => okVal? (applyVariant E.U rule v.ident)
    | none => some v.ident

/-- the rename alphabet `[A-Za-z0-9_-]` -/
def keyChar (c : Char) : Bool := alnum c || c == '_' || c == '-'

/-- `str::trim` is the identity on strings without white space (in particular on the rename alphabet
for any `U` whose `isWhite` is ASCII-correct) -/
theorem trim_id (U : UnicodeOps) (s : Str) (h : ∀ c ∈ s, U.isWhite c = false) : U.trim s = s :=
  RenameLemmas.trim_id U s h

/-! ## what an emitted enum says on the wire -/

/-- one case on the foreign side -/
structure WireCase where
  /-- the identifier the case declares in the target language (`none`: the case has no name of its
  own — a TypeScript union member is identified by its tag literal) -/
  caseId : Option Str
  /-- the string the case is (de)serialised as, per the binding semantics of the language
  (`none`: no such string can be read off the declaration) -/
  wire : Option Str
deriving Repr, DecidableEq

inductive Role where
  | tag | content
deriving Repr, DecidableEq

/-- everything the output for one enum says about its wire encoding -/
structure EnumWire where
  /-- the emitted cases in emission order -/
  cases : List WireCase
  /-- every place the output prints a tag / content key, with the (unquoted) text printed there -/
  holes : List (Role × Str)
deriving Repr, DecidableEq

/-- wire names: one case per variant, same order, each under `id.renamed` -/
def EnumWire.Names (e : RustEnum) (w : EnumWire) : Prop :=
  w.cases.map (·.wire) = e.variants.map fun v => some v.id.renamed

/-- each variant has a case *of its own*: the identifiers the cases declare are pairwise distinct -/
def EnumWire.Distinct (w : EnumWire) : Prop := (w.cases.filterMap (·.caseId)).Nodup

/-- every printed key is the right one; a unit enum prints none -/
def EnumWire.Keys (e : RustEnum) (w : EnumWire) : Prop :=
  match e.keys with
  | none => w.holes = []
  | some (tag, content) => ∀ h ∈ w.holes, h = (.tag, tag) ∨ h = (.content, content)

/-- **the property on one back end's output for one enum** -/
structure EnumWire.Correct (e : RustEnum) (w : EnumWire) : Prop where
  names : w.Names e
  distinct : w.Distinct
  keys : w.Keys e

instance (e : RustEnum) (w : EnumWire) : Decidable (w.Names e) := by unfold EnumWire.Names; infer_instance
instance (w : EnumWire) : Decidable w.Distinct := by unfold EnumWire.Distinct; infer_instance
instance (e : RustEnum) (w : EnumWire) : Decidable (w.Keys e) := by
  unfold EnumWire.Keys
  cases e.keys with
  | none => infer_instance
  | some p => exact List.decidableBAll _ _
instance (e : RustEnum) (w : EnumWire) : Decidable (w.Correct e) :=
  if h : w.Names e ∧ w.Distinct ∧ w.Keys e then .isTrue ⟨h.1, h.2.1, h.2.2⟩
  else .isFalse fun c => h ⟨c.names, c.distinct, c.keys⟩

theorem EnumWire.Keys.of_none {e : RustEnum} {w : EnumWire} (hk : e.keys = none) (hh : w.holes = []) :
    w.Keys e := by
  unfold EnumWire.Keys; rw [hk]; exact hh

theorem EnumWire.Keys.of_some {e : RustEnum} {w : EnumWire} {tag content : Str}
    (hk : e.keys = some (tag, content))
    (hh : ∀ h ∈ w.holes, h = (.tag, tag) ∨ h = (.content, content)) : w.Keys e := by
  unfold EnumWire.Keys; rw [hk]; exact hh

theorem EnumWire.caseIds_named {γ} (cs : List γ) (name : γ → Str) (wire : γ → Option Str) :
    (cs.map fun c => (⟨some (name c), wire c⟩ : WireCase)).filterMap (·.caseId) = cs.map name := by
  rw [List.filterMap_map,
    show ((·.caseId) ∘ fun c => (⟨some (name c), wire c⟩ : WireCase)) = some ∘ name from rfl,
    List.filterMap_eq_map]

theorem EnumWire.distinct_named {γ} (cs : List γ) (name : γ → Str) (wire : γ → Option Str)
    (holes : List (Role × Str)) :
    EnumWire.Distinct { cases := cs.map fun c => ⟨some (name c), wire c⟩, holes } ↔ (cs.map name).Nodup := by
  rw [EnumWire.Distinct, EnumWire.caseIds_named]

theorem EnumWire.names_map {γ} {e : RustEnum} (cs : List γ) (cid wire : γ → Option Str)
    (holes : List (Role × Str)) (hw : cs.map wire = e.variants.map fun v => some v.id.renamed) :
    EnumWire.Names e { cases := cs.map fun c => ⟨cid c, wire c⟩, holes } := by
  rw [EnumWire.Names, List.map_map]; exact hw

theorem EnumWire.names_named {γ} {e : RustEnum} (cs : List γ) (cid : γ → Option Str) (wire : γ → Str)
    (holes : List (Role × Str)) (hw : cs.map wire = e.variants.map (·.id.renamed)) :
    EnumWire.Names e { cases := cs.map fun c => ⟨cid c, some (wire c)⟩, holes } := by
  refine EnumWire.names_map cs cid (fun c => some (wire c)) holes ?_
  have := congrArg (List.map some) hw
  rwa [List.map_map, List.map_map] at this

/-- the shape a back end's output has: one case per record of a list, each with an identifier and a
wire name -/
theorem EnumWire.Correct.of_named {γ} {e : RustEnum} (cs : List γ) (name wire : γ → Str)
    {holes : List (Role × Str)}
    (hw : cs.map wire = e.variants.map (·.id.renamed))
    (hid : (cs.map name).Nodup)
    (hk : EnumWire.Keys e { cases := cs.map fun c => ⟨some (name c), some (wire c)⟩, holes }) :
    EnumWire.Correct e { cases := cs.map fun c => ⟨some (name c), some (wire c)⟩, holes } :=
  ⟨EnumWire.names_named cs _ wire holes hw, (EnumWire.distinct_named cs name _ holes).2 hid, hk⟩

/-- the scope of the back-end half: the property's quantifier on a parsed enum -/
structure InScopeEnum (e : RustEnum) : Prop where
  /-- variant identifiers are UpperCamelCase (`TsV.C16.UpperCamel`) -/
  camel : ∀ v ∈ e.variants, C16.UpperCamel v.id.original
  /-- … and pairwise distinct (rustc rejects anything else) -/
  distinct : (e.variants.map (·.id.original)).Nodup

/-! ## templates: literal segments and key holes -/

/-- how a hole prints its value -/
inductive Quote where
  | raw      -- verbatim
  | debug    -- Rust `{:?}`: a double-quoted string literal with escapes
deriving Repr, DecidableEq

def Quote.render : Quote → Str → Str
  | .raw, v => v
  | .debug, v => Lang.debugStr v

inductive Seg where
  | lit (s : Str)
  | hole (r : Role) (q : Quote) (v : Str)
deriving Repr, DecidableEq

def Seg.text : Seg → Str
  | .lit s => s
  | .hole _ q v => q.render v

/-- the text a template denotes -/
def flat (l : List Seg) : Str := l.flatMap Seg.text

/-- the holes of a template, in order -/
def holesOf (l : List Seg) : List (Role × Str) :=
  l.filterMap fun s => match s with
    | .hole r _ v => some (r, v)
    | .lit _ => none

@[simp] theorem flat_nil : flat [] = [] := rfl
@[simp] theorem flat_cons (s : Seg) (l : List Seg) : flat (s :: l) = s.text ++ flat l := rfl
@[simp] theorem flat_append (a b : List Seg) : flat (a ++ b) = flat a ++ flat b := by
  simp [flat]
theorem flat_flatMap {α} (l : List α) (f : α → List Seg) :
    flat (l.flatMap f) = l.flatMap fun x => flat (f x) := by
  induction l with
  | nil => rfl
  | cons a t ih => simp [List.flatMap_cons, ih]

@[simp] theorem holesOf_nil : holesOf [] = [] := rfl
@[simp] theorem holesOf_lit (s : Str) (l : List Seg) : holesOf (.lit s :: l) = holesOf l := rfl
@[simp] theorem holesOf_hole (r q v) (l : List Seg) : holesOf (.hole r q v :: l) = (r, v) :: holesOf l := rfl
@[simp] theorem holesOf_append (a b : List Seg) : holesOf (a ++ b) = holesOf a ++ holesOf b := by
  simp [holesOf]
theorem holesOf_flatMap {α} (l : List α) (f : α → List Seg) :
    holesOf (l.flatMap f) = l.flatMap fun x => holesOf (f x) := by
  induction l with
  | nil => rfl
  | cons a t ih => simp [List.flatMap_cons, ih]

/-- distinctness passes from one map of a list to any map that identifies no more elements -/
theorem nodup_map_of_factors {α β γ} {f : α → β} {g : α → γ} {l : List α} (h : (l.map f).Nodup)
    (hinj : ∀ a ∈ l, ∀ b ∈ l, g a = g b → f a = f b) : (l.map g).Nodup :=
  List.pairwise_map.2 ((List.pairwise_map.1 h).imp_of_mem fun ha hb hne heq => hne (hinj _ ha _ hb heq))

theorem nodup_map_inj {α β} {f : α → β} (hf : ∀ a b, f a = f b → a = b) (l : List α) :
    (l.map f).Nodup ↔ l.Nodup := by
  constructor
  · intro h
    have := nodup_map_of_factors (g := id) h fun a _ b _ hab => congrArg f hab
    rwa [List.map_id] at this
  · intro h
    rw [← List.map_id l] at h
    exact nodup_map_of_factors h fun a _ b _ hab => hf a b hab

theorem upper_notLower (c : Char) (h : isAsciiUpper c = true) : isAsciiLower c = false :=
  RenameLemmas.upper_notLower c h

instance (s : Str) : Decidable (C16.UpperCamel s) :=
  match s with
  | [] => .isFalse fun ⟨_, _, h, _⟩ => nomatch h
  | c :: rest =>
    decidable_of_iff
      (isAsciiUpper c = true ∧ (∀ x ∈ rest, alnum x = true) ∧
        ((∃ x ∈ rest, isAsciiLower x = true) ∨ (∀ x ∈ rest, isAsciiDigit x = true)))
      ⟨fun h => ⟨c, rest, rfl, h⟩, fun ⟨_, _, h, hr⟩ => by cases h; exact hr⟩

theorem upperCamel_alnum (s : Str) (h : C16.UpperCamel s) : ∀ c ∈ s, alnum c = true := by
  obtain ⟨c, rest, rfl, hc, hrest, _⟩ := h
  intro x hx
  simp only [List.mem_cons] at hx
  rcases hx with rfl | hx
  · simp [alnum, hc]
  · exact hrest x hx

/-- `to_camel_case` lower-cases the initial of an UpperCamelCase identifier and nothing else -/
theorem toCamel_upperCamel (U : UnicodeOps) (hU : U.AsciiCorrect) (c : Char) (rest : Str)
    (h : C16.UpperCamel (c :: rest)) :
    Rename.toCamel U (c :: rest) = asciiLower c :: rest := by
  unfold Rename.toCamel
  rw [C16.toPascal_upperCamel U hU _ h]
  rfl

theorem upperCamel_head (s : Str) (h : C16.UpperCamel s) : ∃ c rest, s = c :: rest ∧ isAsciiUpper c = true := by
  obtain ⟨c, rest, rfl, hc, _, _⟩ := h
  exact ⟨c, rest, rfl, hc⟩

/-- `to_camel_case` is injective on UpperCamelCase identifiers -/
theorem toCamel_inj (U : UnicodeOps) (hU : U.AsciiCorrect) (a b : Str) (ha : C16.UpperCamel a)
    (hb : C16.UpperCamel b) (h : Rename.toCamel U a = Rename.toCamel U b) : a = b := by
  obtain ⟨c, r, rfl, hc⟩ := upperCamel_head a ha
  obtain ⟨d, t, rfl, hd⟩ := upperCamel_head b hb
  rw [toCamel_upperCamel U hU c r ha, toCamel_upperCamel U hU d t hb] at h
  simp only [List.cons.injEq] at h
  have : c = d := by
    rw [← upper_lower_upper c hc, ← upper_lower_upper d hd, h.1]
  rw [this, h.2]

theorem unraw_upperCamel (s : Str) (h : C16.UpperCamel s) : replaceSub s s%"r#" [] = s :=
  replaceSub_id _ [] (by decide) s fun hm => absurd (upperCamel_alnum s h '#' hm) (by decide)

end TsV.C02
