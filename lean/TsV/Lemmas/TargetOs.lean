import TsV.Model.TargetOs
/-! helper lemmas for C13: the stack walk yields the structurally specified leaves -/
namespace TsV.TargetOs
open TsV.Syn

def specOf (stack : List (Scope × Meta)) : List (Scope × Str) :=
  stack.flatMap fun p => collect p.1 p.2

def stackWF (stack : List (Scope × Meta)) : Bool := stack.all fun p => WF p.2

def stackSize : List (Scope × Meta) → Nat
  | [] => 0
  | p :: rest => metaSize p.2 + stackSize rest

theorem collectList_eq (sc : Scope) (args : List Meta) :
    collectList sc args = (args.map fun a => (sc, a)).flatMap fun p => collect p.1 p.2 := by
  induction args with
  | nil => simp [collectList]
  | cons a t ih => simp [collectList, ih]

theorem wfList_all (args : List Meta) : wfList args = args.all WF := by
  induction args with
  | nil => simp [wfList]
  | cons a t ih => simp [wfList, ih]

theorem scopeOf_list (sc : Scope) (segs : List Str) (p q : Bool) (a b : List Meta) :
    scopeOf sc (.list segs p a) = scopeOf sc (.list segs q b) := by
  simp [scopeOf, Meta.isIdent, Meta.segs]

theorem stackSize_append (a b : List (Scope × Meta)) :
    stackSize (a ++ b) = stackSize a + stackSize b := by
  induction a with
  | nil => simp [stackSize]
  | cons x t ih => simp [stackSize, ih]; omega

theorem stackSize_reverse (a : List (Scope × Meta)) : stackSize a.reverse = stackSize a := by
  induction a with
  | nil => simp [stackSize]
  | cons x t ih => simp [stackSize_append, stackSize, ih]; omega

theorem stackSize_map (sc : Scope) (args : List Meta) :
    stackSize (args.map fun a => (sc, a)) = sizeList args := by
  induction args with
  | nil => simp [stackSize, sizeList]
  | cons a t ih => simp [stackSize, sizeList, ih]

theorem metaSize_pos (m : Meta) : 0 < metaSize m := by
  cases m <;> simp [metaSize] <;> omega

/-- fuel sufficiency: the stack walk terminates within the size of its stack -/
theorem drain_isSome : ∀ fuel stack acc, stackSize stack ≤ fuel → (drain fuel stack acc).isSome := by
  intro fuel
  induction fuel with
  | zero =>
    intro stack acc h
    cases stack with
    | nil => simp [drain]
    | cons p t =>
      have := metaSize_pos p.2
      simp [stackSize] at h; omega
  | succ fuel ih =>
    intro stack acc h
    cases stack with
    | nil => simp [drain]
    | cons p rest =>
      obtain ⟨sc, m⟩ := p
      cases m with
      | path s | nameValue s v =>
        simp only [drain]
        apply ih; simp [stackSize, metaSize] at h; omega
      | list s parsed args =>
        simp only [drain]
        split
        · apply ih
          rw [stackSize_append, stackSize_reverse, stackSize_map]
          simp [stackSize, metaSize] at h; omega
        · simp

/-- on well-formed stacks the walk yields exactly (a permutation of) the specified leaves -/
theorem drain_perm : ∀ fuel stack acc r, stackWF stack = true → drain fuel stack acc = some r →
    r.Perm (acc ++ specOf stack) := by
  intro fuel
  induction fuel with
  | zero =>
    intro stack acc r _ h
    cases stack with
    | nil => simp [drain] at h; subst h; simp [specOf]
    | cons p t => simp [drain] at h
  | succ fuel ih =>
    intro stack acc r hwf h
    cases stack with
    | nil => simp [drain] at h; subst h; simp [specOf]
    | cons p rest =>
      obtain ⟨sc, m⟩ := p
      rw [stackWF, List.all_cons, Bool.and_eq_true] at hwf
      obtain ⟨hm, hwfr⟩ := hwf
      cases m with
      | path n =>
        simp only [drain] at h
        have := ih rest acc r hwfr h
        simpa [specOf, collect] using this
      | nameValue n v =>
        simp only [drain] at h
        have := ih rest _ r hwfr h
        simpa [specOf, collect, List.append_assoc] using this
      | list n parsed args =>
        have hp : parsed = true ∧ wfList args = true := by simpa [WF] using hm
        simp only [drain, hp.1, if_true] at h
        have hwf' : stackWF ((args.map fun a => (scopeOf sc (.list n true args), a)).reverse ++ rest) = true := by
          have := hp.2
          rw [wfList_all] at this
          simp only [stackWF, List.all_append, List.all_reverse, List.all_map, Bool.and_eq_true]
          refine ⟨?_, hwfr⟩
          simpa [List.all_eq_true] using this
        have := ih _ acc r hwf' h
        refine this.trans ?_
        apply List.Perm.append_left
        simp only [specOf, List.flatMap_append, List.flatMap_cons, collect, collectList_eq]
        apply List.Perm.append_right
        exact (List.reverse_perm _).flatMap_right _

end TsV.TargetOs

namespace TsV.TargetOs
open TsV.Syn

theorem drainTop_isSome (m : Meta) : (drainTop m).isSome := by
  unfold drainTop
  apply drain_isSome; simp [stackSize]

theorem yielded_isSome (attrs : List Attr) : (yielded attrs).isSome := by
  unfold yielded
  have : ∀ (items : List Meta) acc, (items.foldl yieldStep (some acc)).isSome := by
    intro items
    induction items with
    | nil => intro acc; simp
    | cons m ms ih =>
      intro acc
      obtain ⟨r, hr⟩ := Option.isSome_iff_exists.mp (drainTop_isSome m)
      simp only [List.foldl_cons, yieldStep, hr]
      exact ih _
  exact this _ _

/-- the stack walk never runs out of fuel: `accept_target_os` always answers -/
theorem accept_isSome (attrs : List Attr) (T : List Str) : (accept attrs T).isSome := by
  unfold accept
  split
  · rfl
  · obtain ⟨ys, hys⟩ := Option.isSome_iff_exists.mp (yielded_isSome attrs)
    simp [hys]

/-- so the decision read with the default `true` loses nothing -/
theorem accept_beq (attrs : List Attr) (T : List Str) (b : Bool) :
    (accept attrs T == some b) = ((accept attrs T).getD true == b) := by
  obtain ⟨c, hc⟩ := Option.isSome_iff_exists.mp (accept_isSome attrs T)
  rw [hc]
  cases c <;> cases b <;> rfl

theorem accept_eq_some (attrs : List Attr) (T : List Str) (b : Bool) :
    accept attrs T = some b ↔ (accept attrs T).getD true = b := by
  rw [← beq_iff_eq, accept_beq, beq_iff_eq]

end TsV.TargetOs
