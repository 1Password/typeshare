import TsV.Lemmas.Order
/-!
# `BTreeMap` as a list sorted by key, and its one entry operation

The collector's `Pipeline.upsert` and the two operations `scopedInsert` / `scopedEnsure` of `used_imports`
are the same walk over an association list kept strictly sorted by `Str.lt`:
`entry(c).and_modify(f).or_insert(v₀)`.  `alter` is that walk; its facts (keys, order, values, look-up) are
proved once, by the induction principle `alter_rec` that hides the three-way comparison.
-/
namespace TsV.C06M
open TsV

/-- strictly increasing for `Str.lt` (the order of `BTreeMap` / `BTreeSet` keys) -/
def SSorted (l : List Str) : Prop := l.Pairwise fun a b => Str.lt a b = true

theorem SSorted.nodup {l : List Str} (h : SSorted l) : l.Nodup := by
  unfold SSorted at h
  exact h.imp (fun {a b} hab heq => by subst heq; rw [Order.lt_irrefl] at hab; exact absurd hab (by simp))

/-- **a list strictly sorted by a key is determined by its set of members** -/
theorem sorted_ext_by {α} (key : α → Str) {l₁ l₂ : List α} (h₁ : SSorted (l₁.map key)) (h₂ : SSorted (l₂.map key))
    (h : ∀ x, x ∈ l₁ ↔ x ∈ l₂) : l₁ = l₂ := by
  have nd : ∀ {l : List α}, SSorted (l.map key) → l.Nodup := fun hl =>
    hl.nodup.of_map key fun _ _ hne e => hne (e ▸ rfl)
  apply List.Perm.eq_of_pairwise (le := fun a b => Str.lt (key a) (key b) = true) _
    (List.pairwise_map.1 h₁) (List.pairwise_map.1 h₂)
  · exact (List.perm_ext_iff_of_nodup (nd h₁) (nd h₂)).2 h
  · intro a b _ _ hab hba
    rw [Order.lt_asymm _ _ hab] at hba
    exact absurd hba (by simp)

theorem ssorted_ext {l₁ l₂ : List Str} (h₁ : SSorted l₁) (h₂ : SSorted l₂)
    (h : ∀ x, x ∈ l₁ ↔ x ∈ l₂) : l₁ = l₂ :=
  sorted_ext_by id (by rwa [List.map_id]) (by rwa [List.map_id]) h

/-- a key occurs once in a sorted map -/
theorem mem_unique {β} {m : List (Str × β)} (hs : SSorted (m.map (·.1))) {c : Str} {v w : β}
    (hv : (c, v) ∈ m) (hw : (c, w) ∈ m) : v = w :=
  (Prod.mk.inj (Order.inj_of_nodup_map (·.1) hs.nodup hv hw rfl)).2

/-- neither equal nor smaller: larger -/
theorem lt_of_ne_of_not_lt {a b : Str} (h1 : (a == b) = false) (h2 : Str.lt b a = false) : Str.lt a b = true := by
  cases h3 : Str.lt a b with
  | true => rfl
  | false =>
    have : a = b := Order.eq_of_not_lt _ _ h3 h2
    simp [this] at h1

/-- `entry(c).and_modify(f).or_insert(v₀)` -/
def alter {β} (c : Str) (v₀ : β) (f : β → β) : List (Str × β) → List (Str × β)
  | [] => [(c, v₀)]
  | (k, v) :: rest =>
    if k == c then (k, f v) :: rest
    else if Str.lt c k then (c, v₀) :: (k, v) :: rest
    else (k, v) :: alter c v₀ f rest

theorem alter_cons_self {β} (c : Str) (v₀ : β) (f : β → β) (v : β) (rest : List (Str × β)) :
    alter c v₀ f ((c, v) :: rest) = (c, f v) :: rest := by
  rw [alter, if_pos (beq_self_eq_true c)]

theorem alter_cons_of_lt {β} (c : Str) (v₀ : β) (f : β → β) {k : Str} (v : β) (rest : List (Str × β))
    (h : Str.lt c k = true) : alter c v₀ f ((k, v) :: rest) = (c, v₀) :: (k, v) :: rest := by
  have hne : ¬ (k == c) = true := fun e => by
    rw [eq_of_beq e, Order.lt_irrefl] at h; exact absurd h (by simp)
  rw [alter, if_neg hne, if_pos h]

theorem alter_cons_of_gt {β} (c : Str) (v₀ : β) (f : β → β) {k : Str} (v : β) (rest : List (Str × β))
    (h : Str.lt k c = true) : alter c v₀ f ((k, v) :: rest) = (k, v) :: alter c v₀ f rest := by
  have hne : ¬ (k == c) = true := fun e => by
    rw [eq_of_beq e, Order.lt_irrefl] at h; exact absurd h (by simp)
  have hlt : ¬ Str.lt c k = true := by rw [Order.lt_asymm k c h]; simp
  rw [alter, if_neg hne, if_neg hlt]

/-- the four ways `alter` can go: the map is empty, the head key is `c`, is larger, is smaller -/
theorem alter_rec {β} (c : Str) (v₀ : β) (f : β → β) {motive : List (Str × β) → List (Str × β) → Prop}
    (nil : motive [] [(c, v₀)])
    (eq : ∀ v rest, motive ((c, v) :: rest) ((c, f v) :: rest))
    (lt : ∀ k v rest, Str.lt c k = true → motive ((k, v) :: rest) ((c, v₀) :: (k, v) :: rest))
    (gt : ∀ k v rest, Str.lt k c = true → motive rest (alter c v₀ f rest) →
      motive ((k, v) :: rest) ((k, v) :: alter c v₀ f rest)) :
    ∀ m, motive m (alter c v₀ f m) := by
  intro m
  induction m with
  | nil => exact nil
  | cons p rest ih =>
    obtain ⟨k, v⟩ := p
    by_cases h1 : (k == c) = true
    · cases eq_of_beq h1; rw [alter_cons_self]; exact eq v rest
    · by_cases h2 : Str.lt c k = true
      · rw [alter_cons_of_lt c v₀ f v rest h2]; exact lt k v rest h2
      · have h3 := lt_of_ne_of_not_lt (by simpa using h1) (by simpa using h2)
        rw [alter_cons_of_gt c v₀ f v rest h3]
        exact gt k v rest h3 ih

/-- two entry operations on the same key, one after the other, are one -/
theorem alter_alter {β} (c : Str) (v₀ w₀ : β) (f g : β → β) (m : List (Str × β)) :
    alter c w₀ g (alter c v₀ f m) = alter c (g v₀) (fun v => g (f v)) m :=
  alter_rec c v₀ f (motive := fun m r => alter c w₀ g r = alter c (g v₀) (fun v => g (f v)) m)
    (alter_cons_self c w₀ g v₀ [])
    (fun v rest => by rw [alter_cons_self, alter_cons_self])
    (fun k v rest hlt => by rw [alter_cons_self, alter_cons_of_lt c _ _ v rest hlt])
    (fun k v rest hgt ih => by rw [alter_cons_of_gt c _ _ v _ hgt, alter_cons_of_gt c _ _ v _ hgt, ih]) m

theorem mem_keys_alter {β} (c : Str) (v₀ : β) (f : β → β) (c' : Str) (m : List (Str × β)) :
    c' ∈ (alter c v₀ f m).map (·.1) ↔ c' = c ∨ c' ∈ m.map (·.1) :=
  alter_rec c v₀ f (motive := fun m r => c' ∈ r.map (·.1) ↔ c' = c ∨ c' ∈ m.map (·.1))
    (by simp) (fun v rest => by simp) (fun k v rest _ => by simp)
    (fun k v rest _ ih => by simp only [List.map_cons, List.mem_cons, ih]; exact or_left_comm) m

theorem alter_sorted {β} (c : Str) (v₀ : β) (f : β → β) (m : List (Str × β)) :
    SSorted (m.map (·.1)) → SSorted ((alter c v₀ f m).map (·.1)) :=
  alter_rec c v₀ f (motive := fun m r => SSorted (m.map (·.1)) → SSorted (r.map (·.1)))
    (fun _ => by simp [SSorted]) (fun _ _ h => h)
    (fun k v rest hlt h => by
      refine List.pairwise_cons.2 ⟨fun a ha => ?_, h⟩
      rcases List.mem_cons.1 ha with rfl | ha
      · exact hlt
      · exact Order.lt_trans _ _ _ hlt ((List.pairwise_cons.1 h).1 a ha))
    (fun k v rest hgt ih h => by
      refine List.pairwise_cons.2 ⟨fun a ha => ?_, ih (List.pairwise_cons.1 h).2⟩
      rcases (mem_keys_alter c v₀ f a rest).1 ha with rfl | ha
      · exact hgt
      · exact (List.pairwise_cons.1 h).1 a ha) m

/-- what holds of every old entry, of the fresh entry and is kept by `f` holds of every new entry -/
theorem forall_mem_alter {β} (c : Str) (v₀ : β) (f : β → β) (P : Str × β → Prop) (h₀ : P (c, v₀))
    (hf : ∀ v, P (c, v) → P (c, f v)) (m : List (Str × β)) :
    (∀ p ∈ m, P p) → ∀ p ∈ alter c v₀ f m, P p :=
  alter_rec c v₀ f (motive := fun m r => (∀ p ∈ m, P p) → ∀ p ∈ r, P p)
    (fun _ p hp => by cases List.mem_singleton.1 hp; exact h₀)
    (fun v rest h p hp => by
      rcases List.mem_cons.1 hp with rfl | hp
      · exact hf v (h _ List.mem_cons_self)
      · exact h p (List.mem_cons_of_mem _ hp))
    (fun k v rest _ h p hp => by
      rcases List.mem_cons.1 hp with rfl | hp
      · exact h₀
      · exact h p hp)
    (fun k v rest _ ih h p hp => by
      rcases List.mem_cons.1 hp with rfl | hp
      · exact h _ List.mem_cons_self
      · exact ih (fun q hq => h q (List.mem_cons_of_mem _ hq)) p hp) m

def get? {β} (m : List (Str × β)) (c : Str) : Option β := (m.find? (·.1 == c)).map (·.2)

theorem get?_cons {β} (k : Str) (v : β) (m : List (Str × β)) (c : Str) :
    get? ((k, v) :: m) c = if k = c then some v else get? m c := by
  unfold get?
  by_cases h : k = c <;> simp [h]

theorem get?_eq_none {β} {m : List (Str × β)} {c : Str} (h : ∀ k ∈ m.map (·.1), Str.lt c k = true) :
    get? m c = none := by
  unfold get?
  rw [List.find?_eq_none.2, Option.map_none]
  intro p hp heq
  have := h p.1 (List.mem_map.2 ⟨p, hp, rfl⟩)
  rw [eq_of_beq heq, Order.lt_irrefl] at this
  exact absurd this (by simp)

/-- in a sorted map the look-up finds the entry with that key -/
theorem get?_of_mem {β} {m : List (Str × β)} (hs : SSorted (m.map (·.1))) {c : Str} {v : β} (h : (c, v) ∈ m) :
    get? m c = some v := by
  unfold get?
  cases hf : m.find? (·.1 == c) with
  | none => exact absurd (beq_self_eq_true c) (List.find?_eq_none.1 hf (c, v) h)
  | some p =>
    obtain ⟨k, w⟩ := p
    have hk : ((k, w).1 == c) = true := List.find?_some (p := fun x : Str × β => x.1 == c) hf
    cases eq_of_beq hk
    rw [Option.map_some, mem_unique hs (List.mem_of_find?_eq_some hf) h]

/-- **look-up after `alter`** in a sorted map: the entry of `c` is `f` of the old one, or `v₀`; the others
are untouched -/
theorem get?_alter {β} (c : Str) (v₀ : β) (f : β → β) (c' : Str) (m : List (Str × β)) :
    SSorted (m.map (·.1)) →
    get? (alter c v₀ f m) c' =
      if c' = c then some (match get? m c with | some v => f v | none => v₀) else get? m c' :=
  alter_rec c v₀ f (motive := fun m r => SSorted (m.map (·.1)) →
      get? r c' = if c' = c then some (match get? m c with | some v => f v | none => v₀) else get? m c')
    (fun _ => by
      rw [get?_cons]
      by_cases h : c' = c
      · simp [h, get?]
      · simp [h, Ne.symm h, get?])
    (fun v rest _ => by
      rw [get?_cons, get?_cons, get?_cons]
      by_cases h : c' = c
      · simp [h]
      · simp [h, Ne.symm h])
    (fun k v rest hlt hs => by
      rw [get?_cons]
      by_cases h : c' = c
      · subst h
        have : get? ((k, v) :: rest) c' = none := get?_eq_none (by
          intro a ha
          rcases List.mem_cons.1 ha with rfl | ha
          · exact hlt
          · exact Order.lt_trans _ _ _ hlt ((List.pairwise_cons.1 hs).1 a ha))
        simp [this]
      · simp [h, Ne.symm h])
    (fun k v rest hgt ih hs => by
      have hkc : k ≠ c := by
        intro e; subst e; rw [Order.lt_irrefl] at hgt; exact absurd hgt (by simp)
      rw [get?_cons, get?_cons k v rest c', get?_cons k v rest c, if_neg hkc,
        ih (List.pairwise_cons.1 hs).2]
      by_cases h : k = c'
      · subst h; simp [hkc]
      · simp [h]) m

end TsV.C06M
