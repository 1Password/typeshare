import TsV.Lemmas.Capstone_Items
import TsV.Lemmas.Capstone_Order
/-!
# Capstone — Go: from `writeItem … = .ok (b, st')` to the fact records and the clauses
-/
namespace TsV.Cap.Go
open TsV TsV.Syn TsV.Parser TsV.Pipeline TsV.Generate TsV.C03E TsV.Lang TsV.Lang.Go TsV.Outcome

/-- C04's reading of one struct field -/
def Reads (cfg : Cfg) (g : GoField) (o : Bool) (core : Str) : Prop :=
  o = C04.Go.isOptional cfg g ∧ core = C04.Go.stripOptional g

/-- the helper structs of the struct variants (a unit enum has none, the list is computed all the same) -/
def anonOf : C02.Go.EnumDecl → List GoStruct
  | .unit anonymous _ => anonymous
  | .alg d => d.anonymous

theorem enumFacts_anon (U : UnicodeOps) (cfg : Cfg) (cs : List Str) (e : RustEnum) (st st' : Imports)
    (d : C02.Go.EnumDecl) (h : C02.Go.enumFacts U cfg e cs st = .ok (d, st')) :
    ∃ st1, anonStructs U cfg e (structVariants e) st = .ok (anonOf d, st1) := by
  rcases C02.Go.enumFacts_inv h with ⟨_, _, _, _, ha, _, _, rfl⟩ | ⟨t, c, g, _, hg, rfl⟩
  · exact ⟨st', ha⟩
  · exact C01.C01_go_enum_structs U cfg e t c cs st _ g hg

/-- **clauses 2 + 3 for the struct of a source struct** -/
theorem struct_ok (E : Ext) (hU : E.U.AsciiCorrect) (cfg : Cfg) (targetOs : List Str) (c : Str) (r : Renames)
    (attrs : List Attr) (ident : Str) (gens : List GenericParam) (fs : List Field) (rs : RustStruct)
    (st st' : Imports) (d : GoStruct)
    (hparse : parseStruct E targetOs attrs ident gens (.named fs) = .ok (.struct rs))
    (hd : structFacts E.U cfg (recStruct c r rs) st = .ok (d, st')) :
    StructClauses E .go (.go cfg) targetOs c r attrs fs (recStruct c r rs)
      (d.fields.map C01.Go.boundKey) (Reads cfg) d.fields := by
  refine struct_clauses E hU .go (.go cfg) (cfg, st) targetOs c r attrs ident gens fs rs _ (Reads cfg) _ hparse
    (by simp [C01.structKeys, hd]) ((C04.go_struct hd).imp ?_)
  intro rf' p hp hs _
  obtain ⟨h1, h2⟩ := hp hs.1 hs.2.1 hs.2.2.1 hs.2.2.2
  exact ⟨_, _, ⟨rfl, rfl⟩, h1, h2⟩

/-- **clauses 2 + 4 for the declarations of a source enum** (C02's known class for Go is evaluated at the
configured `uppercase_acronyms`) -/
theorem enum_ok (E : Ext) (hU : E.U.AsciiCorrect) (cfg : Cfg) (cs : List Str) (targetOs : List Str) (c : Str) (r : Renames)
    (attrs : List Attr) (ident : Str) (gens : List GenericParam) (vs : List Variant) (e : RustEnum)
    (st st' : Imports) (d : C02.Go.EnumDecl)
    (hparse : parseEnum E targetOs attrs ident gens vs = .ok (.enum e))
    (hd : C02.Go.enumFacts E.U cfg (recEnum c r e) cs st = .ok (d, st')) :
    EnumClauses E .go targetOs attrs vs (recEnum c r e) cfg.uppercaseAcronyms
      ((anonOf d).map (·.fields.map C01.Go.boundKey)) (C02.Go.wire d) := by
  obtain ⟨st1, ha⟩ := enumFacts_anon E.U cfg cs _ st st' d hd
  refine enum_clauses E hU .go (cfg, st) targetOs c r attrs ident gens vs e _ _ _ hparse
    (by simp [C01.enumKeys, ha]) ?_
  intro hsc hk
  exact C02.C02_backend .go E hU _ _ hsc hk cfg cs st d st' rfl hd

end TsV.Cap.Go
