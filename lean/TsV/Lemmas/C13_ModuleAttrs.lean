import TsV.Lemmas.C13_Pruned
/-!
# C13 / C03 — the attributes of an inline module: lemmas

The abstract AST *does* record the attribute list of an inline module (`Item.mod attrs ident items`), and the
visitor looks at it in exactly one way: `visit_item_mod` is not overridden (the override is commented out in
`core/src/visitors.rs`), so `syn::visit::visit_item_mod` walks the attributes' paths (`visit_path`: a
possible import, folder mode only) and then the items.  `stripItem` blanks the attribute list of every
inline module, at every depth (also inside function bodies, `Item.other`); two files with the same
`stripItems` differ only in the attribute lists of their inline modules.
-/
namespace TsV.C13MA
open TsV TsV.Syn TsV.Parser TsV.Visitor TsV.C13P

mutual
  /-- every inline module (at any depth, also inside function bodies) loses its attributes -/
  def stripItem : Item → Item
    | .struct a i g fs => .struct a i g fs
    | .enum a i g vs => .enum a i g vs
    | .alias a i g t => .alias a i g t
    | .const a i t l => .const a i t l
    | .use t => .use t
    | .mod _ i items => .mod [] i (stripItems items)
    | .other p items => .other p (stripItems items)
  def stripItems : List Item → List Item
    | [] => []
    | i :: is => stripItem i :: stripItems is
end

/-- `f'` is `f` with the attribute lists of inline modules (any of them, at any depth) replaced by any other
lists: same inner attributes, same marker, and the same items once module attributes are blanked -/
def SameButModAttrs (f f' : File) : Prop :=
  f'.attrs = f.attrs ∧ f'.marker = f.marker ∧ stripItems f'.items = stripItems f.items

/-! ## the visitor cannot tell a file from its stripped form, except in the raw import set -/

/-- blanking module attributes touches no annotated item -/
theorem annotated_strip (ctx : ParseContext) : ∀ it : Item, C03.annotated ctx (stripItem it) = C03.annotated ctx it := by
  intro it
  induction it using Item.rec
    (motive_2 := fun items => C03.annotatedList ctx (stripItems items) = C03.annotatedList ctx items) with
  | struct | enum | alias | const | use => rfl
  | mod _ _ items ih | other _ items ih => exact ih
  | nil => rfl
  | cons i is ihi ihis => simp only [stripItems, C03.annotatedList, ihi, ihis]

theorem visitItems_strip (E : Ext) (ctx : ParseContext) (fp : Str) (items : List Item) (a b : ParsedData)
    (h : Agree ctx a b) : AgreeO ctx (visitItems E ctx fp a items) (visitItems E ctx fp b (stripItems items)) :=
  visitItems_agree E ctx fp h (congrArg (List.map _) (annotated_strip ctx (.other [] items)).symm)

theorem visitItem_strip (E : Ext) (ctx : ParseContext) (fp : Str) : ∀ (it : Item) (a b : ParsedData),
    Agree ctx a b → AgreeO ctx (visitItem E ctx fp a it) (visitItem E ctx fp b (stripItem it)) := by
  intro it a b h
  rw [← visitItems_singleton, ← visitItems_singleton]
  exact visitItems_strip E ctx fp [it] a b h

/-- two item lists with the same stripped form are visited alike -/
theorem visitItems_same (E : Ext) (ctx : ParseContext) (fp : Str) (l l' : List Item) (d : ParsedData)
    (h : stripItems l' = stripItems l) :
    AgreeO ctx (visitItems E ctx fp d l) (visitItems E ctx fp d l') := by
  have h1 := visitItems_strip E ctx fp l d d (Agree.refl ctx d)
  have h2 := visitItems_strip E ctx fp l' d d (Agree.refl ctx d)
  rw [h] at h2
  exact h1.trans h2.symm

/-! ## attribute lists whose paths are single identifiers record no import at all -/

/-- every attribute's path is a single identifier (`cfg`, `cfg_attr`, `doc`, `path`, `allow`, `typeshare`,
`serde`, …) — or empty -/
def plain (attrs : List Attr) : Bool := attrs.all fun a => decide (a.val.segs.length ≤ 1)

theorem importOfPath_short (E : Ext) (ctx : ParseContext) (cn : Str) (p : List Str) (h : p.length ≤ 1) :
    importOfPath E ctx cn p = none := by
  match p, h with
  | [], _ => rfl
  | [x], _ => simp [importOfPath]

theorem addPaths_plain (E : Ext) (ctx : ParseContext) (d : ParsedData) (attrs : List Attr)
    (h : plain attrs = true) : addPaths E ctx d (attrPaths attrs) = d := by
  unfold addPaths
  split
  · have : (attrPaths attrs).filterMap (importOfPath E ctx d.crateName) = [] := by
      rw [List.filterMap_eq_nil_iff]
      intro p hp
      simp only [attrPaths, List.mem_map] at hp
      obtain ⟨a, ha, rfl⟩ := hp
      simp only [plain, List.all_eq_true, decide_eq_true_eq] at h
      exact importOfPath_short E ctx _ _ (h a ha)
    rw [this]
    rfl
  · rfl

mutual
  /-- every inline module (at any depth) carries plain attributes only -/
  def modsPlain : Item → Bool
    | .struct _ _ _ _ | .enum _ _ _ _ | .alias _ _ _ _ | .const _ _ _ _ => true
    | .use _ => true
    | .mod a _ items => plain a && modsPlainList items
    | .other _ items => modsPlainList items
  def modsPlainList : List Item → Bool
    | [] => true
    | i :: is => modsPlain i && modsPlainList is
end

theorem visitItem_strip_plain (E : Ext) (ctx : ParseContext) (fp : Str) : ∀ (it : Item) (d : ParsedData),
    modsPlain it = true → visitItem E ctx fp d (stripItem it) = visitItem E ctx fp d it := by
  intro it
  induction it using Item.rec (motive_2 := fun items => ∀ d, modsPlainList items = true →
    visitItems E ctx fp d (stripItems items) = visitItems E ctx fp d items) with
  | struct | enum | alias | const | use => exact fun _ _ => rfl
  | mod at' i items ih =>
    intro d h
    simp only [modsPlain, Bool.and_eq_true] at h
    simp only [stripItem, visitItem, addPaths_plain E ctx d at' h.1, addPaths_plain E ctx d [] rfl]
    exact ih d h.2
  | other p items ih =>
    intro d h
    simp only [modsPlain] at h
    simp only [stripItem, visitItem]
    exact ih _ h
  | nil => rfl
  | cons i is ihi ihis =>
    rename_i d h
    simp only [modsPlainList, Bool.and_eq_true] at h
    simp only [stripItems, visitItems, ihi d h.1]
    congr 1
    funext d'
    exact ihis d' h.2

theorem visitItems_strip_plain (E : Ext) (ctx : ParseContext) (fp : Str) (items : List Item) (d : ParsedData)
    (h : modsPlainList items = true) : visitItems E ctx fp d (stripItems items) = visitItems E ctx fp d items := by
  simpa only [stripItem, Visit.visitItem_other_nil] using visitItem_strip_plain E ctx fp (.other [] items) d h

/-! ## annotated items are not touched -/

theorem noAnnotated_strip : ∀ it : Item, noAnnotated (stripItem it) = noAnnotated it := by
  intro it
  induction it using Item.rec
    (motive_2 := fun items => noAnnotatedList (stripItems items) = noAnnotatedList items) with
  | struct | enum | alias | const | use => rfl
  | mod _ _ items ih | other _ items ih => simp only [stripItem, noAnnotated]; exact ih
  | nil => rfl
  | cons i is ihi ihis => simp only [stripItems, noAnnotatedList, ihi, ihis]

theorem noAnnotatedList_strip (items : List Item) : noAnnotatedList (stripItems items) = noAnnotatedList items :=
  noAnnotated_strip (.other [] items)

/-! a way to produce such an `f'`: rewrite the attribute list of every module by any function of the
module's name, its depth and its old attributes -/
mutual
  def reattrItem (g : Nat → Str → List Attr → List Attr) (depth : Nat) : Item → Item
    | .struct a i gs fs => .struct a i gs fs
    | .enum a i gs vs => .enum a i gs vs
    | .alias a i gs t => .alias a i gs t
    | .const a i t l => .const a i t l
    | .use t => .use t
    | .mod a i items => .mod (g depth i a) i (reattrItems g (depth + 1) items)
    | .other p items => .other p (reattrItems g depth items)
  def reattrItems (g : Nat → Str → List Attr → List Attr) (depth : Nat) : List Item → List Item
    | [] => []
    | i :: is => reattrItem g depth i :: reattrItems g depth is
end

theorem strip_reattrItem (g : Nat → Str → List Attr → List Attr) : ∀ (depth : Nat) (it : Item),
    stripItem (reattrItem g depth it) = stripItem it := by
  intro depth it
  induction it using Item.rec
    (motive_2 := fun items => ∀ n, stripItems (reattrItems g n items) = stripItems items) generalizing depth with
  | struct | enum | alias | const | use => rfl
  | mod _ _ items ih => simp only [reattrItem, stripItem, ih (depth + 1)]
  | other _ items ih => simp only [reattrItem, stripItem, ih depth]
  | nil => rfl
  | cons i is ihi ihis => rename_i n; simp only [reattrItems, stripItems, ihi n, ihis n]

theorem strip_reattrItems (g : Nat → Str → List Attr → List Attr) (depth : Nat) (items : List Item) :
    stripItems (reattrItems g depth items) = stripItems items :=
  (Item.other.inj (strip_reattrItem g depth (.other [] items))).2

end TsV.C13MA
