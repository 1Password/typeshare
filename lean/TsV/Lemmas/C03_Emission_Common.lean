import TsV.Lemmas.C03_Emission_Spec
import TsV.Lemmas.C09_Tie
import TsV.Lemmas.C12_Common
/-!
# C03, emission clause — lemmas shared by the six back ends

`Threaded`: the blocks a state-passing `write_items` loop writes, one per item; the algebra of
`LineStart` / `NameEnd` / `DefinesHead` / `SplitsInto` that lets a back end split a rendered block
along the left-nested `++` chain its renderer builds.
-/
namespace TsV.C03E
open TsV TsV.Lang

/-! ## blocks written by a state-threading printer -/

/-- `blocks` are the texts `w` writes for `items`, one per item, in order, the printer state being
handed from one item to the next (`st` before the first, `st'` after the last) -/
inductive Threaded {σ : Type} (w : RustItem → σ → Outcome (Str × σ)) : List RustItem → σ → List Str → σ → Prop
  | nil (st : σ) : Threaded w [] st [] st
  | cons {it : RustItem} {its : List RustItem} {st st1 st2 : σ} {b : Str} {bs : List Str} :
      w it st = .ok (b, st1) → Threaded w its st1 bs st2 → Threaded w (it :: its) st (b :: bs) st2

theorem Threaded.length {σ} {w : RustItem → σ → Outcome (Str × σ)} {items st blocks st'}
    (h : Threaded w items st blocks st') : blocks.length = items.length := by
  induction h with
  | nil => rfl
  | cons _ _ ih => simp [ih]

/-- the `write_items` loop shared by the state-threading back ends: a printer of item lists that
obeys these two equations writes one block per item and hands the state on -/
theorem Threaded.of_writeItems {σ} {w : RustItem → σ → Outcome (Str × σ)}
    {ws : List RustItem → σ → Outcome (Str × σ)} (hnil : ∀ st, ws [] st = .ok ([], st))
    (hcons : ∀ it its st, ws (it :: its) st =
      (w it st).bind fun (a, st) => (ws its st).bind fun (b, st) => .ok (a ++ b, st)) :
    ∀ (its : List RustItem) (st : σ) (body : Str) (st' : σ), ws its st = .ok (body, st') →
      ∃ blocks, Threaded w its st blocks st' ∧ body = blocks.flatten := by
  intro its
  induction its with
  | nil =>
    intro st body st' h
    rw [hnil] at h
    cases h
    exact ⟨[], .nil _, rfl⟩
  | cons it its ih =>
    intro st body st' h
    rw [hcons] at h
    obtain ⟨a, st1, ha, h⟩ := Outcome.of_bind_pair_ok h
    obtain ⟨b, st2, hb, h⟩ := Outcome.of_bind_pair_ok h
    cases h
    obtain ⟨bs, hbs, rfl⟩ := ih st1 b _ hb
    exact ⟨a :: bs, .cons ha hbs, rfl⟩

theorem paired_iff {α β} {R : α → β → Prop} {l1 : List α} {l2 : List β} : Paired R l1 l2 ↔ C01.Forall₂ R l1 l2 :=
  ⟨fun h => by induction h with | nil => exact .nil | cons hr _ ih => exact .cons hr ih,
   fun h => by induction h with | nil => exact .nil | cons hr _ ih => exact .cons hr ih⟩

theorem Paired.length_eq {α β} {R : α → β → Prop} {l1 : List α} {l2 : List β} (h : Paired R l1 l2) :
    l1.length = l2.length := (paired_iff.1 h).length_eq

theorem Paired.append {α β} {R : α → β → Prop} {l1 l1' : List α} {l2 l2' : List β} (h : Paired R l1 l2)
    (h' : Paired R l1' l2') : Paired R (l1 ++ l1') (l2 ++ l2') := paired_iff.2 ((paired_iff.1 h).append (paired_iff.1 h'))

theorem Paired.mono {α β} {R S : α → β → Prop} {l1 : List α} {l2 : List β} (h : Paired R l1 l2)
    (hrs : ∀ a b, R a b → S a b) : Paired S l1 l2 := paired_iff.2 ((paired_iff.1 h).imp hrs)

/-- blocks and items are paired up one to one -/
theorem Threaded.forall₂ {σ} {w : RustItem → σ → Outcome (Str × σ)} {items st blocks st'}
    (h : Threaded w items st blocks st') :
    Paired (fun it b => ∃ s s', w it s = .ok (b, s')) items blocks := by
  induction h with
  | nil => exact .nil
  | cons hw _ ih => exact .cons ⟨_, _, hw⟩ ih

theorem lineStart_nil : LineStart [] := .inl rfl

theorem lineStart_nl (p : Str) : LineStart (p ++ ['\n']) := .inr (by simp)

theorem lineStart_append {p q : Str} (hp : LineStart p) (hq : LineStart q) : LineStart (p ++ q) := by
  rcases hq with rfl | hq
  · simpa using hp
  · exact .inr (by simp [List.getLast?_append, hq])

theorem lineStart_append_right (p : Str) {q : Str} (hq : q.getLast? = some '\n') : LineStart (p ++ q) :=
  .inr (by simp [List.getLast?_append, hq])

theorem lineStart_flatMap {α} (f : α → Str) (l : List α) (h : ∀ x ∈ l, LineStart (f x)) :
    LineStart (l.flatMap f) := by
  induction l with
  | nil => exact lineStart_nil
  | cons x t ih =>
    simp only [List.flatMap_cons]
    exact lineStart_append (h x (by simp)) (ih fun y hy => h y (by simp [hy]))

theorem lineStart_lines {α} (f : α → Str) (l : List α) : LineStart (l.flatMap fun x => f x ++ nl) :=
  lineStart_flatMap _ _ fun _ _ => lineStart_append_right _ (by simp [nl])

theorem nameEnd_cons {c : Char} (r : Str) (h : c ∈ delims) : NameEnd (c :: r) := ⟨c, r, rfl, h⟩

theorem nameEnd_append {p : Str} (q : Str) (h : NameEnd p) : NameEnd (p ++ q) := by
  obtain ⟨c, r, rfl, hc⟩ := h
  exact ⟨c, r ++ q, rfl, hc⟩

/-- `<A, B>` or nothing, then something that starts with a delimiter -/
theorem nameEnd_genericSuffix (gs : List Str) {q : Str} (h : NameEnd q) : NameEnd (genericSuffix gs ++ q) := by
  unfold genericSuffix
  split
  · simpa using h
  · exact nameEnd_append _ (nameEnd_cons _ (by decide))

/-- the shape the renderers produce: text that ends a line, keyword, name, text that starts with a
delimiter.  Whatever the renderer appends after that is added with `definesHead_append`. -/
theorem definesHead_head {kw n : Str} (pre post : Str) (h1 : LineStart pre) (h2 : NameEnd post) :
    DefinesHead kw n (pre ++ kw ++ n ++ post) := ⟨pre, post, rfl, h1, h2⟩

/-- the same when the delimiter comes after a possibly empty generic-parameter list -/
theorem definesHead_head₂ {kw n : Str} (pre g post : Str) (h1 : LineStart pre) (h2 : NameEnd (g ++ post)) :
    DefinesHead kw n (pre ++ kw ++ n ++ g ++ post) := ⟨pre, g ++ post, by simp only [List.append_assoc], h1, h2⟩

/-- the same when the definition is the very first thing in the text -/
theorem definesHead_head₀ {kw n : Str} (post : Str) (h2 : NameEnd post) : DefinesHead kw n (kw ++ n ++ post) :=
  ⟨[], post, rfl, lineStart_nil, h2⟩

/-- the same for a right-nested concatenation (what `simp only [List.append_assoc]` produces) -/
theorem definesHead_r {kw n : Str} (pre post : Str) (h1 : LineStart pre) (h2 : NameEnd post) :
    DefinesHead kw n (pre ++ (kw ++ (n ++ post))) := ⟨pre, post, by simp [List.append_assoc], h1, h2⟩

/-- the definition is the very first thing in the chunk -/
theorem definesHead_r0 {kw n : Str} (post : Str) (h2 : NameEnd post) : DefinesHead kw n (kw ++ (n ++ post)) :=
  ⟨[], post, by simp [List.append_assoc], lineStart_nil, h2⟩

theorem definesHead_append {kw n chunk : Str} (q : Str) (h : DefinesHead kw n chunk) :
    DefinesHead kw n (chunk ++ q) := by
  obtain ⟨pre, post, rfl, h1, h2⟩ := h
  exact ⟨pre, post ++ q, by simp [List.append_assoc], h1, nameEnd_append _ h2⟩

theorem splitsInto_single {kw n block : Str} (h : DefinesHead kw n block) : SplitsInto [(kw, n)] block :=
  ⟨[], [block], by simp, by simp, .cons h .nil⟩

theorem splitsInto_nil : SplitsInto [] [] := ⟨[], [], rfl, by simp, .nil⟩

/-- chunks side by side -/
theorem splitsInto_chunks {defs : List (Str × Str)} {chunks : List Str}
    (h : Paired (fun d c => DefinesHead d.1 d.2 c) defs chunks) : SplitsInto defs chunks.flatten :=
  ⟨[], chunks, by simp, by simp, h⟩

theorem splitsInto_append {d1 d2 : List (Str × Str)} {b1 b2 : Str} (h1 : SplitsInto d1 b1)
    (h2 : ∃ chunks, b2 = chunks.flatten ∧ Paired (fun d c => DefinesHead d.1 d.2 c) d2 chunks) :
    SplitsInto (d1 ++ d2) (b1 ++ b2) := by
  obtain ⟨lead, c1, rfl, hl, f1⟩ := h1
  obtain ⟨c2, rfl, f2⟩ := h2
  exact ⟨lead, c1 ++ c2, by simp [List.append_assoc], hl, f1.append f2⟩

/-- one more definition at the end -/
theorem splitsInto_snoc {d1 : List (Str × Str)} {b1 : Str} {kw n c : Str} (h1 : SplitsInto d1 b1)
    (h2 : DefinesHead kw n c) : SplitsInto (d1 ++ [(kw, n)]) (b1 ++ c) :=
  splitsInto_append h1 ⟨[c], by simp, .cons h2 .nil⟩

theorem Paired.snoc_inv {α β} {R : α → β → Prop} {a : α} : ∀ {l : List α} {r : List β}, Paired R (l ++ [a]) r →
    ∃ r' b, r = r' ++ [b] ∧ Paired R l r' ∧ R a b := by
  intro l
  induction l with
  | nil =>
    intro r h
    rw [List.nil_append] at h
    cases h with
    | cons hr ht => cases ht; exact ⟨[], _, rfl, .nil, hr⟩
  | cons x l ih =>
    intro r h
    rw [List.cons_append] at h
    cases h with
    | cons hr ht =>
      obtain ⟨r', b, rfl, hp, hb⟩ := ih ht
      exact ⟨_ :: r', b, rfl, .cons hr hp, hb⟩

/-! The renderers build a block as one left-nested concatenation.  The lemmas below follow that
shape, so that a block is split without writing its text a second time: the chunks of a list of
records, the head of one more definition, and whatever text comes after a head. -/

theorem splitsInto_flatMap {α} (head : α → Str × Str) (render : α → Str) (l : List α)
    (h : ∀ x ∈ l, DefinesHead (head x).1 (head x).2 (render x)) : SplitsInto (l.map head) (l.flatMap render) := by
  rw [List.flatMap_def]
  exact splitsInto_chunks (paired_iff.2 (.of_map head render l h))

theorem splitsInto_append_flatMap {α} {d : List (Str × Str)} {b : Str} (head : α → Str × Str) (render : α → Str)
    (l : List α) (h1 : SplitsInto d b) (h : ∀ x ∈ l, DefinesHead (head x).1 (head x).2 (render x)) :
    SplitsInto (d ++ l.map head) (b ++ l.flatMap render) := by
  rw [List.flatMap_def]
  exact splitsInto_append h1 ⟨_, rfl, paired_iff.2 (.of_map head render l h)⟩

theorem splitsInto_snoc_head {d : List (Str × Str)} {b kw n : Str} (pre post : Str) (h : SplitsInto d b)
    (h1 : LineStart pre) (h2 : NameEnd post) : SplitsInto (d ++ [(kw, n)]) (b ++ pre ++ kw ++ n ++ post) := by
  have := splitsInto_snoc h (definesHead_head (kw := kw) (n := n) pre post h1 h2)
  rwa [← List.append_assoc, ← List.append_assoc, ← List.append_assoc] at this

theorem splitsInto_snoc_head₀ {d : List (Str × Str)} {b kw n : Str} (post : Str) (h : SplitsInto d b)
    (h2 : NameEnd post) : SplitsInto (d ++ [(kw, n)]) (b ++ kw ++ n ++ post) := by
  have := splitsInto_snoc h (definesHead_head₀ (kw := kw) (n := n) post h2)
  rwa [← List.append_assoc, ← List.append_assoc] at this

theorem splitsInto_snoc_head₂ {d : List (Str × Str)} {b kw n : Str} (pre g post : Str) (h : SplitsInto d b)
    (h1 : LineStart pre) (h2 : NameEnd (g ++ post)) :
    SplitsInto (d ++ [(kw, n)]) (b ++ pre ++ kw ++ n ++ g ++ post) := by
  have := splitsInto_snoc h (definesHead_head₂ (kw := kw) (n := n) pre g post h1 h2)
  rwa [← List.append_assoc, ← List.append_assoc, ← List.append_assoc, ← List.append_assoc] at this

/-- more text after the last definition -/
theorem splitsInto_text {d : List (Str × Str)} {kw n b : Str} (q : Str) (h : SplitsInto (d ++ [(kw, n)]) b) :
    SplitsInto (d ++ [(kw, n)]) (b ++ q) := by
  obtain ⟨lead, chunks, rfl, hl, hp⟩ := h
  obtain ⟨cs, c, rfl, hcs, hc⟩ := hp.snoc_inv
  refine ⟨lead, cs ++ [c ++ q], ?_, hl, hcs.append (.cons (definesHead_append q hc) .nil)⟩
  simp only [List.flatten_append, List.flatten_cons, List.flatten_nil, List.append_nil, List.append_assoc]

theorem splitsInto_lead {defs : List (Str × Str)} {b : Str} (lead : Str) (hl : ∀ c ∈ lead, c = '\n')
    (h : SplitsInto defs b) : SplitsInto defs (lead ++ b) := by
  obtain ⟨l0, cs, rfl, h0, f⟩ := h
  exact ⟨lead ++ l0, cs, by simp [List.append_assoc],
    fun c hc => (List.mem_append.1 hc).elim (hl c) (h0 c), f⟩

theorem SplitsInto.length {defs : List (Str × Str)} {b : Str} (h : SplitsInto defs b) :
    ∃ (lead : Str) (chunks : List Str), b = lead ++ chunks.flatten ∧ chunks.length = defs.length := by
  obtain ⟨lead, cs, hb, _, f⟩ := h
  exact ⟨lead, cs, hb, f.length_eq.symm⟩

theorem structVariantsOf_eq (e : RustEnum) : structVariantsOf e = structVariants e := rfl

end TsV.C03E
