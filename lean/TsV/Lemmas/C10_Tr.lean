import TsV.Model.Str
/-!
# C10 — character automata with a bracket stack, and texts with holes

`Lexer` is what the two automata of C10 (the C-family one with its configurations, Python's) have in
common: a step function, the run it generates, and the frame law of the step — it does not look below
the part of the stack it touches.  The laws of runs follow once, from the step: runs compose
(`scan_append`); a map between states that commutes with the steps commutes with the runs (`sim`: the
frame law `scan_on`, and forgetting the angle brackets); a text of characters that all step `a` to
`a` runs from `a` to `a` (`loop`: every "class of harmless characters" lemma of either automaton);
lines that cannot leave a set of states, between separators that lead back into it (`lines`: doc text).

A printer's text is a `++` chain of fixed texts and holes (names, types, doc blocks, nested
declarations).  A fixed text acts on the lexer as the run over it; a hole of which a loop is known
(a neutral text in code state; the body of a string literal or of a comment in that state) acts as
the identity there and is undefined elsewhere.  `Tr L x f` says that `x` acts as the closed function
`f` on the part of the stack it touches.

Reading a chain such as `Tr.l0.h hn |>.l.b hs |>.l.nb (by decide +kernel)`: the text is walked from
the left, one step per `++`.  `.l0` / `.l` pass a fixed text (found by unification, evaluated at the
end); `.h0` / `.h` a hole with a proof that it is neutral; `.b` a hole with a proof that it loops in
the state the lexer is in there (the body of a string literal or comment); `.append` a piece that has
a chain of its own, `.append (.ite _ … …)` one that is an `if`, both alternatives acting alike;
`.fork` (`.qp`, `.c` at their automata) a hole that may leave the lexer in one of two states, with
the fixed text after it, which joins them.  Unification assembles `f` on the way, and the last step
(`Tr.nb`; `Tr.only` for a piece that is not neutral by itself) asks for `f init = some init`: one
closed fact about the literal skeleton of the text — it opens and closes what it should, around
holes that sit where they are harmless — which the kernel evaluates in one go.
(The steps that speak of modes are stated at each automaton: `.h`, `.b`, `.nb` in `C10_Lex`, `.hp`,
`.bp`, `.nbp` in `C10_Files_PyLex`.)
-/
namespace TsV.C10Lex
open TsV

/-- the run of a step function over a text -/
def scanWith {σ : Type} (step : σ → Char → Option σ) : σ → Str → Option σ
  | a, [] => some a
  | a, c :: cs =>
    match step a c with
    | some b => scanWith step b cs
    | none => none

/-- `scan` is the automaton's own run function and `step` generates it; `on a t` is `a` with `t` put
beneath its stack; `fast` is a step the kernel evaluates with less work -/
structure Lexer (σ : Type) where
  step : σ → Char → Option σ
  scan : σ → Str → Option σ
  scan_nil : ∀ a, scan a [] = some a
  scan_cons : ∀ a c cs, scan a (c :: cs) = (step a c).bind fun b => scan b cs
  on : σ → List Char → σ
  step_on : ∀ (t : List Char) (a : σ) (c : Char) (b : σ), step a c = some b → step (on a t) c = some (on b t)
  fast : σ → Char → Option σ
  fast_eq : ∀ a c, fast a c = step a c

variable {σ : Type} {L : Lexer σ} {x y : Str} {f g : σ → Option σ}

namespace Lexer

/-- the evaluator for closed runs -/
def run (L : Lexer σ) : σ → Str → Option σ := scanWith L.fast

theorem run_eq (L : Lexer σ) (x : Str) : ∀ a, L.run a x = L.scan a x := by
  induction x with
  | nil => exact fun a => (L.scan_nil a).symm
  | cons c cs ih =>
    intro a
    rw [L.scan_cons, ← L.fast_eq]
    show (match L.fast a c with | some b => scanWith L.fast b cs | none => none) = _
    cases L.fast a c with
    | none => rfl
    | some b => exact ih b

theorem scan_append (L : Lexer σ) (x y : Str) : ∀ a, L.scan a (x ++ y) = (L.scan a x).bind fun b => L.scan b y := by
  induction x with
  | nil => intro a; rw [List.nil_append, L.scan_nil]; rfl
  | cons c cs ih =>
    intro a
    rw [List.cons_append, L.scan_cons, L.scan_cons]
    cases L.step a c with
    | none => rfl
    | some a' => exact ih a'

/-- a map between the states of two automata that commutes with their steps commutes with their runs -/
theorem sim (L : Lexer σ) {τ : Type} (M : Lexer τ) (φ : σ → τ)
    (hφ : ∀ a c b, L.step a c = some b → M.step (φ a) c = some (φ b)) (x : Str) :
    ∀ a b, L.scan a x = some b → M.scan (φ a) x = some (φ b) := by
  induction x with
  | nil => intro a b h; rw [L.scan_nil] at h; rw [M.scan_nil]; cases h; rfl
  | cons c cs ih =>
    intro a b h
    rw [L.scan_cons] at h
    rw [M.scan_cons]
    cases hs : L.step a c with
    | none => rw [hs] at h; cases h
    | some a' =>
      rw [hs] at h
      rw [hφ a c a' hs]
      exact ih a' b h

theorem scan_on (L : Lexer σ) (t : List Char) (x : Str) (a b : σ) (h : L.scan a x = some b) :
    L.scan (L.on a t) x = some (L.on b t) := L.sim L (L.on · t) (L.step_on t) x a b h

/-- a text of characters that step `a` to `a` -/
theorem loop (L : Lexer σ) {a : σ} : ∀ {s : Str}, (∀ c ∈ s, L.step a c = some a) → L.scan a s = some a := by
  intro s
  induction s with
  | nil => exact fun _ => L.scan_nil a
  | cons c cs ih =>
    intro h
    rw [L.scan_cons, h c List.mem_cons_self]
    exact ih fun d hd => h d (List.mem_cons_of_mem c hd)

/-- Lines that each run from `a0` into a set `S` of states, with a separator that runs from anywhere in
`S` back to `a0`: doc text inside a comment or literal that it cannot close. -/
theorem lines (L : Lexer σ) {S : σ → Prop} {a0 : σ} (h0 : S a0) {sep : Str} (hsep : ∀ b, S b → L.scan b sep = some a0) :
    ∀ ls : List Str, (∀ l ∈ ls, ∃ b, S b ∧ L.scan a0 l = some b) →
      ∃ b, S b ∧ L.scan a0 (Str.intercalate sep ls) = some b := by
  intro ls
  induction ls with
  | nil => exact fun _ => ⟨a0, h0, L.scan_nil a0⟩
  | cons l ls ih =>
    intro h
    obtain ⟨b1, hb1, r1⟩ := h l List.mem_cons_self
    cases ls with
    | nil => exact ⟨b1, hb1, r1⟩
    | cons d r =>
      obtain ⟨b2, hb2, r2⟩ := ih fun x hx => h x (List.mem_cons_of_mem l hx)
      refine ⟨b2, hb2, ?_⟩
      show L.scan a0 (l ++ sep ++ Str.intercalate sep (d :: r)) = some b2
      rw [L.scan_append, L.scan_append, r1]
      show (L.scan b1 sep).bind _ = _
      rw [hsep b1 hb1]
      exact r2

end Lexer

/-- `x` acts as `f`: wherever `f` is defined, and on top of any stack -/
def Tr (L : Lexer σ) (x : Str) (f : σ → Option σ) : Prop :=
  ∀ a b, f a = some b → ∀ stk, L.scan (L.on a stk) x = some (L.on b stk)

/-- the identity where `p` holds -/
def stay (p : σ → Bool) : σ → Option σ := fun a => if p a then some a else none

/-- the one transition `a0 ↦ b0` -/
def goes [DecidableEq σ] (a0 b0 : σ) : σ → Option σ := fun a => if a = a0 then some b0 else none

theorem Tr.nil : Tr L [] some := fun a _ h stk => by cases h; exact L.scan_nil _

theorem Tr.lit : Tr L x (L.run · x) := fun a b h stk => L.scan_on stk x a b (L.run_eq x a ▸ h)

theorem Tr.stay {p : σ → Bool} (h : ∀ a, p a = true → ∀ stk, L.scan (L.on a stk) y = some (L.on a stk)) :
    Tr L y (stay p) := by
  intro a b e stk
  unfold C10Lex.stay at e
  split at e
  · cases e; exact h a ‹_› stk
  · cases e

theorem Tr.append (hx : Tr L x f) (hy : Tr L y g) : Tr L (x ++ y) (fun a => (f a).bind g) := by
  intro a c e stk
  change (f a).bind g = some c at e
  cases hb : f a with
  | none => rw [hb] at e; cases e
  | some b =>
    rw [hb] at e
    rw [L.scan_append, hx a b hb stk]
    exact hy b c e stk

/-- … in particular as the one transition `f a0 = some b0` -/
theorem Tr.only [DecidableEq σ] (h : Tr L y f) {a0 b0 : σ} (e : f a0 = some b0) : Tr L y (goes a0 b0) := by
  intro a b e' stk
  unfold goes at e'
  split at e'
  · rename_i ha; cases e'; rw [ha]; exact h a0 _ e stk
  · cases e'

/-- both alternatives act alike -/
theorem Tr.ite [DecidableEq σ] (c : Prop) [Decidable c] (hx : Tr L x f) (hy : Tr L y g) :
    Tr L (if c then x else y) (fun a => if f a = g a then f a else none) := by
  intro a b e stk
  change (if f a = g a then f a else none) = some b at e
  split at e
  · rename_i hfg
    split
    · exact hx a b e stk
    · exact hy a b (hfg ▸ e) stk
  · cases e

/-- two pieces that act together, after a chain -/
theorem Tr.append₂ {z : Str} (hx : Tr L x f) (hyz : Tr L (y ++ z) g) : Tr L (x ++ y ++ z) (fun a => (f a).bind g) := by
  rw [List.append_assoc]; exact hx.append hyz

/-- A hole that leaves the lexer where it was or moves it to `k a` (a literal that may be empty),
together with the fixed text after it, which has to bring both states to the same one. -/
theorem Tr.fork [DecidableEq σ] {p : σ → Bool} {k : σ → σ} {l : Str} (hx : Tr L x f)
    (hy : ∀ a, p a = true → ∀ stk, L.scan (L.on a stk) y = some (L.on a stk) ∨ L.scan (L.on a stk) y = some (L.on (k a) stk)) :
    Tr L (x ++ y ++ l) (fun a => (f a).bind fun b => if p b && L.run b l == L.run (k b) l then L.run b l else none) := by
  refine hx.append₂ fun a b e stk => ?_
  split at e
  · rename_i hp
    rw [Bool.and_eq_true, beq_iff_eq] at hp
    rw [L.scan_append]
    rcases hy a hp.1 stk with h | h
    · rw [h]; exact L.scan_on stk l a b (L.run_eq l a ▸ e)
    · rw [h]; exact L.scan_on stk l (k a) b (L.run_eq l (k a) ▸ hp.2 ▸ e)
  · cases e

theorem Tr.l {l : Str} (hx : Tr L x f) : Tr L (x ++ l) (fun a => (f a).bind (L.run · l)) := hx.append .lit
theorem Tr.l0 {l : Str} : Tr L l (L.run · l) := .lit

end TsV.C10Lex
