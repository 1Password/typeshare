import TsV.Lemmas.C14_Imports_Used
import TsV.Lemmas.C14_Imports_Visit
/-!
# From the per-file results to the job of a crate

* `entry_of_arrival`, `job_of_entry`: the crate of an arrival has a job; the job's data carries the crate's name
  and (at least) the arrival's imports; `mem_jobsWith_id`: what the jobs of a multi-file run are;
* `allTypes_find`: the `all_types` entry of a crate lists (at least) the type names of its arrivals.
-/
namespace TsV.C14I
open TsV TsV.Pipeline TsV.Collect TsV.C06M

theorem entry_crateName (a : List ParsedData) (c : Str) (v : ParsedData) (h : (c, v) ∈ collect a) :
    v.crateName = c := by
  have he := collect_entry a h
  obtain ⟨x, hx, hx1, _⟩ := merged_last (arr a c) {} he.2
  rw [he.1, hx1]
  simp only [arr, List.mem_filter, beq_iff_eq] at hx
  exact hx.2

/-- the collected entry of the crate of an arrival -/
theorem entry_of_arrival (a : List ParsedData) (d : ParsedData) (hd : d ∈ a) :
    (d.crateName, merged {} (arr a d.crateName)) ∈ collect a ∧
    (merged {} (arr a d.crateName)).crateName = d.crateName ∧
    (∀ i ∈ d.importTypes, i ∈ (merged {} (arr a d.crateName)).importTypes) ∧
    (∀ t ∈ d.typeNames, t ∈ (merged {} (arr a d.crateName)).typeNames) := by
  have hk : d.crateName ∈ (collect a).map (·.1) := (collect_key_iff a d.crateName).2 ⟨d, hd, rfl⟩
  obtain ⟨p, hp, hpk⟩ := List.mem_map.1 hk
  obtain ⟨c, v⟩ := p
  simp only at hpk
  subst hpk
  have he := collect_entry a hp
  have hda : d ∈ arr a d.crateName := by simp [arr, List.mem_filter, hd]
  have hmem : (d.crateName, merged {} (arr a d.crateName)) ∈ collect a := by rw [← he.1]; exact hp
  refine ⟨hmem, entry_crateName a _ _ hmem, ?_, ?_⟩
  · intro i hi
    exact (merged_imports_mem i _ _).2 (Or.inr ⟨d, hda, hi⟩)
  · intro t ht
    exact (merged_typeNames_mem t _ _).2 (Or.inr ⟨d, hda, ht⟩)

/-- the import set of a collected crate holds nothing but imports of its arrivals -/
theorem entry_imports_inv (a : List ParsedData) (c : Str) (v : ParsedData) (h : (c, v) ∈ collect a)
    (i : ImportedType) (hi : i ∈ v.importTypes) : ∃ d ∈ a, d.crateName = c ∧ i ∈ d.importTypes := by
  rw [(collect_entry a h).1, merged_imports_mem] at hi
  rcases hi with hi | ⟨d, hd, hi⟩
  · simp at hi
  · simp only [arr, List.mem_filter, beq_iff_eq] at hd
    exact ⟨d, hd.1, hd.2, hi⟩

/-- the `all_types` entry of a collected crate -/
theorem allTypes_find (m : List (Str × ParsedData)) (hs : Sorted m) (c : Str) (v : ParsedData) (h : (c, v) ∈ m) :
    (allTypes m).find? (·.1 == c) = some (c, v.typeNames) := by
  have hl := lookup_of_mem hs h
  unfold lookup at hl
  rw [Option.map_eq_some_iff] at hl
  obtain ⟨⟨k, w⟩, hf, hw⟩ := hl
  simp only at hw
  subst hw
  have hk : k = c := by
    have := List.find?_some hf
    exact eq_of_beq this
  subst hk
  unfold allTypes
  rw [List.find?_map]
  have : ((fun x : Str × List Str => x.1 == k) ∘ fun x : Str × ParsedData => (x.1, x.2.typeNames)) =
      fun x => x.1 == k := rfl
  rw [this, hf]
  rfl

/-- the jobs of a multi-file run: one per collected crate — its reconciled data and what `used_imports` makes
of that data's `import_types` -/
theorem mem_jobsWith_id (m : List (Str × ParsedData)) (j : Job) :
    j ∈ jobsWith id m ↔ ∃ p ∈ m, ∃ v', v' = reconcileOne (collectSerdeRenames m) p.1 p.2 ∧
      j = (p.1, v', some (usedImports v' (allTypes m) v'.importTypes (Generate.firstOther (allTypes m) v'.crateName))) := by
  unfold jobsWith
  simp only [allTypes_reconcile, id]
  rw [reconcile_eq, List.map_map, List.mem_map]
  constructor
  · rintro ⟨p, hp, rfl⟩
    exact ⟨p, hp, _, rfl, rfl⟩
  · rintro ⟨p, hp, _, rfl, rfl⟩
    exact ⟨p, hp, rfl⟩

theorem job_of_entry (m : List (Str × ParsedData)) (c : Str) (v : ParsedData) (h : (c, v) ∈ m) :
    ∃ v', (c, v', some (usedImports v' (allTypes m) v'.importTypes (Generate.firstOther (allTypes m) v'.crateName)))
        ∈ jobsWith id m ∧ v'.importTypes = v.importTypes ∧ v'.crateName = v.crateName ∧
        v'.typeNames = v.typeNames :=
  ⟨_, (mem_jobsWith_id m _).2 ⟨(c, v), h, _, rfl, rfl⟩, rfl, rfl, rfl⟩

theorem job_inv (m : List (Str × ParsedData)) (j : Job) (h : j ∈ jobsWith id m) :
    ∃ v, (j.1, v) ∈ m ∧ j.2.1.importTypes = v.importTypes ∧ j.2.1.crateName = v.crateName ∧
      j.2.2 = some (usedImports j.2.1 (allTypes m) j.2.1.importTypes
        (Generate.firstOther (allTypes m) j.2.1.crateName)) := by
  obtain ⟨p, hp, _, rfl, rfl⟩ := (mem_jobsWith_id m j).1 h
  exact ⟨p.2, hp, rfl, rfl, rfl⟩

end TsV.C14I
