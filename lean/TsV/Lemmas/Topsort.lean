import TsV.Model.Topsort
/-! `toposort_impl::inner` is a depth-first search (`Dfs`: the stack is restored, fresh nodes of the graph are appended, every
listed node is emitted unless the search returned early at a node on the stack); the fuel suffices; `innerFuel`, a form of
`inner` the kernel can run -/
namespace TsV.Topsort

theorem erase_snoc_self {α} [BEq α] [LawfulBEq α] {l : List α} {d : α} (h : d ∉ l) :
    (l ++ [d]).erase d = l := by
  rw [List.erase_append_right _ h]; simp

theorem erase_append_self {l : List Nat} {d : Nat} (h : d ∉ l) : (l ++ [d]).erase d = l :=
  erase_snoc_self h

/-- pigeonhole: a duplicate-free list of numbers below `n` has at most `n` entries -/
theorem nodup_lt_length : ∀ (n : Nat) (l : List Nat), l.Nodup → (∀ x ∈ l, x < n) → l.length ≤ n := by
  intro n
  induction n with
  | zero =>
    intro l _ h
    cases l with
    | nil => simp
    | cons a t => exact absurd (h a (by simp)) (by omega)
  | succ n ih =>
    intro l hd h
    by_cases hm : n ∈ l
    · have hd' := hd.erase n
      have hlt : ∀ x ∈ l.erase n, x < n := by
        intro x hx
        have := (hd.mem_erase_iff).1 hx
        have := h x this.2
        omega
      have := ih _ hd' hlt
      rw [List.length_erase_of_mem hm] at this
      omega
    · have hlt : ∀ x ∈ l, x < n := by
        intro x hx
        have := h x hx
        have : x ≠ n := fun e => hm (e ▸ hx)
        omega
      have := ih l hd hlt
      omega

/-- what one call of `inner` does to the state: `seen` is restored; what is appended to `res` is
duplicate-free and disjoint from the old `res` and from `seen` -/
def Spec (st st' : TS) : Prop :=
  st'.seen = st.seen ∧ ∃ new, st'.res = st.res ++ new ∧ new.Nodup ∧
    ∀ x ∈ new, x ∉ st.res ∧ x ∉ st.seen

theorem Spec.refl (st : TS) : Spec st st := ⟨rfl, [], by simp, by simp, by simp⟩

/-- the depth-first search a successful call of `inner` on `nodes` performs: the stack `seen` is restored; what is
appended to `res` is duplicate-free, was neither in `res` nor on the stack, and is a listed node or somebody's
dependency; every listed node ends up in `res`, unless the call returned early at a listed node that is on the stack -/
def Dfs (g : List (List Nat)) (nodes : List Nat) (st st' : TS) : Prop :=
  st'.seen = st.seen ∧
  (∃ new, st'.res = st.res ++ new ∧ new.Nodup ∧
    ∀ x ∈ new, x ∉ st.res ∧ x ∉ st.seen ∧ (x ∈ nodes ∨ ∃ deps ∈ g, x ∈ deps)) ∧
  ((∀ d ∈ nodes, d ∈ st'.res) ∨ ∃ d ∈ nodes, d ∈ st.seen)

theorem Dfs.of_eq {g : List (List Nat)} {nodes : List Nat} {st : TS}
    (h : (∀ d ∈ nodes, d ∈ st.res) ∨ ∃ d ∈ nodes, d ∈ st.seen) : Dfs g nodes st st :=
  ⟨rfl, ⟨[], by simp, List.nodup_nil, fun _ hx => nomatch hx⟩, h⟩

theorem inner_dfs (g : List (List Nat)) :
    ∀ fuel nodes st st', inner g fuel nodes st = some st' → Dfs g nodes st st' := by
  intro fuel nodes st
  fun_induction inner g fuel nodes st with
  | case1 => intro st' h; simp at h
  | case2 => intro st' h; cases h; exact .of_eq (.inl fun _ hd => nomatch hd)
  | case3 fuel d rest st hres ih =>
    intro st' h
    obtain ⟨hs, ⟨new, hr, hnd, hx⟩, hc⟩ := ih st' h
    refine ⟨hs, ⟨new, hr, hnd, fun x hx' => ?_⟩, hc.imp (fun hc x hx' => ?_) ?_⟩
    · exact ⟨(hx x hx').1, (hx x hx').2.1, (hx x hx').2.2.imp_left (List.mem_cons_of_mem _)⟩
    · rcases List.mem_cons.1 hx' with rfl | hx'
      · rw [hr]; exact List.mem_append_left _ (by simpa using hres)
      · exact hc x hx'
    · exact fun ⟨x, hx', hm⟩ => ⟨x, List.mem_cons_of_mem _ hx', hm⟩
  | case4 fuel d rest st hres hseen =>
    intro st' h; cases h; exact .of_eq (.inr ⟨d, List.mem_cons_self, by simpa using hseen⟩)
  | case5 fuel d rest st hres hseen hnone => intro st' h; simp at h
  | case6 fuel d rest st hres hseen deps hdeps hnone ih1 => intro st' h; simp at h
  | case7 fuel d rest st hres hseen deps hdeps st1 hsome ih1 ih2 =>
    intro st' h
    have hdres : d ∉ st.res := by simpa using hres
    have hdseen : d ∉ st.seen := by simpa using hseen
    obtain ⟨hs1, ⟨new1, hr1, hnd1, hx1⟩, _⟩ := ih1 st1 hsome
    obtain ⟨hs2, ⟨new2, hr2, hnd2, hx2⟩, hc2⟩ := ih2 st' h
    have hs1 : st1.seen = st.seen ++ [d] := hs1
    have hr1 : st1.res = st.res ++ new1 := hr1
    have hseen2 : st1.seen.erase d = st.seen := by rw [hs1, erase_append_self hdseen]
    have hr2 : st'.res = st.res ++ (new1 ++ d :: new2) := by
      rw [hr2]; show (st1.res ++ [d]) ++ new2 = _; rw [hr1]; simp
    have hx1 : ∀ x ∈ new1, x ∉ st.res ∧ x ∉ st.seen ++ [d] ∧ (x ∈ deps ∨ ∃ ds ∈ g, x ∈ ds) := hx1
    have hx2 : ∀ x ∈ new2, x ∉ st.res ++ new1 ++ [d] ∧ x ∉ st.seen ∧ (x ∈ rest ∨ ∃ ds ∈ g, x ∈ ds) := by
      intro x hx; rw [← hr1, ← hseen2]; exact hx2 x hx
    refine ⟨hs2.trans hseen2, ⟨new1 ++ d :: new2, hr2, ?_, fun x hx => ?_⟩, hc2.imp (fun hc x hx => ?_) ?_⟩
    · refine List.nodup_append.2 ⟨hnd1, List.nodup_cons.2 ⟨fun m => (hx2 d m).1 (by simp), hnd2⟩, ?_⟩
      intro a ha b hb e; subst e
      rcases List.mem_cons.1 hb with rfl | hb
      · exact (hx1 a ha).2.1 (by simp)
      · exact (hx2 a hb).1 (by simp [ha])
    · rcases List.mem_append.1 hx with hx | hx
      · obtain ⟨h1, h2, h3⟩ := hx1 x hx
        exact ⟨h1, fun m => h2 (by simp [m]),
          .inr (h3.elim (fun m => ⟨deps, List.mem_of_getElem? hdeps, m⟩) id)⟩
      · rcases List.mem_cons.1 hx with rfl | hx
        · exact ⟨hdres, hdseen, .inl List.mem_cons_self⟩
        · obtain ⟨h1, h2, h3⟩ := hx2 x hx
          exact ⟨fun m => h1 (by simp [m]), h2, h3.imp_left (List.mem_cons_of_mem _)⟩
    · rcases List.mem_cons.1 hx with rfl | hx
      · rw [hr2]; simp
      · exact hc x hx
    · exact fun ⟨x, hx, hm⟩ => ⟨x, List.mem_cons_of_mem _ hx, hseen2 ▸ hm⟩

theorem inner_spec (g : List (List Nat)) :
    ∀ fuel nodes st st', inner g fuel nodes st = some st' → Spec st st' := by
  intro fuel nodes st st' h
  obtain ⟨hs, ⟨new, hr, hnd, hx⟩, _⟩ := inner_dfs g fuel nodes st st' h
  exact ⟨hs, new, hr, hnd, fun x hx' => ⟨(hx x hx').1, (hx x hx').2.1⟩⟩

/-- at top level (`seen = []`) every listed node ends up in `res` -/
theorem inner_complete (g : List (List Nat)) :
    ∀ fuel nodes st st', inner g fuel nodes st = some st' → st.seen = [] →
      ∀ d ∈ nodes, d ∈ st'.res := by
  intro fuel nodes st st' h hs
  exact (inner_dfs g fuel nodes st st' h).2.2.resolve_right fun ⟨d, _, hd⟩ => by rw [hs] at hd; cases hd

/-- fuel sufficiency and absence of index panics: on a graph whose entries are nodes, with the
recursion stack `seen` duplicate-free, `inner` returns -/
theorem inner_isSome (g : List (List Nat)) (hg : ∀ deps ∈ g, ∀ d ∈ deps, d < g.length) :
    ∀ fuel nodes st, (∀ x ∈ nodes, x < g.length) → st.seen.Nodup → (∀ x ∈ st.seen, x < g.length) →
      g.length + 1 ≤ st.seen.length + fuel → (inner g fuel nodes st).isSome := by
  intro fuel nodes st
  fun_induction inner g fuel nodes st with
  | case1 nodes st =>
    intro _ hnd hlt hf
    have := nodup_lt_length _ _ hnd hlt
    omega
  | case2 => intros; simp
  | case3 fuel d rest st hres ih =>
    intro hn hnd hlt hf
    exact ih (fun x hx => hn x (by simp [hx])) hnd hlt hf
  | case4 fuel d rest st hres hseen => intros; simp
  | case5 fuel d rest st hres hseen hnone =>
    intro hn _ _ _
    have := hn d (by simp)
    rw [List.getElem?_eq_none_iff] at hnone
    omega
  | case6 fuel d rest st hres hseen deps hdeps hnone ih1 =>
    intro hn hnd hlt hf
    have hdseen : d ∉ st.seen := by simpa using hseen
    have hd : d < g.length := hn d (by simp)
    have hdeps' : deps ∈ g := List.mem_of_getElem? hdeps
    have := ih1 (hg deps hdeps')
      (by simp only [List.nodup_append, List.nodup_cons, List.mem_singleton]
          refine ⟨hnd, ⟨by simp, List.nodup_nil⟩, ?_⟩
          intro a ha b hb; subst hb; intro e; subst e; exact hdseen ha)
      (by intro x hx; simp at hx; rcases hx with hx | hx
          · exact hlt x hx
          · subst hx; exact hd)
      (by simp; omega)
    simp [hnone] at this
  | case7 fuel d rest st hres hseen deps hdeps st1 hsome ih1 ih2 =>
    intro hn hnd hlt hf
    have hdseen : d ∉ st.seen := by simpa using hseen
    obtain ⟨hs1, _⟩ := inner_spec g _ _ _ _ hsome
    have hseen2 : (st1.seen.erase d) = st.seen := by
      simp at hs1; rw [hs1, erase_append_self hdseen]
    apply ih2 (fun x hx => hn x (by simp [hx]))
    · simpa [hseen2] using hnd
    · simpa [hseen2] using hlt
    · simpa [hseen2] using hf

/-! ## `toposort` of a given graph -/

/-- the walk of `inner` along a list of nodes; `descend` is what it does with the dependencies of a node -/
def walk (graph : List (List Nat)) (descend : List Nat → TS → Option TS) : List Nat → TS → Option TS
  | [], st => some st
  | d :: rest, st =>
    if st.res.contains d then walk graph descend rest st
    else if st.seen.contains d then some st
    else
      match graph[d]? with
      | none => none
      | some deps =>
        match descend deps { st with seen := st.seen ++ [d] } with
        | none => none
        | some st1 => walk graph descend rest { res := st1.res ++ [d], seen := st1.seen.erase d }

/-- `inner` by recursion on the fuel alone.  `inner` itself recurses on a pair of measures, and such a
definition does not reduce: this form does, so `toposort` of a given graph is found by `decide`. -/
def innerFuel (graph : List (List Nat)) : Nat → List Nat → TS → Option TS
  | 0 => fun _ _ => none
  | fuel + 1 => walk graph (innerFuel graph fuel)

theorem inner_eq_innerFuel (graph : List (List Nat)) :
    ∀ fuel nodes st, inner graph fuel nodes st = innerFuel graph fuel nodes st := by
  intro fuel
  induction fuel with
  | zero => intro nodes st; rw [inner]; rfl
  | succ f ih =>
    intro nodes
    induction nodes with
    | nil =>
      intro st
      rw [inner]
      · rfl
      · exact Nat.succ_ne_zero f
    | cons d rest ihr =>
      intro st
      rw [inner]
      simp only [ih, ihr, innerFuel, walk]
      rfl

theorem toposort_eq_innerFuel (graph : List (List Nat)) :
    toposort graph =
      (innerFuel graph (graph.length + 1) (List.range graph.length) ⟨[], []⟩).map (·.res) := by
  rw [toposort, inner_eq_innerFuel]

end TsV.Topsort
