import TsV.Lemmas.C06_Multi_Jobs
import TsV.Lemmas.C12_Common
/-!
# C11, folder output — lemmas

* `Mods`: the crate files of a run, job by job; `*_mods`: the `generateFrom` of each back end produces
  one module per job, the module being that back end's `generate` of the job's data alone (with the
  printer state left by the earlier jobs where the back end has one).
* the items of a job: `reconcileOne` keeps the items of the collected data (`reconcileOne_items_perm`), the
  collected data of a crate holds the items of the arrivals of that crate (`merged_items_perm`), and
  kinds / identifiers / pre-sort order do not depend on the rename table, i.e. on the other crates
  (`reconcile_keys_indep`).
-/
namespace TsV.C11M
open TsV TsV.Lang TsV.Pipeline TsV.Collect TsV.C06M TsV.C12L TsV.Outcome

/-! ## one module per job -/

/-- the crate files of a run: one per job, under the job's crate name, related to the job by `R` -/
inductive Mods (R : Job → Str → Prop) : List Job → List (Str × Str) → Prop
  | nil : Mods R [] []
  | cons {j : Job} {text : Str} {js : List Job} {outs : List (Str × Str)} :
      R j text → Mods R js outs → Mods R (j :: js) ((j.1, text) :: outs)

/-- `Mods` is a `Forall₂` between jobs and outputs -/
theorem mods_iff {R : Job → Str → Prop} {jobs : List Job} {outs : List (Str × Str)} :
    Mods R jobs outs ↔ C01.Forall₂ (fun j o => o.1 = j.1 ∧ R j o.2) jobs outs := by
  constructor
  · intro h
    induction h with
    | nil => exact .nil
    | cons hr _ ih => exact .cons ⟨rfl, hr⟩ ih
  · intro h
    induction h with
    | nil => exact .nil
    | @cons j o _ _ hr _ ih =>
      obtain ⟨c, t⟩ := o
      cases hr.1
      exact .cons hr.2 ih

theorem Mods.names {R : Job → Str → Prop} {jobs : List Job} {outs : List (Str × Str)} (h : Mods R jobs outs) :
    outs.map (·.1) = jobs.map (·.1) :=
  ((mods_iff.1 h).map_eq fun _ _ _ _ hr => hr.1.symm).symm

theorem Mods.length {R : Job → Str → Prop} {jobs : List Job} {outs : List (Str × Str)} (h : Mods R jobs outs) :
    outs.length = jobs.length := (mods_iff.1 h).length_eq.symm

/-- index form -/
theorem Mods.get {R : Job → Str → Prop} {jobs : List Job} {outs : List (Str × Str)} (h : Mods R jobs outs) :
    ∀ (k : Nat) (j : Job), jobs[k]? = some j → ∃ text, outs[k]? = some (j.1, text) ∧ R j text := by
  intro k j hk
  obtain ⟨o, ho, hn, hr⟩ := (mods_iff.1 h).get? k j hk
  exact ⟨o.2, by rw [ho, ← hn], hr⟩

/-- every module belongs to a job, every job has its module -/
theorem Mods.mem_out {R : Job → Str → Prop} {jobs : List Job} {outs : List (Str × Str)} (h : Mods R jobs outs) :
    ∀ p ∈ outs, ∃ j ∈ jobs, j.1 = p.1 ∧ R j p.2 := by
  intro p hp
  obtain ⟨j, hj, hn, hr⟩ := (mods_iff.1 h).mem_right p hp
  exact ⟨j, hj, hn.symm, hr⟩

theorem Mods.mem_job {R : Job → Str → Prop} {jobs : List Job} {outs : List (Str × Str)} (h : Mods R jobs outs) :
    ∀ j ∈ jobs, ∃ text, (j.1, text) ∈ outs ∧ R j text := by
  intro j hj
  obtain ⟨o, ho, hn, hr⟩ := (mods_iff.1 h).mem_left j hj
  exact ⟨o.2, by rw [← hn]; exact ho, hr⟩

theorem Mods.imp {R S : Job → Str → Prop} (hrs : ∀ j t, R j t → S j t) {jobs : List Job} {outs : List (Str × Str)}
    (h : Mods R jobs outs) : Mods S jobs outs :=
  mods_iff.2 ((mods_iff.1 h).imp fun j o hr => ⟨hr.1, hrs j o.2 hr.2⟩)

/-- the module of a job is the back end's `generate_types` of that job's data (and scoped imports)
alone; a back end with printer state runs in the state the earlier crates left -/
def ModuleOf (E : Ext) : Generate.LangCfg → Job → Str → Prop
  | .typescript cfg, j, t => ∃ st st', TypeScript.generate E.U cfg j.2.1 j.2.2 st = .ok (t, st')
  | .kotlin cfg, j, t => Kotlin.generate cfg j.2.1 j.2.2 = .ok t
  | .swift cfg, j, t => ∃ st st', Swift.generate E.U cfg true j.2.1 st = .ok (t, st')
  | .scala cfg, j, t => Scala.generate cfg j.2.1 = .ok t
  | .go cfg, j, t => ∃ st st', Go.generate E.U cfg j.2.1 st = .ok (t, st')
  | .python cfg, j, t => ∃ st st', Python.generate E cfg j.2.1 st = .ok (t, st')

theorem threaded_mods {σ : Type} {step : Job → σ → Outcome (Str × σ)}
    {run : List Job → σ → Outcome (List (Str × Str))} (nil : ∀ st, run [] st = .ok [])
    (cons : ∀ j rest st, run (j :: rest) st =
      (step j st).bind fun (text, st) => (run rest st).bind fun outs => .ok ((j.1, text) :: outs)) :
    ∀ (jobs : List Job) (st : σ) (outs : List (Str × Str)), run jobs st = .ok outs →
      Mods (fun j t => ∃ st st', step j st = .ok (t, st')) jobs outs := by
  intro jobs
  induction jobs with
  | nil => intro st outs h; rw [nil] at h; cases h; exact .nil
  | cons j rest ih =>
    intro st outs h
    rw [cons] at h
    obtain ⟨text, st1, h1, h⟩ := of_bind_pair_ok h
    obtain ⟨os, h2, h⟩ := of_bind_ok h
    cases h
    exact .cons ⟨st, st1, h1⟩ (ih st1 os h2)

theorem plain_mods {step : Job → Outcome Str} {run : List Job → Outcome (List (Str × Str))}
    (nil : run [] = .ok [])
    (cons : ∀ j rest, run (j :: rest) =
      (step j).bind fun text => (run rest).bind fun outs => .ok ((j.1, text) :: outs)) :
    ∀ (jobs : List Job) (outs : List (Str × Str)), run jobs = .ok outs →
      Mods (fun j t => step j = .ok t) jobs outs := by
  intro jobs
  induction jobs with
  | nil => intro outs h; rw [nil] at h; cases h; exact .nil
  | cons j rest ih =>
    intro outs h
    rw [cons] at h
    obtain ⟨text, h1, h⟩ := of_bind_ok h
    obtain ⟨os, h2, h⟩ := of_bind_ok h
    cases h
    exact .cons h1 (ih os h2)

theorem typescript_mods (E : Ext) (cfg : TypeScript.Cfg) : ∀ (jobs : List Job) (st : TypeScript.CustomMap)
    (outs : List (Str × Str)), TypeScript.generateFrom E.U cfg jobs st = .ok outs →
    Mods (ModuleOf E (.typescript cfg)) jobs outs :=
  threaded_mods (step := fun j => TypeScript.generate E.U cfg j.2.1 j.2.2) (fun _ => rfl) fun _ _ _ => rfl

theorem kotlin_mods (E : Ext) (cfg : Kotlin.Cfg) : ∀ (jobs : List Job) (outs : List (Str × Str)),
    Kotlin.generateFrom cfg jobs = .ok outs → Mods (ModuleOf E (.kotlin cfg)) jobs outs :=
  plain_mods (step := fun j => Kotlin.generate cfg j.2.1 j.2.2) rfl fun _ _ => rfl

theorem scala_mods (E : Ext) (cfg : Scala.Cfg) : ∀ (jobs : List Job) (outs : List (Str × Str)),
    Scala.generateFrom cfg jobs = .ok outs → Mods (ModuleOf E (.scala cfg)) jobs outs :=
  plain_mods (step := fun j => Scala.generate cfg j.2.1) rfl fun _ _ => rfl

theorem swift_mods (E : Ext) (cfg : Swift.Cfg) : ∀ (jobs : List Job) (st : Swift.St)
    (outs : List (Str × Str)) (st' : Swift.St), Swift.generateFrom E.U cfg true jobs st = .ok (outs, st') →
    Mods (ModuleOf E (.swift cfg)) jobs outs := by
  intro jobs
  induction jobs with
  | nil =>
    intro st outs st' h
    simp only [Swift.generateFrom, Outcome.ok.injEq, Prod.mk.injEq] at h; obtain ⟨rfl, _⟩ := h; exact .nil
  | cons j rest ih =>
    intro st outs st' h
    obtain ⟨c, d, imps⟩ := j
    simp only [Swift.generateFrom] at h
    obtain ⟨text, st1, h1, h⟩ := of_bind_pair_ok h
    obtain ⟨os, st2, h2, h⟩ := of_bind_pair_ok h
    simp only [Outcome.ok.injEq, Prod.mk.injEq] at h; obtain ⟨rfl, _⟩ := h
    exact .cons (j := (c, d, imps)) ⟨st, st1, h1⟩ (ih st1 os st2 h2)

theorem go_mods (E : Ext) (cfg : Go.Cfg) : ∀ (jobs : List Job) (st : Go.Imports)
    (outs : List (Str × Str)), Go.generateFrom E.U cfg jobs st = .ok outs →
    Mods (ModuleOf E (.go cfg)) jobs outs :=
  threaded_mods (step := fun j => Go.generate E.U cfg j.2.1) (fun _ => rfl) fun _ _ _ => rfl

theorem python_mods (E : Ext) (cfg : Python.Cfg) : ∀ (jobs : List Job) (st : Python.St)
    (outs : List (Str × Str)), Python.generateFrom E cfg jobs st = .ok outs →
    Mods (ModuleOf E (.python cfg)) jobs outs :=
  threaded_mods (step := fun j => Python.generate E cfg j.2.1) (fun _ => rfl) fun _ _ _ => rfl

/-- what a back end adds after the crate modules (Swift's `post_generation` only) -/
def postOf (lang : Generate.LangCfg) (jobs : List Job) (post : List (Str × Str)) : Prop :=
  match lang with
  | .swift cfg => ∃ st, post = Swift.postGeneration cfg true st
  | _ => post = []

/-- `generateAll` of every back end: one module per job, then the post-generation files -/
theorem generateAll_mods (E : Ext) (lang : Generate.LangCfg) (jobs : List Job) (outs : List (Str × Str))
    (h : (match lang with
      | .typescript cfg => TypeScript.generateAll E cfg true jobs
      | .kotlin cfg => Kotlin.generateAll E cfg true jobs
      | .swift cfg => Swift.generateAll E cfg true jobs
      | .scala cfg => Scala.generateAll E cfg true jobs
      | .go cfg => Go.generateAll E cfg true jobs
      | .python cfg => Python.generateAll E cfg true jobs) = .ok outs) :
    ∃ mods post, outs = mods ++ post ∧ Mods (ModuleOf E lang) jobs mods ∧ postOf lang jobs post := by
  cases lang with
  | typescript cfg => exact ⟨outs, [], by simp, typescript_mods E cfg jobs [] outs h, rfl⟩
  | kotlin cfg => exact ⟨outs, [], by simp, kotlin_mods E cfg jobs outs h, rfl⟩
  | scala cfg => exact ⟨outs, [], by simp, scala_mods E cfg jobs outs h, rfl⟩
  | go cfg => exact ⟨outs, [], by simp, go_mods E cfg jobs [] outs h, rfl⟩
  | python cfg => exact ⟨outs, [], by simp, python_mods E cfg jobs {} outs h, rfl⟩
  | swift cfg =>
    simp only [Swift.generateAll] at h
    obtain ⟨mods, st, h1, h⟩ := of_bind_pair_ok h
    simp only [Outcome.ok.injEq] at h
    exact ⟨mods, _, h.symm, swift_mods E cfg jobs false mods st h1, ⟨st, rfl⟩⟩

/-! ## the jobs and their items -/

theorem jobsWith_names (m : List (Str × ParsedData)) : (jobsWith id m).map (·.1) = m.map (·.1) := by
  unfold jobsWith
  simp [reconcile_eq, List.map_map, Function.comp_def]

/-- job by job: the data is `reconcileOne` of the collected entry -/
theorem jobsWith_data (m : List (Str × ParsedData)) :
    (jobsWith id m).map (fun j => (j.1, j.2.1)) =
      m.map fun p => (p.1, reconcileOne (collectSerdeRenames m) p.1 p.2) := by
  unfold jobsWith
  simp [reconcile_eq, List.map_map, Function.comp_def]

theorem job_entry (m : List (Str × ParsedData)) (j : Job) (h : j ∈ jobsWith id m) :
    ∃ v, (j.1, v) ∈ m ∧ j.2.1 = reconcileOne (collectSerdeRenames m) j.1 v := by
  have : (j.1, j.2.1) ∈ (jobsWith id m).map (fun j => (j.1, j.2.1)) := List.mem_map_of_mem h
  rw [jobsWith_data] at this
  obtain ⟨p, hp, he⟩ := List.mem_map.1 this
  simp only [Prod.mk.injEq] at he
  exact ⟨p.2, by rw [← he.1]; exact hp, by rw [← he.2, he.1]⟩

/-- `reconcile_aliases` on one item, with the crate's import set -/
def recItemI (crate : Str) (r : Renames) (imps : List ImportedType) : RustItem → RustItem
  | .struct s => .struct { s with fields := s.fields.map (checkField crate r imps) }
  | .enum e => .enum { e with variants := e.variants.map (checkVariant crate r imps) }
  | .alias a => .alias { a with ty := checkType crate r imps a.ty }
  | .const c => .const c

/-- kind and identifier of an item -/
inductive Kind where
  | struct | enum | alias | const
deriving DecidableEq, Repr

def itemKey : RustItem → Kind × Id
  | .struct s => (.struct, s.id)
  | .enum e => (.enum, e.id)
  | .alias a => (.alias, a.id)
  | .const c => (.const, c.id)

theorem itemKey_rec (crate : Str) (r : Renames) (imps : List ImportedType) (it : RustItem) :
    itemKey (recItemI crate r imps it) = itemKey it := by
  cases it <;> rfl

/-- **`reconcile` neither drops nor duplicates an item**: the items of the reconciled data are the
reconciled items of the data, up to the (stable) sort by name -/
theorem reconcileOne_items_perm (r : Renames) (c : Str) (d : ParsedData) :
    (itemsOf (reconcileOne r c d)).Perm ((itemsOf d).map (recItemI c r d.importTypes)) := by
  unfold itemsOf reconcileOne sortBy
  simp only [List.map_append, List.map_map]
  refine List.Perm.append (List.Perm.append (List.Perm.append ?_ ?_) ?_) ?_
  · exact ((List.mergeSort_perm _ _).map _).trans (by simp [List.map_map, Function.comp_def, recItemI])
  · exact ((List.mergeSort_perm _ _).map _).trans (by simp [List.map_map, Function.comp_def, recItemI])
  · exact ((List.mergeSort_perm _ _).map _).trans (by simp [List.map_map, Function.comp_def, recItemI])
  · exact ((List.mergeSort_perm _ _).map _).trans (by simp [List.map_map, Function.comp_def, recItemI])

/-- the data collected for a crate holds the items of the crate's arrivals, each once -/
theorem merged_items_perm (l : List ParsedData) : (itemsOf (merged {} l)).Perm (l.flatMap itemsOf) := by
  unfold itemsOf
  rw [merged_structs, merged_enums, merged_aliases, merged_consts]
  simp only [List.nil_append, List.map_flatMap]
  apply List.Perm.symm
  refine (flatMap_append_perm _ _ l).trans (.append_right _ ?_)
  refine (flatMap_append_perm _ _ l).trans (.append_right _ ?_)
  exact flatMap_append_perm _ _ l

/-- the collected entry of crate `c` holds exactly the items of the arrivals of crate `c` -/
theorem entry_items_perm (a : List ParsedData) {c : Str} {v : ParsedData} (h : (c, v) ∈ collect a) :
    (itemsOf v).Perm ((arr a c).flatMap itemsOf) := by
  rw [(collect_entry a h).1]
  exact merged_items_perm _

/-! ## what does not depend on the other crates -/

theorem sortBy_map_key {α} (key : α → Str) (f : α → α) (hf : ∀ x, key (f x) = key x) (l : List α) :
    sortBy key (l.map f) = (sortBy key l).map f := by
  unfold sortBy
  exact (List.map_mergeSort (r := fun a b => Str.le (key a) (key b)) (s := fun a b => Str.le (key a) (key b))
    (f := f) (l := l) (fun a _ b _ => by simp only [hf])).symm

/-- kinds, identifiers and their order before `topsort` are those of the sorted collected data: the
rename table (the only thing through which other crates reach this crate's items) is immaterial -/
theorem reconcileOne_keys (r : Renames) (c : Str) (d : ParsedData) :
    (itemsOf (reconcileOne r c d)).map itemKey =
      (sortBy (·.id.original) d.aliases).map (fun a => (Kind.alias, a.id)) ++
      (sortBy (·.id.original) d.structs).map (fun s => (Kind.struct, s.id)) ++
      (sortBy (·.id.original) d.enums).map (fun e => (Kind.enum, e.id)) ++
      (sortBy (·.id.original) d.consts).map (fun k => (Kind.const, k.id)) := by
  unfold itemsOf reconcileOne
  simp only [List.map_append, List.map_map]
  rw [sortBy_map_key (·.id.original) (fun s : RustStruct => { s with fields := s.fields.map (checkField c r d.importTypes) })
        (fun _ => rfl),
      sortBy_map_key (·.id.original) (fun e : RustEnum => { e with variants := e.variants.map (checkVariant c r d.importTypes) })
        (fun _ => rfl),
      sortBy_map_key (·.id.original) (fun a : RustTypeAlias => { a with ty := checkType c r d.importTypes a.ty })
        (fun _ => rfl)]
  simp only [List.map_map]
  rfl

theorem reconcile_keys_indep (r r' : Renames) (c : Str) (d : ParsedData) :
    (itemsOf (reconcileOne r c d)).map itemKey = (itemsOf (reconcileOne r' c d)).map itemKey := by
  rw [reconcileOne_keys, reconcileOne_keys]

end TsV.C11M
