import TsV.Lemmas.C07_Backends_Run
import TsV.Lemmas.RunEval
/-!
# C07, generation side — reading the value of a successful evaluation
-/
namespace TsV.C07BE
open TsV

def getOk {α} [Inhabited α] : Outcome α → α
  | .ok a => a
  | _ => default

theorem eq_ok_getOk {α} [Inhabited α] {o : Outcome α} (h : o.isOk = true) : o = .ok (getOk o) := by
  cases o <;> simp_all [Outcome.isOk, getOk]

/-- one item without dependencies: the ordering pass returns it.  (Items have no decidable equality, so an
equation between orders is not found by evaluation.) -/
theorem generateOrder_trivial {d : ParsedData} (h : Deps.graph (itemsOf d) = some [[]]) :
    Pipeline.generateOrder d = some (itemsOf d) := by
  obtain ⟨it, hit⟩ := List.length_eq_one_iff.1 (Deps.mapM_forall₂ h).length_eq
  show Deps.topsort (itemsOf d) = _
  rw [RunEval.topsort_eq, RunEval.topsortE, h, hit]
  rfl

end TsV.C07BE
