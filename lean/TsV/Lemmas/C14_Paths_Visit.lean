import TsV.Lemmas.C14_Paths_Spec
/-!
# What `visit_path` contributes to a file's `import_types`

* `visitedPaths`: every `syn::Path` the visitor hands to `visit_path` for an item tree (attribute paths, the
  paths of field / alias / const types at any depth, the paths `Item.other` mentions);
* `run_imports`, `ins_events`, `visitFile_imports`: **exact membership** in `import_types` after the visit:
  what was there, plus what the `ins` events of the item tree insert, which is `importOfPath` of every visited
  path plus the imports of every `use` tree;
* `importOfPath_qualified`: `extract_root_and_types` on `c::…::T`;
* `qualifiedRefs_paths` / `typePaths_refs`: the qualified references of a type are exactly the visited type
  paths with at least two segments;
* `declItems_paths`: the type paths of every declaring item (at any module depth) are visited.
-/
namespace TsV.C14P
open TsV TsV.Syn TsV.Visitor TsV.C14I

/-! ### `extract_root_and_types` -/

/-- `importOfPath` on a path with a non-empty qualifier list `c::qs…::T` -/
theorem importOfPath_qualified (E : Ext) (ctx : ParseContext) (cn c : Str) (qs : List Str) (T : Str) :
    importOfPath E ctx cn (c :: (qs ++ [T])) =
      if acceptCrate E.U c && acceptType E.U T && !ctx.ignoredTypes.contains T && c != T then
        some ⟨resolveBase cn c, T⟩ else none := by
  have h2 : (c :: (qs ++ [T])).getLast? = some T := by
    rw [← List.cons_append]; exact List.getLast?_concat
  simp only [importOfPath, List.head?_cons, h2, resolveBase]

/-- `importOfPath` on a single-segment path: never an import (`first != last` fails) -/
theorem importOfPath_single (E : Ext) (ctx : ParseContext) (cn T : Str) :
    importOfPath E ctx cn [T] = none := by
  simp [importOfPath]

theorem importOfPath_qualified_some (E : Ext) (ctx : ParseContext) (cn c : Str) (qs : List Str) (T : Str)
    (hc : acceptCrate E.U c = true) (hT : acceptType E.U T = true) (hmap : T ∉ ctx.ignoredTypes)
    (hne : c ≠ T) :
    importOfPath E ctx cn (c :: (qs ++ [T])) = some ⟨resolveBase cn c, T⟩ := by
  rw [importOfPath_qualified]
  have h3 : ctx.ignoredTypes.contains T = false := by simpa using hmap
  have h4 : (c != T) = true := by simpa using hne
  rw [hc, hT, h3, h4]
  rfl

/-- conversely: what an import produced by `c::qs…::T` looks like -/
theorem importOfPath_qualified_inv (E : Ext) (ctx : ParseContext) (cn c : Str) (qs : List Str) (T : Str)
    (i : ImportedType) (h : importOfPath E ctx cn (c :: (qs ++ [T])) = some i) :
    i = ⟨resolveBase cn c, T⟩ ∧ acceptCrate E.U c = true ∧ acceptType E.U T = true ∧
      T ∉ ctx.ignoredTypes ∧ c ≠ T := by
  rw [importOfPath_qualified] at h
  split at h
  · rename_i hcond
    simp only [Bool.and_eq_true, Bool.not_eq_true', bne_iff_ne, ne_eq] at hcond
    obtain ⟨⟨⟨h1, h2⟩, h3⟩, h4⟩ := hcond
    simp only [Option.some.injEq] at h
    exact ⟨h.symm, h1, h2, by simpa using h3, h4⟩
  · simp at h

/-! ### qualified references = the visited type paths with a qualifier -/

/-- the qualified references of a type and its visited paths: every reference `(c, T)` is the first and last
segment of a visited path, and every visited path is a single segment or `c::qs…::T` with `(c, T)` a reference -/
theorem typePaths_spec (ty : SynType) :
    (∀ c T, (c, T) ∈ qualifiedRefs ty → ∃ qs, (c :: (qs ++ [T])) ∈ typePaths ty) ∧
    (∀ p ∈ typePaths ty, (∃ T, p = [T]) ∨ ∃ c qs T, p = c :: (qs ++ [T]) ∧ (c, T) ∈ qualifiedRefs ty) := by
  induction ty using SynType.rec (motive_2 := fun l =>
    (∀ c T, (c, T) ∈ qualifiedRefsList l → ∃ qs, (c :: (qs ++ [T])) ∈ typePathsList l) ∧
    (∀ p ∈ typePathsList l, (∃ T, p = [T]) ∨ ∃ c qs T, p = c :: (qs ++ [T]) ∧ (c, T) ∈ qualifiedRefsList l)) with
  | tuple es ih | reference e ih | array e _ ih | slice e ih => simp only [qualifiedRefs, typePaths]; exact ih
  | other => simp [qualifiedRefs, typePaths]
  | path quals last args ih =>
    obtain ⟨ih1, ih2⟩ := ih
    simp only [qualifiedRefs, typePaths, List.mem_append, List.mem_cons]
    constructor
    · rintro c T (h | h)
      · cases quals with
        | nil => simp [headRef] at h
        | cons q qs =>
          simp only [headRef, List.mem_singleton, Prod.mk.injEq] at h
          obtain ⟨rfl, rfl⟩ := h
          exact ⟨qs, Or.inl rfl⟩
      · exact (ih1 c T h).imp fun _ => Or.inr
    · rintro p (rfl | h)
      · cases quals with
        | nil => exact Or.inl ⟨last, rfl⟩
        | cons q qs => exact Or.inr ⟨q, qs, last, rfl, Or.inl (by simp [headRef])⟩
      · exact (ih2 p h).imp id fun ⟨c, qs, T, e, m⟩ => ⟨c, qs, T, e, Or.inr m⟩
  | nil => simp [qualifiedRefsList, typePathsList]
  | cons t ts iht ihts =>
    obtain ⟨h1, h2⟩ := iht
    obtain ⟨l1, l2⟩ := ihts
    simp only [qualifiedRefsList, typePathsList, List.mem_append]
    constructor
    · rintro c T (h | h)
      · exact (h1 c T h).imp fun _ => Or.inl
      · exact (l1 c T h).imp fun _ => Or.inr
    · rintro p (h | h)
      · exact (h2 p h).imp id fun ⟨c, qs, T, e, m⟩ => ⟨c, qs, T, e, Or.inl m⟩
      · exact (l2 p h).imp id fun ⟨c, qs, T, e, m⟩ => ⟨c, qs, T, e, Or.inr m⟩

theorem qualifiedRefs_paths (c T : Str) (ty : SynType) (h : (c, T) ∈ qualifiedRefs ty) :
    ∃ qs, (c :: (qs ++ [T])) ∈ typePaths ty := (typePaths_spec ty).1 c T h

theorem typePaths_refs (p : List Str) (ty : SynType) (h : p ∈ typePaths ty) :
    (∃ T, p = [T]) ∨ ∃ c qs T, p = c :: (qs ++ [T]) ∧ (c, T) ∈ qualifiedRefs ty := (typePaths_spec ty).2 p h

theorem qualifiedRefsList_paths (c T : Str) : ∀ l : List SynType, (c, T) ∈ qualifiedRefsList l →
    ∃ qs, (c :: (qs ++ [T])) ∈ typePathsList l :=
  fun l h => (typePaths_spec (.tuple l)).1 c T h

theorem typePathsList_refs (p : List Str) : ∀ l : List SynType, p ∈ typePathsList l →
    (∃ T, p = [T]) ∨ ∃ c qs T, p = c :: (qs ++ [T]) ∧ (c, T) ∈ qualifiedRefsList l :=
  fun l h => (typePaths_spec (.tuple l)).2 p h

/-! ### the paths the visitor visits -/

mutual
  /-- every path the visitor hands to `visit_path` for an item tree, in visit order -/
  def visitedPaths : Item → List (List Str)
    | .struct attrs _ _ fields => attrPaths attrs ++ fieldsPaths fields
    | .enum attrs _ _ variants =>
      attrPaths attrs ++ variants.flatMap fun v => attrPaths v.attrs ++ fieldsPaths v.fields
    | .alias attrs _ _ ty => attrPaths attrs ++ typePaths ty
    | .const attrs _ ty _ => attrPaths attrs ++ typePaths ty
    | .use _ => []
    | .mod attrs _ items => attrPaths attrs ++ visitedPathsList items
    | .other paths items => paths ++ visitedPathsList items
  def visitedPathsList : List Item → List (List Str)
    | [] => []
    | i :: is => visitedPaths i ++ visitedPathsList is
end

theorem fieldsTypes_paths (fields : Fields) (ty : SynType) (hty : ty ∈ fieldsTypes fields) (p : List Str)
    (hp : p ∈ typePaths ty) : p ∈ fieldsPaths fields := by
  cases fields with
  | named fs | unnamed fs =>
    simp only [fieldsTypes, List.mem_map] at hty
    obtain ⟨f, hf, rfl⟩ := hty
    simp only [fieldsPaths, List.mem_flatMap, List.mem_append]
    exact ⟨f, hf, Or.inr hp⟩
  | unit => simp [fieldsTypes] at hty

/-- the type paths of an item's own types are among the paths visited for it -/
theorem itemTypes_paths (it : Item) (ty : SynType) (hty : ty ∈ itemTypes it) (p : List Str)
    (hp : p ∈ typePaths ty) : p ∈ visitedPaths it := by
  cases it with
  | struct a i g f =>
    simp only [itemTypes] at hty
    simp only [visitedPaths, List.mem_append]
    exact Or.inr (fieldsTypes_paths f ty hty p hp)
  | «enum» a i g vs =>
    simp only [itemTypes, List.mem_flatMap] at hty
    obtain ⟨v, hv, hty⟩ := hty
    simp only [visitedPaths, List.mem_append, List.mem_flatMap]
    exact Or.inr ⟨v, hv, Or.inr (fieldsTypes_paths v.fields ty hty p hp)⟩
  | «alias» a i g t | const a i t l =>
    simp only [itemTypes, List.mem_singleton] at hty; subst hty
    simp only [visitedPaths, List.mem_append]; exact Or.inr hp
  | use t | mod a i items | other ps items => simp [itemTypes] at hty

/-- … at any depth: the type paths of every declaring item below `it` are visited -/
theorem declItems_paths (it' : Item) (p : List Str) (hp : p ∈ visitedPaths it') :
    ∀ it : Item, it' ∈ declItems it → p ∈ visitedPaths it := by
  intro it
  induction it using Item.rec
    (motive_2 := fun items => it' ∈ declItemsList items → p ∈ visitedPathsList items) with
  | struct a i g f | enum a i g v | alias a i g t | const a i t l =>
    intro h
    simp only [declItems, List.mem_singleton] at h
    subst h
    exact hp
  | use t => intro h; simp [declItems] at h
  | mod a i items ih | other ps items ih =>
    intro h
    simp only [declItems] at h
    simp only [visitedPaths, List.mem_append]
    exact Or.inr (ih h)
  | nil => rename_i h; simp [declItemsList] at h
  | cons i is ih1 ih2 =>
    rename_i h
    simp only [declItemsList, List.mem_append] at h
    simp only [visitedPathsList, List.mem_append]
    exact h.imp ih1 ih2

theorem declItemsList_paths (it' : Item) (p : List Str) (hp : p ∈ visitedPaths it') (items : List Item)
    (h : it' ∈ declItemsList items) : p ∈ visitedPathsList items :=
  declItems_paths it' p hp (.other [] items) h

/-- the annotated, accepted items are declaring items -/
theorem annotated_sub_decl (ctx : ParseContext) (it' : Item) :
    ∀ it : Item, it' ∈ C03.annotated ctx it → it' ∈ declItems it := by
  intro it
  induction it using Item.rec
    (motive_2 := fun items => it' ∈ C03.annotatedList ctx items → it' ∈ declItemsList items) with
  | struct a i g f | enum a i g v | alias a i g t | const a i t l =>
    intro h
    simp only [C03.annotated] at h
    split at h
    · simpa [declItems] using h
    · simp at h
  | use t => intro h; simp [C03.annotated] at h
  | mod a i items ih | other ps items ih =>
    intro h
    simp only [C03.annotated] at h
    simp only [declItems]
    exact ih h
  | nil => rename_i h; simp [C03.annotatedList] at h
  | cons i is ih1 ih2 =>
    rename_i h
    simp only [C03.annotatedList, List.mem_append] at h
    simp only [declItemsList, List.mem_append]
    exact h.imp ih1 ih2

theorem annotatedList_sub_decl (ctx : ParseContext) (it' : Item) (items : List Item)
    (h : it' ∈ C03.annotatedList ctx items) : it' ∈ declItemsList items :=
  annotated_sub_decl ctx it' (.other [] items) h

/-! ### exact membership in `import_types` after the visit -/

open TsV.Visit

theorem push_imports (d : ParsedData) (ri : RustItem) :
    (push d ri).importTypes = d.importTypes ∧ (push d ri).crateName = d.crateName := by
  cases ri <;> exact ⟨rfl, rfl⟩

section inserts
variable {cn : Str} {i : ImportedType}

/-- `i` is among what the `ins` events of `l` insert into data of crate `cn` -/
def Inserts (cn : Str) (i : ImportedType) (l : List Ev) : Prop := ∃ g, Ev.ins g ∈ l ∧ i ∈ g cn

theorem inserts_nil : ¬ Inserts cn i [] := fun ⟨_, h, _⟩ => nomatch h

theorem inserts_out {o : Outcome RustItem} {l : List Ev} : Inserts cn i (.out o :: l) ↔ Inserts cn i l :=
  ⟨fun ⟨g, h, hi⟩ => ⟨g, (List.mem_cons.1 h).resolve_left (fun e => nomatch e), hi⟩,
    fun ⟨g, h, hi⟩ => ⟨g, List.mem_cons_of_mem _ h, hi⟩⟩

theorem inserts_ins {g : Str → List ImportedType} {l : List Ev} :
    Inserts cn i (.ins g :: l) ↔ i ∈ g cn ∨ Inserts cn i l := by
  simp only [Inserts, List.mem_cons, Ev.ins.injEq, or_and_right, exists_or, exists_eq_left]

theorem inserts_append {l₁ l₂ : List Ev} : Inserts cn i (l₁ ++ l₂) ↔ Inserts cn i l₁ ∨ Inserts cn i l₂ := by
  simp only [Inserts, List.mem_append, or_and_right, exists_or]

theorem inserts_paths {E : Ext} {ctx : ParseContext} {ps : List (List Str)} {l : List Ev} :
    Inserts cn i (pathsEv E ctx ps :: l) ↔ (∃ p ∈ ps, importOfPath E ctx cn p = some i) ∨ Inserts cn i l :=
  inserts_ins.trans (or_congr_left List.mem_filterMap)

end inserts

/-- after a successful run in folder mode `import_types` holds what it held, plus what the events insert -/
theorem run_imports {ctx : ParseContext} (hmf : ctx.multiFile = true) {fp : Str} {l : List Ev} {d d' : ParsedData}
    (h : run ctx fp d l = .ok d') (i : ImportedType) :
    i ∈ d'.importTypes ↔ i ∈ d.importTypes ∨ Inserts d.crateName i l :=
  run_ok_rec (ctx := ctx) (P := fun d l d' => i ∈ d'.importTypes ↔ i ∈ d.importTypes ∨ Inserts d.crateName i l)
    (fun _ => (or_iff_left inserts_nil).symm)
    (fun d ri _ _ ih => by
      rw [(push_imports d ri).1, (push_imports d ri).2] at ih
      exact ih.trans (or_congr_right inserts_out.symm))
    (fun _ _ _ _ ih => ih.trans (or_congr_right inserts_out.symm))
    (fun d g _ _ ih => by
      rw [if_pos hmf, mem_addImports, or_assoc] at ih
      exact ih.trans (or_congr_right inserts_ins.symm)) h

/-- what the visit of an item tree contributes: `importOfPath` of a visited path, or an import of a `use` tree -/
def Contrib (E : Ext) (ctx : ParseContext) (cn : Str) (ps : List (List Str)) (ts : List UseTree)
    (i : ImportedType) : Prop :=
  (∃ p ∈ ps, importOfPath E ctx cn p = some i) ∨ (∃ t ∈ ts, i ∈ useImports E ctx cn t)

theorem contrib_append (E : Ext) (ctx : ParseContext) (cn : Str) (ps₁ ps₂ : List (List Str))
    (ts₁ ts₂ : List UseTree) (i : ImportedType) :
    Contrib E ctx cn (ps₁ ++ ps₂) (ts₁ ++ ts₂) i ↔ Contrib E ctx cn ps₁ ts₁ i ∨ Contrib E ctx cn ps₂ ts₂ i := by
  simp only [Contrib, List.mem_append, or_and_right, exists_or]
  exact or_or_or_comm

theorem contrib_paths_only (E : Ext) (ctx : ParseContext) (cn : Str) (ps : List (List Str)) (i : ImportedType) :
    Contrib E ctx cn ps [] i ↔ ∃ p ∈ ps, importOfPath E ctx cn p = some i := by
  simp [Contrib]

theorem contrib_use_only (E : Ext) (ctx : ParseContext) (cn : Str) (t : UseTree) (i : ImportedType) :
    Contrib E ctx cn [] [t] i ↔ i ∈ useImports E ctx cn t := by
  simp [Contrib]

theorem ins_declEv (E : Ext) (ctx : ParseContext) (a : List Attr) (p : Outcome RustItem) (ps : List (List Str))
    (cn : Str) (i : ImportedType) : Inserts cn i (declEv E ctx a p ps) ↔ Contrib E ctx cn ps [] i := by
  rw [contrib_paths_only, declEv, inserts_append]
  refine (or_iff_right ?_).trans (inserts_paths.trans (or_iff_left inserts_nil))
  split
  · exact fun h => inserts_nil (inserts_out.1 h)
  · exact inserts_nil

/-- what the events of an item tree insert is what its visited paths and its `use` trees contribute (`events`,
`visitedPaths`, `useTrees` unfold by computation in every case) -/
theorem ins_events (E : Ext) (ctx : ParseContext) (cn : Str) (i : ImportedType) : ∀ it : Item,
    Inserts cn i (events E ctx it) ↔ Contrib E ctx cn (visitedPaths it) (useTrees it) i := by
  intro it
  induction it using Item.rec (motive_2 := fun items =>
    Inserts cn i (eventsList E ctx items) ↔ Contrib E ctx cn (visitedPathsList items) (useTreesList items) i) with
  | struct a _ _ f | enum a _ _ v | alias a _ _ t | const a _ t _ => exact ins_declEv E ctx a _ _ cn i
  | use t => exact inserts_ins.trans ((or_iff_left inserts_nil).trans (contrib_use_only E ctx cn t i).symm)
  | mod a _ items ih | other ps items ih =>
    exact inserts_paths.trans ((or_congr_right ih).trans
      ((or_congr_left (contrib_paths_only E ctx cn _ i).symm).trans (contrib_append E ctx cn _ _ [] _ i).symm))
  | nil => exact iff_of_false inserts_nil fun h => h.elim (fun ⟨_, hp, _⟩ => nomatch hp) fun ⟨_, ht, _⟩ => nomatch ht
  | cons it is ihi ihis =>
    exact inserts_append.trans ((or_congr ihi ihis).trans (contrib_append E ctx cn _ _ _ _ i).symm)

/-- every path visited for a file: its inner attributes, then its items -/
def fileVisitedPaths (f : File) : List (List Str) := attrPaths f.attrs ++ visitedPathsList f.items

/-- **exact membership, whole file** (multi-file mode, file visited): `import_types` is `importOfPath` of the
visited paths plus the imports of the `use` trees -/
theorem visitFile_imports (E : Ext) (ctx : ParseContext) (hmf : ctx.multiFile = true) (cn fn fp : Str) (f : File)
    (d : ParsedData) (h : visitFile E ctx cn fn fp f = .ok d) (hne : isEmpty d = false) (i : ImportedType) :
    i ∈ d.importTypes ↔ Contrib E ctx cn (fileVisitedPaths f) (useTreesList f.items) i := by
  rw [visitFile_run] at h
  split at h
  · rw [run_imports hmf h]
    exact (or_iff_right (List.not_mem_nil)).trans (ins_events E ctx cn i (.other (attrPaths f.attrs) f.items))
  · cases h
    cases hne

/-- a type path of a declaring item of the file is a visited path of the file -/
theorem file_declItem_path (f : File) (it : Item) (hit : it ∈ declItemsList f.items) (ty : SynType)
    (hty : ty ∈ itemTypes it) (p : List Str) (hp : p ∈ typePaths ty) : p ∈ fileVisitedPaths f := by
  simp only [fileVisitedPaths, List.mem_append]
  exact Or.inr (declItemsList_paths it p (itemTypes_paths it ty hty p hp) f.items hit)

theorem collectAll_imports (path : Str) (os : List (Outcome RustItem)) (d d' : ParsedData)
    (h : C03.collectAll path d os = .ok d') : d'.importTypes = d.importTypes :=
  collectAll_preserves (fun x => x.importTypes = d.importTypes) h (fun ri _ x hx => (push_imports x ri).1.trans hx)
    (fun _ _ hx => hx) rfl

end TsV.C14P
