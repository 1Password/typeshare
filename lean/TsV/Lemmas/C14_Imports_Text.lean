import TsV.Lemmas.Lang.Kotlin
import TsV.Lemmas.C14_Imports_Run
import TsV.Lemmas.C11_Modules
import TsV.Lemmas.Lang.TypeScript
/-!
# The import clause in the text the TypeScript and Kotlin back ends write

`write_imports` prints the scoped imports of a job; every entry of the scoped map therefore occurs in the
output file of the job's crate.
-/
namespace TsV.C14I
open TsV TsV.Pipeline TsV.C06M

theorem infix_flatMap_of_mem {α β} (f : α → List β) (l : List α) (x : α) (h : x ∈ l) : f x <:+: l.flatMap f :=
  List.infix_of_mem_flatten (List.mem_map_of_mem h)

/-- the line `write_imports` (kotlin.rs) prints for one imported type: the type is named with the
configured prefix, as the other module defines it (`fix:` commit 8dc01bf) -/
def ktImportLine (cfg : Lang.Kotlin.Cfg) (crate ty : Str) : Str :=
  s%"import " ++ cfg.package ++ s%"." ++ crate ++ s%"." ++ cfg.pfx ++ ty ++ Lang.nl

theorem kt_writeImports_line (cfg : Lang.Kotlin.Cfg) (imps : ScopedCrateTypes) (c t : Str) (tys : List Str)
    (h : (c, tys) ∈ imps) (ht : t ∈ tys) : ktImportLine cfg c t <:+: Lang.Kotlin.writeImports cfg imps := by
  unfold Lang.Kotlin.writeImports
  refine List.IsInfix.trans ?_ (List.prefix_append _ _).isInfix
  refine List.IsInfix.trans ?_ (infix_flatMap_of_mem _ imps (c, tys) h)
  exact infix_flatMap_of_mem (fun t => s%"import " ++ cfg.package ++ s%"." ++ c ++ s%"." ++ cfg.pfx ++ t ++ Lang.nl) tys t ht

/-- a module in folder mode: `begin_file`, the import block, the declarations -/
theorem kt_generate_shape (cfg : Lang.Kotlin.Cfg) (d : ParsedData) (imps : ScopedCrateTypes) (text : Str)
    (hmf : d.multiFile = true) (h : Lang.Kotlin.generate cfg d (some imps) = .ok text) :
    ∃ body, text = Lang.Kotlin.beginFile cfg d ++ Lang.Kotlin.writeImports cfg imps ++ body := by
  obtain ⟨_, decls, -, -, rfl⟩ := Lang.Kotlin.generate_inv h
  exact ⟨decls.flatMap Lang.Kotlin.renderDecl, by rw [if_pos hmf]; rfl⟩

theorem kt_generate_line (cfg : Lang.Kotlin.Cfg) (d : ParsedData) (imps : ScopedCrateTypes) (text : Str)
    (hmf : d.multiFile = true) (h : Lang.Kotlin.generate cfg d (some imps) = .ok text) (c t : Str)
    (tys : List Str) (hm : (c, tys) ∈ imps) (ht : t ∈ tys) : ktImportLine cfg c t <:+: text := by
  obtain ⟨body, rfl⟩ := kt_generate_shape cfg d imps text hmf h
  rw [List.append_assoc]
  exact (kt_writeImports_line cfg imps c t tys hm ht).trans (List.infix_append' _ _ _)

/-- the line `write_imports` (typescript.rs) prints for one crate -/
def tsImportLine (crate : Str) (tys : List Str) : Str :=
  s%"import { " ++ Str.intercalate s%", " tys ++ s%" } from \"./" ++ crate ++ s%"\";\n"

theorem ts_writeImports_line (imps : ScopedCrateTypes) (c : Str) (tys : List Str) (h : (c, tys) ∈ imps) :
    tsImportLine c tys <:+: Lang.TypeScript.writeImports imps := by
  unfold Lang.TypeScript.writeImports
  refine List.IsInfix.trans ?_ (List.prefix_append _ _).isInfix
  exact infix_flatMap_of_mem (fun p : Str × List Str =>
    s%"import { " ++ Str.intercalate s%", " p.2 ++ s%" } from \"./" ++ p.1 ++ s%"\";\n") imps (c, tys) h

theorem ts_generate_line (U : UnicodeOps) (cfg : Lang.TypeScript.Cfg) (d : ParsedData) (imps : ScopedCrateTypes)
    (st0 st1 : Lang.TypeScript.CustomMap) (text : Str)
    (h : Lang.TypeScript.generate U cfg d (some imps) st0 = .ok (text, st1)) (c : Str) (tys : List Str)
    (hm : (c, tys) ∈ imps) : tsImportLine c tys <:+: text := by
  obtain ⟨_, body, _, _, rfl⟩ := Lang.TypeScript.generate_ok h
  refine (ts_writeImports_line imps c tys hm).trans ?_
  rw [C03E.TS.header, List.append_assoc, List.append_assoc]
  exact List.infix_append' _ _ _

/-! ### the data of a job is in multi-file mode when the arrivals are -/

theorem job_multiFile (arrivals : List ParsedData) (hall : ∀ d ∈ arrivals, d.multiFile = true) (j : Job)
    (hj : j ∈ jobsWith id (collect arrivals)) : j.2.1.multiFile = true := by
  obtain ⟨⟨c, v⟩, hp, _, rfl, rfl⟩ := (mem_jobsWith_id _ j).1 hj
  have he := collect_entry arrivals hp
  obtain ⟨x, hx, _, _, hx3⟩ := merged_last (arr arrivals c) {} he.2
  simp only [arr, List.mem_filter] at hx
  show (reconcileOne _ c v).multiFile = true
  rw [he.1]
  exact hx3.trans (hall x hx.1)

theorem arrivals_multiFile (E : Ext) (ctx : ParseContext) (hmf : ctx.multiFile = true)
    (pick : List ImportedType → Option ImportedType) (files : List Generate.SourceFile)
    (arrivals : List ParsedData) (h : Generate.parseAll E ctx pick files = .ok arrivals) :
    ∀ d ∈ arrivals, d.multiFile = true := by
  intro d hd
  obtain ⟨f, _, hp⟩ := (mem_parseAll E ctx pick files arrivals h d).1 hd
  exact (Visit.parseFile_meta hp).2.2.trans hmf

/-! ### the module of a job in a folder run that produced output -/

theorem run_module {E : Ext} {lang : Generate.LangCfg} {targetOs : List Str}
    {pick : List ImportedType → Option ImportedType} {files : List Generate.SourceFile}
    {arrivals : List ParsedData} {outs : List (Str × Str)}
    (hparse : Generate.parseAll E (Run.ctxOf lang true targetOs) pick files = .ok arrivals)
    (h : Generate.run E lang true targetOs pick files = .ok (.outputs outs)) {j : Job}
    (hj : j ∈ jobsWith id (collect arrivals)) : ∃ text, (j.1, text) ∈ outs ∧ C11M.ModuleOf E lang j text := by
  obtain ⟨a, ha, _, hg⟩ := Run.run_outputs h
  cases hparse.symm.trans ha
  obtain ⟨mods, post, rfl, hm, _⟩ := C11M.generateAll_mods E lang _ outs hg
  obtain ⟨text, ht, hmod⟩ := hm.mem_job j hj
  exact ⟨text, List.mem_append_left _ ht, hmod⟩

end TsV.C14I
