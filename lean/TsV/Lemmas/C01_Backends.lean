import TsV.Lemmas.Lang.Kotlin
import TsV.Lemmas.C01_Parse
import TsV.Lemmas.C02_Base
import TsV.Lemmas.Lang.TypeScript
import TsV.Lemmas.Lang.Swift
import TsV.Lemmas.Printers
import TsV.Lemmas.Lang.Go
import TsV.Lemmas.Lang.Python
/-!
# C01, back-end half: every back end binds each field to `id.renamed`
-/
namespace TsV.C01
open TsV TsV.Str TsV.Lang TsV.Outcome TsV.RenameLemmas

theorem keyChar_range (c : Char) (h : keyChar c = true) :
    (97 ≤ c.toNat ∧ c.toNat ≤ 122) ∨ (65 ≤ c.toNat ∧ c.toNat ≤ 90) ∨ (48 ≤ c.toNat ∧ c.toNat ≤ 57) ∨
      c.toNat = 95 ∨ c.toNat = 45 := by
  simp only [keyChar, Bool.or_eq_true, beq_iff_eq] at h
  rcases h with (((h | h) | h) | rfl) | rfl
  · exact .inl ⟨(lower_spec c h).1, (lower_spec c h).2.1⟩
  · exact .inr (.inl ⟨(upper_spec c h).1, (upper_spec c h).2.1⟩)
  · exact .inr (.inr (.inl (digit_range c h)))
  · exact .inr (.inr (.inr (.inl rfl)))
  · exact .inr (.inr (.inr (.inr rfl)))

theorem keyChar_cases (c : Char) (h : keyChar c = true) :
    c ≠ '"' ∧ c ≠ '\\' ∧ c ≠ '\n' ∧ c ≠ '\r' ∧ c ≠ '\t' ∧ c ≠ ',' ∧ c ≠ '`' ∧ c.toNat ≠ 0 ∧
      ¬ (c.toNat < 32) ∧ c.toNat ≠ 127 := by
  have hr := keyChar_range c h
  refine ⟨?_, ?_, ?_, ?_, ?_, ?_, ?_, by omega, by omega, by omega⟩ <;>
    (rintro rfl; exact absurd hr (by decide +kernel))

/-- `{:?}` adds nothing but the quotes on the key alphabet -/
theorem debugStr_key (k : Str) (h : KeyStr k) : debugStr k = '"' :: k ++ ['"'] :=
  C02.debugStr_plain k fun c hc => by
    obtain ⟨h1, h2, _, _, _, _, _, _, h7, h8⟩ := keyChar_cases c (h c hc)
    simp only [C02.plainChar, h1, h2, h7, h8, decide_false, Bool.or_self, Bool.not_false]

theorem debugInner_key (k : Str) (h : KeyStr k) : Lang.Go.debugInner k = k := by
  unfold Lang.Go.debugInner
  rw [debugStr_key k h]
  simp

theorem unescape_cons (c : Char) (t : Str) (h1 : c ≠ '\\') (h2 : c ≠ '"') :
    unescape (c :: t) = c :: unescape t := by
  rw [unescape.eq_def]
  split
  · rename_i heq; cases heq
  · rename_i heq; cases heq; exact absurd rfl h1
  · rename_i heq; cases heq; exact absurd rfl h2
  · rename_i heq; cases heq; rfl

/-- keys are read through unchanged: no character of the key alphabet is an escape or a quote -/
theorem unescape_key_append (k t : Str) (h : KeyStr k) : unescape (k ++ t) = k ++ unescape t := by
  induction k with
  | nil => rfl
  | cons a k ih =>
    obtain ⟨h1, h2, _⟩ := keyChar_cases a (h a List.mem_cons_self)
    rw [List.cons_append, unescape_cons a _ h2 h1, ih fun x hx => h x (List.mem_cons_of_mem _ hx)]; rfl

theorem unescape_key (k : Str) (h : KeyStr k) : unescape k = k := by
  simpa [unescape] using unescape_key_append k [] h

theorem unescape_key_quote (k rest : Str) (h : KeyStr k) : unescape (k ++ '"' :: rest) = k := by
  simpa [unescape] using unescape_key_append k ('"' :: rest) h

theorem takeWhile_key (k : Str) (h : KeyStr k) : k.takeWhile (· != ',') = k := by
  induction k with
  | nil => rfl
  | cons a t ih =>
    obtain ⟨_, _, _, _, _, h6, _⟩ := keyChar_cases a (h a (by simp))
    have h6' : (a != ',') = true := by simpa using h6
    simp [List.takeWhile, h6', ih fun x hx => h x (by simp [hx])]

theorem contains_false_iff (s : Str) (c : Char) : s.contains c = false ↔ c ∉ s := by
  simp

namespace TypeScript
open TsV.Lang.TypeScript

theorem writeFields_eq (cfg : Cfg) (gens : List Str) : ∀ (fs : List RustField) (st : CustomMap),
    writeFields cfg gens fs st =
      (fieldsFacts cfg gens fs st).bind fun (tfs, st) => .ok (tfs.flatMap renderField, st) := by
  intro fs
  induction fs with
  | nil => intro st; rfl
  | cons f fs ih =>
    intro st
    rw [writeFields, fieldsFacts, bind_assoc]
    refine bind_congr_ok fun (tf, st1) _ => ?_
    show (writeFields cfg gens fs st1).bind _ = ((fieldsFacts cfg gens fs st1).bind _).bind _
    rw [ih, bind_assoc, bind_assoc]
    rfl

theorem fieldFacts_name (cfg : Cfg) (gens : List Str) (f : RustField) (st st' : CustomMap) (tf : TsField)
    (h : fieldFacts cfg gens f st = .ok (tf, st')) : tf.name = propertyName f.id.renamed := by
  obtain ⟨_, _, htf, _⟩ := fieldFacts_ok h
  rw [← htf]

theorem boundKey_of_name (tf : TsField) (k : Str) (hn : tf.name = propertyName k) (hk : KeyStr k) :
    boundKey tf = k := by
  unfold boundKey
  rw [hn]
  unfold propertyName
  by_cases hc : k.contains '-' = true
  · rw [if_pos hc, debugStr_key k hk]
    show unescape (k ++ ['"']) = k
    exact unescape_key_quote k [] hk
  · rw [if_neg hc]
    cases k with
    | nil => rfl
    | cons a t =>
      obtain ⟨h1, _⟩ := keyChar_cases a (hk a (by simp))
      split
      · rename_i heq; cases heq; exact absurd rfl h1
      · rfl

theorem fieldFacts_key (cfg : Cfg) (gens : List Str) (f : RustField) (st st' : CustomMap) (tf : TsField)
    (h : fieldFacts cfg gens f st = .ok (tf, st')) (hk : KeyStr f.id.renamed) : boundKey tf = f.id.renamed :=
  boundKey_of_name tf _ (fieldFacts_name cfg gens f st st' tf h) hk

theorem fieldsFacts_keys (cfg : Cfg) (gens : List Str) (fs : List RustField) (st st' : CustomMap)
    (tfs : List TsField) (h : fieldsFacts cfg gens fs st = .ok (tfs, st')) :
    Forall₂ (fun f tf => KeyStr f.id.renamed → boundKey tf = f.id.renamed) fs tfs :=
  thread_forall₂' h (fun _ => rfl) (fun _ _ _ => rfl) fun f st tf st' => fieldFacts_key cfg gens f st st' tf

/-- the body of an interface (or of a struct variant) is one rendered property line per field -/
theorem writeFields_ok {cfg : Cfg} {gens : List Str} {fs : List RustField} {st st' : CustomMap} {body : Str} :
    writeFields cfg gens fs st = .ok (body, st') ↔
      ∃ tfs, fieldsFacts cfg gens fs st = .ok (tfs, st') ∧ tfs.flatMap renderField = body := by
  rw [writeFields_eq]
  exact bind_ret_ok (g := fun (tfs : List TsField) => tfs.flatMap renderField)

/-- the interface `write_struct` prints consists of the rendered `fieldsFacts` of the struct's fields -/
theorem writeStruct_fields (cfg : Cfg) (rs : RustStruct) (st st' : CustomMap) (txt : Str)
    (h : writeStruct cfg rs st = .ok (txt, st')) :
    ∃ tfs, fieldsFacts cfg rs.genericTypes rs.fields st = .ok (tfs, st') ∧
      txt = comments 0 rs.comments ++ s%"export interface " ++ rs.id.renamed ++ genericSuffix rs.genericTypes ++
        s%" {\n" ++ tfs.flatMap renderField ++ s%"}\n\n" := by
  obtain ⟨body, hb, rfl⟩ := writeStruct_ok.1 h
  obtain ⟨tfs, hf, rfl⟩ := writeFields_ok.1 hb
  exact ⟨tfs, hf, rfl⟩

/-- a struct variant is printed inline: its body is the rendered `fieldsFacts` of its fields -/
theorem writeVariant_struct {cfg : Cfg} {e : RustEnum} {tag content : Str} {id : Id} {cs : List Str}
    {fs : List RustField} {st st' : CustomMap} {b : Str}
    (h : writeVariant cfg e tag content (.anonymousStruct id cs fs) st = .ok (b, st')) :
    ∃ tfs, fieldsFacts cfg e.genericTypes fs st = .ok (tfs, st') ∧
      b = memberHead tag content cs id ++ s%": {\n" ++ tfs.flatMap renderField ++ s%"}}" := by
  obtain ⟨body, hb, rfl⟩ := writeVariant_struct_ok.1 h
  obtain ⟨tfs, hf, rfl⟩ := writeFields_ok.1 hb
  exact ⟨tfs, hf, rfl⟩

theorem writeVariants_facts (cfg : Cfg) (e : RustEnum) (tag content : Str) :
    ∀ (vs : List RustEnumVariant) (st st' : CustomMap) (txt : Str),
      writeVariants cfg e tag content vs st = .ok (txt, st') →
      ∃ tfss, variantsFacts cfg e vs st = .ok (tfss, st') := by
  intro vs
  induction vs with
  | nil => intro st st' txt h; exact ⟨[], by rw [← (ok_pair_inj h).2]; rfl⟩
  | cons v vs ih =>
    intro st st' txt h
    unfold writeVariants at h
    obtain ⟨⟨a, st1⟩, h1, h2⟩ := of_bind_ok h
    obtain ⟨b, h3⟩ := Outcome.of_bind_state h2
    obtain ⟨rest, hr⟩ := ih st1 _ b h3
    cases v with
    | unit id cs =>
      obtain ⟨rfl, -⟩ := writeVariant_unit_ok.1 h1
      exact ⟨rest, hr⟩
    | tuple id cs ty =>
      obtain ⟨t, h5, -⟩ := writeVariant_tuple_ok.1 h1
      exact ⟨rest, by rw [variantsFacts, h5]; exact hr⟩
    | anonymousStruct id cs fs =>
      obtain ⟨tfs, h5, -⟩ := writeVariant_struct h1
      exact ⟨tfs :: rest, by simp only [variantsFacts, h5, bind_ok, hr]⟩

theorem variantsFacts_keys (cfg : Cfg) (e : RustEnum) :
    ∀ (vs : List RustEnumVariant) (st st' : CustomMap) (tfss : List (List TsField)),
      variantsFacts cfg e vs st = .ok (tfss, st') →
      Forall₂ (fun (p : Id × List RustField) tfs =>
          Forall₂ (fun f tf => KeyStr f.id.renamed → boundKey tf = f.id.renamed) p.2 tfs)
        (structVariants { e with variants := vs }) tfss := by
  intro vs
  induction vs with
  | nil => intro st st' tfss h; obtain ⟨rfl, _⟩ := ok_pair_inj h; exact .nil
  | cons v vs ih =>
    intro st st' tfss h
    cases v with
    | unit id cs => exact ih st st' tfss h
    | tuple id cs ty =>
      unfold variantsFacts at h
      obtain ⟨⟨t, st1⟩, _, h2⟩ := of_bind_ok h
      exact ih st1 st' tfss h2
    | anonymousStruct id cs fs =>
      unfold variantsFacts at h
      obtain ⟨⟨tfs, st1⟩, h1, h2⟩ := of_bind_ok h
      obtain ⟨⟨rest, st2⟩, h3, h4⟩ := of_bind_ok h2
      cases h4
      exact .cons (fieldsFacts_keys cfg e.genericTypes fs st st1 tfs h1) (ih st1 _ rest h3)

end TypeScript

namespace Kotlin
open TsV.Lang.Kotlin

theorem paramFacts_key (cfg : Cfg) (gens : List Str) (b priv : Bool) (f : RustField) (p : KtParam)
    (h : paramFacts cfg gens b priv f = .ok p) :
    boundKey p = if b then f.id.renamed else removeDash f.id.renamed := by
  obtain ⟨ty, -, rfl⟩ := of_bind_ret h
  cases b <;> rfl

theorem paramsFacts_keys (cfg : Cfg) (gens : List Str) (b : Bool) (fs : List RustField) (ps : List KtParam)
    (h : paramsFacts cfg gens b fs = .ok ps) :
    Forall₂ (fun f p => boundKey p = if b then f.id.renamed else removeDash f.id.renamed) fs ps :=
  Forall₂.imp (paramFacts_key cfg gens b false) (mapM'_forall₂ _ _ _ (paramsFacts_eq gens cfg b ▸ h))

/-- **Kotlin**: `requires_serial_name` is struct-wide, `remove_dash` is the identity without dashes -/
theorem structFacts_keys (cfg : Cfg) (rs : RustStruct) (d : KtDecl) (h : structFacts cfg rs = .ok d) :
    Forall₂ (fun f p => boundKey p = f.id.renamed) rs.fields (declParams d) := by
  obtain ⟨he, rfl⟩ | ⟨-, ps, h1, rfl⟩ := structFacts_inv h
  · rw [he]; exact .nil
  · have hk := paramsFacts_keys cfg rs.genericTypes _ rs.fields ps h1
    cases hb : dashed rs with
    | true => rw [hb] at hk; exact Forall₂.imp (fun f p hfp => by simpa using hfp) hk
    | false =>
      rw [hb] at hk
      have hall : ∀ f ∈ rs.fields, '-' ∉ f.id.renamed := by
        intro f hf
        have := (List.any_eq_false.1 hb) f hf
        simpa using this
      refine Forall₂.imp ?_ (forall₂_mem_left hk hall)
      intro f p ⟨hd, hfp⟩
      simp only [Bool.false_eq_true, if_false] at hfp
      rw [hfp]
      exact replaceChar_absent _ _ _ hd

theorem innerStructs_keys (cfg : Cfg) (e : RustEnum) (ds : List KtDecl)
    (h : structsFacts cfg (innerStructs e) = .ok ds) :
    Forall₂ (fun (p : Id × List RustField) d =>
        Forall₂ (fun f q => boundKey q = f.id.renamed) p.2 (declParams d)) (structVariants e) ds :=
  Forall₂.imp (fun p d => structFacts_keys cfg (innerStruct e p) d) (mapM'_forall₂ _ _ _ (innerStructs_inv h))

/-- `write_enum` emits the helper classes first -/
theorem enumFacts_inners (cfg : Cfg) (e : RustEnum) (ds : List KtDecl) (h : enumFacts cfg e = .ok ds) :
    ∃ inners rest, structsFacts cfg (innerStructs e) = .ok inners ∧ ds = inners ++ rest :=
  let ⟨inners, d, hi, _, hds⟩ := enumFacts_inv h
  ⟨inners, [d], hi, hds.symm⟩

end Kotlin

namespace Swift
open TsV.Lang.Swift

theorem unbacktick_id (k : Str) (h : '`' ∉ k) : unbacktick k = k := by
  unfold unbacktick
  rw [List.filter_eq_self]
  intro c hc
  have : c ≠ '`' := fun e => h (e ▸ hc)
  simpa using this

theorem unbacktick_kw (k : Str) (h : '`' ∉ k) : unbacktick (kw k) = k := by
  unfold kw
  split
  · unfold unbacktick
    have := unbacktick_id k h
    unfold unbacktick at this
    simp [List.filter_append, this]
  · exact unbacktick_id k h

theorem kw_noDash (k : Str) (h : '-' ∉ k) : '-' ∉ kw k := by
  unfold kw
  split
  · simp [h]
  · exact h

theorem keyStr_noTick (k : Str) (h : KeyStr k) : '`' ∉ k := by
  intro hc
  have := (keyChar_cases _ (h _ hc)).2.2.2.2.2.2.1
  exact this rfl

/-- a dash-free key survives the member-name mangling -/
theorem memberName_key (f : RustField) (hk : KeyStr f.id.renamed) (hd : '-' ∉ f.id.renamed) :
    unbacktick (memberName f) = f.id.renamed := by
  unfold memberName removeDash
  rw [replaceChar_absent _ _ _ (kw_noDash _ hd)]
  exact unbacktick_kw _ (keyStr_noTick _ hk)

theorem caseRaw_key (f : RustField) (hk : KeyStr f.id.renamed) : caseRaw (fieldCodingKey f) = f.id.renamed := by
  unfold fieldCodingKey caseRaw
  split
  · rfl
  · rename_i hc
    simp only [Option.getD_none]
    exact memberName_key f hk (by simpa using hc)

theorem find_nodup {α} (g : α → Str) (hf : α → CodingKey) (hk : ∀ a, (hf a).caseName = g a) :
    ∀ (l : List α), (l.map g).Nodup → ∀ a ∈ l, (l.map hf).find? (·.caseName == g a) = some (hf a) := by
  intro l
  induction l with
  | nil => intro _ a ha; simp at ha
  | cons b t ih =>
    intro hn a ha
    simp only [List.map_cons, List.nodup_cons] at hn
    simp only [List.map_cons, List.find?_cons, hk]
    by_cases hba : g b = g a
    · simp only [hba, beq_self_eq_true]
      simp only [List.mem_cons] at ha
      rcases ha with rfl | ha
      · rfl
      · exact absurd (hba ▸ List.mem_map_of_mem (f := g) ha) hn.1
    · have : (g b == g a) = false := by simpa using hba
      simp only [this]
      simp only [List.mem_cons] at ha
      rcases ha with rfl | ha
      · exact absurd rfl hba
      · exact ih hn.2 a ha

theorem storedProps_names (cfg : Cfg) (gens : List Str) (fs : List RustField) (st st' : St)
    (ps : List StoredProp) (h : storedProps cfg gens fs st = .ok (ps, st')) :
    ps.map (·.name) = fs.map memberName := by
  induction fs generalizing st ps with
  | nil => obtain ⟨rfl, _⟩ := ok_pair_inj h; rfl
  | cons f fs ih =>
    unfold storedProps at h
    obtain ⟨⟨ty, st1⟩, _, h2⟩ := of_bind_ok h
    obtain ⟨⟨rest, st2⟩, h3, h4⟩ := of_bind_ok h2
    cases h4
    simp [ih st1 rest h3]

/-- the key bound to the property called `n` -/
def keyOfName (s : SwiftStruct) (n : Str) : Str :=
  if s.explicitCodingKeys then
    match s.codingKeys.find? (·.caseName == n) with
    | some k => caseRaw k
    | none => unbacktick n
  else unbacktick n

theorem structKeys_eq (s : SwiftStruct) : structKeys s = (s.props.map (·.name)).map (keyOfName s) := by
  unfold structKeys
  rw [List.map_map]
  rfl

/-- **Swift**: with `CodingKeys` the case of the property carries the key (explicitly if dashed,
by its name otherwise); without, the property name does -/
theorem structFacts_keys (U : UnicodeOps) (cfg : Cfg) (rs : RustStruct) (st st' : St) (s : SwiftStruct)
    (h : structFacts U cfg rs st = .ok (s, st')) (hn : (rs.fields.map memberName).Nodup) :
    Forall₂ (fun f k => KeyStr f.id.renamed → k = f.id.renamed) rs.fields (structKeys s) := by
  obtain ⟨props, st1, params, h1, -, rfl⟩ := structFacts_ok h
  rw [structKeys_eq]
  simp only [structOf, storedProps_names cfg _ _ _ _ _ h1, List.map_map]
  apply forall₂_map_self
  intro f hf hk
  simp only [Function.comp, keyOfName]
  cases hb : (rs.fields.any fun f => f.id.renamed.contains '-') with
  | true =>
    simp only [if_true]
    rw [find_nodup memberName fieldCodingKey (by intro a; unfold fieldCodingKey; split <;> rfl) rs.fields hn f hf]
    exact caseRaw_key f hk
  | false =>
    simp only [Bool.false_eq_true, if_false]
    have := (List.any_eq_false.1 hb) f hf
    exact memberName_key f hk (by simpa using this)

theorem anonymousStructs_keys (U : UnicodeOps) (cfg : Cfg) (e : RustEnum)
    (ps : List (Id × List RustField)) (st st' : St) (ss : List SwiftStruct)
    (h : anonymousStructs U cfg e ps st = .ok (ss, st')) (hn : ∀ p ∈ ps, (p.2.map memberName).Nodup) :
    Forall₂ (fun (p : Id × List RustField) s =>
      Forall₂ (fun f k => KeyStr f.id.renamed → k = f.id.renamed) p.2 (structKeys s)) ps ss :=
  Forall₂.imp (fun _ _ ⟨hp, hk⟩ => hk hp)
    (forall₂_mem_left (thread_forall₂' h (fun _ => rfl) (fun _ _ _ => rfl)
      fun _ st s st' hs => structFacts_keys U cfg _ st st' s hs) hn)

end Swift

namespace Go
open TsV.Lang.Go

theorem fieldFacts_key (U : UnicodeOps) (cfg : Cfg) (f : RustField) (st st' : Imports) (g : GoField)
    (h : fieldFacts U cfg f st = .ok (g, st')) (hk : KeyStr f.id.renamed) : boundKey g = f.id.renamed := by
  obtain ⟨_, _, _, _, _, _, rfl⟩ := fieldFacts_inv h
  simp only [boundKey]
  rw [debugInner_key _ hk, unescape_key _ hk, takeWhile_key _ hk]

theorem fieldsFacts_keys (U : UnicodeOps) (cfg : Cfg) (fs : List RustField) (st st' : Imports)
    (gs : List GoField) (h : fieldsFacts U cfg fs st = .ok (gs, st')) :
    Forall₂ (fun f g => KeyStr f.id.renamed → boundKey g = f.id.renamed) fs gs :=
  thread_forall₂' h (fun _ => rfl) (fun _ _ _ => rfl) fun f st g st' => fieldFacts_key U cfg f st st' g

/-- **Go**: the json tag carries the key -/
theorem structFacts_keys (U : UnicodeOps) (cfg : Cfg) (rs : RustStruct) (st st' : Imports) (d : GoStruct)
    (h : structFacts U cfg rs st = .ok (d, st')) :
    Forall₂ (fun f g => KeyStr f.id.renamed → boundKey g = f.id.renamed) rs.fields d.fields := by
  obtain ⟨_, fields, _, h3, rfl⟩ := structFacts_inv h
  exact fieldsFacts_keys U cfg rs.fields st _ fields h3

theorem anonStructs_keys (U : UnicodeOps) (cfg : Cfg) (e : RustEnum)
    (ps : List (Id × List RustField)) (st st' : Imports) (ds : List GoStruct)
    (h : anonStructs U cfg e ps st = .ok (ds, st')) :
    Forall₂ (fun (p : Id × List RustField) d =>
      Forall₂ (fun f g => KeyStr f.id.renamed → boundKey g = f.id.renamed) p.2 d.fields) ps ds :=
  thread_forall₂' (f := fun p st => (anonName U cfg e p.1.original).bind fun structName =>
      structFacts U cfg (anonymousStruct e structName p.1.original p.2) st)
    h (fun _ => rfl) (fun (id, fs) _ _ => by rw [anonStructs, bind_assoc]) fun p st d st' hd => by
      obtain ⟨structName, _, hd⟩ := of_bind_ok hd
      exact structFacts_keys U cfg _ st st' d hd

end Go

namespace Python
open TsV.Lang.Python

/-- **Python**: the alias is written exactly when the attribute name differs from the key —
whatever `convert_case` does (`E.snakeCase` is a parameter) -/
theorem fieldFacts_key (E : Ext) (cfg : Cfg) (gens : List Str) (f : RustField) (st st' : St) (pf : PyField)
    (h : fieldFacts E cfg gens f st = .ok (pf, st')) : boundKey pf = f.id.renamed := by
  obtain ⟨_, _, _, _, _, rfl⟩ := fieldFacts_inv h
  simp only [boundKey]
  by_cases hc : (propertyAwareRename E f.id.original != f.id.renamed) = true
  · simp [hc]
  · simp only [hc]
    simpa using hc

theorem fieldsFacts_keys (E : Ext) (cfg : Cfg) (gens : List Str) (fs : List RustField) (st st' : St)
    (ps : List PyField) (h : fieldsFacts E cfg gens fs st = .ok (ps, st')) :
    Forall₂ (fun f p => boundKey p = f.id.renamed) fs ps :=
  thread_forall₂' h (fun _ => rfl) (fun _ _ _ => rfl) fun f st p st' => fieldFacts_key E cfg gens f st st' p

theorem structFacts_keys (E : Ext) (cfg : Cfg) (rs : RustStruct) (st st' : St) (c : PyClass)
    (h : structFacts E cfg rs st = .ok (c, st')) :
    Forall₂ (fun f p => boundKey p = f.id.renamed) rs.fields c.fields := by
  obtain ⟨_, fields, h1, rfl⟩ := structFacts_inv h
  exact fieldsFacts_keys E cfg _ _ _ _ fields h1

theorem innerFacts_keys (E : Ext) (cfg : Cfg) (e : RustEnum)
    (ps : List (Id × List RustField)) (st st' : St) (cs : List PyClass)
    (h : innerFacts E cfg e ps st = .ok (cs, st')) :
    Forall₂ (fun (p : Id × List RustField) c =>
      Forall₂ (fun f q => boundKey q = f.id.renamed) p.2 c.fields) ps cs :=
  thread_forall₂' h (fun _ => rfl) (fun _ _ _ => rfl) fun _ st c st' hc => structFacts_keys E cfg _ st st' c hc

end Python

namespace Scala
open TsV.Lang.Scala

theorem paramFacts_key (cfg : Cfg) (gens : List Str) (f : RustField) (p : ScParam)
    (h : paramFacts cfg gens f = .ok p) (hd : '-' ∉ f.id.renamed) : boundKey p = f.id.renamed := by
  obtain ⟨ty, -, rfl⟩ := of_bind_ret h
  exact replaceChar_absent _ _ _ hd

/-- **Scala**: no binding exists; the parameter name is the key as long as it has no dash -/
theorem classFacts_keys (cfg : Cfg) (rs : RustStruct) (c : ScClass) (h : classFacts cfg rs = .ok c) :
    Forall₂ (fun f p => '-' ∉ f.id.renamed → boundKey p = f.id.renamed) rs.fields c.params := by
  obtain ⟨params, h1, rfl⟩ := of_bind_ret h
  exact Forall₂.imp (fun f p hfp hd => paramFacts_key cfg _ f p hfp hd) (mapM'_forall₂ _ _ _ h1)

theorem innerClasses_keys (cfg : Cfg) (e : RustEnum) (cs : List ScClass) (h : innerClasses cfg e = .ok cs) :
    Forall₂ (fun (p : Id × List RustField) c =>
      Forall₂ (fun f q => '-' ∉ f.id.renamed → boundKey q = f.id.renamed) p.2 c.params) (structVariants e) cs := by
  unfold innerClasses at h
  exact Forall₂.imp (fun p c hpc => classFacts_keys cfg _ c hpc)
    (mapM'_forall₂ (fun p : Id × List RustField =>
      classFacts cfg (anonymousStruct e (e.id.renamed ++ p.1.original ++ s%"Inner") p.1.original p.2)) _ _ h)

end Scala

end TsV.C01
