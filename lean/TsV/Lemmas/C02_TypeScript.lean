import TsV.Lemmas.C02_Base
import TsV.Model.Lang.TypeScript
/-!
# C02, TypeScript: fact records for `write_enum` (the model prints enums directly), their rendering,
and what they say on the wire
-/
namespace TsV.C02.TS
open TsV TsV.Lang TsV.Lang.TypeScript TsV.C02

/-- one member of a string `enum`: `name = "value",` -/
structure EnumMember where
  comments : List Str
  name : Str
  value : Str            -- printed with `{:?}`
deriving Repr, DecidableEq

/-- what follows the content key in a union member -/
inductive Payload where
  | undefined                          -- `content?: undefined`
  | ty (optional : Bool) (t : Str)     -- `content: T` / `content?: T`
  | obj (body : Str)                   -- `content: {` fields `}`
deriving Repr, DecidableEq

/-- one member `| { tag: "value", content… }` of a tagged union -/
structure UnionMember where
  comments : List Str
  tagKey : Str
  tagValue : Str         -- printed with `{:?}`
  contentKey : Str
  payload : Payload
deriving Repr, DecidableEq

inductive EnumDecl where
  | enum (comments : List Str) (name generics : Str) (members : List EnumMember)
  | union (comments : List Str) (name generics : Str) (members : List UnionMember)
deriving Repr, DecidableEq

def renderEnumMember (m : EnumMember) : Str :=
  nl ++ TypeScript.comments 1 m.comments ++ s%"\t" ++ m.name ++ s%" = " ++ debugStr m.value ++ s%","

def renderUnionMember (m : UnionMember) : Str :=
  nl ++ TypeScript.comments 1 m.comments ++ s%"\t| { " ++ m.tagKey ++ s%": " ++ debugStr m.tagValue ++ s%", " ++
    m.contentKey ++
    match m.payload with
    | .undefined => s%"?: undefined }"
    | .ty o t => (if o then s%"?" else []) ++ s%": " ++ t ++ s%" }"
    | .obj body => s%": {\n" ++ body ++ s%"}}"

def renderEnumDecl : EnumDecl → Str
  | .enum cs name gp ms =>
    TypeScript.comments 0 cs ++ s%"export enum " ++ name ++ gp ++ s%" {" ++ ms.flatMap renderEnumMember ++ s%"\n}\n\n"
  | .union cs name gp ms =>
    TypeScript.comments 0 cs ++ s%"export type " ++ name ++ gp ++ s%" = " ++ ms.flatMap renderUnionMember ++ s%";\n\n"

def enumMember (v : RustEnumVariant) : EnumMember :=
  { comments := v.comments, name := v.id.original, value := v.id.renamed }

/-- the facts of one union member (the payload type is formatted on the way, which threads the
printer state) -/
def unionMember (cfg : Cfg) (e : RustEnum) (tag content : Str) (v : RustEnumVariant) (st : CustomMap) :
    Outcome (UnionMember × CustomMap) :=
  match v with
  | .unit id cs => .ok (⟨cs, tag, id.renamed, content, .undefined⟩, st)
  | .tuple id cs ty =>
    (formatType cfg e.genericTypes ty st).bind fun (t, st) =>
      .ok (⟨cs, tag, id.renamed, content, .ty ty.isOptional t⟩, st)
  | .anonymousStruct id cs fs =>
    (writeFields cfg e.genericTypes fs st).bind fun (body, st) =>
      .ok (⟨cs, tag, id.renamed, content, .obj body⟩, st)

def unionMembers (cfg : Cfg) (e : RustEnum) (tag content : Str) : List RustEnumVariant → CustomMap →
    Outcome (List UnionMember × CustomMap)
  | [], st => .ok ([], st)
  | v :: vs, st =>
    (unionMember cfg e tag content v st).bind fun (m, st) =>
    (unionMembers cfg e tag content vs st).bind fun (ms, st) => .ok (m :: ms, st)

/-- `write_enum` as facts -/
def enumFacts (cfg : Cfg) (e : RustEnum) (st : CustomMap) : Outcome (EnumDecl × CustomMap) :=
  let gp := genericSuffix e.genericTypes
  match e.keys with
  | none => .ok (.enum e.comments e.id.renamed gp (e.variants.map enumMember), st)
  | some (tag, content) =>
    (unionMembers cfg e tag content e.variants st).bind fun (ms, st) =>
      .ok (.union e.comments e.id.renamed gp ms, st)

theorem writeVariant_eq (cfg : Cfg) (e : RustEnum) (tag content : Str) (v : RustEnumVariant) (st : CustomMap) :
    writeVariant cfg e tag content v st =
      (unionMember cfg e tag content v st).bind fun (m, st) => .ok (renderUnionMember m, st) := by
  cases v <;>
    simp only [writeVariant, unionMember, Outcome.bind_assoc, Outcome.bind_ok, renderUnionMember,
      RustEnumVariant.comments]
  all_goals simp only [← List.append_assoc]

theorem writeVariants_eq (cfg : Cfg) (e : RustEnum) (tag content : Str) : ∀ (vs : List RustEnumVariant) (st : CustomMap),
    writeVariants cfg e tag content vs st =
      (unionMembers cfg e tag content vs st).bind fun (ms, st) => .ok (ms.flatMap renderUnionMember, st) := by
  intro vs
  induction vs with
  | nil => intro st; rfl
  | cons v vs ih =>
    intro st
    simp only [writeVariants, unionMembers, writeVariant_eq, ih, Outcome.bind_assoc, Outcome.bind_ok,
      List.flatMap_cons]

/-- **the facts render to exactly what `write_enum` writes** -/
theorem writeEnum_eq (cfg : Cfg) (e : RustEnum) (st : CustomMap) :
    writeEnum cfg e st = (enumFacts cfg e st).bind fun (d, st) => .ok (renderEnumDecl d, st) := by
  unfold writeEnum enumFacts
  cases e.keys with
  | none => simp only [Outcome.bind_ok, renderEnumDecl, List.flatMap_map, renderEnumMember, enumMember]
  | some p => simp only [writeVariants_eq, Outcome.bind_assoc, Outcome.bind_ok, renderEnumDecl]

/-- binding semantics: a string-enum member `Name = "value"` is the case `Name` serialised as
`value`; a union member is identified by (and serialised under) its tag literal and prints the tag
key and the content key once each -/
def wire : EnumDecl → EnumWire
  | .enum _ _ _ ms => { cases := ms.map fun m => ⟨some m.name, some m.value⟩, holes := [] }
  | .union _ _ _ ms =>
    { cases := ms.map fun m => ⟨none, some m.tagValue⟩,
      holes := ms.flatMap fun m => [(.tag, m.tagKey), (.content, m.contentKey)] }

theorem unionMember_facts (cfg : Cfg) (e : RustEnum) (tag content : Str) (v : RustEnumVariant) (st st' : CustomMap)
    (m : UnionMember) (h : unionMember cfg e tag content v st = .ok (m, st')) :
    m.tagKey = tag ∧ m.contentKey = content ∧ m.tagValue = v.id.renamed := by
  cases v with
  | unit id cs => cases h; exact ⟨rfl, rfl, rfl⟩
  | tuple id cs ty => obtain ⟨p, _, h⟩ := Outcome.of_bind_ok h; cases h; exact ⟨rfl, rfl, rfl⟩
  | anonymousStruct id cs fs => obtain ⟨p, _, h⟩ := Outcome.of_bind_ok h; cases h; exact ⟨rfl, rfl, rfl⟩

theorem unionMembers_facts (cfg : Cfg) (e : RustEnum) (tag content : Str)
    (vs : List RustEnumVariant) (st st' : CustomMap) (ms : List UnionMember)
    (h : unionMembers cfg e tag content vs st = .ok (ms, st')) :
    ms.map (·.tagValue) = vs.map (·.id.renamed) ∧ ∀ m ∈ ms, m.tagKey = tag ∧ m.contentKey = content :=
  Outcome.thread_ok_rec
    (P := fun vs ms => ms.map (·.tagValue) = vs.map (·.id.renamed) ∧ ∀ m ∈ ms, m.tagKey = tag ∧ m.contentKey = content)
    h (fun _ => rfl) (fun _ _ _ => rfl) ⟨rfl, fun _ hm => nomatch hm⟩
    fun v m vs ms st st' hm ⟨ih1, ih2⟩ => by
      obtain ⟨h1, h2, h3⟩ := unionMember_facts cfg e tag content v st st' m hm
      exact ⟨by rw [List.map_cons, List.map_cons, h3, ih1], List.forall_mem_cons.2 ⟨⟨h1, h2⟩, ih2⟩⟩

/-- **TypeScript**: whatever `write_enum` emits for an in-scope enum is correct on the wire -/
theorem correct (cfg : Cfg) (e : RustEnum) (hs : InScopeEnum e) (st st' : CustomMap) (d : EnumDecl)
    (h : enumFacts cfg e st = .ok (d, st')) : (wire d).Correct e := by
  unfold enumFacts at h
  cases hk : e.keys with
  | none =>
    rw [hk] at h
    cases h
    exact .of_named (e.variants.map enumMember) (·.name) (·.value)
      (by rw [List.map_map]; rfl) (by rw [List.map_map]; exact hs.distinct) (.of_none hk rfl)
  | some p =>
    obtain ⟨tag, content⟩ := p
    rw [hk] at h
    obtain ⟨⟨ms, st1⟩, hm, h⟩ := Outcome.of_bind_ok h
    cases h
    obtain ⟨h1, h2⟩ := unionMembers_facts cfg e tag content e.variants st _ ms hm
    refine ⟨EnumWire.names_named ms (fun _ => none) (·.tagValue) _ h1, ?_, .of_some hk ?_⟩
    · have : (ms.map fun m => (⟨none, some m.tagValue⟩ : WireCase)).filterMap (·.caseId) = [] :=
        List.filterMap_eq_nil_iff.2 fun c hc => by obtain ⟨m, _, rfl⟩ := List.mem_map.1 hc; rfl
      show ((ms.map fun m => (⟨none, some m.tagValue⟩ : WireCase)).filterMap (·.caseId)).Nodup
      rw [this]
      exact List.nodup_nil
    · intro x hx
      obtain ⟨m, hm', hx⟩ := List.mem_flatMap.1 hx
      obtain ⟨ht, hc⟩ := h2 m hm'
      rw [ht, hc] at hx
      simpa using hx

end TsV.C02.TS
