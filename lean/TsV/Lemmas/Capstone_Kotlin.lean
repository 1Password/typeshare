import TsV.Lemmas.Capstone_Items
import TsV.Lemmas.Capstone_Order
/-!
# Capstone — Kotlin: from `writeItem … = .ok b` to the fact records and the clauses
-/
namespace TsV.Cap.Kt
open TsV TsV.Syn TsV.Parser TsV.Pipeline TsV.Generate TsV.C03E TsV.Lang TsV.Lang.Kotlin TsV.Outcome

/-- C04's reading of one constructor parameter -/
def Reads (p : KtParam) (o : Bool) (core : Str) : Prop := o = C04.Kt.isOptional p ∧ core = C04.Kt.stripOptional p

theorem writeItem_struct (cfg : Cfg) (rs : RustStruct) (b : Str) (h : C03E.Kt.writeItem cfg (.struct rs) = .ok b) :
    ∃ d, structFacts cfg rs = .ok d ∧ renderDecl d = b := by
  obtain ⟨ds, hds, rfl⟩ := Outcome.of_bind_ret h
  obtain ⟨d, hd, rfl⟩ := Outcome.of_bind_ret (show (structFacts cfg rs).bind _ = _ from hds)
  exact ⟨d, hd, (List.append_nil _).symm⟩

theorem writeItem_enum (cfg : Cfg) (e : RustEnum) (b : Str) (h : C03E.Kt.writeItem cfg (.enum e) = .ok b) :
    ∃ ds, enumFacts cfg e = .ok ds ∧ ds.flatMap renderDecl = b := by
  obtain ⟨ds, hds, rfl⟩ := Outcome.of_bind_ret h
  exact ⟨ds, hds, rfl⟩

/-- **clauses 2 + 3 for the data class of a source struct** -/
theorem struct_ok (E : Ext) (hU : E.U.AsciiCorrect) (cfg : Cfg) (targetOs : List Str) (c : Str) (r : Renames)
    (attrs : List Attr) (ident : Str) (gens : List GenericParam) (fs : List Field) (rs : RustStruct) (d : KtDecl)
    (hparse : parseStruct E targetOs attrs ident gens (.named fs) = .ok (.struct rs))
    (hd : structFacts cfg (recStruct c r rs) = .ok d) :
    StructClauses E .kotlin (.kotlin cfg) targetOs c r attrs fs (recStruct c r rs)
      ((C01.Kotlin.declParams d).map C01.Kotlin.boundKey) Reads (C04.Kt.params d) := by
  refine struct_clauses E hU .kotlin (.kotlin cfg) cfg targetOs c r attrs ident gens fs rs _ Reads _ hparse
    (by simp [C01.structKeys, hd]) ((C04.Kt.struct_fields hd).imp ?_)
  rintro rf' p ⟨rsn, priv, hp⟩ hs _
  obtain ⟨h1, h2⟩ := C04.Kt.field hs.1 hp
  exact ⟨_, _, ⟨rfl, rfl⟩, h1, h2⟩

/-- the keys bound by the helper classes of the struct variants -/
def innerKeys (ds : List KtDecl) : List (List Str) :=
  ds.map fun d => (C01.Kotlin.declParams d).map C01.Kotlin.boundKey

/-- **clauses 2 + 4 for the declarations of a source enum**: `inners` are the helper data classes of
the struct variants, which come first -/
theorem enum_ok (E : Ext) (hU : E.U.AsciiCorrect) (cfg : Cfg) (hcU : cfg.U.AsciiCorrect) (targetOs : List Str) (c : Str) (r : Renames)
    (attrs : List Attr) (ident : Str) (gens : List GenericParam) (vs : List Variant) (e : RustEnum)
    (ds : List KtDecl) (acronyms : List Str)
    (hparse : parseEnum E targetOs attrs ident gens vs = .ok (.enum e))
    (hd : enumFacts cfg (recEnum c r e) = .ok ds) :
    ∃ inners rest, ds = inners ++ rest ∧ structsFacts cfg (innerStructs (recEnum c r e)) = .ok inners ∧
      EnumClauses E .kotlin targetOs attrs vs (recEnum c r e) acronyms (innerKeys inners) (C02.Kt.wire ds) := by
  obtain ⟨inners, rest, hi, hds⟩ := C01.Kotlin.enumFacts_inners cfg _ ds hd
  refine ⟨inners, rest, hds, hi, ?_⟩
  refine enum_clauses E hU .kotlin cfg targetOs c r attrs ident gens vs e acronyms _ _ hparse
    (by simp [C01.enumKeys, hi, innerKeys]) ?_
  intro hs hk
  exact C02.C02_backend .kotlin E hU acronyms _ hs hk cfg ds hcU hd

end TsV.Cap.Kt
