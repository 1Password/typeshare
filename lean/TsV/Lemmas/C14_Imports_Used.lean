import TsV.Lemmas.C06_Multi_Jobs
/-!
# `used_imports`: exact membership, completeness of the three branches, the fallback oracle

`C06M.usedImports_eq_fold` / `C06M.foldC_mem` show that the fold of `Pipeline.usedImports` computes a union of
per-import *contributions* (`C06M.contrib`): the scoped map operations never lose an earlier insertion.  This
file turns that into the membership characterisation used by C14 and evaluates `contrib` on its three branches
(named import that resolves directly, glob import, re-export fallback).
-/
namespace TsV.C14I
open TsV TsV.Pipeline TsV.C06M

/-! ### monotonicity of the scoped map operations (earlier insertions are kept) -/

theorem scopedInsert_keeps (m : ScopedCrateTypes) (c t c' t' : Str) (h : SMem m c' t') :
    SMem (scopedInsert m c t true) c' t' := (scopedInsert_mem c t c' t' m).2 (Or.inr h)

theorem scopedInsert_adds (m : ScopedCrateTypes) (c t : Str) : SMem (scopedInsert m c t true) c t :=
  (scopedInsert_mem c t c t m).2 (Or.inl ⟨rfl, rfl⟩)

theorem scopedEnsure_keeps (m : ScopedCrateTypes) (c c' t' : Str) (h : SMem m c' t') :
    SMem (scopedEnsure m c) c' t' := (scopedEnsure_mem c c' t' m).2 h

theorem insertSorted_keeps (t x : Str) (v : List Str) (h : x ∈ v) : x ∈ Parser.insertSorted Str.lt t v :=
  Order.mem_insertSorted_iff.2 (Or.inr h)

theorem insertSorted_adds (t : Str) (v : List Str) : t ∈ Parser.insertSorted Str.lt t v :=
  Order.mem_insertSorted_iff.2 (Or.inl rfl)

/-! ### exact membership in the result of `used_imports` -/

/-- **exact characterisation**: `t` is imported from crate `c` iff some import of another crate contributes it -/
theorem usedImports_smem_iff (d : ParsedData) (all : List (Str × List Str)) (imports : List ImportedType)
    (fo : Str → Option Str) (c t : Str) :
    SMem (usedImports d all imports fo) c t ↔
      ∃ i ∈ imports, i.baseCrate ≠ d.crateName ∧ ∃ x, contrib all fo i = some x ∧ c = x.1 ∧ t ∈ x.2 := by
  rw [usedImports_eq_fold, foldC_mem]
  constructor
  · rintro (⟨i, hi, x, hx, hc, ht⟩ | h)
    · simp only [List.mem_filter, bne_iff_ne, ne_eq] at hi
      exact ⟨i, hi.1, hi.2, x, hx, hc, ht⟩
    · exact absurd h (smem_nil c t)
  · rintro ⟨i, hi, hne, x, hx, hc, ht⟩
    exact Or.inl ⟨i, by simp only [List.mem_filter, bne_iff_ne, ne_eq]; exact ⟨hi, hne⟩, x, hx, hc, ht⟩

theorem usedImports_keys_iff (d : ParsedData) (all : List (Str × List Str)) (imports : List ImportedType)
    (fo : Str → Option Str) (c : Str) :
    c ∈ SKeys (usedImports d all imports fo) ↔
      ∃ i ∈ imports, i.baseCrate ≠ d.crateName ∧ ∃ x, contrib all fo i = some x ∧ c = x.1 := by
  rw [usedImports_eq_fold, foldC_keys]
  constructor
  · rintro (⟨i, hi, x, hx, hc⟩ | h)
    · simp only [List.mem_filter, bne_iff_ne, ne_eq] at hi
      exact ⟨i, hi.1, hi.2, x, hx, hc⟩
    · simp [SKeys] at h
  · rintro ⟨i, hi, hne, x, hx, hc⟩
    exact Or.inl ⟨i, by simp only [List.mem_filter, bne_iff_ne, ne_eq]; exact ⟨hi, hne⟩, x, hx, hc⟩

/-! ### the three branches of one import's contribution -/

theorem contrib_named (all : List (Str × List Str)) (fo : Str → Option Str) (imp : ImportedType) (k : Str)
    (ns : List Str) (hf : all.find? (·.1 == imp.baseCrate) = some (k, ns))
    (hstar : imp.typeName ≠ s%"*") (hn : imp.typeName ∈ ns) :
    contrib all fo imp = some (imp.baseCrate, [imp.typeName]) := by
  unfold contrib
  rw [hf]
  have h1 : (imp.typeName == s%"*") = false := by simpa using hstar
  have h2 : ns.contains imp.typeName = true := by simpa using hn
  simp only [h1, Bool.false_eq_true, if_false, h2, if_true]

theorem contrib_glob (all : List (Str × List Str)) (fo : Str → Option Str) (imp : ImportedType) (k : Str)
    (ns : List Str) (hf : all.find? (·.1 == imp.baseCrate) = some (k, ns)) (hstar : imp.typeName = s%"*") :
    contrib all fo imp = some (imp.baseCrate, ns) := by
  unfold contrib
  rw [hf]
  have h1 : (imp.typeName == s%"*") = true := by simpa using hstar
  simp only [h1, if_true]

theorem contrib_fallback (all : List (Str × List Str)) (fo : Str → Option Str) (imp : ImportedType)
    (h : takesFallback all imp = true) :
    contrib all fo imp = (fo imp.typeName).map fun c => (c, [imp.typeName]) := by
  unfold contrib
  unfold takesFallback at h
  cases hf : all.find? (·.1 == imp.baseCrate) with
  | none => rfl
  | some p =>
    obtain ⟨k, ns⟩ := p
    rw [hf] at h
    simp only [Bool.and_eq_true, Bool.not_eq_true'] at h
    simp only [h.1, h.2, Bool.false_eq_true, if_false]

/-- whatever the branch: an import whose crate entry lists its name contributes (crate, name) -/
theorem contrib_direct (all : List (Str × List Str)) (fo : Str → Option Str) (imp : ImportedType) (k : Str)
    (ns : List Str) (hf : all.find? (·.1 == imp.baseCrate) = some (k, ns)) (hn : imp.typeName ∈ ns) :
    ∃ x, contrib all fo imp = some x ∧ imp.baseCrate = x.1 ∧ imp.typeName ∈ x.2 := by
  by_cases hstar : imp.typeName = s%"*"
  · exact ⟨_, contrib_glob all fo imp k ns hf hstar, rfl, hn⟩
  · exact ⟨_, contrib_named all fo imp k ns hf hstar hn, rfl, by simp⟩

/-- conversely: what an import contributes is a name its own crate's entry lists, under that crate — every such
name for a glob, otherwise its own —, or its own name under the crate the fallback oracle answers with -/
theorem contrib_inv (all : List (Str × List Str)) (fo : Str → Option Str) (imp : ImportedType) (x : Str × List Str)
    (h : contrib all fo imp = some x) (t : Str) (ht : t ∈ x.2) :
    (x.1 = imp.baseCrate ∧ (imp.typeName = s%"*" ∨ t = imp.typeName) ∧ ∃ ns, (imp.baseCrate, ns) ∈ all ∧ t ∈ ns) ∨
      (fo imp.typeName = some x.1 ∧ t = imp.typeName) := by
  have fallback : ((fo imp.typeName).map fun c => (c, [imp.typeName])) = some x →
      fo imp.typeName = some x.1 ∧ t = imp.typeName := by
    intro hx
    obtain ⟨c, hc, rfl⟩ := Option.map_eq_some_iff.1 hx
    exact ⟨hc, List.mem_singleton.1 ht⟩
  unfold contrib at h
  cases hf : all.find? (·.1 == imp.baseCrate) with
  | none => rw [hf] at h; exact Or.inr (fallback h)
  | some p =>
    obtain ⟨k, ns⟩ := p
    rw [hf] at h
    have hk : k = imp.baseCrate := by
      have := List.find?_some hf
      exact eq_of_beq this
    have hmem : (imp.baseCrate, ns) ∈ all := hk ▸ List.mem_of_find?_eq_some hf
    simp only at h
    split at h
    · rename_i hstar
      obtain rfl := Option.some.inj h
      exact Or.inl ⟨rfl, Or.inl (eq_of_beq hstar), ns, hmem, ht⟩
    · split at h
      · rename_i hn
        obtain rfl := Option.some.inj h
        obtain rfl := List.mem_singleton.1 ht
        exact Or.inl ⟨rfl, Or.inr rfl, ns, hmem, by simpa using hn⟩
      · exact Or.inr (fallback h)

/-! ### the entry of a crate in an association list with distinct keys -/

theorem find?_key_of_mem {β} : ∀ (all : List (Str × β)) (c : Str) (v : β),
    (all.map (·.1)).Nodup → (c, v) ∈ all → all.find? (·.1 == c) = some (c, v) := by
  intro all c v hnd h
  induction all with
  | nil => simp at h
  | cons kw rest ih =>
    obtain ⟨k, w⟩ := kw
    simp only [List.map_cons, List.nodup_cons] at hnd
    simp only [List.mem_cons, Prod.mk.injEq] at h
    rcases h with ⟨rfl, rfl⟩ | h
    · simp
    · have hne : (k == c) = false := by
        cases hkc : k == c with
        | false => rfl
        | true =>
          have := eq_of_beq hkc
          subst this
          exact absurd (List.mem_map.2 ⟨(k, v), h, rfl⟩) hnd.1
      simp only [List.find?_cons, hne]
      exact ih hnd.2 h

/-! ### the fallback oracle of the pipeline -/

/-- `firstOther` finds a crate whenever some crate other than the current one lists the name -/
theorem firstOther_complete (all : List (Str × List Str)) (cur name : Str)
    (h : ∃ p ∈ all, p.1 ≠ cur ∧ name ∈ p.2) : ∃ c, Generate.firstOther all cur name = some c := by
  obtain ⟨p, hp, hne, hn⟩ := h
  cases hf : Generate.firstOther all cur name with
  | some c => exact ⟨c, rfl⟩
  | none => exact absurd hn (MinByKey.firstOther_eq_none.1 hf p.1 p.2 hp hne)

/-- … and the crate it answers with is another crate that lists the name … -/
theorem firstOther_spec (all : List (Str × List Str)) (cur name c : Str)
    (h : Generate.firstOther all cur name = some c) : c ≠ cur ∧ ∃ ns, (c, ns) ∈ all ∧ name ∈ ns := by
  obtain ⟨⟨ns, hm, hne, hn⟩, _⟩ := MinByKey.firstOther_spec h
  exact ⟨hne, ns, hm, hn⟩

/-- … the one with the smallest name among them (`min_by_key` on the crate name) -/
theorem firstOther_smallest (all : List (Str × List Str)) (cur name c : Str)
    (h : Generate.firstOther all cur name = some c) :
    ∀ c' ns, (c', ns) ∈ all → c' ≠ cur → name ∈ ns → Str.le c c' = true :=
  (MinByKey.firstOther_spec h).2

end TsV.C14I
