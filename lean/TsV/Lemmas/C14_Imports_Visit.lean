import TsV.Lemmas.Visit
import TsV.Lemmas.C06_Multi_Parse
/-!
# Which imports a file's `use` items yield, and which survive `reconcile_referenced_types`

* `leafNames` / `hasGlob`: the names / globs a `use` tree lists (a `use … as …` leaf lists nothing);
* `Yields`, `useIter_mem`: with the base crate fixed, the drained `ItemUseIter` yields exactly the accepted leaves;
* `visitItem_preserves`: what every step of the visitor keeps, a visit keeps (a visit is `Visit.run` over the
  events of the item tree); `Grows`: the visitor only ever adds to the hash sets and item lists of `ParsedData`;
* `visit_defines`: every annotated, accepted item that parses is in the item lists and in `type_names`;
* `reconcile_*`: what `reconcile_referenced_types` keeps.
-/
namespace TsV.C14I
open TsV TsV.Syn TsV.Visitor TsV.C06M

/-! ### what a `use` tree lists -/

mutual
  /-- the identifiers at the `name` leaves of a `use` tree (a renamed leaf `X as Y` lists nothing: the
  Rust iterator skips `UseTree::Rename`) -/
  def leafNames : UseTree → List Str
    | .path _ t => leafNames t
    | .name id => [id]
    | .rename _ _ => []
    | .glob => []
    | .group ts => leafNamesList ts
  def leafNamesList : List UseTree → List Str
    | [] => []
    | t :: ts => leafNames t ++ leafNamesList ts
end

mutual
  /-- the tree has a `*` leaf -/
  def hasGlob : UseTree → Bool
    | .path _ t => hasGlob t
    | .name _ => false
    | .rename _ _ => false
    | .glob => true
    | .group ts => hasGlobList ts
  def hasGlobList : List UseTree → Bool
    | [] => false
    | t :: ts => hasGlob t || hasGlobList ts
end

mutual
  /-- the `X as Y` leaves of a `use` tree -/
  def renameLeaves : UseTree → List (Str × Str)
    | .path _ t => renameLeaves t
    | .name _ => []
    | .rename x y => [(x, y)]
    | .glob => []
    | .group ts => renameLeavesList ts
  def renameLeavesList : List UseTree → List (Str × Str)
    | [] => []
    | t :: ts => renameLeaves t ++ renameLeavesList ts
end

theorem mem_leafNamesList (x : Str) : ∀ l : List UseTree, x ∈ leafNamesList l ↔ ∃ t ∈ l, x ∈ leafNames t := by
  intro l
  induction l with
  | nil => simp [leafNamesList]
  | cons t ts ih => simp [leafNamesList, ih]

theorem hasGlobList_iff : ∀ l : List UseTree, hasGlobList l = true ↔ ∃ t ∈ l, hasGlob t = true := by
  intro l
  induction l with
  | nil => simp [hasGlobList]
  | cons t ts ih => simp [hasGlobList, ih]

theorem useSizeList_append : ∀ l₁ l₂ : List UseTree, useSizeList (l₁ ++ l₂) = useSizeList l₁ + useSizeList l₂ := by
  intro l₁ l₂
  induction l₁ with
  | nil => simp [useSizeList]
  | cons t ts ih => simp [useSizeList, ih]; omega

theorem useSizeList_reverse : ∀ l : List UseTree, useSizeList l.reverse = useSizeList l := by
  intro l
  induction l with
  | nil => rfl
  | cons t ts ih => simp [useSizeList_append, useSizeList, ih]; omega

theorem useSize_pos (t : UseTree) : 0 < useSize t := by
  cases t <;> simp [useSize] <;> omega

/-- `ItemUseIter`'s crate resolution -/
def resolveBase (crateName b : Str) : Str := if isSelfish b then crateName else b

/-- what the drained iterator yields for a stack of `use` trees below the base crate `b` -/
def Yields (E : Ext) (cn b : Str) (stack : List UseTree) (i : ImportedType) : Prop :=
  acceptCrate E.U (resolveBase cn b) = true ∧
    ((∃ id ∈ leafNamesList stack, acceptType E.U id = true ∧ i = ⟨resolveBase cn b, id⟩) ∨
     (hasGlobList stack = true ∧ i = ⟨resolveBase cn b, s%"*"⟩))

theorem yields_nil (E : Ext) (cn b : Str) (i : ImportedType) : ¬ Yields E cn b [] i := by
  simp [Yields, leafNamesList, hasGlobList]

theorem yields_name (E : Ext) (cn b id : Str) (stack : List UseTree) (i : ImportedType) :
    Yields E cn b (.name id :: stack) i ↔
      (acceptCrate E.U (resolveBase cn b) = true ∧ acceptType E.U id = true ∧ i = ⟨resolveBase cn b, id⟩) ∨
        Yields E cn b stack i := by
  simp only [Yields, leafNamesList, leafNames, hasGlobList, hasGlob, List.singleton_append, List.mem_cons,
    Bool.false_or, or_and_right, exists_or, exists_eq_left, and_or_left, or_assoc]

theorem yields_glob (E : Ext) (cn b : Str) (stack : List UseTree) (i : ImportedType) :
    Yields E cn b (.glob :: stack) i ↔
      (acceptCrate E.U (resolveBase cn b) = true ∧ i = ⟨resolveBase cn b, s%"*"⟩) ∨ Yields E cn b stack i := by
  simp only [Yields, leafNamesList, leafNames, hasGlobList, hasGlob, List.nil_append, Bool.true_or, true_and]
  constructor
  · rintro ⟨hc, h | h⟩
    · exact Or.inr ⟨hc, Or.inl h⟩
    · exact Or.inl ⟨hc, h⟩
  · rintro (⟨hc, h⟩ | ⟨hc, h | ⟨_, h⟩⟩)
    · exact ⟨hc, Or.inr h⟩
    · exact ⟨hc, Or.inl h⟩
    · exact ⟨hc, Or.inr h⟩

theorem yields_group (E : Ext) (cn b : Str) (ts stack : List UseTree) (i : ImportedType) :
    Yields E cn b (.group ts :: stack) i ↔ Yields E cn b (ts.reverse ++ stack) i := by
  have h1 : ∀ x, x ∈ leafNamesList (.group ts :: stack) ↔ x ∈ leafNamesList (ts.reverse ++ stack) := by
    intro x
    simp only [mem_leafNamesList, List.mem_append, List.mem_reverse, List.mem_cons, or_and_right, exists_or,
      exists_eq_left, leafNames]
  have h2 : hasGlobList (.group ts :: stack) = true ↔ hasGlobList (ts.reverse ++ stack) = true := by
    simp only [hasGlobList_iff, List.mem_append, List.mem_reverse, List.mem_cons, or_and_right, exists_or,
      exists_eq_left, hasGlob]
  simp only [Yields, h1, h2]

theorem mem_ite_snoc {α} (c : Bool) (acc : List α) (x i : α) :
    i ∈ (if c = true then acc ++ [x] else acc) ↔ i ∈ acc ∨ (c = true ∧ i = x) := by
  cases c <;> simp

/-- **the drained `ItemUseIter` with the base crate fixed**: the result is the accumulator plus what the stack
yields -/
theorem useIter_mem (E : Ext) (cn b : Str) : ∀ (fuel : Nat) (stack : List UseTree) (acc : List ImportedType),
    useSizeList stack ≤ fuel → ∀ i : ImportedType,
    (i ∈ useIter E cn fuel stack (some b) acc ↔ i ∈ acc ∨ Yields E cn b stack i) := by
  intro fuel
  induction fuel with
  | zero =>
    intro stack acc hf i
    cases stack with
    | nil => simp [useIter, yields_nil]
    | cons t ts =>
      have := useSize_pos t
      simp only [useSizeList] at hf
      omega
  | succ fuel ih =>
    intro stack acc hf i
    cases stack with
    | nil => simp [useIter, yields_nil]
    | cons t stack =>
      have hf' : useSizeList stack ≤ fuel := by
        have := useSize_pos t
        simp only [useSizeList] at hf
        omega
      cases t with
      | path id sub =>
        have e : useIter E cn (fuel + 1) (.path id sub :: stack) (some b) acc =
            useIter E cn fuel (sub :: stack) (some b) acc := by simp [useIter]
        rw [e, ih (sub :: stack) acc (by simp only [useSizeList, useSize] at hf ⊢; omega) i]
        simp only [Yields, leafNamesList, leafNames, hasGlobList, hasGlob]
      | name id =>
        have e : useIter E cn (fuel + 1) (.name id :: stack) (some b) acc = useIter E cn fuel stack (some b)
            (if (acceptCrate E.U (resolveBase cn b) && acceptType E.U id) = true then acc ++ [⟨resolveBase cn b, id⟩]
              else acc) := by
          simp only [useIter, resolveBase]
          exact (apply_ite (useIter E cn fuel stack (some b)) _ _ _).symm
        rw [e, ih stack _ hf' i, mem_ite_snoc, yields_name]
        simp only [Bool.and_eq_true, and_assoc, or_assoc]
      | rename x y =>
        have e : useIter E cn (fuel + 1) (.rename x y :: stack) (some b) acc =
            useIter E cn fuel stack (some b) acc := by simp [useIter]
        rw [e, ih stack _ hf' i]
        simp only [Yields, leafNamesList, leafNames, hasGlobList, hasGlob, List.nil_append, Bool.false_or]
      | glob =>
        have e : useIter E cn (fuel + 1) (.glob :: stack) (some b) acc = useIter E cn fuel stack (some b)
            (if acceptCrate E.U (resolveBase cn b) = true then acc ++ [⟨resolveBase cn b, s%"*"⟩] else acc) := by
          simp only [useIter, resolveBase]
          exact (apply_ite (useIter E cn fuel stack (some b)) _ _ _).symm
        rw [e, ih stack _ hf' i, mem_ite_snoc, yields_glob, or_assoc]
      | group ts =>
        have e : useIter E cn (fuel + 1) (.group ts :: stack) (some b) acc =
            useIter E cn fuel (ts.reverse ++ stack) (some b) acc := by simp [useIter]
        rw [e, yields_group, ih (ts.reverse ++ stack) acc
          (by simp only [useSizeList, useSize, useSizeList_append, useSizeList_reverse] at hf ⊢; omega) i]

/-- the imports of one `use` item whose tree starts with a path segment (`use b::…;`) -/
theorem useIter_path (E : Ext) (cn b : Str) (sub : UseTree) (i : ImportedType) :
    i ∈ useIter E cn (useSize (.path b sub) + 1) [.path b sub] none [] ↔
      (acceptCrate E.U (resolveBase cn b) = true ∧
        ((∃ id ∈ leafNames sub, acceptType E.U id = true ∧ i = ⟨resolveBase cn b, id⟩) ∨
         (hasGlob sub = true ∧ i = ⟨resolveBase cn b, s%"*"⟩))) := by
  have e : useIter E cn (useSize (.path b sub) + 1) [.path b sub] none [] =
      useIter E cn (useSize (.path b sub)) [sub] (some b) [] := by simp [useIter]
  rw [e, useIter_mem E cn b _ [sub] [] (by simp only [useSizeList, useSize]; omega) i]
  simp [Yields, leafNamesList, hasGlobList]

/-! ### the shape of a run of the visitor -/

theorem visitFile_eq (E : Ext) (ctx : ParseContext) (cn fn fp : Str) (f : File) :
    visitFile E ctx cn fn fp f =
      if (TargetOs.accept f.attrs ctx.targetOs).getD true then
        visitItems E ctx fp (addPaths E ctx (Visit.d0 ctx cn fn) (attrPaths f.attrs)) f.items
      else pure (Visit.d0 ctx cn fn) := rfl

/-- what `visit_item_use` inserts for one `use` tree -/
def useImports (E : Ext) (ctx : ParseContext) (cn : Str) (tree : UseTree) : List ImportedType :=
  (useIter E cn (useSize tree + 1) [tree] none []).filter fun i => !ctx.ignoredTypes.contains i.typeName

section preserves
variable (P : ParsedData → Prop)
  (hpush : ∀ d ri, P d → P (push d ri))
  (herr : ∀ (d : ParsedData) e, P d → P { d with errors := d.errors ++ [e] })
  (himp : ∀ d imps, P d → P (addImports d imps))
include hpush herr himp

theorem run_keeps {ctx : ParseContext} {fp : Str} {l : List Visit.Ev} {d d' : ParsedData}
    (h : Visit.run ctx fp d l = .ok d') : P d → P d' :=
  Visit.run_preserves P (fun _ => True) h hpush herr (fun d imps _ => himp d imps) fun _ _ _ _ _ => trivial

theorem visitItem_preserves (E : Ext) (ctx : ParseContext) (fp : Str) :
      ∀ (it : Item) (d d' : ParsedData), visitItem E ctx fp d it = .ok d' → P d → P d' :=
  fun it d _ h => run_keeps P hpush herr himp (Visit.visit_eq E ctx fp it d ▸ h)

theorem visitFile_preserves (E : Ext) (ctx : ParseContext) (cn fn fp : Str) (f : File) (d : ParsedData)
    (h : visitFile E ctx cn fn fp f = .ok d) (h0 : P (Visit.d0 ctx cn fn)) : P d := by
  rw [Visit.visitFile_run] at h
  split at h
  · exact run_keeps P hpush herr himp h h0
  · exact Outcome.ok.inj h ▸ h0

end preserves

/-! ### the visitor only adds -/

/-- `d'` is `d` after some more visiting: same crate / file / mode, every set and list only grew -/
structure Grows (d d' : ParsedData) : Prop where
  crateName : d'.crateName = d.crateName
  fileName : d'.fileName = d.fileName
  multiFile : d'.multiFile = d.multiFile
  imports : ∀ i ∈ d.importTypes, i ∈ d'.importTypes
  typeNames : ∀ t ∈ d.typeNames, t ∈ d'.typeNames
  structs : ∀ s ∈ d.structs, s ∈ d'.structs
  enums : ∀ s ∈ d.enums, s ∈ d'.enums
  aliases : ∀ s ∈ d.aliases, s ∈ d'.aliases
  consts : ∀ s ∈ d.consts, s ∈ d'.consts

theorem Grows.refl (d : ParsedData) : Grows d d :=
  ⟨rfl, rfl, rfl, fun _ h => h, fun _ h => h, fun _ h => h, fun _ h => h, fun _ h => h, fun _ h => h⟩

theorem Grows.trans {d₁ d₂ d₃ : ParsedData} (h : Grows d₁ d₂) (h' : Grows d₂ d₃) : Grows d₁ d₃ :=
  ⟨h'.crateName.trans h.crateName, h'.fileName.trans h.fileName, h'.multiFile.trans h.multiFile,
   fun i hi => h'.imports i (h.imports i hi), fun i hi => h'.typeNames i (h.typeNames i hi),
   fun i hi => h'.structs i (h.structs i hi), fun i hi => h'.enums i (h.enums i hi),
   fun i hi => h'.aliases i (h.aliases i hi), fun i hi => h'.consts i (h.consts i hi)⟩

theorem mem_addImports (d : ParsedData) (imps : List ImportedType) (i : ImportedType) :
    i ∈ (addImports d imps).importTypes ↔ i ∈ d.importTypes ∨ i ∈ imps := by
  simp only [addImports]
  exact mem_foldl_insertSet i imps d.importTypes

theorem addImports_grows (d : ParsedData) (imps : List ImportedType) : Grows d (addImports d imps) :=
  ⟨rfl, rfl, rfl, fun i hi => (mem_addImports d imps i).2 (Or.inl hi), fun _ h => h, fun _ h => h,
   fun _ h => h, fun _ h => h, fun _ h => h⟩

theorem push_grows (d : ParsedData) (it : RustItem) : Grows d (push d it) := by
  cases it <;>
    exact ⟨rfl, rfl, rfl, fun _ h => h, fun t ht => (mem_insertSet _ _ _).2 (Or.inr ht),
      fun _ h => by simp [push, h], fun _ h => by simp [push, h], fun _ h => by simp [push, h],
      fun _ h => by simp [push, h]⟩

theorem run_grows {ctx : ParseContext} {fp : Str} {l : List Visit.Ev} {d d' : ParsedData}
    (h : Visit.run ctx fp d l = .ok d') : Grows d d' :=
  run_keeps (Grows d) (fun _ ri g => g.trans (push_grows _ ri))
    (fun _ _ g => g.trans ⟨rfl, rfl, rfl, fun _ h => h, fun _ h => h, fun _ h => h, fun _ h => h, fun _ h => h,
      fun _ h => h⟩)
    (fun _ imps g => g.trans (addImports_grows _ imps)) h (Grows.refl d)

theorem visitItems_grows (E : Ext) (ctx : ParseContext) (fp : Str) (items : List Item) (d d' : ParsedData)
    (h : visitItems E ctx fp d items = .ok d') : Grows d d' :=
  run_grows (Visit.visitItems_eq E ctx fp items d ▸ h)

theorem visitItem_grows (E : Ext) (ctx : ParseContext) (fp : Str) (it : Item) (d d' : ParsedData)
    (h : visitItem E ctx fp d it = .ok d') : Grows d d' :=
  run_grows (Visit.visit_eq E ctx fp it d ▸ h)

/-! ### the `use` trees of a file -/

mutual
  /-- the `use` trees of an item, at any depth (modules, function bodies) -/
  def useTrees : Item → List UseTree
    | .use t => [t]
    | .mod _ _ items => useTreesList items
    | .other _ items => useTreesList items
    | .struct _ _ _ _ => []
    | .enum _ _ _ _ => []
    | .alias _ _ _ _ => []
    | .const _ _ _ _ => []
  def useTreesList : List Item → List UseTree
    | [] => []
    | i :: is => useTrees i ++ useTreesList is
end

/-! ### every annotated, accepted item that parses is recorded -/

/-- the parsed item is in the item list of its kind -/
def ItemIn (ri : RustItem) (d : ParsedData) : Prop :=
  match ri with
  | .struct s => s ∈ d.structs
  | .enum e => e ∈ d.enums
  | .alias a => a ∈ d.aliases
  | .const c => c ∈ d.consts

theorem ItemIn.mono {ri : RustItem} {d d' : ParsedData} (h : ItemIn ri d) (g : Grows d d') : ItemIn ri d' := by
  cases ri with
  | struct s => exact g.structs s h
  | enum e => exact g.enums e h
  | alias a => exact g.aliases a h
  | const c => exact g.consts c h

theorem push_records (d : ParsedData) (ri : RustItem) :
    ItemIn ri (push d ri) ∧ ri.renamedName ∈ (push d ri).typeNames := by
  cases ri <;> exact ⟨by simp [ItemIn, push], (mem_insertSet _ _ _).2 (Or.inl rfl)⟩

/-- an item the fold recorded is in the item list of its kind and its output name in `type_names` -/
theorem collectAll_defines {fp : Str} {outs : List (Outcome RustItem)} {d d' : ParsedData} {ri : RustItem}
    (h : C03.collectAll fp d outs = .ok d') (hri : .ok ri ∈ outs) : ItemIn ri d' ∧ ri.renamedName ∈ d'.typeNames :=
  Visit.collectAll_records (fun d => ItemIn ri d ∧ ri.renamedName ∈ d.typeNames) h hri (fun d => push_records d ri)
    (fun r d hd => ⟨hd.1.mono (push_grows d r), (push_grows d r).typeNames _ hd.2⟩)
    (fun _ _ hd => ⟨hd.1.mono ⟨rfl, rfl, rfl, fun _ h => h, fun _ h => h, fun _ h => h, fun _ h => h, fun _ h => h,
      fun _ h => h⟩, hd.2⟩)

theorem forget_defines {ri : RustItem} {d : ParsedData}
    (h : ItemIn ri (C13P.forget d) ∧ ri.renamedName ∈ (C13P.forget d).typeNames) :
    ItemIn ri d ∧ ri.renamedName ∈ d.typeNames := by
  cases ri <;> exact h

theorem visitItem_defines (E : Ext) (ctx : ParseContext) (fp : Str) :
      ∀ (it : Item) (d d' : ParsedData), visitItem E ctx fp d it = .ok d' →
        ∀ it' ∈ C03.annotated ctx it, ∀ ri, C03.parseItem E ctx it' = .ok ri →
          ItemIn ri d' ∧ ri.renamedName ∈ d'.typeNames := by
  intro it d d' h it' hit ri hri
  have hv := Visit.visit_view (Visit.blind_forget ctx) E fp it d
  rw [h] at hv
  exact forget_defines (collectAll_defines hv.symm (List.mem_map.2 ⟨it', hit, hri⟩))

theorem visitItems_defines (E : Ext) (ctx : ParseContext) (fp : Str) (items : List Item) (d d' : ParsedData)
    (h : visitItems E ctx fp d items = .ok d') :
    ∀ it' ∈ C03.annotatedList ctx items, ∀ ri, C03.parseItem E ctx it' = .ok ri →
      ItemIn ri d' ∧ ri.renamedName ∈ d'.typeNames :=
  visitItem_defines E ctx fp (.other [] items) d d' ((Visit.visitItem_other_nil E ctx fp d items).trans h)

/-- a file with a non-empty result was visited (its `#![cfg(target_os = …)]`, if any, was accepted) -/
theorem visitFile_visited (E : Ext) (ctx : ParseContext) (cn fn fp : Str) (f : File) (d : ParsedData)
    (h : visitFile E ctx cn fn fp f = .ok d) (hne : isEmpty d = false) :
    visitItems E ctx fp (addPaths E ctx (Visit.d0 ctx cn fn) (attrPaths f.attrs)) f.items = .ok d := by
  rw [visitFile_eq] at h
  split at h
  · exact h
  · simp only [pure, Outcome.ok.injEq] at h; subst h
    simp [isEmpty, Visit.d0] at hne

/-- the types mentioned by the items of a result (`all_references` before the `accept_type` filter) -/
def refTypes (d : ParsedData) : List RustType :=
  d.structs.flatMap (fun s => s.fields.map (·.ty)) ++
  d.enums.flatMap (fun e => e.variants.flatMap fun v => match v with
    | .unit _ _ => []
    | .tuple _ _ ty => [ty]
    | .anonymousStruct _ _ fs => fs.map (·.ty)) ++
  d.aliases.map (·.ty) ++ d.consts.map (·.ty)

theorem allReferences_eq (U : UnicodeOps) (d : ParsedData) :
    allReferences U d = ((refTypes d).flatMap RustType.allIds).filter (acceptType U) := rfl

theorem mem_allReferences (U : UnicodeOps) (d : ParsedData) (T : Str) :
    T ∈ allReferences U d ↔ acceptType U T = true ∧ ∃ ty ∈ refTypes d, T ∈ ty.allIds := by
  rw [allReferences_eq]
  simp only [List.mem_filter, List.mem_flatMap]
  exact and_comm

theorem ref_of_struct_field (U : UnicodeOps) (d : ParsedData) (s : RustStruct) (fl : RustField) (T : Str)
    (hs : s ∈ d.structs) (hf : fl ∈ s.fields) (hT : T ∈ fl.ty.allIds) (hacc : acceptType U T = true) :
    T ∈ allReferences U d := by
  rw [mem_allReferences]
  refine ⟨hacc, fl.ty, ?_, hT⟩
  simp only [refTypes, List.mem_append, List.mem_flatMap, List.mem_map]
  exact Or.inl (Or.inl (Or.inl ⟨s, hs, fl, hf, rfl⟩))

theorem ref_of_alias (U : UnicodeOps) (d : ParsedData) (a : RustTypeAlias) (T : Str)
    (ha : a ∈ d.aliases) (hT : T ∈ a.ty.allIds) (hacc : acceptType U T = true) : T ∈ allReferences U d := by
  rw [mem_allReferences]
  refine ⟨hacc, a.ty, ?_, hT⟩
  simp only [refTypes, List.mem_append, List.mem_map]
  exact Or.inl (Or.inr ⟨a, ha, rfl⟩)

theorem ref_of_enum_tuple (U : UnicodeOps) (d : ParsedData) (e : RustEnum) (i : Id) (c : List Str) (ty : RustType)
    (T : Str) (he : e ∈ d.enums) (hv : RustEnumVariant.tuple i c ty ∈ e.variants) (hT : T ∈ ty.allIds)
    (hacc : acceptType U T = true) : T ∈ allReferences U d := by
  rw [mem_allReferences]
  refine ⟨hacc, ty, ?_, hT⟩
  simp only [refTypes, List.mem_append, List.mem_flatMap]
  exact Or.inl (Or.inl (Or.inr ⟨e, he, _, hv, by simp⟩))

theorem ref_of_enum_field (U : UnicodeOps) (d : ParsedData) (e : RustEnum) (i : Id) (c : List Str)
    (fs : List RustField) (fl : RustField) (T : Str) (he : e ∈ d.enums)
    (hv : RustEnumVariant.anonymousStruct i c fs ∈ e.variants) (hf : fl ∈ fs) (hT : T ∈ fl.ty.allIds)
    (hacc : acceptType U T = true) : T ∈ allReferences U d := by
  rw [mem_allReferences]
  refine ⟨hacc, fl.ty, ?_, hT⟩
  simp only [refTypes, List.mem_append, List.mem_flatMap]
  exact Or.inl (Or.inl (Or.inr ⟨e, he, _, hv, by simp only [List.mem_map]; exact ⟨fl, hf, rfl⟩⟩))

theorem isEmpty_false_of_ref (U : UnicodeOps) (d : ParsedData) (T : Str) (h : T ∈ allReferences U d) :
    isEmpty d = false := by
  cases he : isEmpty d with
  | false => rfl
  | true =>
    simp only [isEmpty, Bool.and_eq_true, List.isEmpty_iff] at he
    obtain ⟨⟨⟨⟨h1, h2⟩, h3⟩, h4⟩, _⟩ := he
    rw [mem_allReferences] at h
    obtain ⟨_, ty, hty, _⟩ := h
    simp [refTypes, h1, h2, h3, h4] at hty

/-! ### `reconcile_referenced_types` -/

/-- `reconcile_referenced_types` rewrites `import_types` and leaves every other field alone.  (Stated so because
comparing a projection of `reconcileReferencedTypes U pick d` with the same projection of `d` by unification
makes Lean compare the two records field by field, `import_types` included.) -/
theorem reconcile_fields (U : UnicodeOps) (pick : List ImportedType → Option ImportedType) (d : ParsedData) :
    ∃ imps, reconcileReferencedTypes U pick d = { d with importTypes := imps } := ⟨_, rfl⟩

theorem reconcile_typeNames (U : UnicodeOps) (pick : List ImportedType → Option ImportedType) (d : ParsedData) :
    (reconcileReferencedTypes U pick d).typeNames = d.typeNames := by
  obtain ⟨imps, h⟩ := reconcile_fields U pick d
  rw [h]
theorem reconcile_crateName (U : UnicodeOps) (pick : List ImportedType → Option ImportedType) (d : ParsedData) :
    (reconcileReferencedTypes U pick d).crateName = d.crateName := by
  obtain ⟨imps, h⟩ := reconcile_fields U pick d
  rw [h]
theorem reconcile_allReferences (U : UnicodeOps) (pick : List ImportedType → Option ImportedType) (d : ParsedData) :
    allReferences U (reconcileReferencedTypes U pick d) = allReferences U d := by
  obtain ⟨imps, h⟩ := reconcile_fields U pick d
  rw [h]
  rfl

theorem mem_reconcile_imports (U : UnicodeOps) (pick : List ImportedType → Option ImportedType) (d : ParsedData)
    (i : ImportedType) :
    i ∈ (reconcileReferencedTypes U pick d).importTypes ↔
      (∃ name ∈ allReferences U d, name ∉ d.typeNames ∧
          pick (minCrate (d.importTypes.filter (·.typeName == name))) = some i) ∨
      (i ∈ d.importTypes ∧ i.typeName = s%"*") := by
  simp only [reconcileReferencedTypes, List.mem_eraseDups, List.mem_append, List.mem_filterMap, List.mem_filter,
    Bool.not_eq_true', beq_iff_eq]
  constructor
  · rintro (⟨name, ⟨hr, hl⟩, hp⟩ | h)
    · exact Or.inl ⟨name, hr, by simpa using hl, hp⟩
    · exact Or.inr h
  · rintro (⟨name, hr, hl, hp⟩ | h)
    · exact Or.inl ⟨name, ⟨hr, by simpa using hl⟩, hp⟩
    · exact Or.inr h

theorem mem_minCrate {l : List ImportedType} {x : ImportedType} :
    x ∈ minCrate l ↔ x ∈ l ∧ ∀ j ∈ l, Str.le x.baseCrate j.baseCrate = true := by
  simp [minCrate, List.mem_filter, List.all_eq_true]

/-- what a valid pick returns among the imports of one name: an import of that name, from a crate whose name
is smallest among them -/
theorem picked_spec {pick : List ImportedType → Option ImportedType} (hp : ValidPick pick) {l : List ImportedType}
    {name : Str} {i : ImportedType} (h : pick (minCrate (l.filter (·.typeName == name))) = some i) :
    i ∈ l ∧ i.typeName = name ∧ ∀ j ∈ l, j.typeName = name → Str.le i.baseCrate j.baseCrate = true := by
  obtain ⟨hm, hmin⟩ := mem_minCrate.1 (hp.mem h)
  simp only [List.mem_filter, beq_iff_eq] at hm
  exact ⟨hm.1, hm.2, fun j hj hn => hmin j (List.mem_filter.2 ⟨hj, by simpa using hn⟩)⟩

/-- **a referenced, non-local type name keeps the import from the crate with the smallest name** (`find_type`
takes `min_by_key(|imp| &imp.base_crate)` among the imports of that name) -/
theorem reconcile_keeps_smallest (U : UnicodeOps) (pick : List ImportedType → Option ImportedType)
    (hp : ValidPick pick) (d : ParsedData) (c T : Str) (hmem : ⟨c, T⟩ ∈ d.importTypes)
    (href : T ∈ allReferences U d) (hloc : T ∉ d.typeNames)
    (hmin : ∀ j ∈ d.importTypes, j.typeName = T → Str.le c j.baseCrate = true) :
    ⟨c, T⟩ ∈ (reconcileReferencedTypes U pick d).importTypes := by
  rw [mem_reconcile_imports]
  refine Or.inl ⟨T, href, hloc, ?_⟩
  have hin : (⟨c, T⟩ : ImportedType) ∈ minCrate (d.importTypes.filter (·.typeName == T)) := by
    rw [mem_minCrate]
    refine ⟨by simp [List.mem_filter, hmem], fun j hj => ?_⟩
    simp only [List.mem_filter, beq_iff_eq] at hj
    exact hmin j hj.1 hj.2
  have hv := hp (minCrate (d.importTypes.filter (·.typeName == T)))
  cases hpk : pick (minCrate (d.importTypes.filter (·.typeName == T))) with
  | none =>
    rw [hpk] at hv
    simp only at hv
    rw [hv] at hin
    simp at hin
  | some x =>
    obtain ⟨hxl, hxn, hxmin⟩ := picked_spec hp hpk
    have hb : x.baseCrate = c := Order.le_antisymm _ _ (hxmin ⟨c, T⟩ hmem rfl) (hmin x hxl hxn)
    cases x with
    | mk bc tn =>
      simp only at hb hxn
      rw [hb, hxn]

/-- in particular: a name imported from one crate only keeps that import -/
theorem reconcile_keeps_named (U : UnicodeOps) (pick : List ImportedType → Option ImportedType)
    (hp : ValidPick pick) (d : ParsedData) (c T : Str) (hmem : ⟨c, T⟩ ∈ d.importTypes)
    (href : T ∈ allReferences U d) (hloc : T ∉ d.typeNames)
    (huniq : ∀ j ∈ d.importTypes, j.typeName = T → j.baseCrate = c) :
    ⟨c, T⟩ ∈ (reconcileReferencedTypes U pick d).importTypes :=
  reconcile_keeps_smallest U pick hp d c T hmem href hloc fun j hj ht => by
    rw [huniq j hj ht]; simp [Str.le, Order.lt_irrefl]

/-- conversely, of the imports of one referenced name only the one from the smallest crate is kept -/
theorem reconcile_named_smallest (U : UnicodeOps) (pick : List ImportedType → Option ImportedType)
    (hp : ValidPick pick) (d : ParsedData) (i : ImportedType)
    (h : i ∈ (reconcileReferencedTypes U pick d).importTypes) (hns : i.typeName ≠ s%"*") :
    ∀ j ∈ d.importTypes, j.typeName = i.typeName → Str.le i.baseCrate j.baseCrate = true := by
  rw [mem_reconcile_imports] at h
  rcases h with ⟨name, _, _, hpk⟩ | ⟨_, h2⟩
  · obtain ⟨_, hn, hmin⟩ := picked_spec hp hpk
    rw [hn]
    exact hmin
  · exact absurd h2 hns

theorem reconcile_keeps_glob (U : UnicodeOps) (pick : List ImportedType → Option ImportedType) (d : ParsedData)
    (c : Str) (hmem : ⟨c, s%"*"⟩ ∈ d.importTypes) :
    ⟨c, s%"*"⟩ ∈ (reconcileReferencedTypes U pick d).importTypes := by
  rw [mem_reconcile_imports]; exact Or.inr ⟨hmem, rfl⟩

/-- nothing is invented: a kept import was an import of the file, and it is a wildcard or names a type that
an item of the file references and the file does not define -/
theorem reconcile_sound (U : UnicodeOps) (pick : List ImportedType → Option ImportedType) (hp : ValidPick pick)
    (d : ParsedData) (i : ImportedType) (h : i ∈ (reconcileReferencedTypes U pick d).importTypes) :
    i ∈ d.importTypes ∧ (i.typeName = s%"*" ∨ (i.typeName ∈ allReferences U d ∧ i.typeName ∉ d.typeNames)) := by
  rw [mem_reconcile_imports] at h
  rcases h with ⟨name, hr, hl, hpk⟩ | ⟨h1, h2⟩
  · obtain ⟨hm, hn, _⟩ := picked_spec hp hpk
    exact ⟨hm, Or.inr (by rw [hn]; exact ⟨hr, hl⟩)⟩
  · exact ⟨h1, Or.inl h2⟩

/-! ### `parser::parse` of one file -/

theorem parseFile_of_visit (E : Ext) (ctx : ParseContext) (hmf : ctx.multiFile = true)
    (pick : List ImportedType → Option ImportedType) (cn fn fp : Str) (f : File) (d : ParsedData)
    (hm : f.marker = true) (hv : visitFile E ctx cn fn fp f = .ok d) (hne : isEmpty d = false) :
    parseFile E ctx pick cn fn fp f = .ok (some (reconcileReferencedTypes E.U pick d)) := by
  rw [Visit.parseFile_of_visit hm hv, hne, hmf]
  rfl

theorem visit_of_parseFile (E : Ext) (ctx : ParseContext) (hmf : ctx.multiFile = true)
    (pick : List ImportedType → Option ImportedType) (cn fn fp : Str) (f : File) (a : ParsedData)
    (h : parseFile E ctx pick cn fn fp f = .ok (some a)) :
    ∃ d, visitFile E ctx cn fn fp f = .ok d ∧ isEmpty d = false ∧ f.marker = true ∧
      a = reconcileReferencedTypes E.U pick d := by
  obtain ⟨hm, d, hv, hne, ha⟩ := Visit.parseFile_some h
  exact ⟨d, hv, hne, hm, by rw [ha, hmf]; rfl⟩

/-! ### the names of the recorded types are in `type_names` -/

/-- the identifiers of the types (not consts) a result holds -/
def typeIds (d : ParsedData) : List Id :=
  d.structs.map (·.id) ++ d.enums.map (·.id) ++ d.aliases.map (·.id)

/-- the (renamed) name of every recorded type is in `type_names` -/
def NamesRecorded (d : ParsedData) : Prop := ∀ t ∈ typeIds d, t.renamed ∈ d.typeNames

theorem namesRecorded_push (d : ParsedData) (ri : RustItem) (h : NamesRecorded d) : NamesRecorded (push d ri) := by
  have h' : ∀ t, (t ∈ d.structs.map (·.id) ∨ t ∈ d.enums.map (·.id)) ∨ t ∈ d.aliases.map (·.id) →
      t.renamed ∈ d.typeNames := by
    simpa only [NamesRecorded, typeIds, List.mem_append] using h
  intro t ht
  -- `t` is the identifier of the pushed item, or was recorded before
  cases ri with
  | struct s =>
    refine (mem_insertSet _ _ _).2 ?_
    simp only [typeIds, push, List.map_append, List.map_cons, List.map_nil, List.mem_append, List.mem_singleton] at ht
    rcases ht with ((ht | rfl) | ht) | ht
    · exact Or.inr (h' t (Or.inl (Or.inl ht)))
    · exact Or.inl rfl
    · exact Or.inr (h' t (Or.inl (Or.inr ht)))
    · exact Or.inr (h' t (Or.inr ht))
  | enum e =>
    refine (mem_insertSet _ _ _).2 ?_
    simp only [typeIds, push, List.map_append, List.map_cons, List.map_nil, List.mem_append, List.mem_singleton] at ht
    rcases ht with (ht | (ht | rfl)) | ht
    · exact Or.inr (h' t (Or.inl (Or.inl ht)))
    · exact Or.inr (h' t (Or.inl (Or.inr ht)))
    · exact Or.inl rfl
    · exact Or.inr (h' t (Or.inr ht))
  | alias a =>
    refine (mem_insertSet _ _ _).2 ?_
    simp only [typeIds, push, List.map_append, List.map_cons, List.map_nil, List.mem_append, List.mem_singleton] at ht
    rcases ht with (ht | ht) | (ht | rfl)
    · exact Or.inr (h' t (Or.inl (Or.inl ht)))
    · exact Or.inr (h' t (Or.inl (Or.inr ht)))
    · exact Or.inr (h' t (Or.inr ht))
    · exact Or.inl rfl
  | const c => exact (mem_insertSet _ _ _).2 (Or.inr (h t ht))

/-- **the invariant of a file's result**: every recorded type's output name is in `type_names` -/
theorem visitFile_namesRecorded (E : Ext) (ctx : ParseContext) (cn fn fp : Str) (f : File) (d : ParsedData)
    (h : visitFile E ctx cn fn fp f = .ok d) : NamesRecorded d :=
  visitFile_preserves NamesRecorded namesRecorded_push (fun _ _ h => h) (fun _ _ h => h) E ctx cn fn fp f d h
    (by intro t ht; simp [typeIds, Visit.d0] at ht)

theorem isEmpty_false_of_typeId (d : ParsedData) (t : Id) (h : t ∈ typeIds d) : isEmpty d = false := by
  cases he : isEmpty d with
  | false => rfl
  | true =>
    simp only [isEmpty, Bool.and_eq_true, List.isEmpty_iff] at he
    obtain ⟨⟨⟨⟨h1, h2⟩, h3⟩, _⟩, _⟩ := he
    simp [typeIds, h1, h2, h3] at h

end TsV.C14I
