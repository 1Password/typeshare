import TsV.Lemmas.Printers
import TsV.Lemmas.C03_Emission_Common
import TsV.Lemmas.Lang.Kotlin
/-!
# C03, emission clause — Kotlin
-/
namespace TsV.C03E.Kt
open TsV TsV.Lang TsV.Lang.Kotlin TsV.C03E

/-- the text written for one item: its declarations, rendered (the Kotlin printer has no state) -/
def writeItem (cfg : Cfg) (it : RustItem) : Outcome Str :=
  (itemFacts cfg it).bind fun ds => .ok (ds.flatMap renderDecl)

theorem itemsFacts_blocks (cfg : Cfg) (its : List RustItem) (ds : List KtDecl) (h : itemsFacts cfg its = .ok ds) :
    ∃ blocks, Paired (fun it b => writeItem cfg it = .ok b) its blocks ∧ ds.flatMap renderDecl = blocks.flatten := by
  obtain ⟨dss, hm, rfl⟩ := itemsFacts_inv h
  refine ⟨dss.map fun ds => ds.flatMap renderDecl, ?_, ?_⟩
  · exact Outcome.mapM'_ok_rec (P := fun its dss => Paired (fun it b => writeItem cfg it = .ok b) its
      (dss.map fun ds : List KtDecl => ds.flatMap renderDecl)) hm .nil
      fun it ds _ _ ha _ ih => .cons (by rw [writeItem, ha]; rfl) ih
  · simp only [List.flatMap_def, List.map_flatten, List.flatten_flatten, List.map_map]
    rfl

/-- the text before the blocks -/
def header (cfg : Cfg) (d : ParsedData) (imports : Option Pipeline.ScopedCrateTypes) : Str :=
  beginFile cfg d ++ (if d.multiFile then writeImports cfg (imports.getD []) else [])

theorem generate_blocks (cfg : Cfg) (d : ParsedData) (imports : Option Pipeline.ScopedCrateTypes) (text : Str)
    (h : generate cfg d imports = .ok text) :
    ∃ items blocks, Pipeline.generateOrder d = some items ∧
      Paired (fun it b => writeItem cfg it = .ok b) items blocks ∧
      text = header cfg d imports ++ blocks.flatten := by
  obtain ⟨items, ds, ho, hd, rfl⟩ := generate_inv h
  obtain ⟨blocks, hp, hbl⟩ := itemsFacts_blocks cfg items ds hd
  exact ⟨items, blocks, ho, hp, by rw [← hbl]; rfl⟩

/-! ## one declaration defines one name -/

def ktKw : KtDecl → Str
  | .typeAlias .. => s%"typealias "
  | .valueClass .. => s%"value class "
  | .object .. => s%"object "
  | .dataClass .. => s%"data class "
  | .enumClass .. => s%"enum class "
  | .sealedClass .. => s%"sealed class "

/-- the generic-parameter strings the model puts after a name -/
def IsGen (g : Str) : Prop := ∃ gs, g = genericSuffix gs

theorem nameEnd_gen {g q : Str} (hg : IsGen g) (h : NameEnd q) : NameEnd (g ++ q) := by
  obtain ⟨gs, rfl⟩ := hg
  exact nameEnd_genericSuffix gs h

/-- the declarations the model builds carry `genericSuffix …` as their generic clause -/
def WfDecl (d : KtDecl) : Prop := IsGen (C09_HelperParams.ktGenerics d)

theorem comments_lineStart (n : Nat) (cs : List Str) : LineStart (comments n cs) :=
  lineStart_lines _ cs

/-- what `renderDecl` writes before the keyword … -/
def preOf : KtDecl → Str
  | .typeAlias cs _ _ _ => comments 0 cs
  | .valueClass cs _ _ _ => comments 0 cs ++ s%"@Serializable\n@JvmInline\n"
  | .object cs _ | .dataClass cs _ _ _ _ | .enumClass cs _ _ _ | .sealedClass cs _ _ _ =>
    comments 0 cs ++ s%"@Serializable\n"

/-- … and after the generic clause -/
def postOf : KtDecl → Str
  | .typeAlias _ _ _ ty => s%" = " ++ ty ++ s%"\n\n"
  | .valueClass _ _ p red => s%"(\n" ++ renderParam p ++ nl ++
    (if red then s%") {\n\tfun unwrap() = value\n\n\toverride fun toString(): String = \"***\"\n}\n" else s%")\n") ++ nl
  | .object _ _ => s%"\n\n"
  | .dataClass _ _ _ ps red => s%" (\n" ++ renderParams ps ++
    (match red with
     | some s => s%") {\n\toverride fun toString(): String = " ++ debugStr s ++ s%"\n}\n"
     | none => s%")\n") ++ nl
  | .enumClass _ _ _ es => s%"(val string: String) " ++ s%"{\n" ++ es.flatMap renderEntry ++ s%"}\n\n"
  | .sealedClass _ _ _ cs => s%" " ++ s%"{\n" ++ cs.flatMap renderCase ++ s%"}\n\n"

/-- every declaration is: comments and annotations, keyword, name, generic clause, the rest -/
theorem renderDecl_head (d : KtDecl) :
    renderDecl d = preOf d ++ ktKw d ++ C09.ktName d ++ C09_HelperParams.ktGenerics d ++ postOf d := by
  cases d <;> simp only [renderDecl, preOf, postOf, ktKw, C09.ktName, C09_HelperParams.ktGenerics, List.append_assoc,
    List.append_nil] <;> rfl

theorem renderDecl_defines (d : KtDecl) (hw : WfDecl d) : DefinesHead (ktKw d) (C09.ktName d) (renderDecl d) := by
  rw [renderDecl_head]
  refine definesHead_head₂ _ _ _ ?_ (nameEnd_gen hw ?_)
  · cases d with
    | typeAlias => exact comments_lineStart _ _
    | _ => exact lineStart_append_right _ rfl
  · cases d <;> exact nameEnd_cons _ (by decide)

def headOf (d : KtDecl) : Str × Str := (ktKw d, C09.ktName d)

theorem structFacts_head (cfg : Cfg) (s : RustStruct) (d : KtDecl) (h : structFacts cfg s = .ok d) :
    headOf d = (ktStructKw s.fields, cfg.pfx ++ s.id.renamed) ∧ WfDecl d := by
  obtain ⟨he, rfl⟩ | ⟨he, ps, -, rfl⟩ := structFacts_inv h
  · exact ⟨by simp [headOf, ktKw, C09.ktName, ktStructKw, he], [], rfl⟩
  · exact ⟨by simp [headOf, ktKw, C09.ktName, ktStructKw, he], ⟨_, rfl⟩⟩

theorem enumDecl_head {cfg : Cfg} {e : RustEnum} {d : KtDecl} (h : EnumDecl cfg e d) :
    headOf d = (if e.keys.isNone then s%"enum class " else s%"sealed class ", cfg.pfx ++ e.id.renamed) ∧ WfDecl d := by
  cases h with
  | unit hk => rw [hk]; exact ⟨rfl, _, rfl⟩
  | algebraic hk _ => rw [hk]; exact ⟨rfl, _, rfl⟩

/-- the head of every declaration of a run, and where it stands -/
theorem declOf_wf {cfg : Cfg} {it : RustItem} {d : KtDecl} (h : DeclOf cfg it d) : WfDecl d := by
  cases h with
  | struct hs => exact (structFacts_head cfg _ d hs).2
  | inner _ hs => exact (structFacts_head cfg _ d hs).2
  | own ho => exact (enumDecl_head ho).2
  | alias ha =>
    obtain ⟨-, p, -, rfl⟩ | ⟨-, ty, -, rfl⟩ := aliasFacts_inv ha
    · exact ⟨[], rfl⟩
    · exact ⟨_, rfl⟩

/-- **the declarations of one item are exactly the ones `ktDefs` lists** (record level) -/
theorem itemFacts_heads (cfg : Cfg) (it : RustItem) (ds : List KtDecl) (h : itemFacts cfg it = .ok ds) :
    ds.map headOf = ktDefs cfg it ∧ ∀ d ∈ ds, WfDecl d := by
  refine ⟨?_, fun d hd => declOf_wf (itemFacts_mem h d hd)⟩
  cases it with
  | struct s =>
    obtain ⟨d, hd, rfl⟩ := Outcome.of_bind_ret h
    simp [ktDefs, (structFacts_head cfg s d hd).1]
  | alias a =>
    obtain ⟨d, hd, rfl⟩ := Outcome.of_bind_ret h
    obtain ⟨hi, p, -, rfl⟩ | ⟨hi, ty, -, rfl⟩ := aliasFacts_inv hd <;> simp [ktDefs, hi, headOf, ktKw, C09.ktName]
  | const c => cases h
  | «enum» e =>
    obtain ⟨inners, d, hi, hd, rfl⟩ := enumFacts_inv (show enumFacts cfg e = .ok ds from h)
    rw [List.map_append, List.map_singleton, (enumDecl_head hd).1,
      Outcome.mapM'_map _ headOf (fun p => (ktStructKw p.2, cfg.pfx ++ (e.id.renamed ++ p.1.original ++ s%"Inner")))
        (fun p d hd => (structFacts_head cfg _ d hd).1) _ _ (innerStructs_inv hi)]
    rfl

/-- **the block of an item splits into exactly the definitions `ktDefs` lists** (text level) -/
theorem block_defines (cfg : Cfg) (it : RustItem) (b : Str) (h : writeItem cfg it = .ok b) :
    SplitsInto (ktDefs cfg it) b := by
  obtain ⟨ds, hd, rfl⟩ := Outcome.of_bind_ret h
  obtain ⟨h1, h2⟩ := itemFacts_heads cfg it ds hd
  rw [← h1, List.flatMap_def]
  exact splitsInto_chunks (paired_iff.2 (.of_map headOf renderDecl ds fun d hd => renderDecl_defines d (h2 d hd)))

theorem writeItem_not_const (cfg : Cfg) (c : RustConst) : writeItem cfg (.const c) = .err (.formatError s%"ConstUnsupported") := rfl

theorem generateAll_single (E : Ext) (cfg : Cfg) (mf : Bool) (c : Str) (d : ParsedData)
    (imps : Option Pipeline.ScopedCrateTypes) :
    generateAll E cfg mf [(c, d, imps)] = (generate cfg d imps).bind fun r => .ok [(c, r)] := by
  simp only [generateAll, generateFrom]
  cases generate cfg d imps <;> rfl

theorem generateAll_nil (E : Ext) (cfg : Cfg) (mf : Bool) : generateAll E cfg mf [] = .ok [] := rfl

end TsV.C03E.Kt
