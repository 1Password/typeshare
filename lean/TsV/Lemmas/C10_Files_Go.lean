import TsV.Lemmas.C10_Files_GoAcr
import TsV.Lemmas.Lang.Go
/-!
# C10, whole files — Go

The whole file: `// Code generated …` line, `package` line, the import block (whose content is the
printer state: `encoding/json`, `time`), the declarations (closed by `C10_Go.lean` and
`C10_Files_GoAcr.lean`, for any list of acronyms that are identifier fragments).
-/
namespace TsV.C10Files.GoF
open TsV TsV.Lang TsV.C10Lex TsV.Lang.Go TsV.C10Go TsV.C03E TsV.C10Files

/-! ## the printer state: the import set -/

/-- every recorded import path can stand between double quotes -/
def StOk (st : Imports) : Prop := ∀ i ∈ st, ∀ c ∈ i, strChar c = true

theorem stOk_nil : StOk [] := fun _ h => by simp at h

theorem addImport_ok {st : Imports} (h : StOk st) {name : Str} (hn : ∀ c ∈ name, strChar c = true) :
    StOk (addImport st name) := by
  intro i hi
  rcases TsV.Order.mem_insertSorted_iff.1 hi with rfl | hi
  · exact hn
  · exact h i hi

def Pres (st st' : Imports) : Prop := StOk st → StOk st'
theorem Pres.refl (st : Imports) : Pres st st := id
theorem Pres.trans {a b c : Imports} (h1 : Pres a b) (h2 : Pres b c) : Pres a c := fun h => h2 (h1 h)

theorem pres_eff (b : Bool) (st : Imports) : Pres st (TsV.C12L.Go.eff b st) := by
  cases b with
  | false => exact id
  | true => exact fun h => addImport_ok h (by decide +kernel)

theorem formatTypes_pres (cfg : Cfg) : ∀ (ts : List RustType) (st : Imports) (ss : List Str) (st' : Imports),
    formatTypes cfg ts st = .ok (ss, st') → Pres st st' :=
  fun ts => (TsV.C12L.Go.formatTypes_threads cfg ts).along (pres_eff _)

theorem writeItem_pres (U : UnicodeOps) (cfg : Cfg) (cs : List Str) (it : RustItem) (st : Imports) (text : Str)
    (st' : Imports) (h : writeItem U cfg cs it st = .ok (text, st')) : Pres st st' :=
  (TsV.C12L.Go.writeItem_threads U cfg cs it).along (pres_eff _) st text st' h


/-- the version text: dotted identifier fragments and blanks -/
structure FileOk (cfg : Cfg) : Prop where
  version : ∀ v, cfg.versionHeader = some v → '\n' ∉ v
  package : Dotted cfg.package

instance (cfg : Cfg) : Decidable (FileOk cfg) :=
  decidable_of_iff ((∀ v, cfg.versionHeader = some v → '\n' ∉ v) ∧ Dotted cfg.package)
    ⟨fun ⟨a, b⟩ => ⟨a, b⟩, fun h => ⟨h.version, h.package⟩⟩

theorem beginFile_nb (cfg : Cfg) (hf : FileOk cfg) : NB G (beginFile cfg) := by
  refine (Tr.h0 ?_).l.h hf.package.nb |>.l.l.nb (by decide +kernel)
  split
  · rename_i v hv
    exact Tr.l0.b (fun stk => line_body v stk (hf.version v hv)) |>.l.nb (by decide +kernel)
  · exact NB.nil

theorem renderImports_nb (st : Imports) (h : StOk st) : NB G (renderImports st) := by
  unfold renderImports
  split
  · exact NB.nil
  · rename_i i
    exact Tr.l0.b (fun stk => str_body i stk (h i (by simp))) |>.l.l.nb (by decide +kernel)
  · exact Tr.l0.h (NB.flatMap _ _ fun i hi => Tr.l0.b (fun stk => str_body i stk (h i hi)) |>.l.nb (by decide +kernel))
      |>.l.l.nb (by decide +kernel)

abbrev ItemOk := ItemScope Lang.go G DocsOk

/-- **one output file**, under any configuration the declaration lemmas allow (`C10Go.Conf`) -/
theorem generate_nb (U : UnicodeOps) (hU : U.AsciiCorrect) {cfg : Cfg} (H : Conf U cfg) (hf : FileOk cfg)
    (d : ParsedData) (hitems : ∀ it ∈ TsV.C12L.itemsOf d, ItemOk it) (st0 : Imports) (h0 : StOk st0) (text : Str)
    (st : Imports) (h : generate U cfg d st0 = .ok (text, st)) : NB G text ∧ StOk st := by
  obtain ⟨items, blocks, ho, hth, rfl⟩ := TsV.C03E.Go.generate_blocks U cfg d st0 text st h
  obtain ⟨hb, hst⟩ := Threaded.inv (P := StOk) (Q := NB G) hth (addImport_ok h0 (by decide +kernel)) (fun it hit s b s' hs hw =>
    ⟨GoAcr.writeItem_nb H hU _ it (hitems it (mem_of_generateOrder ho hit)) s b s' hw,
     writeItem_pres U cfg _ it s b s' hw hs⟩)
  exact ⟨((beginFile_nb cfg hf).append (renderImports_nb st hst)).append (NB.flatten _ hb), hst⟩

def JobsOk (jobs : List (Str × ParsedData × Option Pipeline.ScopedCrateTypes)) : Prop :=
  ∀ j ∈ jobs, ∀ it ∈ TsV.C12L.itemsOf j.2.1, ItemOk it

theorem generateFrom_nb' (U : UnicodeOps) (hU : U.AsciiCorrect) {cfg : Cfg} (H : Conf U cfg) (hf : FileOk cfg) :
    ∀ (jobs : List (Str × ParsedData × Option Pipeline.ScopedCrateTypes)) (st0 : Imports), StOk st0 → JobsOk jobs →
      ∀ outs, generateFrom U cfg jobs st0 = .ok outs → ∀ o ∈ outs, NB G o.2 :=
  fun _ _ h0 hj _ h o ho =>
    have ⟨j, hjm, stIn, st, hi, hg⟩ := TsV.C12L.threaded_mem (step := fun j st => generate U cfg j.2.1 st) (I := StOk)
      (fun _ => rfl) (fun _ _ _ => rfl) (fun j hjm st text st' hg hi => (generate_nb U hU H hf j.2.1 (hj j hjm) st hi text st' hg).2)
      h h0 o ho
    (generate_nb U hU H hf j.2.1 (hj j hjm) stIn hi o.2 st hg).1

theorem generateFrom_nb (U : UnicodeOps) (hU : U.AsciiCorrect) {cfg : Cfg} (H : CfgOk cfg) (hf : FileOk cfg) :
    ∀ (jobs : List (Str × ParsedData × Option Pipeline.ScopedCrateTypes)) (st0 : Imports), StOk st0 → JobsOk jobs →
      ∀ outs, generateFrom U cfg jobs st0 = .ok outs → ∀ o ∈ outs, NB G o.2 :=
  generateFrom_nb' U hU (H.conf U) hf

end TsV.C10Files.GoF
