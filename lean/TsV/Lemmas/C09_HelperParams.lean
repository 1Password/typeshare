import TsV.Lemmas.C09
import TsV.Lemmas.C09_Tie
/-!
# C09_HelperParams — lemmas

`Mentions t g`: the name `g` is written somewhere in `t`, one constructor per position of `RustType`.
It is what `RustType.containsType` (`RustType::contains_type`) tests, and for a name that is not a
primitive's it is the same as standing at a name position (`leaves`) of the C09 reference semantics.
`helperGens e fs` is the generic parameter list `write_types_for_anonymous_structs` gives the helper
struct of a struct variant, built with `List.eraseDups` (`Itertools::unique`); `reconcile` does not
change it outside shadowing.
-/
namespace TsV.C09_HelperParams
open TsV TsV.Pipeline TsV.Generate TsV.Lang TsV.C09

/-- **`g` is written in `t`**: as the type itself, as the head of a generic application, inside one
of its arguments (at any depth), inside `Vec` / array / slice / `Option`, as (part of) a map key or
a map value; the name of a primitive type counts as written where the primitive stands (this is what
`SpecialRustType::contains_type` tests: `ty == self.id()`). -/
inductive Mentions : RustType → Str → Prop
  | simple (g : Str) : Mentions (.simple g) g
  | head (g : Str) (ps : List RustType) : Mentions (.generic g ps) g
  | arg {i : Str} {ps : List RustType} {t : RustType} {g : Str} :
      t ∈ ps → Mentions t g → Mentions (.generic i ps) g
  | vec {t : RustType} {g : Str} : Mentions t g → Mentions (.vec t) g
  | array {t : RustType} {n : Nat} {g : Str} : Mentions t g → Mentions (.array t n) g
  | slice {t : RustType} {g : Str} : Mentions t g → Mentions (.slice t) g
  | option {t : RustType} {g : Str} : Mentions t g → Mentions (.option t) g
  | key {k v : RustType} {g : Str} : Mentions k g → Mentions (.hashMap k v) g
  | value {k v : RustType} {g : Str} : Mentions v g → Mentions (.hashMap k v) g
  | prim (p : Prim) : Mentions (.prim p) p.id

mutual
  theorem mentions_of_contains (g : Str) : ∀ t : RustType, t.containsType g = true → Mentions t g
    | .simple i, h => by cases eq_of_beq h; exact .simple _
    | .generic i ps, h => by
      rcases Bool.or_eq_true_iff.1 h with h | h
      · cases eq_of_beq h; exact .head _ _
      · obtain ⟨t, ht, hm⟩ := mentions_of_containsList g ps h
        exact .arg ht hm
    | .vec t, h => .vec (mentions_of_contains g t h)
    | .array t _, h => .array (mentions_of_contains g t h)
    | .slice t, h => .slice (mentions_of_contains g t h)
    | .option t, h => .option (mentions_of_contains g t h)
    | .hashMap k v, h => by
      rcases Bool.or_eq_true_iff.1 h with h | h
      · exact .key (mentions_of_contains g k h)
      · exact .value (mentions_of_contains g v h)
    | .prim p, h => by cases eq_of_beq h; exact .prim p
  theorem mentions_of_containsList (g : Str) : ∀ ts : List RustType,
      RustType.containsTypeList g ts = true → ∃ t ∈ ts, Mentions t g
    | [], h => nomatch h
    | t :: ts, h => by
      rcases Bool.or_eq_true_iff.1 h with h | h
      · exact ⟨t, List.mem_cons_self, mentions_of_contains g t h⟩
      · obtain ⟨u, hu, hm⟩ := mentions_of_containsList g ts h
        exact ⟨u, List.mem_cons_of_mem _ hu, hm⟩
end

theorem containsList_of_mem {g : Str} : ∀ {ps : List RustType} {t : RustType}, t ∈ ps →
    t.containsType g = true → RustType.containsTypeList g ps = true := by
  intro ps t h hc
  induction ps with
  | nil => cases h
  | cons p ps ih =>
    rcases List.mem_cons.1 h with rfl | h
    · exact Bool.or_eq_true_iff.2 (.inl hc)
    · exact Bool.or_eq_true_iff.2 (.inr (ih h))

theorem contains_of_mentions {t : RustType} {g : Str} (h : Mentions t g) : t.containsType g = true := by
  induction h with
  | simple g => exact beq_self_eq_true g
  | head g ps => exact Bool.or_eq_true_iff.2 (.inl (beq_self_eq_true g))
  | arg hm _ ih => exact Bool.or_eq_true_iff.2 (.inr (containsList_of_mem hm ih))
  | vec _ ih => exact ih
  | array _ ih => exact ih
  | slice _ ih => exact ih
  | option _ ih => exact ih
  | key _ ih => exact Bool.or_eq_true_iff.2 (.inl ih)
  | value _ ih => exact Bool.or_eq_true_iff.2 (.inr ih)
  | prim p => exact beq_self_eq_true p.id

theorem mem_leavesList {l : Leaf} : ∀ {ps : List RustType} {t : RustType}, t ∈ ps → l ∈ leaves t → l ∈ leavesList ps := by
  intro ps t h hl
  induction ps with
  | nil => cases h
  | cons p ps ih =>
    rcases List.mem_cons.1 h with rfl | h
    · exact List.mem_append_left _ hl
    · exact List.mem_append_right _ (ih h)

/-- a name that is not the name of a primitive is mentioned only at name positions -/
theorem leaf_of_mentions {t : RustType} {g : Str} (h : Mentions t g) (hg : ∀ p : Prim, p.id ≠ g) :
    ∃ hd, (⟨g, hd⟩ : Leaf) ∈ leaves t := by
  induction h with
  | simple g => exact ⟨false, List.mem_singleton.2 rfl⟩
  | head g ps => exact ⟨true, List.mem_cons_self⟩
  | arg hm _ ih =>
    obtain ⟨hd, hl⟩ := ih hg
    exact ⟨hd, List.mem_cons_of_mem _ (mem_leavesList hm hl)⟩
  | vec _ ih => exact ih hg
  | array _ ih => exact ih hg
  | slice _ ih => exact ih hg
  | option _ ih => exact ih hg
  | key _ ih =>
    obtain ⟨hd, hl⟩ := ih hg
    exact ⟨hd, List.mem_append_left _ hl⟩
  | value _ ih =>
    obtain ⟨hd, hl⟩ := ih hg
    exact ⟨hd, List.mem_append_right _ hl⟩
  | prim p => exact absurd rfl (hg p)

theorem leafList_of_contains {g : Str} (hg : ∀ p : Prim, p.id ≠ g) : ∀ ts : List RustType,
    RustType.containsTypeList g ts = true → ∃ hd, (⟨g, hd⟩ : Leaf) ∈ leavesList ts := fun ts h => by
  obtain ⟨t, ht, hm⟩ := mentions_of_containsList g ts h
  obtain ⟨hd, hl⟩ := leaf_of_mentions hm hg
  exact ⟨hd, mem_leavesList ht hl⟩

/-! ## `eraseDups` (`Itertools::unique`: first occurrences, in order) -/

/-- induction along the recursion of `eraseDups`: from the tail with the head filtered out to the list -/
theorem eraseDups_induction {α} [BEq α] {P : List α → Prop} (nil : P [])
    (cons : ∀ a as, P (as.filter fun b => !b == a) → P (a :: as)) (l : List α) : P l := by
  suffices ∀ n (l : List α), l.length ≤ n → P l from this l.length l (Nat.le_refl _)
  intro n
  induction n with
  | zero =>
    intro l h
    cases l with
    | nil => exact nil
    | cons a as => simp at h
  | succ n ih =>
    intro l h
    cases l with
    | nil => exact nil
    | cons a as =>
      exact cons a as (ih _ (Nat.le_trans (List.length_filter_le _ _) (Nat.le_of_succ_le_succ h)))

theorem nodup_eraseDups {α} [BEq α] [LawfulBEq α] (l : List α) : l.eraseDups.Nodup := by
  induction l using eraseDups_induction with
  | nil => simp
  | cons a as ih =>
    rw [List.eraseDups_cons, List.nodup_cons, List.mem_eraseDups]
    exact ⟨by simp, ih⟩

/-- `unique` commutes with `filter` -/
theorem eraseDups_filter {α} [BEq α] [LawfulBEq α] (p : α → Bool) (l : List α) :
    (l.filter p).eraseDups = l.eraseDups.filter p := by
  induction l using eraseDups_induction with
  | nil => simp
  | cons a as ih =>
    rw [List.eraseDups_cons (a := a) (as := as)]
    -- the filter of the recursion and `p` commute
    have hc : (as.filter fun b => !b == a).filter p = (as.filter p).filter fun b => !b == a := by
      rw [List.filter_filter, List.filter_filter]
      exact List.filter_congr fun b _ => Bool.and_comm _ _
    by_cases hp : p a = true
    · rw [List.filter_cons_of_pos hp, List.eraseDups_cons, List.filter_cons_of_pos hp, ← ih, hc]
    · have hs : (as.filter p).filter (fun b => !b == a) = as.filter p :=
        List.filter_eq_self.2 fun b hb => by
          have : b ≠ a := fun hba => hp (hba ▸ (List.mem_filter.1 hb).2)
          simp [this]
      rw [List.filter_cons_of_neg hp, List.filter_cons_of_neg hp, ← ih, hc, hs]

theorem eraseDups_of_nodup {α} [BEq α] [LawfulBEq α] : ∀ (l : List α), l.Nodup → l.eraseDups = l := by
  intro l h
  induction l with
  | nil => rfl
  | cons a as ih =>
    rw [List.nodup_cons] at h
    rw [List.eraseDups_cons]
    have : as.filter (fun b => !b == a) = as := by
      apply List.filter_eq_self.2
      intro b hb
      have : b ≠ a := fun hba => h.1 (hba ▸ hb)
      simp [this]
    rw [this, ih h.2]

/-- the `generic_types` `write_types_for_anonymous_structs` computes for the helper struct of a struct
variant with the fields `fs` (the same expression is evaluated again by the Kotlin, Swift and Scala
back ends where the enum's case refers to the helper) -/
def helperGens (e : RustEnum) (fs : List RustField) : List Str :=
  (fs.flatMap fun f => e.genericTypes.filter fun g => f.ty.containsType g).eraseDups

theorem anonymousStruct_generics (e : RustEnum) (n v : Str) (fs : List RustField) :
    (anonymousStruct e n v fs).genericTypes = helperGens e fs := rfl

theorem anonymousStruct_fields (e : RustEnum) (n v : Str) (fs : List RustField) :
    (anonymousStruct e n v fs).fields = fs := rfl

theorem kotlin_usedGenerics (e : RustEnum) (fs : List RustField) : Kotlin.usedGenerics e fs = helperGens e fs := rfl
theorem scala_usedGenerics (e : RustEnum) (fs : List RustField) : Scala.usedGenerics e fs = helperGens e fs := rfl

/-- the back ends that write a helper struct (all but TypeScript, which prints the fields inline) -/
def writesHelper : LangCfg → Bool
  | .typescript _ => false
  | _ => true

theorem innerGens_eq {lc : LangCfg} (h : writesHelper lc = true) (e : RustEnum) (fs : List RustField) :
    innerGens lc e fs = helperGens e fs := by
  cases lc <;> first | rfl | cases h

theorem innerGens_typescript (c : TypeScript.Cfg) (e : RustEnum) (fs : List RustField) :
    innerGens (.typescript c) e fs = e.genericTypes := rfl

theorem mem_helperGens {e : RustEnum} {fs : List RustField} {g : Str} :
    g ∈ helperGens e fs ↔ g ∈ e.genericTypes ∧ ∃ f ∈ fs, f.ty.containsType g = true :=
  mem_anonymousStruct_generics (n := []) (v := [])

theorem helperGens_nil (e : RustEnum) : helperGens e [] = [] := rfl

/-- the order: first the parameters the first field mentions, in the order of the enum's parameter
list, then those of the remaining fields that the first field does not mention -/
theorem helperGens_cons (e : RustEnum) (f : RustField) (fs : List RustField) :
    helperGens e (f :: fs) =
      (e.genericTypes.filter fun g => f.ty.containsType g).eraseDups ++
        (helperGens e fs).filter fun g => !f.ty.containsType g := by
  simp only [helperGens, List.flatMap_cons]
  rw [List.eraseDups_append, ← eraseDups_filter]
  congr 2
  rw [List.removeAll]
  apply List.filter_congr
  intro x hx
  simp only [List.mem_flatMap, List.mem_filter] at hx
  obtain ⟨_, _, hxg, _⟩ := hx
  cases hc : f.ty.containsType x <;> simp [List.mem_filter, hxg, hc]

/-- **the references of the helper struct, position by position**: read as a struct of its own (scope
and `generic_types` = its declared list) it makes one reference per name position of its fields, aimed
as in the enum's scope, since the two scopes agree on every name a field mentions -/
theorem helper_refs_eq (lc : LangCfg) (r : Renames) (e : RustEnum) (n v : Str) (fs : List RustField) :
    refs lc r (.struct (anonymousStruct e n v fs)) = fs.flatMap fun f => (leaves f.ty).map fun l =>
      ⟨spell lc (helperGens e fs) (recName r l.id), tgt e.genericTypes l.id, l.head⟩ := by
  show (fs.flatMap fun f => typeRefs lc r (helperGens e fs) (helperGens e fs) f.ty) = _
  rw [List.flatMap_def, List.flatMap_def]
  refine congrArg List.flatten (List.map_congr_left fun f hf => ?_)
  rw [typeRefs_eq_map]
  refine List.map_congr_left fun l hl => ?_
  have : l.id ∈ helperGens e fs ↔ l.id ∈ e.genericTypes :=
    mem_helperGens.trans ⟨And.left, fun h => ⟨h, f, hf, contains_of_leaf _ _ hl⟩⟩
  simp only [tgt_eq, this]

theorem typeRefsList_scope_congr (lc : LangCfg) (r : Renames) (s1 s2 gens : List Str) : ∀ ts : List RustType,
    (∀ id, RustType.containsTypeList id ts = true → (id ∈ s1 ↔ id ∈ s2)) →
    typeRefsList lc r s1 gens ts = typeRefsList lc r s2 gens ts := fun ts h => by
  rw [typeRefsList_eq_map, typeRefsList_eq_map]
  apply List.map_congr_left
  intro l hl
  rw [tgt_eq, tgt_eq]
  simp only [h l.id (containsList_of_leaf ts l hl)]

/-- every name position of a type gives a reference -/
theorem ref_of_leaf (lc : LangCfg) (r : Renames) (scope gens : List Str) (t : RustType) (l : Leaf)
    (h : l ∈ leaves t) :
    (⟨spell lc gens (recName r l.id), tgt scope l.id, l.head⟩ : Ref) ∈ typeRefs lc r scope gens t := by
  rw [typeRefs_eq_map]
  exact List.mem_map.2 ⟨l, h, rfl⟩

theorem refList_of_leaf (lc : LangCfg) (r : Renames) (scope gens : List Str) : ∀ (ts : List RustType) (l : Leaf),
    l ∈ leavesList ts →
    (⟨spell lc gens (recName r l.id), tgt scope l.id, l.head⟩ : Ref) ∈ typeRefsList lc r scope gens ts :=
  fun ts l h => by
    rw [typeRefsList_eq_map]
    exact List.mem_map.2 ⟨l, h, rfl⟩

/-- the spelling of a leaf that carries the name of a generic parameter the back end was told about:
the bare name, unless the configuration maps that very name to something else -/
theorem spell_param {lc : LangCfg} {gens : List Str} {g : Str} (hm : mapGet (typeMappingsOf lc) g = none)
    (hg : g ∈ gens) : spell lc gens g = g := by
  rw [spell_of_unmapped hm, if_pos hg]

theorem ne_append_self {p n : Str} (hp : p ≠ []) : n ≠ p ++ n := by
  intro h
  have := congrArg List.length h
  simp only [List.length_append] at this
  cases p with
  | nil => exact hp rfl
  | cons c t => simp at this

/-! ## `reconcile` does not change which parameters a field mentions (outside shadowing)

The back ends see the fields after `reconcile_aliases` (`Pipeline.checkField`); the C09 reference
semantics (`innerGens`) is stated on the fields as written in the source. -/

mutual
  theorem contains_checkType {r : Renames} {g : Str} (hrec : ∀ id, (recName r id == g) = (id == g)) :
      ∀ t : RustType, (checkType [] r [] t).containsType g = t.containsType g
    | .simple id => by rw [checkType_simple]; exact hrec id
    | .generic id ps => by
      rw [checkType_generic]
      show (_ == g || RustType.containsTypeList g (checkTypes [] r [] ps)) = (id == g || RustType.containsTypeList g ps)
      rw [containsList_checkTypes hrec ps]
      exact congrArg (· || _) (hrec id)
    | .vec t => contains_checkType hrec t
    | .array t _ => contains_checkType hrec t
    | .slice t => contains_checkType hrec t
    | .option t => contains_checkType hrec t
    | .hashMap k v => by
      show ((checkType [] r [] k).containsType g || (checkType [] r [] v).containsType g) = _
      rw [contains_checkType hrec k, contains_checkType hrec v]
      rfl
    | .prim _ => rfl
  theorem containsList_checkTypes {r : Renames} {g : Str} (hrec : ∀ id, (recName r id == g) = (id == g)) :
      ∀ ts : List RustType, RustType.containsTypeList g (checkTypes [] r [] ts) = RustType.containsTypeList g ts
    | [] => rfl
    | t :: ts => by
      show ((checkType [] r [] t).containsType g || RustType.containsTypeList g (checkTypes [] r [] ts)) = _
      rw [contains_checkType hrec t, containsList_checkTypes hrec ts]
      rfl
end

/-- the helper of the reconciled variant declares what the helper of the source variant would -/
theorem helperGens_checkField {r : Renames} {e e' : RustEnum} (hg : e'.genericTypes = e.genericTypes)
    (hrec : ∀ g ∈ e.genericTypes, ∀ id, (recName r id == g) = (id == g)) (fs : List RustField) :
    helperGens e' (fs.map (checkField [] r [])) = helperGens e fs := by
  simp only [helperGens, hg, List.flatMap_map]
  simp only [List.flatMap_def]
  congr 2
  apply List.map_congr_left
  intro f _
  apply List.filter_congr
  intro g hgm
  simp only [checkField]
  exact contains_checkType (hrec g hgm) f.ty

end TsV.C09_HelperParams
