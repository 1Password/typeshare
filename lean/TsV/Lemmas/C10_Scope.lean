import TsV.Lemmas.C10_Lex
import TsV.Lemmas.Rename
/-!
# C10 — the scope of the partial theorems: names, type trees, parsed items

What the C10 theorems assume of the input is said per parsed item (`FieldScope` … `ItemScope`): names
over the identifier and key classes, type trees over such names, doc text the comment syntax of the
target tolerates.  The renaming helpers and the Unicode parameter keep the classes; that is proved
once per helper, for any class of characters closed under `asciiUpper` / `asciiLower` where the
helper allows it.
-/
namespace TsV.C10Lex
open TsV TsV.Lang

/-! ## type trees and type mappings -/

mutual
  /-- the user-defined names a type tree mentions -/
  def typeNames : RustType → List Str
    | .simple id => [id]
    | .generic id ps => id :: typeNamesList ps
    | .vec t | .array t _ | .slice t | .option t => typeNames t
    | .hashMap k v => typeNames k ++ typeNames v
    | .prim _ => []
  def typeNamesList : List RustType → List Str
    | [] => []
    | t :: ts => typeNames t ++ typeNamesList ts
end

/-- every name in the tree is over `[A-Za-z0-9_-]` (`-` can arrive through an item rename) -/
def TypeOk (t : RustType) : Prop := ∀ n ∈ typeNames t, KeyStr n
def TypesOk (ts : List RustType) : Prop := ∀ n ∈ typeNamesList ts, KeyStr n

instance (t : RustType) : Decidable (TypeOk t) := by unfold TypeOk; infer_instance
instance (ts : List RustType) : Decidable (TypesOk ts) := by unfold TypesOk; infer_instance

theorem typeNamesList_eq (ts : List RustType) : typeNamesList ts = ts.flatMap typeNames := by
  induction ts with
  | nil => rfl
  | cons t ts ih => rw [typeNamesList, List.flatMap_cons, ih]

theorem TypesOk.mem {ts : List RustType} (h : TypesOk ts) {t : RustType} (ht : t ∈ ts) : TypeOk t :=
  fun n hn => h n (by rw [typeNamesList_eq]; exact List.mem_flatMap.2 ⟨t, ht, hn⟩)

theorem TypeOk.args {id : Str} {ps : List RustType} (h : TypeOk (.generic id ps)) : ∀ t ∈ ps, TypeOk t :=
  fun _ ht => TypesOk.mem (fun n hn => h n (by rw [typeNames]; exact List.mem_cons_of_mem _ hn)) ht

theorem mapGet_mem {m : List (Str × Str)} {k v : Str} (h : mapGet m k = some v) : ∃ p ∈ m, p.2 = v := by
  unfold mapGet at h
  cases hf : m.find? (·.1 == k) with
  | none => simp [hf] at h
  | some p =>
    simp [hf] at h
    exact ⟨p, List.mem_of_find?_eq_some hf, h⟩

/-- what a table of balanced strings maps a name to is neutral -/
theorem mapGet_nb {cfg : LexCfg} {m : List (Str × Str)} (H : ∀ p ∈ m, wellBracketed cfg p.2 = true) {k v : Str}
    (h : mapGet m k = some v) : NB cfg v := by
  obtain ⟨p, hp, rfl⟩ := mapGet_mem h
  exact nb_of_wb (H p hp)

/-- the generic parameters that a list of fields mentions are among those it was filtered from (the
parameter list of the struct synthesised for a struct variant) -/
theorem usedGenerics_mem (gens : List Str) (fields : List RustField) :
    ∀ g ∈ (fields.flatMap fun f => gens.filter fun g => f.ty.containsType g).eraseDups, g ∈ gens := by
  intro g hg
  have := List.mem_eraseDups.mp hg
  simp only [List.mem_flatMap, List.mem_filter] at this
  obtain ⟨_, _, h, _⟩ := this
  exact h

/-! ## identifier strings under the renaming helpers -/

theorem replaceDash_key {s : Str} (h : KeyStr s) : KeyStr (Str.replaceChar s '-' ['_']) := by
  intro c hc
  simp only [Str.replaceChar, List.mem_flatMap] at hc
  obtain ⟨x, hx, hcx⟩ := hc
  by_cases hd : x = '-'
  · simp only [hd, if_true, List.mem_singleton] at hcx; subst hcx; decide
  · simp only [hd, if_false, List.mem_singleton] at hcx; rw [hcx]; exact h x hx

theorem KeyStr.append {a b : Str} (ha : KeyStr a) (hb : KeyStr b) : KeyStr (a ++ b) := by
  intro c hc
  rcases List.mem_append.mp hc with h | h
  · exact ha c h
  · exact hb c h

theorem IdentStr.append {a b : Str} (ha : IdentStr a) (hb : IdentStr b) : IdentStr (a ++ b) := by
  intro c hc
  rcases List.mem_append.mp hc with h | h
  · exact ha c h
  · exact hb c h

theorem identChar_upper (c : Char) (h : identChar c = true) : identChar (Str.asciiUpper c) = true := by
  cases hl : Str.isAsciiLower c with
  | true => simp [identChar, RenameLemmas.lower_upper_isUpper c hl]
  | false => rw [RenameLemmas.asciiUpper_of_notLower c hl]; exact h
theorem identChar_lower (c : Char) (h : identChar c = true) : identChar (Str.asciiLower c) = true := by
  cases hu : Str.isAsciiUpper c with
  | true => simp [identChar, RenameLemmas.upper_lower_isLower c hu]
  | false => rw [RenameLemmas.asciiLower_of_notUpper c hu]; exact h

/-- `pascalGo` drops separators and maps the other characters through `asciiUpper` / `asciiLower`: a
character class closed under both is kept -/
theorem pascalGo_class {p : Char → Bool} (hu : ∀ c, p c = true → p (Str.asciiUpper c) = true)
    (hl : ∀ c, p c = true → p (Str.asciiLower c) = true) (b : Bool) :
    ∀ (cap : Bool) (s : Str), (∀ c ∈ s, p c = true) → ∀ c ∈ Rename.pascalGo b cap s, p c = true := by
  intro cap s
  induction s generalizing cap with
  | nil => intro _ c hc; simp [Rename.pascalGo] at hc
  | cons ch rest ih =>
    intro h
    have hch := h ch (by simp)
    have hrest : ∀ c ∈ rest, p c = true := fun d hd => h d (by simp [hd])
    simp only [Rename.pascalGo]
    split
    · exact ih true hrest
    · split
      · intro c hc
        simp only [List.mem_cons] at hc
        rcases hc with rfl | hc
        · exact hu ch hch
        · exact ih false hrest c hc
      · intro c hc
        simp only [List.mem_cons] at hc
        rcases hc with rfl | hc
        · split
          · exact hl ch hch
          · exact hch
        · exact ih false hrest c hc

theorem lowerFirst_class {p : Char → Bool} (hl : ∀ c, p c = true → p (Str.asciiLower c) = true) {s : Str}
    (h : ∀ c ∈ s, p c = true) : ∀ c ∈ Rename.lowerFirst s, p c = true := by
  cases s with
  | nil => exact h
  | cons c t =>
    intro d hd
    simp only [Rename.lowerFirst, List.mem_cons] at hd
    rcases hd with rfl | hd
    · exact hl c (h c List.mem_cons_self)
    · exact h d (List.mem_cons_of_mem c hd)

theorem pascalGo_ident (b : Bool) : ∀ (cap : Bool) (s : Str), IdentStr s → IdentStr (Rename.pascalGo b cap s) :=
  pascalGo_class identChar_upper identChar_lower b

/-- the underscore that Kotlin, Scala and Swift put in front of a variant name that starts with a
digit keeps an identifier string one -/
theorem IdentStr.guard {n : Str} : IdentStr n →
    IdentStr (match n with
      | c :: _ => if Str.isAsciiDigit c then '_' :: n else n
      | [] => n) := by
  intro h
  cases n with
  | nil => exact h
  | cons c t =>
    simp only
    split
    · exact fun d hd => (List.mem_cons.1 hd).elim (fun e => e ▸ by decide) (h d)
    · exact h

theorem toPascal_ident {U : UnicodeOps} {s : Str} (h : IdentStr s) : IdentStr (Rename.toPascal U s) := pascalGo_ident _ _ s h

theorem keyChar_ne_nl {c : Char} (h : keyChar c = true) : c ≠ '\n' := fun e =>
  not_mem_of_class h (l := ['\n']) (by decide +kernel) (by simp [e])
theorem identChar_ne_nl {c : Char} (h : identChar c = true) : c ≠ '\n' := keyChar_ne_nl (identChar_key h)
theorem KeyStr.no_nl {s : Str} (h : KeyStr s) : '\n' ∉ s := fun hm => keyChar_ne_nl (h _ hm) rfl

/-! ## the Unicode parameter on identifiers -/

theorem identChar_ascii (c : Char) (h : identChar c = true) : c.toNat < 128 := by
  simp only [identChar, Bool.or_eq_true, beq_iff_eq] at h
  rcases h with ((h | h) | h) | h
  · exact RenameLemmas.lower_ascii c h
  · exact RenameLemmas.upper_ascii c h
  · exact RenameLemmas.digit_ascii c h
  · subst h; decide

/-- an ASCII-correct `upperStr` keeps a class of ASCII characters that `asciiUpper` keeps -/
theorem upperStr_class {p : Char → Bool} (ha : ∀ c, p c = true → c.toNat < 128)
    (hu : ∀ c, p c = true → p (Str.asciiUpper c) = true) (U : UnicodeOps) (hU : U.AsciiCorrect) {s : Str}
    (h : ∀ c ∈ s, p c = true) : ∀ c ∈ U.upperStr s, p c = true := by
  rw [RenameLemmas.upperStr_ascii U hU s fun c hc => ha c (h c hc)]
  intro c hc
  simp only [Str.toAsciiUpper, List.mem_map] at hc
  obtain ⟨d, hd, rfl⟩ := hc
  exact hu d (h d hd)

theorem upperStr_ident (U : UnicodeOps) (hU : U.AsciiCorrect) {s : Str} (h : IdentStr s) : IdentStr (U.upperStr s) :=
  upperStr_class identChar_ascii identChar_upper U hU h

theorem lowerStr_ident (U : UnicodeOps) (hU : U.AsciiCorrect) {s : Str} (h : IdentStr s) : IdentStr (U.lowerStr s) := by
  rw [RenameLemmas.lowerStr_ascii U hU s fun c hc => identChar_ascii c (h c hc)]
  intro c hc
  simp only [Str.toAsciiLower, List.mem_map] at hc
  obtain ⟨d, hd, rfl⟩ := hc
  exact identChar_lower d (h d hd)

theorem snakeGo_ident (U : UnicodeOps) (b : Bool) : ∀ (first : Bool) (s : Str), IdentStr s → IdentStr (Rename.snakeGo U b first s) := by
  intro first s
  induction s generalizing first with
  | nil => intro _ c hc; simp [Rename.snakeGo] at hc
  | cons ch rest ih =>
    intro h
    have hch := h ch (by simp)
    have ih := ih false (fun d hd => h d (by simp [hd]))
    simp only [Rename.snakeGo]
    intro c hc
    simp only [List.mem_append, List.mem_cons] at hc
    rcases hc with hc | rfl | hc
    · split at hc
      · simp only [List.mem_singleton] at hc; subst hc; decide
      · simp at hc
    · exact identChar_lower ch hch
    · exact ih c hc

/-- `to_snake_case` keeps identifiers identifiers, whatever `char::is_uppercase` is -/
theorem toSnake_ident (U : UnicodeOps) {s : Str} (h : IdentStr s) : IdentStr (Rename.toSnake U s) :=
  snakeGo_ident U _ true s h

theorem replaceChar_plain {cfg : LexCfg} {s : Str} (c d : Char) (h : Plain cfg s) (hd : plainChar cfg d = true) :
    Plain cfg (Str.replaceChar s c [d]) := by
  intro x hx
  simp only [Str.replaceChar, List.mem_flatMap] at hx
  obtain ⟨y, hy, hxy⟩ := hx
  by_cases e : y = c
  · simp only [e, if_true, List.mem_singleton] at hxy; rw [hxy]; exact hd
  · simp only [e, if_false, List.mem_singleton] at hxy; rw [hxy]; exact h y hy

def identStart (c : Char) : Bool := Str.isAsciiLower c || Str.isAsciiUpper c || c == '_'

/-- `[A-Za-z_][A-Za-z0-9_]*` -/
def isIdentifier (s : Str) : Bool :=
  match s with
  | [] => false
  | c :: t => identStart c && t.all identChar

theorem identStart_identChar (c : Char) (h : identStart c = true) : identChar c = true := by
  simp only [identStart, Bool.or_eq_true] at h
  simp only [identChar, Bool.or_eq_true]
  rcases h with (h | h) | h
  · exact .inl (.inl (.inl h))
  · exact .inl (.inl (.inr h))
  · exact .inr h

theorem isIdentifier.identStr {s : Str} (h : isIdentifier s = true) : IdentStr s := by
  cases s with
  | nil => simp [isIdentifier] at h
  | cons c t =>
    simp only [isIdentifier, Bool.and_eq_true, List.all_eq_true] at h
    intro d hd
    simp only [List.mem_cons] at hd
    rcases hd with rfl | hd
    · exact identStart_identChar _ h.1
    · exact h.2 d hd

theorem isIdentifier_append {a b : Str} (ha : isIdentifier a = true) (hb : IdentStr b) : isIdentifier (a ++ b) = true := by
  cases a with
  | nil => simp [isIdentifier] at ha
  | cons c t =>
    simp only [isIdentifier, Bool.and_eq_true, List.all_eq_true] at ha
    simp only [List.cons_append, isIdentifier, Bool.and_eq_true, List.all_eq_true, List.mem_append]
    exact ⟨ha.1, fun d hd => hd.elim (ha.2 d) (hb d)⟩

/-- a prefix setting: empty, or itself an identifier -/
def IdentPrefix (p : Str) : Prop := p = [] ∨ isIdentifier p = true

theorem isIdentifier_prefixed {p a : Str} (hp : IdentPrefix p) (ha : isIdentifier a = true) : isIdentifier (p ++ a) = true := by
  rcases hp with rfl | hp
  · simpa using ha
  · exact isIdentifier_append hp (isIdentifier.identStr ha)

theorem isIdentifier_dash {s : Str} (h : '-' ∈ s) : isIdentifier s = false := by
  cases hs : isIdentifier s with
  | false => rfl
  | true =>
    have := isIdentifier.identStr hs '-' h
    revert this; decide

/-! ## the scope of the partial theorems, per parsed item

`L` is the target language (for type overrides), `lx` its lexer, `D` what the language's comment
syntax tolerates in doc text (the complement of C15's `Bad` class). -/

section scope
variable (L : Lang) (lx : LexCfg) (D : List Str → Prop)

/-- one field: doc text harmless, the wire key over `[A-Za-z0-9_-]`, the Rust name an identifier, the
type tree over such names, a type override (if any) a balanced string -/
structure FieldScope (f : RustField) : Prop where
  docs : D f.comments
  key : KeyStr f.id.renamed
  original : IdentStr f.id.original
  ty : TypeOk f.ty
  override : ∀ t, typeOverride f L = some t → wellBracketed lx t = true

structure StructScope (s : RustStruct) : Prop where
  docs : D s.comments
  name : KeyStr s.id.renamed
  generics : ∀ g ∈ s.genericTypes, IdentStr g
  fields : ∀ f ∈ s.fields, FieldScope L lx D f

structure AliasScope (a : RustTypeAlias) : Prop where
  docs : D a.comments
  original : KeyStr a.id.original
  renamed : KeyStr a.id.renamed
  generics : ∀ g ∈ a.genericTypes, IdentStr g
  ty : TypeOk a.ty

def VariantScope : RustEnumVariant → Prop
  | .unit id cs => D cs ∧ IdentStr id.original ∧ KeyStr id.renamed
  | .tuple id cs ty => D cs ∧ IdentStr id.original ∧ KeyStr id.renamed ∧ TypeOk ty
  | .anonymousStruct id cs fs =>
    D cs ∧ IdentStr id.original ∧ KeyStr id.renamed ∧ ∀ f ∈ fs, FieldScope L lx D f

theorem VariantScope.docs {L lx D} {v : RustEnumVariant} (h : VariantScope L lx D v) : D v.comments := by
  cases v <;> exact h.1
theorem VariantScope.original {L lx D} {v : RustEnumVariant} (h : VariantScope L lx D v) : IdentStr v.id.original := by
  cases v <;> exact h.2.1
theorem VariantScope.renamed {L lx D} {v : RustEnumVariant} (h : VariantScope L lx D v) : KeyStr v.id.renamed := by
  cases v <;> first | exact h.2.2 | exact h.2.2.1

structure EnumScope (e : RustEnum) : Prop where
  docs : D e.comments
  original : IdentStr e.id.original
  renamed : KeyStr e.id.renamed
  generics : ∀ g ∈ e.genericTypes, IdentStr g
  variants : ∀ v ∈ e.variants, VariantScope L lx D v
  /-- the tag key is an identifier, the content key is over `[A-Za-z0-9_-]` -/
  tag : ∀ k, e.keys = some k → IdentStr k.1
  content : ∀ k, e.keys = some k → KeyStr k.2

structure ConstScope (c : RustConst) : Prop where
  name : IdentStr c.id.renamed
  ty : TypeOk c.ty

def ItemScope : RustItem → Prop
  | .struct s => StructScope L lx D s
  | .enum e => EnumScope L lx D e
  | .alias a => AliasScope D a
  | .const c => ConstScope c

end scope

theorem structVariants_scope {L lx D} (e : RustEnum) (he : EnumScope L lx D e) :
    ∀ p ∈ structVariants e, IdentStr p.1.original ∧ ∀ f ∈ p.2, FieldScope L lx D f := by
  intro p hp
  simp only [structVariants, List.mem_filterMap] at hp
  obtain ⟨v, hv, hsome⟩ := hp
  have hvo := he.variants v hv
  cases v with
  | unit _ _ => simp at hsome
  | tuple _ _ _ => simp at hsome
  | anonymousStruct vid cs fs =>
    simp only [Option.some.injEq] at hsome
    subst hsome
    exact ⟨hvo.2.1, hvo.2.2.2⟩

/-- the doc line of the struct synthesised for a struct variant has no line break -/
theorem anonymousStruct_docs (e : RustEnum) (n vo : Str) (fs : List RustField) (h1 : IdentStr vo)
    (h2 : IdentStr e.id.original) : ∀ c ∈ (anonymousStruct e n vo fs).comments, '\n' ∉ c := by
  intro d hdm
  simp only [anonymousStruct, List.mem_singleton] at hdm
  subst hdm
  simp only [List.mem_append, not_or]
  exact ⟨⟨⟨⟨by decide, KeyStr.no_nl (IdentStr.key h1)⟩, by decide⟩, KeyStr.no_nl (IdentStr.key h2)⟩, by decide⟩

/-- … and the struct is in scope when the enum is, its name is a key string and the doc syntax
tolerates that line -/
theorem anonymousStruct_scope {L lx D} {e : RustEnum} (he : EnumScope L lx D e) {n vo : Str} {fs : List RustField}
    (hn : KeyStr n) (hD : D (anonymousStruct e n vo fs).comments) (hfs : ∀ f ∈ fs, FieldScope L lx D f) :
    StructScope L lx D (anonymousStruct e n vo fs) :=
  ⟨hD, hn, fun g hg => he.generics g (usedGenerics_mem _ _ g hg), hfs⟩

end TsV.C10Lex
