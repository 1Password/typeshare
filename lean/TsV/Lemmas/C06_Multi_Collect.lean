import TsV.Lemmas.C06_Multi_Scoped
import TsV.Lemmas.MinByKey
/-!
# The collector and `reconcile` for several crates, up to arrival order and hash order

* `collect_canon`: `collect a` is, for the sorted list of crate names that occur in `a`, the fold of that
  crate's arrivals;
* `DataEq` / `MapEq`: two per-crate results / two collected maps that differ only by the order of the item
  lists and of the hash sets;  `collect_mapEq_of`: permuting the arrivals (`PartRel`) gives `MapEq` maps;
* `reconcile_mapEq`: on `MapEq` maps with unique names `reconcile` yields equal item lists.
-/
namespace TsV.C06M
open TsV TsV.Pipeline TsV.Collect

/-! ### canonical form of the collector's map -/

theorem sorted_keys {m : List (Str × ParsedData)} (h : Sorted m) : SSorted (m.map (·.1)) :=
  sorted_iff_keys.1 h

theorem lookup_of_mem {m : List (Str × ParsedData)} (hs : Sorted m) {c : Str} {v : ParsedData}
    (h : (c, v) ∈ m) : lookup m c = some v :=
  get?_of_mem (sorted_keys hs) h

/-- the arrivals that belong to crate `c`, in arrival order -/
def arr (a : List ParsedData) (c : Str) : List ParsedData := a.filter fun d => d.crateName == c

theorem collect_entry (a : List ParsedData) {c : Str} {v : ParsedData} (h : (c, v) ∈ collect a) :
    v = merged {} (arr a c) ∧ arr a c ≠ [] := by
  have h1 := lookup_of_mem (collect_sorted a) h
  rw [collect_lookup] at h1
  unfold arr
  cases hf : a.filter (fun d => d.crateName == c) with
  | nil => rw [hf] at h1; simp at h1
  | cons x t =>
    rw [hf] at h1
    simp only [Option.some.injEq] at h1
    exact ⟨h1.symm, by simp⟩

theorem arr_ne_nil_iff (a : List ParsedData) (c : Str) : arr a c ≠ [] ↔ ∃ d ∈ a, d.crateName = c := by
  unfold arr
  constructor
  · intro h
    obtain ⟨d, hd⟩ := List.exists_mem_of_ne_nil _ h
    simp only [List.mem_filter, beq_iff_eq] at hd
    exact ⟨d, hd.1, hd.2⟩
  · rintro ⟨d, hd, hc⟩ h
    have : d ∈ a.filter fun d => d.crateName == c := by simp [List.mem_filter, hd, hc]
    rw [h] at this
    simp at this

theorem collect_key_iff (a : List ParsedData) (c : Str) :
    c ∈ (collect a).map (·.1) ↔ ∃ d ∈ a, d.crateName = c := by
  rw [← arr_ne_nil_iff]
  constructor
  · intro h
    obtain ⟨p, hp, rfl⟩ := List.mem_map.1 h
    exact (collect_entry a (c := p.1) (v := p.2) hp).2
  · intro h
    have h1 := collect_lookup a c
    unfold arr at h
    cases hf : a.filter (fun d => d.crateName == c) with
    | nil => exact absurd hf h
    | cons x t =>
      rw [hf] at h1
      simp only [lookup, Option.map_eq_some_iff] at h1
      obtain ⟨p, hp, _⟩ := h1
      have hk := List.find?_some hp
      have : p.1 = c := eq_of_beq hk
      exact List.mem_map.2 ⟨p, List.mem_of_find?_eq_some hp, this⟩

/-- **canonical form**: the collector's map lists, for the crate names in sorted order, the fold of that crate's
arrivals -/
theorem collect_canon (a : List ParsedData) :
    collect a = ((collect a).map (·.1)).map fun c => (c, merged {} (arr a c)) := by
  rw [List.map_map]
  conv => lhs; rw [← List.map_id (collect a)]
  apply List.map_congr_left
  intro p hp
  obtain ⟨c, v⟩ := p
  simp [(collect_entry a hp).1]

/-- the key list only depends on the set of crate names that occur -/
theorem collect_keys_congr (a b : List ParsedData)
    (h : ∀ c, (∃ d ∈ a, d.crateName = c) ↔ (∃ d ∈ b, d.crateName = c)) :
    (collect a).map (·.1) = (collect b).map (·.1) :=
  ssorted_ext (sorted_keys (collect_sorted a)) (sorted_keys (collect_sorted b))
    (fun c => by rw [collect_key_iff, collect_key_iff, h])

/-! ### the per-crate fold: hash-set fields and meta data -/

/-- a field that `+=` extends as a hash set holds, after the fold, the start value's and the arrivals' members -/
theorem merged_set_mem {α} [BEq α] [LawfulBEq α] (π : ParsedData → List α)
    (hπ : ∀ acc d, π (addAssign acc d) = (π d).foldl (fun s i => Visitor.insertSet i s) (π acc)) (i : α) :
    ∀ (a : List ParsedData) (acc : ParsedData), i ∈ π (merged acc a) ↔ i ∈ π acc ∨ ∃ d ∈ a, i ∈ π d := by
  intro a acc
  rw [merged, foldl_or addAssign (i ∈ π ·) (i ∈ π ·) (fun acc d => by
    rw [hπ, mem_foldl_insertSet]; exact or_comm)]
  exact or_comm

theorem merged_imports_mem (i : ImportedType) : ∀ (a : List ParsedData) (acc : ParsedData),
    i ∈ (merged acc a).importTypes ↔ i ∈ acc.importTypes ∨ ∃ d ∈ a, i ∈ d.importTypes :=
  merged_set_mem (·.importTypes) (fun _ _ => rfl) i

theorem merged_typeNames_mem (i : Str) : ∀ (a : List ParsedData) (acc : ParsedData),
    i ∈ (merged acc a).typeNames ↔ i ∈ acc.typeNames ∨ ∃ d ∈ a, i ∈ d.typeNames :=
  merged_set_mem (·.typeNames) (fun _ _ => rfl) i

/-- crate name, file name and mode of the fold are those of some arrival (the last one) -/
theorem merged_last : ∀ (l : List ParsedData) (acc : ParsedData), l ≠ [] →
    ∃ d ∈ l, (merged acc l).crateName = d.crateName ∧ (merged acc l).fileName = d.fileName ∧
      (merged acc l).multiFile = d.multiFile := by
  intro l
  induction l with
  | nil => exact fun _ h => absurd rfl h
  | cons d t ih =>
    intro acc _
    cases t with
    | nil => exact ⟨d, by simp, by simp [merged, addAssign]⟩
    | cons d2 t =>
      obtain ⟨x, hx, h⟩ := ih (addAssign acc d) (by simp)
      exact ⟨x, List.mem_cons_of_mem _ hx, by simpa [merged] using h⟩

/-! ### equality up to the order of item lists and hash sets -/

/-- two per-crate results that differ only in the order of the item vectors and of the hash sets -/
structure DataEq (d d' : ParsedData) : Prop where
  structs : d.structs.Perm d'.structs
  enums : d.enums.Perm d'.enums
  aliases : d.aliases.Perm d'.aliases
  consts : d.consts.Perm d'.consts
  errors : d.errors.Perm d'.errors
  imports : ∀ i, i ∈ d.importTypes ↔ i ∈ d'.importTypes
  typeNames : ∀ t, t ∈ d.typeNames ↔ t ∈ d'.typeNames
  crateName : d.crateName = d'.crateName
  fileName : d.fileName = d'.fileName
  multiFile : d.multiFile = d'.multiFile

theorem DataEq.refl (d : ParsedData) : DataEq d d :=
  ⟨.refl _, .refl _, .refl _, .refl _, .refl _, fun _ => Iff.rfl, fun _ => Iff.rfl, rfl, rfl, rfl⟩

theorem DataEq.trans {d₁ d₂ d₃ : ParsedData} (h : DataEq d₁ d₂) (h' : DataEq d₂ d₃) : DataEq d₁ d₃ :=
  ⟨h.structs.trans h'.structs, h.enums.trans h'.enums, h.aliases.trans h'.aliases, h.consts.trans h'.consts,
   h.errors.trans h'.errors, fun i => (h.imports i).trans (h'.imports i),
   fun t => (h.typeNames t).trans (h'.typeNames t), h.crateName.trans h'.crateName,
   h.fileName.trans h'.fileName, h.multiFile.trans h'.multiFile⟩

theorem DataEq.symm {d₁ d₂ : ParsedData} (h : DataEq d₁ d₂) : DataEq d₂ d₁ :=
  ⟨h.structs.symm, h.enums.symm, h.aliases.symm, h.consts.symm, h.errors.symm, fun i => (h.imports i).symm,
   fun t => (h.typeNames t).symm, h.crateName.symm, h.fileName.symm, h.multiFile.symm⟩

def EntryEq (p q : Str × ParsedData) : Prop := p.1 = q.1 ∧ DataEq p.2 q.2

/-- two collected maps: the same crates in the same order, per crate `DataEq` -/
def MapEq (m m' : List (Str × ParsedData)) : Prop := Rel₂ EntryEq m m'

theorem MapEq.refl (m : List (Str × ParsedData)) : MapEq m m :=
  rel₂_iff.2 (.refl fun p _ => ⟨rfl, DataEq.refl p.2⟩)

theorem MapEq.trans {m₁ m₂ m₃ : List (Str × ParsedData)} (h : MapEq m₁ m₂) (h' : MapEq m₂ m₃) : MapEq m₁ m₃ :=
  rel₂_iff.2 (((rel₂_iff.1 h).comp (rel₂_iff.1 h')).imp fun _ _ ⟨_, h1, h2⟩ => ⟨h1.1.trans h2.1, h1.2.trans h2.2⟩)

theorem MapEq.symm {m₁ m₂ : List (Str × ParsedData)} (h : MapEq m₁ m₂) : MapEq m₂ m₁ :=
  rel₂_iff.2 ((rel₂_iff.1 h).flip.imp fun _ _ h1 => ⟨h1.1.symm, h1.2.symm⟩)

theorem MapEq.keys {m m' : List (Str × ParsedData)} (h : MapEq m m') : m.map (·.1) = m'.map (·.1) :=
  (rel₂_iff.1 h).map_eq fun _ _ _ _ hr => hr.1

/-- the arrivals of one crate in two schedules: same items up to order, same sets, same meta data -/
structure PartEq (l l' : List ParsedData) : Prop where
  structs : (l.flatMap (·.structs)).Perm (l'.flatMap (·.structs))
  enums : (l.flatMap (·.enums)).Perm (l'.flatMap (·.enums))
  aliases : (l.flatMap (·.aliases)).Perm (l'.flatMap (·.aliases))
  consts : (l.flatMap (·.consts)).Perm (l'.flatMap (·.consts))
  errors : (l.flatMap (·.errors)).Perm (l'.flatMap (·.errors))
  imports : ∀ i, (∃ d ∈ l, i ∈ d.importTypes) ↔ (∃ d ∈ l', i ∈ d.importTypes)
  typeNames : ∀ t, (∃ d ∈ l, t ∈ d.typeNames) ↔ (∃ d ∈ l', t ∈ d.typeNames)
  nonempty : l ≠ [] ↔ l' ≠ []
  info : ∀ d ∈ l, ∀ d' ∈ l', d.crateName = d'.crateName ∧ d.fileName = d'.fileName ∧ d.multiFile = d'.multiFile

/-- two arrival lists that are, crate by crate, `PartEq` -/
def PartRel (a b : List ParsedData) : Prop := ∀ c, PartEq (arr a c) (arr b c)

theorem merged_dataEq {l l' : List ParsedData} (h : PartEq l l') (hne : l ≠ []) :
    DataEq (merged {} l) (merged {} l') := by
  obtain ⟨x, hx, hx1, hx2, hx3⟩ := merged_last l {} hne
  obtain ⟨y, hy, hy1, hy2, hy3⟩ := merged_last l' {} (h.nonempty.1 hne)
  have hm := h.info x hx y hy
  refine ⟨?_, ?_, ?_, ?_, ?_, ?_, ?_, ?_, ?_, ?_⟩
  · rw [merged_structs, merged_structs]; simpa using h.structs
  · rw [merged_enums, merged_enums]; simpa using h.enums
  · rw [merged_aliases, merged_aliases]; simpa using h.aliases
  · rw [merged_consts, merged_consts]; simpa using h.consts
  · rw [merged_errors, merged_errors]; simpa using h.errors
  · intro i; rw [merged_imports_mem, merged_imports_mem]; simpa using h.imports i
  · intro t; rw [merged_typeNames_mem, merged_typeNames_mem]; simpa using h.typeNames t
  · rw [hx1, hy1, hm.1]
  · rw [hx2, hy2, hm.2.1]
  · rw [hx3, hy3, hm.2.2]

/-- **the collector, several crates**: crate-wise equivalent arrival lists are collected into maps with the
same crates in the same order and per crate `DataEq` data -/
theorem collect_mapEq_of (a b : List ParsedData) (h : PartRel a b) : MapEq (collect a) (collect b) := by
  have hk : (collect a).map (·.1) = (collect b).map (·.1) := by
    apply collect_keys_congr
    intro c
    rw [← arr_ne_nil_iff, ← arr_ne_nil_iff]
    exact (h c).nonempty
  rw [collect_canon a, collect_canon b, ← hk]
  refine rel₂_iff.2 (.of_map _ _ _ fun c hc => ?_)
  refine ⟨rfl, merged_dataEq (h c) ?_⟩
  exact (arr_ne_nil_iff a c).2 ((collect_key_iff a c).1 hc)

/-- within a crate every arrival carries the same output file name and mode -/
def UniformPerCrate (a : List ParsedData) : Prop :=
  ∀ d ∈ a, ∀ d' ∈ a, d.crateName = d'.crateName → d.fileName = d'.fileName ∧ d.multiFile = d'.multiFile

/-- a permutation of the arrivals is crate-wise equivalent -/
theorem partRel_of_perm (a b : List ParsedData) (hp : a.Perm b) (hu : UniformPerCrate a) : PartRel a b := by
  intro c
  have hpc : (arr a c).Perm (arr b c) := hp.filter _
  have hex : ∀ P : ParsedData → Prop, (∃ d ∈ arr a c, P d) ↔ ∃ d ∈ arr b c, P d := fun P =>
    ⟨fun ⟨d, hd, h⟩ => ⟨d, hpc.subset hd, h⟩, fun ⟨d, hd, h⟩ => ⟨d, hpc.symm.subset hd, h⟩⟩
  refine ⟨hpc.flatMap_right _, hpc.flatMap_right _, hpc.flatMap_right _, hpc.flatMap_right _,
    hpc.flatMap_right _, fun _ => hex _, fun _ => hex _, ?_, ?_⟩
  · exact ⟨fun h h' => by rw [h'] at hpc; exact h hpc.eq_nil,
      fun h h' => by rw [h'] at hpc; exact h hpc.symm.eq_nil⟩
  · intro d hd d' hd'
    have hd'' := hpc.symm.subset hd'
    simp only [arr, List.mem_filter, beq_iff_eq] at hd hd''
    have hcc : d.crateName = d'.crateName := hd.2.trans hd''.2.symm
    exact ⟨hcc, hu d hd.1 d' hd''.1 hcc⟩

/-- the same file, its two hash sets (`import_types`, `type_names`) iterated in another order -/
structure FileEq (d d' : ParsedData) : Prop where
  structs : d.structs = d'.structs
  enums : d.enums = d'.enums
  aliases : d.aliases = d'.aliases
  consts : d.consts = d'.consts
  errors : d.errors = d'.errors
  imports : ∀ i, i ∈ d.importTypes ↔ i ∈ d'.importTypes
  typeNames : ∀ t, t ∈ d.typeNames ↔ t ∈ d'.typeNames
  crateName : d.crateName = d'.crateName
  fileName : d.fileName = d'.fileName
  multiFile : d.multiFile = d'.multiFile

theorem FileEq.refl (d : ParsedData) : FileEq d d :=
  ⟨rfl, rfl, rfl, rfl, rfl, fun _ => Iff.rfl, fun _ => Iff.rfl, rfl, rfl, rfl⟩

theorem arr_forall₂ (c : Str) {a a' : List ParsedData} (h : C01.Forall₂ FileEq a a') :
    C01.Forall₂ FileEq (arr a c) (arr a' c) := by
  induction h with
  | nil => exact .nil
  | @cons d d' t t' hd _ ih =>
    unfold arr at ih ⊢
    simp only [List.filter_cons, ← hd.crateName]
    by_cases hc : (d.crateName == c) = true
    · simp only [hc, if_true]; exact .cons hd ih
    · simp only [hc, Bool.false_eq_true, if_false]; exact ih

/-- the same arrivals, every file's hash sets in another iteration order, are crate-wise equivalent -/
theorem partRel_of_fileEq (a a' : List ParsedData) (h : Rel₂ FileEq a a') (hu : UniformPerCrate a) :
    PartRel a a' := by
  intro c
  have hr := arr_forall₂ c (rel₂_iff.1 h)
  have hex : ∀ P : ParsedData → Prop, (∀ x y, FileEq x y → (P x ↔ P y)) →
      ((∃ d ∈ arr a c, P d) ↔ ∃ d ∈ arr a' c, P d) := fun P hP =>
    ⟨fun ⟨d, hd, h⟩ => let ⟨d', hd', hr'⟩ := hr.mem_left d hd; ⟨d', hd', (hP d d' hr').1 h⟩,
     fun ⟨d', hd', h⟩ => let ⟨d, hd, hr'⟩ := hr.mem_right d' hd'; ⟨d, hd, (hP d d' hr').2 h⟩⟩
  refine ⟨?_, ?_, ?_, ?_, ?_, fun i => hex _ fun _ _ h => h.imports i, fun t => hex _ fun _ _ h => h.typeNames t,
    ?_, ?_⟩
  · exact hr.flatMap_perm fun _ _ _ _ hxy => by rw [hxy.structs]
  · exact hr.flatMap_perm fun _ _ _ _ hxy => by rw [hxy.enums]
  · exact hr.flatMap_perm fun _ _ _ _ hxy => by rw [hxy.aliases]
  · exact hr.flatMap_perm fun _ _ _ _ hxy => by rw [hxy.consts]
  · exact hr.flatMap_perm fun _ _ _ _ hxy => by rw [hxy.errors]
  · rw [← List.length_pos_iff, ← List.length_pos_iff, hr.length_eq]
  · intro d hd d' hd'
    obtain ⟨d₀, hd₀, hr'⟩ := hr.mem_right d' hd'
    simp only [arr, List.mem_filter, beq_iff_eq] at hd hd₀
    have hcc : d.crateName = d₀.crateName := hd.2.trans hd₀.2.symm
    have := hu d hd.1 d₀ hd₀.1 hcc
    exact ⟨hcc.trans hr'.crateName, this.1.trans hr'.fileName, this.2.trans hr'.multiFile⟩

/-! ### `reconcile` on equivalent maps -/

/-- crate names are distinct; within a crate no two types share an original name and no two consts do -/
structure MapWF (m : List (Str × ParsedData)) : Prop where
  keys : (m.map (·.1)).Nodup
  types : ∀ p ∈ m, (p.2.structs.map (·.id.original) ++ p.2.enums.map (·.id.original) ++
            p.2.aliases.map (·.id.original)).Nodup
  consts : ∀ p ∈ m, (p.2.consts.map (·.id.original)).Nodup

/-- the collected map is well formed when, crate by crate, the arrivals' type names and const names are distinct -/
theorem mapWF_collect_of (a : List ParsedData)
    (ht : ∀ d ∈ a, (((arr a d.crateName).flatMap (·.structs)).map (·.id.original) ++
      ((arr a d.crateName).flatMap (·.enums)).map (·.id.original) ++
      ((arr a d.crateName).flatMap (·.aliases)).map (·.id.original)).Nodup)
    (hc : ∀ d ∈ a, (((arr a d.crateName).flatMap (·.consts)).map (·.id.original)).Nodup) :
    MapWF (collect a) := by
  refine ⟨(sorted_keys (collect_sorted a)).nodup, ?_, ?_⟩
  · intro p hp
    obtain ⟨hv, hne⟩ := collect_entry a (c := p.1) (v := p.2) hp
    obtain ⟨d, hd, hcr⟩ := (arr_ne_nil_iff a p.1).1 hne
    have := ht d hd
    rw [hcr] at this
    rw [hv, merged_structs, merged_enums, merged_aliases]
    simpa using this
  · intro p hp
    obtain ⟨hv, hne⟩ := collect_entry a (c := p.1) (v := p.2) hp
    obtain ⟨d, hd, hcr⟩ := (arr_ne_nil_iff a p.1).1 hne
    have := hc d hd
    rw [hcr] at this
    rw [hv, merged_consts]
    simpa using this

theorem collectSerdeRenames_eq (m : List (Str × ParsedData)) :
    collectSerdeRenames m = m.flatMap fun p => C06.renamesOf p.1 p.2.structs p.2.enums p.2.aliases := rfl

theorem collectSerdeRenames_unique (m : List (Str × ParsedData)) (h : MapWF m) :
    UniqueKeys (collectSerdeRenames m) := by
  unfold UniqueKeys
  rw [collectSerdeRenames_eq, List.map_flatMap]
  unfold List.Nodup
  rw [List.pairwise_flatMap]
  refine ⟨?_, ?_⟩
  · intro p hp
    exact C06.renamesOf_unique p.1 _ _ _ (h.types p hp)
  · have hk : List.Pairwise (fun p q : Str × ParsedData => p.1 ≠ q.1) m := by
      have := h.keys
      unfold List.Nodup at this
      exact List.pairwise_map.1 this
    refine hk.imp ?_
    intro p q hpq x hx y hy hxy
    obtain ⟨e, he, rfl⟩ := List.mem_map.1 hx
    obtain ⟨e', he', rfl⟩ := List.mem_map.1 hy
    have h1 := C06.renamesOf_crate _ _ _ _ e he
    have h2 := C06.renamesOf_crate _ _ _ _ e' he'
    simp only [Prod.mk.injEq] at hxy
    exact hpq (h1.symm.trans (hxy.2.trans h2))

theorem collectSerdeRenames_perm {m m' : List (Str × ParsedData)} (h : MapEq m m') :
    (collectSerdeRenames m).Perm (collectSerdeRenames m') := by
  rw [collectSerdeRenames_eq, collectSerdeRenames_eq]
  refine (rel₂_iff.1 h).flatMap_perm fun p _ q _ hpq => ?_
  rw [hpq.1]
  exact C06.renamesOf_perm q.1 hpq.2.structs hpq.2.enums hpq.2.aliases

theorem renEquiv_of_mapEq {m m' : List (Str × ParsedData)} (h : MapEq m m') (wf : MapWF m) :
    RenEquiv (collectSerdeRenames m) (collectSerdeRenames m') := fun x cr =>
  ⟨renameOf_perm _ _ (collectSerdeRenames_perm h) (collectSerdeRenames_unique m wf) x cr,
   hasRename_perm _ _ (collectSerdeRenames_perm h) x⟩

/-- what is compared of one reconciled crate: everything `generate_types` and `used_imports` read — the four
item lists *as lists* (they are sorted), the crate key, crate name, file name, mode; the two hash sets as sets;
the recorded parse errors up to order -/
structure RecEq (p q : Str × ParsedData) : Prop where
  key : p.1 = q.1
  structs : p.2.structs = q.2.structs
  enums : p.2.enums = q.2.enums
  aliases : p.2.aliases = q.2.aliases
  consts : p.2.consts = q.2.consts
  crateName : p.2.crateName = q.2.crateName
  fileName : p.2.fileName = q.2.fileName
  multiFile : p.2.multiFile = q.2.multiFile
  imports : ∀ i, i ∈ p.2.importTypes ↔ i ∈ q.2.importTypes
  typeNames : ∀ t, t ∈ p.2.typeNames ↔ t ∈ q.2.typeNames
  errors : p.2.errors.Perm q.2.errors

/-- the three rewriting passes of `reconcile_aliases` see a crate's data only through the import *set* and the
answers of the rename table -/
theorem check_congr (r r' : Renames) (c : Str) (d d' : ParsedData) (he : DataEq d d') (hr : RenEquiv r r') :
    checkType c r d.importTypes = checkType c r' d'.importTypes ∧
    checkField c r d.importTypes = checkField c r' d'.importTypes ∧
    checkVariant c r d.importTypes = checkVariant c r' d'.importTypes := by
  have hres : ∀ id, resolveRenamed c r d.importTypes id = resolveRenamed c r' d'.importTypes id := fun id =>
    (MinByKey.resolve_congr_mem c r _ _ id he.imports).trans (resolve_equiv r r' hr c _ id)
  have hct : checkType c r d.importTypes = checkType c r' d'.importTypes := funext (checkType_congr hres)
  have hcf : checkField c r d.importTypes = checkField c r' d'.importTypes := by
    funext f; simp only [checkField, hct]
  refine ⟨hct, hcf, ?_⟩
  funext v
  cases v with
  | unit i cs => rfl
  | tuple i cs ty => simp only [checkVariant, hct]
  | anonymousStruct i cs fs => simp only [checkVariant, hcf]

theorem reconcileOne_recEq (r r' : Renames) (c : Str) (d d' : ParsedData) (he : DataEq d d')
    (hr : RenEquiv r r')
    (hty : (d.structs.map (·.id.original) ++ d.enums.map (·.id.original) ++ d.aliases.map (·.id.original)).Nodup)
    (hco : (d.consts.map (·.id.original)).Nodup) :
    RecEq (c, reconcileOne r c d) (c, reconcileOne r' c d') := by
  obtain ⟨hct, hcf, hcv⟩ := check_congr r r' c d d' he hr
  have hS : (d.structs.map (·.id.original)).Nodup := (List.nodup_append.1 (List.nodup_append.1 hty).1).1
  have hE : (d.enums.map (·.id.original)).Nodup := (List.nodup_append.1 (List.nodup_append.1 hty).1).2.1
  have hA : (d.aliases.map (·.id.original)).Nodup := (List.nodup_append.1 hty).2.1
  refine ⟨rfl, ?_, ?_, ?_, ?_, he.crateName, he.fileName, he.multiFile, he.imports, he.typeNames, he.errors⟩
  · simp only [reconcileOne, hcf]
    apply Order.sortBy_perm_invariant _ _ _ (he.structs.map _)
    rw [List.map_map]; exact hS
  · simp only [reconcileOne, hcv]
    apply Order.sortBy_perm_invariant _ _ _ (he.enums.map _)
    rw [List.map_map]; exact hE
  · simp only [reconcileOne, hct]
    apply Order.sortBy_perm_invariant _ _ _ (he.aliases.map _)
    rw [List.map_map]; exact hA
  · simp only [reconcileOne]
    exact Order.sortBy_perm_invariant _ _ _ he.consts hco

theorem reconcile_eq (m : List (Str × ParsedData)) :
    reconcile m = m.map fun p => (p.1, reconcileOne (collectSerdeRenames m) p.1 p.2) := rfl

/-- **`reconcile` on equivalent maps**: with distinct names per crate the reconciled crates agree on everything
that is read afterwards (whatever is imported from wherever) -/
theorem reconcile_mapEq {m m' : List (Str × ParsedData)} (h : MapEq m m') (wf : MapWF m) :
    C01.Forall₂ RecEq (reconcile m) (reconcile m') := by
  rw [reconcile_eq, reconcile_eq]
  refine C01.Forall₂.map_left_iff.2 (C01.Forall₂.map_right_iff.2 ((rel₂_iff.1 h).imp_mem fun p hp q _ hpq => ?_))
  have := reconcileOne_recEq (collectSerdeRenames m) (collectSerdeRenames m') p.1 p.2 q.2 hpq.2
    (renEquiv_of_mapEq h wf) (wf.types p hp) (wf.consts p hp)
  rw [← hpq.1]
  exact this

theorem allTypes_reconcile (m : List (Str × ParsedData)) : allTypes (reconcile m) = allTypes m := by
  rw [reconcile_eq]
  unfold allTypes
  rw [List.map_map]
  rfl

/-- `reconcile_aliases` does not touch the error lists -/
theorem allErrors_reconcile (m : List (Str × ParsedData)) : allErrors (reconcile m) = allErrors m := by
  unfold allErrors
  rw [reconcile_eq, List.flatMap_map]
  rfl

end TsV.C06M
