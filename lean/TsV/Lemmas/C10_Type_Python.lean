import TsV.Lemmas.C10_Type
import TsV.Lemmas.C10_Files_PyLex
import TsV.Model.Lang.Python
/-!
# C10, Python — the neutral pieces of the Python automaton contain every printed type
-/
namespace TsV.C10Files.Py
open TsV TsV.Lang TsV.C10Lex TsV.C05L

theorem nbp_closed : TypeClosed NBp where
  nil := NBp.nil
  append := NBp.append
  square := NBp.square
  angle := fun h => Tr.l0.hp h |>.l.nbp (by decide +kernel)
  key := KeyStr.nbp
  nat := natToStr_nbp
  mark := fun c hc => by
    have table : ∀ c ∈ [',', ' ', '?', '*', ':'], C10LexPy.wellBracketedPy [c] = true := by decide +kernel
    exact nbp_of_wb (table c hc)
  prim := fun L p n h => by
    have table : ∀ L ∈ allLangs, ∀ p ∈ allPrims,
        (match primTarget L p with | .ok n => C10LexPy.wellBracketedPy n | _ => true) = true := by decide +kernel
    have hn := table L (mem_allLangs L) p (mem_allPrims p)
    rw [h] at hn
    exact nbp_of_wb hn

/-- the text half of `formatType_ok`, from the translation -/
theorem formatType_nbp {cfg : Python.Cfg} (H : ∀ p ∈ cfg.typeMappings, C10LexPy.wellBracketedPy p.2 = true)
    (gens : List Str) (t : RustType) (st : Python.St) (s : Str) (st' : Python.St) (ht : TypeOk t)
    (h : Python.formatType cfg gens t st = .ok (s, st')) : NBp s :=
  text_closed nbp_closed .python (c := tcfgPy cfg)
    ⟨fun _ h => (by cases h), fun hm => let ⟨p, hp, e⟩ := mapGet_mem hm; e ▸ nbp_of_wb (H p hp)⟩ gens ht
    (py_formatType cfg gens t st) h

end TsV.C10Files.Py
