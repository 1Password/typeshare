import TsV.Lemmas.C05_Inj
/-!
# C05 — unique readability of Go type expressions

Go's grammar is prefix: `[]T`, `[n]T`, `*T`, `map[K]V`, `Name[A, B]`.
-/
namespace TsV.C05L.InjGo
open TsV TsV.C05L.Inj

inductive Mark where
  | slice | ptr | arr (n : Nat)
deriving DecidableEq

inductive GTm where
  | leaf (n : Str)
  | app (n : Str) (a : GTm) (as : List GTm)
  | mp (k v : GTm)
  | pre (m : Mark) (t : GTm)
deriving Inhabited

def kwGoMap : Str := s%"map"

def renderMark : Mark → Str
  | .slice => s%"[]"
  | .ptr => s%"*"
  | .arr n => '[' :: (Str.natToStr n ++ s%"]")

mutual
  def render : GTm → Str
    | .leaf n => n
    | .app n a as => n ++ '[' :: (render a ++ (renderTail as ++ [']']))
    | .mp k v => 'm' :: 'a' :: 'p' :: '[' :: (render k ++ ']' :: render v)
    | .pre m t => renderMark m ++ render t
  def renderTail : List GTm → Str
    | [] => []
    | t :: ts => ',' :: ' ' :: (render t ++ renderTail ts)
end

mutual
  def WFg : GTm → Prop
    | .leaf n => NameOK n
    | .app n a as => NameOK n ∧ n ≠ kwGoMap ∧ WFg a ∧ WFgs as
    | .mp k v => WFg k ∧ WFg v
    | .pre _ t => WFg t
  def WFgs : List GTm → Prop
    | [] => True
    | t :: ts => WFg t ∧ WFgs ts
end

/-- a rest that follows a complete Go type: empty, `,` or `]` -/
def StopG (r : Str) : Prop := ∀ ch rest, r = ch :: rest → ch = ',' ∨ ch = ']'

theorem stopG_spHead (r : Str) (h : StopG r) : SpHead r := by
  intro ch rest e
  rcases h ch rest e with rfl | rfl <;> rfl

theorem stopG_comma (X : Str) : StopG (',' :: X) := by
  intro c rest e; simp only [List.cons.injEq] at e; exact .inl e.1.symm

theorem stopG_rb (X : Str) : StopG (']' :: X) := by
  intro c rest e; simp only [List.cons.injEq] at e; exact .inr e.1.symm

theorem stopG_tail (as : List GTm) (X : Str) : StopG (renderTail as ++ ']' :: X) := by
  cases as with
  | nil => simpa [renderTail] using stopG_rb X
  | cons t ts => simpa [renderTail] using stopG_comma _

theorem natToStr_digits (n : Nat) : ∀ ch ∈ Str.natToStr n, ch.isDigit = true := by
  intro ch h
  unfold Str.natToStr at h
  have : (toString n) = String.ofList (Nat.toDigits 10 n) := Nat.toString_eq_ofList_toDigits
  rw [this] at h
  simp only [String.toList_ofList] at h
  exact Nat.isDigit_of_mem_toDigits (by decide) (by decide) h

theorem natToStr_inj (n m : Nat) (h : Str.natToStr n = Str.natToStr m) : n = m := by
  unfold Str.natToStr at h
  have e1 : (toString n) = String.ofList (Nat.toDigits 10 n) := Nat.toString_eq_ofList_toDigits
  have e2 : (toString m) = String.ofList (Nat.toDigits 10 m) := Nat.toString_eq_ofList_toDigits
  rw [e1, e2] at h
  simp only [String.toList_ofList] at h
  have := congrArg (fun l => Nat.ofDigitChars 10 l 0) h
  simpa [Nat.ofDigitChars_ten_toDigits] using this

theorem natToStr_ne_nil (n : Nat) : Str.natToStr n ≠ [] := by
  unfold Str.natToStr
  have : (toString n) = String.ofList (Nat.toDigits 10 n) := Nat.toString_eq_ofList_toDigits
  rw [this]
  simp [Nat.toDigits_ne_nil]

/-- the first character of a rendering: a name character, `[` or `*` -/
theorem name_head {n : Str} (hn : NameOK n) : ∃ c t, n = c :: t ∧ special c = false := by
  obtain ⟨hne, hsp⟩ := hn
  cases n with
  | nil => exact absurd rfl hne
  | cons c t => exact ⟨c, t, rfl, hsp c (by simp)⟩

theorem mark_head (m : Mark) : ∃ c t, renderMark m = c :: t ∧ special c = true := by
  cases m with
  | slice => exact ⟨'[', _, rfl, rfl⟩
  | ptr => exact ⟨'*', _, rfl, rfl⟩
  | arr n => exact ⟨'[', _, rfl, rfl⟩

/-- a name does not begin like a prefix mark -/
theorem name_ne_mark {n : Str} (hn : NameOK n) (m : Mark) (X Y : Str) : n ++ X ≠ renderMark m ++ Y := by
  obtain ⟨c, t, rfl, hs⟩ := name_head hn
  obtain ⟨c', t', hc', hs'⟩ := mark_head m
  intro h
  rw [hc'] at h
  rw [(List.cons.inj h).1, hs'] at hs
  cases hs

theorem map_nameOK : NameOK kwGoMap := by decide

theorem render_mp (k v : GTm) (r : Str) :
    render (.mp k v) ++ r = kwGoMap ++ '[' :: (render k ++ ']' :: (render v ++ r)) := by
  simp [render, kwGoMap]

/-- a length is written with digits: it does not begin with `]` -/
theorem natToStr_ne_rb (n : Nat) (X Y : Str) : Str.natToStr n ++ X ≠ ']' :: Y := by
  have hd := natToStr_digits n
  cases hn : Str.natToStr n with
  | nil => exact absurd hn (natToStr_ne_nil n)
  | cons d ds =>
    intro h
    rw [hn] at hd
    have := hd d List.mem_cons_self
    rw [(List.cons.inj h).1] at this
    cases this

mutual
theorem urG : ∀ (a b : GTm) (r1 r2 : Str), WFg a → WFg b → StopG r1 → StopG r2 →
    render a ++ r1 = render b ++ r2 → a = b ∧ r1 = r2
  | .leaf n, b, r1, r2, ha, hb, h1, h2, h => by
    have hn : NameOK n := by simpa [WFg] using ha
    cases b with
    | leaf n' =>
      have hn' : NameOK n' := by simpa [WFg] using hb
      simp only [render] at h
      obtain ⟨rfl, rfl⟩ := name_split n n' _ _ hn.2 hn'.2 (stopG_spHead _ h1) (stopG_spHead _ h2) h
      exact ⟨rfl, rfl⟩
    | app n' a' as' =>
      simp only [WFg] at hb
      simp only [render, List.append_assoc, List.cons_append] at h
      obtain ⟨_, e⟩ := name_split n n' _ _ hn.2 hb.1.2 (stopG_spHead _ h1) (spHead_cons '[' rfl _) h
      rcases h1 _ _ e with h | h <;> simp at h
    | mp k' v' =>
      rw [render_mp] at h
      simp only [render] at h
      obtain ⟨_, e⟩ := name_split n kwGoMap _ _ hn.2 map_nameOK.2 (stopG_spHead _ h1) (spHead_cons '[' rfl _) h
      rcases h1 _ _ e with h | h <;> simp at h
    | pre m t =>
      simp only [render, List.append_assoc] at h
      exact absurd h (name_ne_mark hn m _ _)
  | .app n a as, b, r1, r2, ha, hb, h1, h2, h => by
    simp only [WFg] at ha
    obtain ⟨hn, hnm, hwa, hwas⟩ := ha
    cases b with
    | leaf n' =>
      have hn' : NameOK n' := by simpa [WFg] using hb
      simp only [render, List.append_assoc, List.cons_append] at h
      obtain ⟨_, e⟩ := name_split n n' _ _ hn.2 hn'.2 (spHead_cons '[' rfl _) (stopG_spHead _ h2) h
      rcases h2 _ _ e.symm with h | h <;> simp at h
    | app n' a' as' =>
      simp only [WFg] at hb
      obtain ⟨hn', _, hwa', hwas'⟩ := hb
      simp only [render, List.append_assoc, List.cons_append] at h
      obtain ⟨rfl, e⟩ := name_split n n' _ _ hn.2 hn'.2 (spHead_cons '[' rfl _) (spHead_cons '[' rfl _) h
      simp only [List.cons.injEq, true_and] at e
      obtain ⟨rfl, e2⟩ := urG a a' _ _ hwa hwa' (stopG_tail as _) (stopG_tail as' _) e
      obtain ⟨rfl, rfl⟩ := urGTail as as' _ _ hwas hwas' e2
      exact ⟨rfl, rfl⟩
    | mp k' v' =>
      rw [render_mp] at h
      simp only [render, List.append_assoc, List.cons_append] at h
      obtain ⟨e, _⟩ := name_split n kwGoMap _ _ hn.2 map_nameOK.2 (spHead_cons '[' rfl _) (spHead_cons '[' rfl _) h
      exact absurd e hnm
    | pre m t =>
      simp only [render, List.append_assoc] at h
      exact absurd h (name_ne_mark hn m _ _)
  | .mp k v, b, r1, r2, ha, hb, h1, h2, h => by
    simp only [WFg] at ha
    have hthis := render_mp k v r1
    cases b with
    | leaf n' =>
      have hn' : NameOK n' := by simpa [WFg] using hb
      rw [hthis] at h
      simp only [render] at h
      obtain ⟨_, e⟩ := name_split kwGoMap n' _ _ map_nameOK.2 hn'.2 (spHead_cons '[' rfl _) (stopG_spHead _ h2) h
      rcases h2 _ _ e.symm with h | h <;> simp at h
    | app n' a' as' =>
      simp only [WFg] at hb
      rw [hthis] at h
      simp only [render, List.append_assoc, List.cons_append] at h
      obtain ⟨e, _⟩ := name_split kwGoMap n' _ _ map_nameOK.2 hb.1.2 (spHead_cons '[' rfl _) (spHead_cons '[' rfl _) h
      exact absurd e.symm hb.2.1
    | mp k' v' =>
      simp only [WFg] at hb
      simp only [render, List.append_assoc, List.cons_append, List.cons.injEq, true_and] at h
      obtain ⟨rfl, e⟩ := urG k k' _ _ ha.1 hb.1 (stopG_rb _) (stopG_rb _) h
      simp only [List.cons.injEq, true_and] at e
      obtain ⟨rfl, rfl⟩ := urG v v' r1 r2 ha.2 hb.2 h1 h2 e
      exact ⟨rfl, rfl⟩
    | pre m t =>
      rw [hthis] at h
      simp only [render, List.append_assoc] at h
      exact absurd h (name_ne_mark map_nameOK m _ _)
  | .pre m t, b, r1, r2, ha, hb, h1, h2, h => by
    simp only [WFg] at ha
    cases b with
    | leaf n' =>
      have hn' : NameOK n' := by simpa [WFg] using hb
      simp only [render, List.append_assoc] at h
      exact absurd h.symm (name_ne_mark hn' m _ _)
    | app n' a' as' =>
      simp only [WFg] at hb
      simp only [render, List.append_assoc, List.cons_append] at h
      exact absurd h.symm (name_ne_mark hb.1 m _ _)
    | mp k' v' =>
      rw [render_mp] at h
      simp only [render, List.append_assoc] at h
      exact absurd h.symm (name_ne_mark map_nameOK m _ _)
    | pre m' t' =>
      simp only [WFg] at hb
      simp only [render, List.append_assoc] at h
      cases m with
      | slice =>
        cases m' with
        | slice =>
          simp only [renderMark, List.cons_append, List.nil_append, List.cons.injEq, true_and] at h
          obtain ⟨rfl, rfl⟩ := urG t t' r1 r2 ha hb h1 h2 h
          exact ⟨rfl, rfl⟩
        | ptr => simp [renderMark] at h
        | arr n' =>
          simp only [renderMark, List.cons_append, List.nil_append, List.cons.injEq, true_and, List.append_assoc] at h
          exact absurd h.symm (natToStr_ne_rb n' _ _)
      | ptr =>
        cases m' with
        | slice => simp [renderMark] at h
        | ptr =>
          simp only [renderMark, List.cons_append, List.nil_append, List.cons.injEq, true_and] at h
          obtain ⟨rfl, rfl⟩ := urG t t' r1 r2 ha hb h1 h2 h
          exact ⟨rfl, rfl⟩
        | arr n' => simp [renderMark] at h
      | arr n =>
        cases m' with
        | slice =>
          simp only [renderMark, List.cons_append, List.nil_append, List.cons.injEq, true_and, List.append_assoc] at h
          exact absurd h (natToStr_ne_rb n _ _)
        | ptr => simp [renderMark] at h
        | arr n' =>
          simp only [renderMark, List.cons_append, List.nil_append, List.cons.injEq, true_and, List.append_assoc] at h
          obtain ⟨e, e2⟩ := span_split Char.isDigit (Str.natToStr n) (Str.natToStr n') _ _ (natToStr_digits n)
            (natToStr_digits n') (by intro ch rest e; simp only [List.cons.injEq] at e; rw [← e.1]; decide)
            (by intro ch rest e; simp only [List.cons.injEq] at e; rw [← e.1]; decide) h
          obtain rfl := natToStr_inj n n' e
          simp only [List.cons.injEq, true_and] at e2
          obtain ⟨rfl, rfl⟩ := urG t t' r1 r2 ha hb h1 h2 e2
          exact ⟨rfl, rfl⟩
theorem urGTail : ∀ (as bs : List GTm) (X1 X2 : Str), WFgs as → WFgs bs →
    renderTail as ++ ']' :: X1 = renderTail bs ++ ']' :: X2 → as = bs ∧ X1 = X2
  | [], [], X1, X2, _, _, h => by simpa [renderTail] using h
  | [], b :: bs, X1, X2, _, _, h => by simp [renderTail] at h
  | a :: as, [], X1, X2, _, _, h => by simp [renderTail] at h
  | a :: as, b :: bs, X1, X2, ha, hb, h => by
    simp only [WFgs] at ha hb
    simp only [renderTail, List.cons_append, List.append_assoc, List.cons.injEq, true_and] at h
    obtain ⟨rfl, e⟩ := urG a b _ _ ha.1 hb.1 (stopG_tail as _) (stopG_tail bs _) h
    obtain ⟨rfl, rfl⟩ := urGTail as bs X1 X2 ha.2 hb.2 e
    exact ⟨rfl, rfl⟩
end

theorem renderG_inj (a b : GTm) (ha : WFg a) (hb : WFg b) (h : render a = render b) : a = b := by
  have := urG a b [] [] ha hb (by intro _ _ e; cases e) (by intro _ _ e; cases e) (by simpa using h)
  exact this.1

end TsV.C05L.InjGo
