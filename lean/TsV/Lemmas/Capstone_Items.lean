import TsV.Lemmas.Capstone_Run
/-!
# Capstone — the per-item clauses, stated once for all back ends

`StructClauses` / `EnumClauses` package what C01, C02, C04 and C05 say about the declaration(s) a back
end generated for *one source item*, in terms of the source (`syn`) item: they are conjunctions of the
conclusions of those theorems, parametrised by what a back end has to supply — the keys its fact records
bind (`C01.structKeys` / `C01.enumKeys`), the reading of one field record per C04's binding semantics
(`Reads`), and the wire record of C02 (`EnumWire`).  `struct_clauses` / `enum_clauses` prove them from the
individual theorems; the per-language files only have to produce the fact records from `writeItem … = .ok b`.
-/
namespace TsV.Cap
open TsV TsV.Syn TsV.Parser TsV.Pipeline TsV.Generate TsV.C03E TsV.Lang TsV.Outcome TsV.C05L

/-! ## C05 behind C04's `Translates` -/

/-- Go's `write_field` passes every type text through `uppercase_acronyms`; the other back ends print the
translated text as it is -/
def acrOf (E : Ext) : LangCfg → Str → Outcome Str
  | .go cfg, raw => Go.acr E.U cfg raw
  | _, raw => .ok raw

/-- **C05 (i) applied to what C04 calls the translation**: the text is `show (translate …)` of the type
(for Go: followed by the acronym pass) -/
theorem translates_show (E : Ext) (gens : List Str) (t : RustType) (lc : LangCfg) (s : Str)
    (h : C04.Translates E gens t lc s) :
    ∃ raw, omap («show» (C05.langOf lc)) (translate (C05.langOf lc) (C05.tcfgOf lc) gens t) = .ok raw ∧
      acrOf E lc raw = .ok s := by
  cases lc with
  | typescript cfg =>
    obtain ⟨st, st', h⟩ := h
    have := C05.C05_compositional (.typescript cfg) { ts := st } gens t
    simp only [C05.formatText, h, omap_ok] at this
    exact ⟨s, this.symm, rfl⟩
  | kotlin cfg =>
    have := C05.C05_compositional (.kotlin cfg) {} gens t
    simp only [C05.formatText] at this
    have h' : Kotlin.formatType cfg gens t = .ok s := h
    rw [h'] at this
    exact ⟨s, this.symm, rfl⟩
  | swift cfg =>
    obtain ⟨st, st', h⟩ := h
    have := C05.C05_compositional (.swift cfg) { sw := st } gens t
    simp only [C05.formatText, h, omap_ok] at this
    exact ⟨s, this.symm, rfl⟩
  | scala cfg =>
    have := C05.C05_compositional (.scala cfg) {} gens t
    simp only [C05.formatText] at this
    have h' : Scala.formatType cfg gens t = .ok s := h
    rw [h'] at this
    exact ⟨s, this.symm, rfl⟩
  | go cfg =>
    obtain ⟨st, st', raw, h, hacr⟩ := h
    have := C05.C05_compositional (.go cfg) { go := st } gens t
    simp only [C05.formatText, h, omap_ok] at this
    exact ⟨raw, this.symm, hacr⟩
  | python cfg =>
    obtain ⟨st, st', h⟩ := h
    have := C05.C05_compositional (.python cfg) { py := st } gens t
    simp only [C05.formatText, h, omap_ok] at this
    exact ⟨s, this.symm, rfl⟩

/-! ## clause 3 (C04 + C05), one field -/

/-- what the declaration of one field says, seen from the source field `f`: it is marked optional (`o`)
exactly when the written type — after `serialized_as` — is `Option<_>` or `f` carries the bare
`serde(default)`; and its type text without the marker (`core`) is `show (translate …)` of the
`Option`-stripped type the back end received (Go: after the acronym pass) -/
def FieldOK (E : Ext) (lc : LangCfg) (gens : List Str) (f : Field) (rf' : RustField) (o : Bool) (core : Str) : Prop :=
  ∃ t, C04.effectiveType E f.attrs f.ty = some t ∧
    o = (C04.isOptionSyn t || C04.bareDefault f.attrs) ∧
    ∃ raw, omap («show» (C05.langOf lc)) (translate (C05.langOf lc) (C05.tcfgOf lc) gens (C04.stripOption rf'.ty)) = .ok raw ∧
      acrOf E lc raw = .ok core

/-- the fields of one declaration: source field, field the back end received, fact record — position by
position; `Reads p o core` is the back end's reading of the record per C04's binding semantics.  The
hypotheses are C04's scope (`InScope`) and known class. -/
def FieldsOK {γ : Type} (E : Ext) (lc : LangCfg) (ra : Option Str) (c : Str) (r : Renames) (gens : List Str)
    (Reads : γ → Bool → Str → Prop) (fs : List Field) (rfs' : List RustField) (facts : List γ) : Prop :=
  Forall₃ (fun f rf' p => FieldFrom E ra c r f rf' ∧
    (C04.InScope gens rf' lc → C04.Known_scalaDefaultNonOption lc rf' = false →
      ∃ o core, Reads p o core ∧ FieldOK E lc gens f rf' o core)) fs rfs' facts

theorem fieldOK_of {E : Ext} {lc : LangCfg} {ra : Option Str} {c : Str} {r : Renames} {gens : List Str}
    {f : Field} {rf' : RustField} {o : Bool} {core : Str}
    (hfrom : FieldFrom E ra c r f rf') (ho : o = C04.opt rf')
    (ht : C04.Translates E gens (C04.stripOption rf'.ty) lc core) : FieldOK E lc gens f rf' o core := by
  obtain ⟨t, ty, het, _, _, hopt, _, _⟩ := fieldFrom_opt hfrom
  exact ⟨t, het, by rw [ho, hopt], translates_show E gens _ lc core ht⟩

/-- what a back end has to supply for `FieldsOK`: C04's field clause on its records -/
theorem fieldsOK_of {γ : Type} {E : Ext} {lc : LangCfg} {ra : Option Str} {c : Str} {r : Renames} {gens : List Str}
    {Reads : γ → Bool → Str → Prop} {fs : List Field} {rfs' : List RustField} {facts : List γ}
    (hfrom : C01.Forall₂ (FieldFrom E ra c r) fs rfs')
    (hb : C04.Pointwise (fun rf' p => C04.InScope gens rf' lc → C04.Known_scalaDefaultNonOption lc rf' = false →
      ∃ o core, Reads p o core ∧ o = C04.opt rf' ∧ C04.Translates E gens (C04.stripOption rf'.ty) lc core) rfs' facts) :
    FieldsOK E lc ra c r gens Reads fs rfs' facts := by
  refine Forall₃.imp ?_ (Forall₃.mk₂ hfrom (forall₂_of_pointwise hb))
  rintro f rf' p ⟨hf, hp⟩
  refine ⟨hf, fun hs hk => ?_⟩
  obtain ⟨o, core, hr, ho, ht⟩ := hp hs hk
  exact ⟨o, core, hr, fieldOK_of hf ho ht⟩

/-! ## clauses 2 + 3 for a struct -/

/-- **a struct**: `keys` are the keys the generated declaration binds (C01's binding semantics applied to the
back end's fact records), `facts` the field records.
* C01: under C01's scope (`InScope`, `Distinct`) the keys are serde's keys of the kept source fields, in order;
* C04 + C05: `FieldsOK`. -/
def StructClauses {γ : Type} (E : Ext) (L : TsV.Lang) (lc : LangCfg) (targetOs : List Str) (c : Str) (r : Renames)
    (attrs : List Attr) (fs : List Field) (rs' : RustStruct) (keys : List Str)
    (Reads : γ → Bool → Str → Prop) (facts : List γ) : Prop :=
  ((∀ f ∈ C01.kept targetOs fs, C01.InScope E L (serdeRenameAll E attrs) f) → C01.Distinct L rs'.fields →
    C01.Forall₂ (C01.SerdeKey E (serdeRenameAll E attrs)) (C01.kept targetOs fs) keys) ∧
  FieldsOK E lc (serdeRenameAll E attrs) c r rs'.genericTypes Reads (C01.kept targetOs fs) rs'.fields facts

theorem struct_clauses {γ : Type} (E : Ext) (hU : E.U.AsciiCorrect) (L : TsV.Lang) (lc : LangCfg) (ctx : C01.Ctx L)
    (targetOs : List Str) (c : Str) (r : Renames) (attrs : List Attr) (ident : Str) (gens : List GenericParam)
    (fs : List Field) (rs : RustStruct) (keys : List Str) (Reads : γ → Bool → Str → Prop) (facts : List γ)
    (hparse : parseStruct E targetOs attrs ident gens (.named fs) = .ok (.struct rs))
    (hkeys : C01.structKeys E L ctx (recStruct c r rs) = .ok keys)
    (hb : C04.Pointwise (fun rf' p => C04.InScope (recStruct c r rs).genericTypes rf' lc →
      C04.Known_scalaDefaultNonOption lc rf' = false →
      ∃ o core, Reads p o core ∧ o = C04.opt rf' ∧
        C04.Translates E (recStruct c r rs).genericTypes (C04.stripOption rf'.ty) lc core)
      (recStruct c r rs).fields facts) :
    StructClauses E L lc targetOs c r attrs fs (recStruct c r rs) keys Reads facts :=
  ⟨fun hscope hd => (C01.C01 E hU L ctx targetOs).1 attrs ident gens fs rs (recStruct c r rs) keys hparse
      (recStruct_ids c r rs) hscope hd hkeys,
   fieldsOK_of (parseStruct_fieldsFrom E targetOs attrs ident gens fs rs c r hparse) hb⟩

/-! ## clauses 2 + 4 for an enum -/

/-- **an enum**: `kss` are the keys bound by the helper declarations of its struct variants (TypeScript: the
inline object types), `w` what the declaration says on the wire (C02's `EnumWire`).
* C01 (struct variants): under C01's scope the keys are serde's keys of the kept source fields of the
  kept struct variants, the rule being the *variant's* `rename_all`;
* C02: for a source enum in C02's scope (`InScopeSrc`) outside `C02.Known`, the cases are, in order, the
  kept source variants under serde's names, each a case of its own, and every printed tag / content key
  is the value of serde's `tag` / `content` attribute. -/
def EnumClauses (E : Ext) (L : TsV.Lang) (targetOs : List Str) (attrs : List Attr) (vs : List Variant)
    (e' : RustEnum) (acronyms : List Str) (kss : List (List Str)) (w : C02.EnumWire) : Prop :=
  ((∀ v ∈ vs.filter (fun v => !isSkipped v.attrs targetOs), ∀ fs, v.fields = .named fs →
      ∀ f ∈ C01.kept targetOs fs, C01.InScope E L (serdeRenameAll E v.attrs) f) →
    (∀ p ∈ structVariants e', C01.Distinct L p.2) →
    C01.Forall₂ (fun v ks => ∃ fs, v.fields = .named fs ∧
        C01.Forall₂ (C01.SerdeKey E (serdeRenameAll E v.attrs)) (C01.kept targetOs fs) ks)
      ((vs.filter fun v => !isSkipped v.attrs targetOs).filter C01.namedFields) kss) ∧
  (C02.InScopeSrc vs → ¬ C02.Known L E acronyms e' →
    w.cases.map (·.wire) =
      (vs.filter fun v => !isSkipped v.attrs targetOs).map (C02.variantName? E (serdeRenameAll E attrs)) ∧
    w.Distinct ∧
    ∀ k, ((C02.Role.tag, k) ∈ w.holes → getTagKey E attrs = some k) ∧
         ((C02.Role.content, k) ∈ w.holes → getContentKey E attrs = some k))

theorem enum_clauses (E : Ext) (hU : E.U.AsciiCorrect) (L : TsV.Lang) (ctx : C01.Ctx L)
    (targetOs : List Str) (c : Str) (r : Renames) (attrs : List Attr) (ident : Str) (gens : List GenericParam)
    (vs : List Variant) (e : RustEnum) (acronyms : List Str) (kss : List (List Str)) (w : C02.EnumWire)
    (hparse : parseEnum E targetOs attrs ident gens vs = .ok (.enum e))
    (hkeys : C01.enumKeys E L ctx (recEnum c r e) = .ok kss)
    (hw : C02.InScopeEnum (recEnum c r e) → ¬ C02.Known L E acronyms (recEnum c r e) → w.Correct (recEnum c r e)) :
    EnumClauses E L targetOs attrs vs (recEnum c r e) acronyms kss w := by
  refine ⟨fun hscope hd => (C01.C01 E hU L ctx targetOs).2 attrs ident gens vs e (recEnum c r e) kss hparse
      (recEnum_ids c r e) hscope hd hkeys, ?_⟩
  intro hsrc hk
  have hin := C02.C02_parse_inScope E hU targetOs attrs ident gens vs hsrc e hparse
  have hcorr := hw (recEnum_inScope c r e hin) hk
  have hc := correct_recEnum c r e w hcorr
  obtain ⟨h1, h2⟩ := C02.C02_end_to_end E hU targetOs attrs ident gens vs hsrc e hparse w hc
  exact ⟨h1, hc.distinct, h2⟩

end TsV.Cap
