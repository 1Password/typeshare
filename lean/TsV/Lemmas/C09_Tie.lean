import TsV.Lemmas.Lang.Scala
import TsV.Lemmas.Lang.Kotlin
import TsV.Lemmas.C09_Defs
import TsV.Lemmas.Lang.Go
import TsV.Lemmas.Lang.Python
import TsV.Lemmas.Printers
import TsV.Lemmas.Lang.TypeScript
import TsV.Lemmas.Lang.Swift
/-!
# C09 — the binding semantics tied to the fact records of the six back-end models

`tie_*` lemmas: the names `defName` / `innerDefName` give are the `name` fields of the declaration
records the models build, the spellings in `refs` are what the models' type printers produce at
`simple` leaves and at the heads of generic applications, and `parentRefs` / `innerRefs` are the
`parent` / payload fields of the case records.
-/
namespace TsV.C09
open TsV TsV.Pipeline TsV.Generate TsV.Lang

theorem tie_ts_simple (c : TypeScript.Cfg) (gens : List Str) (id : Str) (st : TypeScript.CustomMap) :
    TypeScript.formatType c gens (.simple id) st = .ok (spell (.typescript c) gens id, st) := rfl

theorem tie_ts_head (c : TypeScript.Cfg) (gens : List Str) (id : Str) (ps : List RustType)
    (st st' : TypeScript.CustomMap) (strs : List Str) (hm : mapGet c.typeMappings id = none)
    (hps : TypeScript.formatTypes c gens ps st = .ok (strs, st')) :
    TypeScript.formatType c gens (.generic id ps) st =
      .ok (spell (.typescript c) gens id ++ (if strs.isEmpty then [] else angle strs), st') := by
  -- the `generic` arm is a `match` on the mapping, then on the printed arguments; `whnf` exposes each
  -- in turn (unfolding the printer by its equations would derive them for all its arms first)
  show _ = Outcome.ok ((mapGet c.typeMappings id).getD id ++ _, st')
  conv => lhs; whnf
  rw [hm]
  conv => lhs; whnf
  rw [hps]

theorem tie_kotlin_simple (c : Kotlin.Cfg) (gens : List Str) (id : Str) :
    Kotlin.formatType c gens (.simple id) = .ok (spell (.kotlin c) gens id) := rfl

theorem tie_kotlin_head (c : Kotlin.Cfg) (gens : List Str) (id : Str) (ps : List RustType) (strs : List Str)
    (hm : mapGet c.typeMappings id = none) (hps : Kotlin.formatTypes c gens ps = .ok strs) :
    Kotlin.formatType c gens (.generic id ps) =
      .ok (spell (.kotlin c) gens id ++ (if strs.isEmpty then [] else angle strs)) := by
  conv => lhs; whnf
  rw [hm]
  conv => lhs; whnf
  rw [hps]
  rfl

theorem tie_swift_simple (c : Swift.Cfg) (gens : List Str) (id : Str) (st : Swift.St) :
    Swift.formatType c gens (.simple id) st = .ok (spell (.swift c) gens id, st) := rfl

theorem tie_swift_head (c : Swift.Cfg) (gens : List Str) (id : Str) (ps : List RustType) (st st' : Swift.St)
    (strs : List Str) (hm : mapGet c.typeMappings id = none)
    (hps : Swift.formatTypes c gens ps st = .ok (strs, st')) :
    Swift.formatType c gens (.generic id ps) st =
      .ok (spell (.swift c) gens id ++ (if strs.isEmpty then [] else angle strs), st') := by
  conv => lhs; whnf
  rw [hm]
  conv => lhs; whnf
  rw [hps]
  rfl

theorem tie_scala_simple (c : Scala.Cfg) (gens : List Str) (id : Str) :
    Scala.formatType c gens (.simple id) = .ok (spell (.scala c) gens id) := rfl

theorem tie_scala_head (c : Scala.Cfg) (gens : List Str) (id : Str) (ps : List RustType) (strs : List Str)
    (hm : mapGet c.typeMappings id = none) (hps : Scala.formatTypes c gens ps = .ok strs) :
    Scala.formatType c gens (.generic id ps) =
      .ok (spell (.scala c) gens id ++ (if strs.isEmpty then [] else Scala.bracket strs)) := by
  show _ = Outcome.ok ((mapGet c.typeMappings id).getD id ++ _)
  conv => lhs; whnf
  rw [hm]
  conv => lhs; whnf
  rw [hps]

theorem tie_go_simple (c : Go.Cfg) (gens : List Str) (id : Str) (st : Go.Imports) :
    Go.formatType c (.simple id) st = .ok (spell (.go c) gens id, st) := rfl

theorem tie_go_head (c : Go.Cfg) (gens : List Str) (id : Str) (ps : List RustType) (st st' : Go.Imports)
    (strs : List Str) (hm : mapGet c.typeMappings id = none) (hps : Go.formatTypes c ps st = .ok (strs, st')) :
    Go.formatType c (.generic id ps) st =
      .ok (spell (.go c) gens id ++ (if strs.isEmpty then [] else Go.bracket strs), st') := by
  show _ = Outcome.ok ((mapGet c.typeMappings id).getD id ++ _, st')
  conv => lhs; whnf
  rw [hm]
  conv => lhs; whnf
  rw [hps]

theorem tie_python_simple (c : Python.Cfg) (gens : List Str) (id : Str) (st : Python.St) :
    Python.formatType c gens (.simple id) st = .ok (spell (.python c) gens id, Python.addImports st id) := rfl

theorem tie_python_head (c : Python.Cfg) (gens : List Str) (id : Str) (ps : List RustType) (st st' : Python.St)
    (strs : List Str) (hm : mapGet c.typeMappings id = none)
    (hps : Python.formatTypes c gens ps (Python.addImports st id) = .ok (strs, st')) :
    Python.formatType c gens (.generic id ps) st =
      .ok (spell (.python c) gens id ++ Python.bracketSuffix strs, Python.addImports st' id) := by
  conv => lhs; whnf
  rw [hm]
  conv => lhs; whnf
  rw [hps]
  rfl

/-- the name a Kotlin declaration binds -/
def ktName : Kotlin.KtDecl → Str
  | .typeAlias _ n _ _ => n
  | .valueClass _ n _ _ => n
  | .object _ n => n
  | .dataClass _ n _ _ _ => n
  | .enumClass _ n _ _ => n
  | .sealedClass _ n _ _ => n

theorem tie_kotlin_struct (c : Kotlin.Cfg) (s : RustStruct) (d : Kotlin.KtDecl)
    (h : Kotlin.structFacts c s = .ok d) : ktName d = defName (.kotlin c) (.struct s) := by
  obtain ⟨-, rfl⟩ | ⟨-, ps, -, rfl⟩ := Kotlin.structFacts_inv h <;> rfl

theorem tie_kotlin_alias (c : Kotlin.Cfg) (a : RustTypeAlias) (d : Kotlin.KtDecl)
    (h : Kotlin.aliasFacts c a = .ok d) : ktName d = defName (.kotlin c) (.alias a) := by
  obtain ⟨-, p, -, rfl⟩ | ⟨-, ty, -, rfl⟩ := Kotlin.aliasFacts_inv h <;> rfl

/-- the helper data classes come first, under `innerDefName`, the enum's own class last, under `defName` -/
theorem tie_kotlin_enum (c : Kotlin.Cfg) (e : RustEnum) (ds : List Kotlin.KtDecl)
    (h : Kotlin.enumFacts c e = .ok ds) :
    ds.map ktName = ((structVariants e).filterMap fun p => innerDefName (.kotlin c) e p.1.original) ++
      [defName (.kotlin c) (.enum e)] := by
  obtain ⟨inners, d, hi, hd, rfl⟩ := Kotlin.enumFacts_inv h
  have hd : ktName d = defName (.kotlin c) (.enum e) := by cases hd <;> rfl
  have hnames : ((structVariants e).filterMap fun p => innerDefName (.kotlin c) e p.1.original) =
      (structVariants e).map fun p => c.pfx ++ (e.id.renamed ++ p.1.original ++ innerSuffix) :=
    congrFun List.filterMap_eq_map' _
  rw [List.map_append, List.map_singleton, hd, hnames,
    Outcome.mapM'_map _ ktName _ (fun p d h => tie_kotlin_struct c _ d h) _ _ (Kotlin.innerStructs_inv hi)]
  rfl

/-- every case of a Kotlin sealed class names `parentRefs` as its super class, and a struct variant's
content has the type `innerRefs` -/
theorem tie_kotlin_case (c : Kotlin.Cfg) (e : RustEnum) (kc : Str × Str) (hk : e.keys = some kc) (key : Str)
    (v : RustEnumVariant) (k : Kotlin.KtCase) (h : Kotlin.caseFacts c e key v = .ok k) :
    parentRefs (.kotlin c) e = [⟨k.parent, .parent e.id.original, false⟩] ∧
    ∀ id cs fs, v = .anonymousStruct id cs fs →
      ∃ gs : Str × Str, k.payload = .inner key gs.1 gs.2 ∧
        innerRefs (.kotlin c) e id.original = [⟨gs.1, .inner e.id.original id.original, false⟩] := by
  have hp : parentRefs (.kotlin c) e = [⟨c.pfx ++ e.id.renamed, .parent e.id.original, false⟩] := by
    unfold parentRefs; rw [hk]
  obtain ⟨pl, hpl, rfl⟩ := Kotlin.caseFacts_inv h
  refine ⟨hp, fun id cs fs hv => ?_⟩
  subst hv
  cases hpl
  exact ⟨(_, _), rfl, rfl⟩

theorem tie_scala_struct (c : Scala.Cfg) (s : RustStruct) (d : Scala.ScClass)
    (h : Scala.classFacts c s = .ok d) : d.name = defName (.scala c) (.struct s) := by
  obtain ⟨ps, -, rfl⟩ := Outcome.of_bind_ret h
  rfl

theorem tie_scala_alias (c : Scala.Cfg) (a : RustTypeAlias) (d : Scala.ScAlias)
    (h : Scala.aliasFacts c a = .ok d) : d.name = defName (.scala c) (.alias a) := by
  obtain ⟨ty, -, rfl⟩ := Outcome.of_bind_ret h
  rfl

theorem tie_scala_enum (c : Scala.Cfg) (e : RustEnum) (d : Scala.ScEnum)
    (h : Scala.enumFacts c e = .ok d) :
    d.name = defName (.scala c) (.enum e) ∧
    d.inner.map (·.name) = (structVariants e).filterMap fun p => innerDefName (.scala c) e p.1.original := by
  obtain ⟨inner, cases', hi, -, rfl⟩ := Scala.enumFacts_inv h
  exact ⟨rfl, (Outcome.mapM'_map _ (·.name) (fun p => e.id.renamed ++ p.1.original ++ innerSuffix)
    (fun p b hb => tie_scala_struct c _ b hb) _ _ hi).trans (congrFun List.filterMap_eq_map' _).symm⟩

theorem tie_scala_case (c : Scala.Cfg) (e : RustEnum) (v : RustEnumVariant) (k : Scala.ScCase)
    (h : Scala.caseFacts c e v = .ok k) :
    parentRefs (.scala c) e = [⟨k.parent, .parent e.id.original, false⟩] ∧
    ∀ kc, e.keys = some kc → ∀ id cs fs, v = .anonymousStruct id cs fs →
      ∃ g, k.content = some (e.genericTypes, kc.2, (e.id.renamed ++ id.original ++ innerSuffix) ++ g) ∧
        innerRefs (.scala c) e id.original =
          [⟨e.id.renamed ++ id.original ++ innerSuffix, .inner e.id.original id.original, false⟩] := by
  have hp : parentRefs (.scala c) e = [⟨e.id.renamed, .parent e.id.original, false⟩] := by
    unfold parentRefs; cases e.keys <;> rfl
  cases Scala.caseFacts_inv h with
  | unit hk => exact ⟨hp, fun kc hkc => nomatch hk.symm.trans hkc⟩
  | algebraic hk hc =>
    refine ⟨hp, fun kc' hkc id cs' fs' hv => ?_⟩
    subst hv
    obtain rfl := Option.some.inj (hk.symm.trans hkc)
    cases hc
    exact ⟨_, rfl, rfl⟩

/-! ## Swift (names are printed inside back-ticks when they are Swift keywords: `kw`) -/

theorem tie_swift_struct (U : UnicodeOps) (c : Swift.Cfg) (s : RustStruct) (st st' : Swift.St) (d : Swift.SwiftStruct)
    (h : Swift.structFacts U c s st = .ok (d, st')) : d.name = Swift.kw (defName (.swift c) (.struct s)) := by
  obtain ⟨_, _, _, _, _, rfl⟩ := Swift.structFacts_ok h
  rfl

theorem tie_swift_alias (U : UnicodeOps) (c : Swift.Cfg) (a : RustTypeAlias) (st st' : Swift.St) (txt : Str)
    (h : Swift.writeAlias U c a st = .ok (txt, st')) :
    ∃ ty, txt = nl ++ Swift.comments U 0 a.comments ++ s%"public typealias " ++
      Swift.kw (defName (.swift c) (.alias a)) ++ genericSuffix a.genericTypes ++ s%" = " ++ ty ++ nl := by
  obtain ⟨ty, _, rfl⟩ := Swift.writeAlias_ok.1 h
  exact ⟨ty, rfl⟩

/-- `anonymousStructs` works variant by variant, threading the state -/
theorem swift_anonymousStructs_map {γ : Type} (U : UnicodeOps) (c : Swift.Cfg) (e : RustEnum)
    (P : Swift.SwiftStruct → γ) (Q : Id × List RustField → γ)
    (hf : ∀ p st d st', Swift.structFacts U c
      (anonymousStruct e (Swift.anonymousStructName e p.1.original) p.1.original p.2) st = .ok (d, st') → P d = Q p)
    (vs : List (Id × List RustField)) (st st' : Swift.St) (ds : List Swift.SwiftStruct)
    (h : Swift.anonymousStructs U c e vs st = .ok (ds, st')) : ds.map P = vs.map Q :=
  Outcome.thread_map (fun _ => rfl) (fun _ _ _ => rfl) P Q hf h

theorem swift_anon_names (U : UnicodeOps) (c : Swift.Cfg) (e : RustEnum) :
    ∀ (vs : List (Id × List RustField)) (st st' : Swift.St) (ds : List Swift.SwiftStruct),
      Swift.anonymousStructs U c e vs st = .ok (ds, st') →
      ds.map (·.name) = vs.map fun p => Swift.kw (c.pfx ++ Swift.anonymousStructName e p.1.original) :=
  swift_anonymousStructs_map U c e _ _ fun _ st d st' h => tie_swift_struct U c _ st st' d h

theorem tie_swift_enum (U : UnicodeOps) (c : Swift.Cfg) (e : RustEnum) (st st' : Swift.St)
    (ss : List Swift.SwiftStruct) (d : Swift.SwiftEnum) (h : Swift.enumFacts U c e st = .ok (ss, d, st')) :
    d.name = Swift.kw (defName (.swift c) (.enum e)) ∧
    ss.map (·.name) = ((structVariants e).filterMap fun p => innerDefName (.swift c) e p.1.original).map Swift.kw := by
  obtain ⟨st1, _, hs, _, rfl⟩ := Swift.enumFacts_ok h
  refine ⟨rfl, ?_⟩
  rw [swift_anon_names U c e _ _ _ _ hs,
    show ((structVariants e).filterMap fun p => innerDefName (.swift c) e p.1.original) = _ from
      congrFun List.filterMap_eq_map' _, List.map_map]
  rfl

/-- the payload of a struct variant's case is the helper struct's name (plus its generic arguments) -/
theorem tie_swift_case {U : UnicodeOps} (c : Swift.Cfg) (e : RustEnum) (id : Id) (cs : List Str) (fs : List RustField)
    (st st' : Swift.St) (k : Swift.EnumCase)
    (h : Swift.algebraicCase U c e (.anonymousStruct id cs fs) st = .ok (k, st')) :
    ∃ g, k.payload = some ⟨c.pfx ++ Swift.anonymousStructName e id.original ++ g, false⟩ ∧
      innerRefs (.swift c) e id.original =
        [⟨c.pfx ++ Swift.anonymousStructName e id.original, .inner e.id.original id.original, false⟩] := by
  unfold Swift.algebraicCase at h
  cases h
  exact ⟨_, rfl, rfl⟩

/-! ## Go, without `uppercase_acronyms` -/

theorem tie_go_struct (U : UnicodeOps) (c : Go.Cfg) (hc : c.uppercaseAcronyms = []) (s : RustStruct)
    (st st' : Go.Imports) (d : Go.GoStruct) (h : Go.structFacts U c s st = .ok (d, st')) :
    d.name = defName (.go c) (.struct s) := by
  obtain ⟨_, _, hn, _, rfl⟩ := Go.structFacts_inv h
  rw [Go.acr_nil U c hc] at hn
  exact (Outcome.ok.inj hn).symm

theorem tie_go_alias (U : UnicodeOps) (c : Go.Cfg) (hc : c.uppercaseAcronyms = []) (a : RustTypeAlias)
    (st st' : Go.Imports) (d : Go.GoAlias) (h : Go.aliasFacts U c a st = .ok (d, st')) :
    d.name = defName (.go c) (.alias a) := by
  obtain ⟨_, _, hn, _, rfl⟩ := Go.aliasFacts_inv h
  rw [Go.acr_nil U c hc] at hn
  exact (Outcome.ok.inj hn).symm

theorem tie_go_anon_name (U : UnicodeOps) (c : Go.Cfg) (hc : c.uppercaseAcronyms = []) (e : RustEnum) (v : Str) :
    (Go.anonName U c e v).bind (fun n => .ok (some n)) = .ok (innerDefName (.go c) e v) := by
  simp [Go.anonName, Go.acr_nil U c hc, innerDefName, innerSuffix]

theorem tie_go_algEnum (U : UnicodeOps) (c : Go.Cfg) (hc : c.uppercaseAcronyms = []) (e : RustEnum)
    (tag content : Str) (cs : List Str) (st st' : Go.Imports) (d : Go.GoAlgEnum)
    (h : Go.algEnumFacts U c e tag content cs st = .ok (d, st')) : d.name = defName (.go c) (.enum e) := by
  obtain ⟨_, _, _, _, _, _, _, _, hn, _, _, _, _, rfl⟩ := Go.algEnumFacts_inv h
  rw [Go.acr_nil U c hc] at hn
  exact (Outcome.ok.inj hn).symm

/-- a struct variant's payload type is the helper struct's name -/
theorem tie_go_variant (U : UnicodeOps) (c : Go.Cfg) (hc : c.uppercaseAcronyms = []) (e : RustEnum)
    (sn tag : Str) (cs : List Str) (id : Id) (cm : List Str) (fs : List RustField) (st st' : Go.Imports)
    (g : Go.GoAlgVariant) (h : Go.algVariant U c e sn tag cs (.anonymousStruct id cm fs) st = .ok (g, st')) :
    g.payload = some ⟨e.id.original ++ id.original ++ innerSuffix, true⟩ ∧
    innerRefs (.go c) e id.original =
      [⟨e.id.original ++ id.original ++ innerSuffix, .inner e.id.original id.original, false⟩] := by
  unfold Go.algVariant at h
  simp only [Go.acr_nil U c hc, Go.anonName, Outcome.bind_ok, RustEnumVariant.id] at h
  cases h
  exact ⟨rfl, rfl⟩

theorem tie_python_struct (E : Ext) (c : Python.Cfg) (s : RustStruct) (st st' : Python.St) (d : Python.PyClass)
    (h : Python.structFacts E c s st = .ok (d, st')) : d.name = defName (.python c) (.struct s) := by
  obtain ⟨_, _, _, rfl⟩ := Python.structFacts_inv h
  rfl

theorem tie_python_alias (c : Python.Cfg) (a : RustTypeAlias) (st st' : Python.St) (d : Python.PyAlias)
    (h : Python.aliasFacts c a st = .ok (d, st')) : d.name = defName (.python c) (.alias a) := by
  obtain ⟨_, _, _, _, rfl⟩ := Python.aliasFacts_inv h
  rfl

theorem tie_python_union (E : Ext) (c : Python.Cfg) (e : RustEnum) (tag content : Str) (st st' : Python.St)
    (d : Python.PyUnion) (h : Python.unionFacts E c e tag content st = .ok (d, st')) :
    d.name = defName (.python c) (.enum e) := by
  obtain ⟨_, _, _, _, _, _, _, rfl⟩ := Python.unionFacts_inv h
  rfl

theorem tie_python_variant (E : Ext) (c : Python.Cfg) (e : RustEnum) (tag content : Str) (id : Id) (cm : List Str)
    (fs : List RustField) (st st' : Python.St) (v : Python.PyVariant)
    (h : Python.variantFacts E c e tag content (.anonymousStruct id cm fs) st = .ok (v, st')) :
    v.contentType = some (Python.innerName e id.original) ∧
    innerRefs (.python c) e id.original =
      [⟨Python.innerName e id.original, .inner e.id.original id.original, false⟩] ∧
    innerDefName (.python c) e id.original = some (Python.innerName e id.original) := by
  obtain ⟨ct, rfl, hct⟩ := Python.variantFacts_inv h
  exact ⟨hct.symm, rfl, rfl⟩

/-! ## TypeScript (no declaration records: the text itself) -/

theorem tie_ts_struct (c : TypeScript.Cfg) (s : RustStruct) (st st' : TypeScript.CustomMap) (txt : Str)
    (h : TypeScript.writeStruct c s st = .ok (txt, st')) :
    ∃ body, txt = TypeScript.comments 0 s.comments ++ s%"export interface " ++ defName (.typescript c) (.struct s) ++
      genericSuffix s.genericTypes ++ s%" {\n" ++ body ++ s%"}\n\n" := by
  obtain ⟨body, _, rfl⟩ := TypeScript.writeStruct_ok.1 h
  exact ⟨body, rfl⟩

theorem tie_ts_alias (c : TypeScript.Cfg) (a : RustTypeAlias) (st st' : TypeScript.CustomMap) (txt : Str)
    (h : TypeScript.writeAlias c a st = .ok (txt, st')) :
    ∃ rest, txt = TypeScript.comments 0 a.comments ++ s%"export type " ++ defName (.typescript c) (.alias a) ++
      genericSuffix a.genericTypes ++ s%" = " ++ rest := by
  obtain ⟨ty, _, rfl⟩ := TypeScript.writeAlias_ok.1 h
  exact ⟨_, (List.append_assoc _ _ _).trans (List.append_assoc _ _ _)⟩

theorem tie_ts_enum (c : TypeScript.Cfg) (e : RustEnum) (st st' : TypeScript.CustomMap) (txt : Str)
    (h : TypeScript.writeEnum c e st = .ok (txt, st')) :
    ∃ kw rest, (kw = s%"export enum " ∨ kw = s%"export type ") ∧
      txt = TypeScript.comments 0 e.comments ++ kw ++ defName (.typescript c) (.enum e) ++
        genericSuffix e.genericTypes ++ rest := by
  rcases TypeScript.writeEnum_ok h with ⟨_, _, rfl⟩ | ⟨_, _, body, _, _, rfl⟩
  · exact ⟨_, _, .inl rfl, (List.append_assoc _ _ _).trans (List.append_assoc _ _ _)⟩
  · exact ⟨_, _, .inr rfl, (List.append_assoc _ _ _).trans (List.append_assoc _ _ _)⟩

end TsV.C09

namespace TsV.C09_HelperParams
open TsV.Lang

/-- the `<A, B>` a Kotlin declaration declares (as printed; `""` for none) -/
def ktGenerics : Kotlin.KtDecl → Str
  | .typeAlias _ _ g _ => g
  | .valueClass _ _ _ _ => []
  | .object _ _ => []
  | .dataClass _ _ g _ _ => g
  | .enumClass _ _ g _ => g
  | .sealedClass _ _ g _ => g

end TsV.C09_HelperParams
