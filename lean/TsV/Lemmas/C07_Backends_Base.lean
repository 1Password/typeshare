import TsV.Lemmas.Printers
import TsV.Model.Generate
import TsV.Lemmas.Outcome
import TsV.Props.C11_Coverage
/-!
# C07, generation side — shared helpers

* `traverse_np` / `thread_np`: a list traversal (without / with a printer state) whose step never panics
  never panics;
* the ordering pass never panics: `Pipeline.generateOrder d` is always `some` permutation of the
  items of `d` (`generateOrder_total`, from the C11 theorems `graph_total`, `graph_wf`, `topsort_perm`);
* the two well-formedness facts about parsed items that three back ends rely on
  (`no64`: no 64-bit primitive anywhere in a type; `enumUnitOk`: an enum without tag/content keys has
  unit variants only), with their membership lemmas.
-/
namespace TsV.C07BE
open TsV TsV.Outcome

/-- a branch in which a panic-free computation has panicked is not taken -/
theorem np_absurd {α} {x : Outcome α} {s : Str} (h : NP x) (e : x = .panic s) {C : Prop} : C := by
  rw [e] at h; cases h

theorem np_of_ok {α} {x : Outcome α} {a : α} (e : x = .ok a) : NP x := by rw [e]; rfl

/-- a list traversal written out by recursion is panic-free when its step is, on the members of the list -/
theorem traverse_np {α β γ} {f : α → Outcome β} (fs : List α → Outcome γ) {k : α → β → γ → γ}
    (nil : NP (fs [])) (cons : ∀ a as, fs (a :: as) = (f a).bind fun b => (fs as).bind fun r => .ok (k a b r))
    {l : List α} (hf : ∀ a ∈ l, NP (f a)) : NP (fs l) := by
  induction l with
  | nil => exact nil
  | cons a as ih =>
    rw [cons]
    exact np_bind _ _ (hf a List.mem_cons_self) fun _ =>
      np_bind _ _ (ih fun x hx => hf x (List.mem_cons_of_mem _ hx)) fun _ => np_ok _

/-- the same for a traversal that threads a printer state -/
theorem thread_np {α β γ σ} {f : α → σ → Outcome (β × σ)} (fs : List α → σ → Outcome γ)
    {k : α → β × σ → γ → γ} (nil : ∀ st, NP (fs [] st))
    (cons : ∀ a as st, fs (a :: as) st = (f a st).bind fun p => (fs as p.2).bind fun r => .ok (k a p r))
    {l : List α} (hf : ∀ a ∈ l, ∀ st, NP (f a st)) : ∀ st, NP (fs l st) := by
  induction l with
  | nil => exact nil
  | cons a as ih =>
    intro st
    rw [cons]
    exact np_bind _ _ (hf a List.mem_cons_self st) fun _ =>
      np_bind _ _ (ih (fun x hx => hf x (List.mem_cons_of_mem _ hx)) _) fun _ => np_ok _

def IsOk {α} (x : Outcome α) : Prop := ∃ a, x = .ok a

theorem IsOk.np {α} {x : Outcome α} (h : IsOk x) : NP x := by
  obtain ⟨a, e⟩ := h; exact np_of_ok e

theorem isOk_ok {α} (a : α) : IsOk (Outcome.ok a) := ⟨a, rfl⟩

theorem isOk_bind {α β} {x : Outcome α} {f : α → Outcome β} (hx : IsOk x) (hf : ∀ a, IsOk (f a)) :
    IsOk (x.bind f) := by
  obtain ⟨a, e⟩ := hx; rw [e]; exact hf a

/-- **`topsort` never hits `expect`/index panics and never loses an item**: for every program the
order exists and is a permutation of the items. -/
theorem topsort_total (items : List RustItem) : ∃ out, Deps.topsort items = some out ∧ out.Perm items := by
  obtain ⟨g, hg⟩ := C11.graph_total items
  exact C11.topsort_perm items g hg (C11.graph_wf items g hg)

/-- the items of one crate in the order `generate_types` hands them to `topsort` -/
def itemsOf (d : ParsedData) : List RustItem :=
  d.aliases.map .alias ++ d.structs.map .struct ++ d.enums.map .enum ++ d.consts.map .const

theorem generateOrder_total (d : ParsedData) :
    ∃ out, Pipeline.generateOrder d = some out ∧ out.Perm (itemsOf d) :=
  topsort_total _

theorem mem_itemsOf {d : ParsedData} {it : RustItem} : it ∈ itemsOf d ↔
    (∃ a ∈ d.aliases, it = .alias a) ∨ (∃ s ∈ d.structs, it = .struct s) ∨
    (∃ e ∈ d.enums, it = .enum e) ∨ (∃ c ∈ d.consts, it = .const c) := by
  simp only [itemsOf, List.mem_append, List.mem_map, or_assoc]
  constructor
  · rintro (⟨a, h, rfl⟩ | ⟨a, h, rfl⟩ | ⟨a, h, rfl⟩ | ⟨a, h, rfl⟩)
    · exact .inl ⟨a, h, rfl⟩
    · exact .inr (.inl ⟨a, h, rfl⟩)
    · exact .inr (.inr (.inl ⟨a, h, rfl⟩))
    · exact .inr (.inr (.inr ⟨a, h, rfl⟩))
  · rintro (⟨a, h, rfl⟩ | ⟨a, h, rfl⟩ | ⟨a, h, rfl⟩ | ⟨a, h, rfl⟩)
    · exact .inl ⟨a, h, rfl⟩
    · exact .inr (.inl ⟨a, h, rfl⟩)
    · exact .inr (.inr (.inl ⟨a, h, rfl⟩))
    · exact .inr (.inr (.inr ⟨a, h, rfl⟩))

/-- the four primitives `TryFrom<&syn::Type>` rejects (`UnsupportedType`) -/
def Prim.is64 : Prim → Bool
  | .u64 | .i64 | .isize | .usize => true
  | _ => false

mutual
  /-- no 64-bit primitive occurs anywhere in the type -/
  def no64 : RustType → Bool
    | .simple _ => true
    | .generic _ ps => no64List ps
    | .vec t | .array t _ | .slice t | .option t => no64 t
    | .hashMap k v => no64 k && no64 v
    | .prim p => !Prim.is64 p
  def no64List : List RustType → Bool
    | [] => true
    | t :: ts => no64 t && no64List ts
end

def variantNo64 : RustEnumVariant → Bool
  | .unit _ _ => true
  | .tuple _ _ ty => no64 ty
  | .anonymousStruct _ _ fs => fs.all fun f => no64 f.ty

/-- every type the item mentions is free of 64-bit primitives -/
def itemNo64 : RustItem → Bool
  | .struct s => s.fields.all fun f => no64 f.ty
  | .enum e => e.variants.all variantNo64
  | .alias a => no64 a.ty
  | .const c => no64 c.ty

/-- `RustEnum::Unit` holds unit variants only (what `parse_enum` guarantees and the
`unreachable!()` arms of go.rs / python.rs rely on) -/
def enumUnitOk (e : RustEnum) : Bool :=
  match e.keys with
  | none => e.variants.all Parser.variantIsUnit
  | some _ => true

def itemUnitOk : RustItem → Bool
  | .enum e => enumUnitOk e
  | _ => true

/-- both facts for every item of one crate -/
def dataNo64 (d : ParsedData) : Bool := (itemsOf d).all itemNo64
def dataUnitOk (d : ParsedData) : Bool := d.enums.all enumUnitOk

abbrev Job := Str × ParsedData × Option Pipeline.ScopedCrateTypes

def jobsNo64 (jobs : List Job) : Bool := jobs.all fun j => dataNo64 j.2.1
def jobsUnitOk (jobs : List Job) : Bool := jobs.all fun j => dataUnitOk j.2.1

theorem dataUnitOk_items {d : ParsedData} (h : dataUnitOk d = true) : ∀ it ∈ itemsOf d, itemUnitOk it = true := by
  intro it hit
  rcases mem_itemsOf.1 hit with ⟨a, _, rfl⟩ | ⟨a, _, rfl⟩ | ⟨e, he, rfl⟩ | ⟨a, _, rfl⟩
  · rfl
  · rfl
  · exact (List.all_eq_true.1 h) e he
  · rfl

theorem order_no64 {d : ParsedData} {items : List RustItem} (h : dataNo64 d = true)
    (ho : Pipeline.generateOrder d = some items) : ∀ it ∈ items, itemNo64 it = true := by
  obtain ⟨out, ho', hp⟩ := generateOrder_total d
  rw [ho] at ho'; cases ho'
  intro it hit
  exact (List.all_eq_true.1 h) it (hp.mem_iff.1 hit)

theorem order_unitOk {d : ParsedData} {items : List RustItem} (h : dataUnitOk d = true)
    (ho : Pipeline.generateOrder d = some items) : ∀ it ∈ items, itemUnitOk it = true := by
  obtain ⟨out, ho', hp⟩ := generateOrder_total d
  rw [ho] at ho'; cases ho'
  intro it hit
  exact dataUnitOk_items h it (hp.mem_iff.1 hit)

end TsV.C07BE
