import TsV.Model.Topsort
/-! `sort_by_indices` (topsort.rs) gathers in place by following the cycles of the index vector.  The proof carries a
ghost vector `hat`, the permutation the half-updated stored vector stands for; the invariant is that `E data hat`, the
element selected for each position, never changes, and `nonfixed hat`, the number of positions not yet in place, bounds
the fuel the loop needs. -/
namespace TsV.Topsort

/-- value-level transposition -/
def tr (a b v : Nat) : Nat := if v = a then b else if v = b then a else v

theorem swap_getElem? {α} (l l' : List α) (a b : Nat) (h : swap l a b = some l') (k : Nat) :
    l'[k]? = l[tr a b k]? := by
  unfold swap at h
  split at h
  · rename_i x y hx hy
    simp only [Option.some.injEq] at h; subst h
    obtain ⟨ha, hxa⟩ := List.getElem?_eq_some_iff.1 hx
    obtain ⟨hb, hyb⟩ := List.getElem?_eq_some_iff.1 hy
    subst hxa hyb
    unfold tr
    rw [List.getElem?_set, List.getElem?_set]
    by_cases hkb : b = k
    · subst hkb
      by_cases hka : b = a
      · subst hka; simp [hb]
      · have : ¬ a = b := fun e => hka e.symm
        simp [hka, this, hb, ha, List.length_set]
    · by_cases hka : a = k
      · subst hka
        have : ¬ a = b := fun e => hkb e.symm
        simp [hkb, this, ha, hb]
      · have h1 : ¬ k = a := fun e => hka e.symm
        have h2 : ¬ k = b := fun e => hkb e.symm
        simp [hka, hkb, h1, h2]
  · simp at h

theorem swap_length {α} (l l' : List α) (a b : Nat) (h : swap l a b = some l') : l'.length = l.length := by
  unfold swap at h
  split at h
  · simp only [Option.some.injEq] at h; subst h; simp
  · simp at h

theorem swap_isSome {α} (l : List α) (a b : Nat) (ha : a < l.length) (hb : b < l.length) :
    ∃ l', swap l a b = some l' := by
  unfold swap
  rw [List.getElem?_eq_getElem ha, List.getElem?_eq_getElem hb]
  exact ⟨_, rfl⟩


theorem tr_self_left (a b : Nat) : tr a b a = b := by simp [tr]
theorem tr_self_right (a b : Nat) : tr a b b = a := by unfold tr; split <;> simp_all
theorem tr_other (a b v : Nat) (h1 : v ≠ a) (h2 : v ≠ b) : tr a b v = v := by simp [tr, h1, h2]

/-- the element the (ghost) index vector `hat` selects for position `i` -/
def E {α} (data : List α) (hat : List Nat) (i : Nat) : Option α := (hat[i]?).bind fun v => data[v]?

/-- number of positions that are not fixed points -/
def nonfixed (l : List Nat) : Nat := ((List.range l.length).map fun i => if l[i]? = some i then 0 else 1).sum

theorem sum_map_le {l : List Nat} {f g : Nat → Nat} (h : ∀ i ∈ l, f i ≤ g i) : (l.map f).sum ≤ (l.map g).sum := by
  induction l with
  | nil => simp
  | cons a t ih =>
    simp only [List.map_cons, List.sum_cons]
    have := h a (by simp)
    have := ih (fun i hi => h i (by simp [hi]))
    omega

theorem sum_map_lt {l : List Nat} {f g : Nat → Nat} (h : ∀ i ∈ l, f i ≤ g i) (c : Nat) (hc : c ∈ l)
    (hlt : f c < g c) : (l.map f).sum < (l.map g).sum := by
  induction l with
  | nil => simp at hc
  | cons a t ih =>
    simp only [List.map_cons, List.sum_cons]
    simp only [List.mem_cons] at hc
    rcases hc with rfl | hc
    · have := sum_map_le (fun i hi => h i (List.mem_cons_of_mem _ hi))
      omega
    · have := h a (by simp)
      have := ih (fun i hi => h i (by simp [hi])) hc
      omega

theorem nonfixed_le (l : List Nat) : nonfixed l ≤ l.length := by
  unfold nonfixed
  have : ((List.range l.length).map fun i => if l[i]? = some i then 0 else 1).sum ≤
      ((List.range l.length).map fun _ => 1).sum := sum_map_le (fun i _ => by split <;> omega)
  have h1 : ∀ k : Nat, ((List.range k).map fun _ => 1).sum = k := by
    intro k; induction k with
    | zero => rfl
    | succ k ih => simp [List.range_succ, ih]
  rw [h1] at this; exact this

/-- exchanging the entries at `cur` (holding `t`) and `p` (holding `cur`) fixes `cur` and unfixes nothing -/
theorem nonfixed_step (hat : List Nat) (cur p t : Nat) (hcur : cur < hat.length) (hp : p < hat.length)
    (hpc : p ≠ cur) (h1 : hat[cur]? = some t) (h2 : hat[p]? = some cur) (htc : t ≠ cur) :
    nonfixed ((hat.set cur cur).set p t) < nonfixed hat := by
  unfold nonfixed
  simp only [List.length_set]
  apply sum_map_lt (c := cur)
  · intro i hi
    by_cases hic : i = cur
    · subst hic
      rw [List.getElem?_set_ne hpc, List.getElem?_set_self hcur]; simp
    · by_cases hip : i = p
      · subst hip
        rw [List.getElem?_set_self (by simpa using hp), h2]
        have : ¬ (some cur = some i) := by simpa using fun e => hic e.symm
        simp [this]; split <;> omega
      · rw [List.getElem?_set_ne (Ne.symm hip), List.getElem?_set_ne (Ne.symm hic)]
        exact Nat.le_refl _
  · simpa using hcur
  · rw [List.getElem?_set_ne hpc, List.getElem?_set_self hcur, h1]
    have : ¬ (some t = some cur) := by simpa using htc
    simp [this]

theorem E_step {α} (data data' : List α) (hat : List Nat) (cur p t : Nat)
    (hnd : hat.Nodup) (hcur : cur < hat.length) (hp : p < hat.length) (hpc : p ≠ cur)
    (h1 : hat[cur]? = some t) (h2 : hat[p]? = some cur) (hsw : swap data cur t = some data') (i : Nat) :
    E data' ((hat.set cur cur).set p t) i = E data hat i := by
  unfold E
  by_cases hip : i = p
  · subst hip
    rw [List.getElem?_set_self (by simpa using hp), h2]
    simp only [Option.bind_some, swap_getElem? _ _ _ _ hsw, tr_self_right]
  · by_cases hic : i = cur
    · subst hic
      rw [List.getElem?_set_ne (Ne.symm hip), List.getElem?_set_self hcur, h1]
      simp only [Option.bind_some, swap_getElem? _ _ _ _ hsw, tr_self_left]
    · rw [List.getElem?_set_ne (Ne.symm hip), List.getElem?_set_ne (Ne.symm hic)]
      cases hv : hat[i]? with
      | none => rfl
      | some v =>
        simp only [Option.bind_some, swap_getElem? _ _ _ _ hsw]
        have hil : i < hat.length := (List.getElem?_eq_some_iff.1 hv).1
        have hvc : v ≠ cur := by
          intro e; subst e
          exact hip ((List.getElem?_inj hil hnd).1 (by rw [hv, h2]))
        have hvt : v ≠ t := by
          intro e; subst e
          exact hic ((List.getElem?_inj hil hnd).1 (by rw [hv, h1]))
        rw [tr_other _ _ _ hvc hvt]

/-- **the cycle-following loop is correct**: `hat` is the ghost permutation the stored vector `ind`
stands for (they differ only at the position `p` that still has to receive the start element) -/
theorem cycle_correct {α} (n : Nat) (F : Nat → Option α) :
    ∀ (fuel : Nat) (data : List α) (ind hat : List Nat) (s cur p : Nat),
      data.length = n → hat.length = n → hat.Nodup → (∀ v ∈ hat, v < n) →
      (∀ i, E data hat i = F i) → s < n → cur < n → (cur ≠ s → hat[s]? = some s) →
      p < n → hat[p]? = some cur → ind = hat.set p s → nonfixed hat < fuel →
      ∃ data' ind', cycleLoop fuel data ind cur = some (data', ind') ∧ data'.length = n ∧
        ind'.length = n ∧ ind'.Nodup ∧ (∀ v ∈ ind', v < n) ∧ (∀ i, E data' ind' i = F i) ∧
        ind'[s]? = some s ∧ (∀ i : Nat, hat[i]? = some i → ind'[i]? = some i) ∧ ind'.Perm hat := by
  intro fuel
  induction fuel with
  | zero => intro data ind hat s cur p _ _ _ _ _ _ _ _ _ _ _ hf; omega
  | succ fuel ih =>
    intro data ind hat s cur p hdl hhl hnd hlt hE hs hcur hfix hp hpv hind hf
    have hcurl : cur < hat.length := by rw [hhl]; exact hcur
    have hpl : p < hat.length := by rw [hhl]; exact hp
    by_cases hpc : p = cur
    · -- the cycle closes: the stored vector becomes the ghost permutation
      subst hpc
      have hsfix : hat[s]? = some s := by
        by_cases hcs : p = s
        · subst hcs; exact hpv
        · exact hfix hcs
      have hit : ind[p]? = some s := by rw [hind, List.getElem?_set_self hpl]
      have hind' : ind.set p p = hat := by
        rw [hind, List.set_set]
        apply List.ext_getElem?
        intro i
        by_cases hi : i = p
        · subst hi; rw [List.getElem?_set_self hpl, hpv]
        · rw [List.getElem?_set_ne (Ne.symm hi)]
      refine ⟨data, hat, ?_, hdl, hhl, hnd, hlt, hE, hsfix, fun i h => h, List.Perm.refl _⟩
      simp only [cycleLoop, hit, hind', hsfix, beq_self_eq_true, if_true]
    · -- one more element of the cycle is put in place
      obtain ⟨t, ht⟩ : ∃ t, hat[cur]? = some t := ⟨hat[cur], List.getElem?_eq_getElem hcurl⟩
      have htn : t < n := hlt t (List.mem_of_getElem? ht)
      have htc : t ≠ cur := by
        intro e; subst e
        exact hpc ((List.getElem?_inj hpl hnd).1 (by rw [hpv, ht]))
      have hts : t ≠ s := by
        intro e; subst e
        by_cases hcs : cur = t
        · exact htc hcs.symm
        · have := hfix hcs
          exact hcs ((List.getElem?_inj hcurl hnd).1 (by rw [ht, this]))
      have hps : p ≠ s := by
        intro e; subst e
        by_cases hcs : cur = p
        · exact hpc hcs.symm
        · have := hfix hcs; rw [hpv] at this; exact hcs (by simpa using this)
      have hit : ind[cur]? = some t := by
        rw [hind, List.getElem?_set_ne hpc]; exact ht
      -- the stored vector after `indices[current_idx] = current_idx`
      have hind1 : ind.set cur cur = (hat.set cur cur).set p s := by
        rw [hind, List.set_comm _ _ hpc]
      have hnb : ((ind.set cur cur)[t]? == some t) = false := by
        rw [hind1]
        by_cases htp : t = p
        · subst htp
          rw [List.getElem?_set_self (by simpa using hpl)]
          simpa using fun e => hps e.symm
        · rw [List.getElem?_set_ne (Ne.symm htp), List.getElem?_set_ne (Ne.symm htc)]
          cases hv : hat[t]? with
          | none => simp
          | some v =>
            have : v ≠ t := by
              intro e; subst e
              have htl : v < hat.length := (List.getElem?_eq_some_iff.1 hv).1
              exact htc ((List.getElem?_inj htl hnd).1 (by rw [hv, ht]))
            simpa using this
      obtain ⟨data', hsw⟩ := swap_isSome data cur t (by rw [hdl]; exact hcur) (by rw [hdl]; exact htn)
      have hstep : cycleLoop (fuel + 1) data ind cur = cycleLoop fuel data' (ind.set cur cur) t := by
        have hget : ∃ t2, (ind.set cur cur)[t]? = some t2 := by
          refine ⟨(ind.set cur cur)[t]'(by rw [List.length_set, hind, List.length_set, hhl]; exact htn), ?_⟩
          exact List.getElem?_eq_getElem _
        obtain ⟨t2, ht2⟩ := hget
        have hne : (t2 == t) = false := by
          rw [ht2] at hnb; simpa using hnb
        simp only [cycleLoop, hit, ht2, hne, hsw]
        rfl
      let hat' := (hat.set cur cur).set p t
      have hperm : hat'.Perm hat := by
        have h1 : hat[p]'hpl = cur := by
          have := List.getElem?_eq_some_iff.1 hpv; exact this.2
        have h2 : hat[cur]'hcurl = t := by
          have := List.getElem?_eq_some_iff.1 ht; exact this.2
        have := List.set_set_perm (as := hat) hcurl hpl
        rw [h1, h2] at this
        exact this
      have hnd' : hat'.Nodup := hperm.nodup_iff.2 hnd
      have hlt' : ∀ v ∈ hat', v < n := fun v hv => hlt v (hperm.subset hv)
      have hhl' : hat'.length = n := by simp [hat', hhl]
      have hE' : ∀ i, E data' hat' i = F i := fun i => by
        rw [E_step data data' hat cur p t hnd hcurl hpl hpc ht hpv hsw i]; exact hE i
      have hsfix' : t ≠ s → hat'[s]? = some s := by
        intro _
        by_cases hcs : cur = s
        · subst hcs
          show ((hat.set cur cur).set p t)[cur]? = some cur
          rw [List.getElem?_set_ne hpc, List.getElem?_set_self hcurl]
        · show ((hat.set cur cur).set p t)[s]? = some s
          rw [List.getElem?_set_ne hps, List.getElem?_set_ne hcs]; exact hfix hcs
      have hpv' : hat'[p]? = some t := by
        show ((hat.set cur cur).set p t)[p]? = some t
        rw [List.getElem?_set_self (by simpa using hpl)]
      have hind2 : ind.set cur cur = hat'.set p s := by
        rw [hind1]; show _ = ((hat.set cur cur).set p t).set p s
        rw [List.set_set]
      have hmeasure : nonfixed hat' < fuel :=
        Nat.lt_of_lt_of_le (nonfixed_step hat cur p t hcurl hpl hpc ht hpv htc) (Nat.le_of_lt_succ hf)
      obtain ⟨d2, i2, hrun, h1, h2, h3, h4, h5, h6, h7, h8⟩ :=
        ih data' (ind.set cur cur) hat' s t p (by rw [swap_length _ _ _ _ hsw]; exact hdl) hhl' hnd' hlt'
          hE' hs htn hsfix' hp hpv' hind2 hmeasure
      refine ⟨d2, i2, by rw [hstep]; exact hrun, h1, h2, h3, h4, h5, h6, ?_, h8.trans hperm⟩
      intro i hi
      apply h7
      -- a fixed point of `hat` is neither `cur` nor `p`
      have hic : i ≠ cur := by intro e; subst e; rw [ht] at hi; exact htc (by simpa using hi)
      have hip : i ≠ p := by intro e; subst e; rw [hpv] at hi; exact hpc (by simpa using hi.symm)
      show ((hat.set cur cur).set p t)[i]? = some i
      rw [List.getElem?_set_ne (Ne.symm hip), List.getElem?_set_ne (Ne.symm hic)]; exact hi

/-- the invariant of the outer `for idx in 0..data.len()` -/
theorem outer_correct {α} (n : Nat) (F : Nat → Option α) :
    ∀ (idxs : List Nat) (k : Nat) (data : List α) (ind : List Nat),
      idxs = List.range' k (n - k) → k ≤ n →
      data.length = n → ind.Perm (List.range n) → (∀ i, E data ind i = F i) →
      (∀ i, i < k → ind[i]? = some i) →
      ∃ data' ind', outerLoop idxs data ind = some (data', ind') ∧ data'.length = n ∧
        (∀ i, i < n → ind'[i]? = some i) ∧ (∀ i, E data' ind' i = F i) ∧ ind'.length = n := by
  intro idxs
  induction idxs with
  | nil =>
    intro k data ind hi hk hdl hperm hE hfix
    have hkn : k = n := Nat.le_antisymm hk (Nat.le_of_sub_eq_zero (List.range'_eq_nil_iff.1 hi.symm))
    subst hkn
    exact ⟨data, ind, rfl, hdl, hfix, hE, by simpa using hperm.length_eq⟩
  | cons i₀ rest ih =>
    intro idx data ind hi hk hdl hperm hE hfix
    have hlen : ind.length = n := by simpa using hperm.length_eq
    obtain ⟨rfl, hpos, hrest⟩ := List.range'_eq_cons_iff.1 hi.symm
    have hkn : idx < n := Nat.lt_of_sub_pos hpos
    rw [Nat.sub_sub] at hrest
    have hnd : ind.Nodup := hperm.nodup_iff.2 List.nodup_range
    have hlt : ∀ v ∈ ind, v < n := fun v hv => by simpa using hperm.subset hv
    obtain ⟨v, hv⟩ : ∃ v, ind[idx]? = some v := ⟨ind[idx]'(by rw [hlen]; exact hkn), List.getElem?_eq_getElem _⟩
    simp only [outerLoop, hv]
    by_cases hvi : v = idx
    · subst hvi
      simp only [bne_self_eq_false, Bool.false_eq_true, if_false]
      apply ih (v + 1) data ind hrest hkn hdl hperm hE
      intro i hi'
      by_cases hiv : i = v
      · subst hiv; exact hv
      · exact hfix i (Nat.lt_of_le_of_ne (Nat.le_of_lt_succ hi') hiv)
    · have hne : (v != idx) = true := by simpa using hvi
      simp only [hne, if_true]
      -- the position that holds `idx`
      have hmem : idx ∈ ind := hperm.symm.subset (by simpa using hkn)
      obtain ⟨p, hp⟩ := List.mem_iff_getElem?.1 hmem
      have hpl : p < ind.length := (List.getElem?_eq_some_iff.1 hp).1
      have hset : ind = ind.set p idx := by
        apply List.ext_getElem?
        intro i
        by_cases hip : i = p
        · subst hip; rw [List.getElem?_set_self hpl, hp]
        · rw [List.getElem?_set_ne (Ne.symm hip)]
      obtain ⟨d2, i2, hrun, h1, h2, h3, h4, h5, h6, h7, h8⟩ :=
        cycle_correct n F (data.length + 1) data ind ind idx idx p hdl hlen hnd hlt hE hkn hkn
          (fun h => absurd rfl h) (hlen ▸ hpl) hp hset
          (by rw [hdl, ← hlen]; exact Nat.lt_succ_of_le (nonfixed_le ind))
      rw [hrun]
      apply ih (idx + 1) d2 i2 hrest hkn h1 (h8.trans hperm) h5
      intro i hi'
      by_cases hiv : i = idx
      · subst hiv; exact h6
      · exact h7 i (hfix i (Nat.lt_of_le_of_ne (Nat.le_of_lt_succ hi') hiv))

/-- **`sort_by_indices` gathers**: for an index vector that is a permutation of the positions, the
loop terminates without an index panic and position `i` of the result holds `data[indices[i]]` -/
theorem sortByIndices_gather {α} (data : List α) (idx : List Nat) (hperm : idx.Perm (List.range data.length)) :
    ∃ r, sortByIndices data idx = some r ∧ r.length = data.length ∧
      ∀ i : Nat, r[i]? = (idx[i]?).bind fun v => data[v]? := by
  obtain ⟨d', i', hrun, hl, hfix, hE, hil⟩ :=
    outer_correct data.length (E data idx) (List.range data.length) 0 data idx
      (by simp [List.range_eq_range']) (by omega) rfl hperm (fun _ => rfl) (by intro i hi; omega)
  refine ⟨d', by simp [sortByIndices, hrun], hl, ?_⟩
  intro i
  have := hE i
  unfold E at this
  by_cases hi : i < data.length
  · rw [hfix i hi] at this
    simpa using this
  · have h1 : d'[i]? = none := by rw [List.getElem?_eq_none_iff]; omega
    have h2 : idx[i]? = none := by
      rw [List.getElem?_eq_none_iff]; have := hperm.length_eq; simp at this; omega
    rw [h1, h2]; rfl

end TsV.Topsort
