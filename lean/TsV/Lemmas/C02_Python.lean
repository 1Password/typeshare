import TsV.Lemmas.C02_Base
import TsV.Model.Lang.Python
import TsV.Lemmas.Lang.Python
/-!
# C02, Python: members of the `(str, Enum)` classes, `Literal[...]` tags and the attribute names of
the variant classes
-/
namespace TsV.C02.Py
open TsV TsV.Str TsV.Lang TsV.Lang.Python TsV.C02

/-- what `write_enum` writes (the unit arm of the model builds its record inline) -/
inductive EnumDecl where
  | unit (inner : List PyClass) (c : PyEnumClass)
  | union (u : PyUnion)

def renderDecl : EnumDecl → Str
  | .unit inner c => inner.flatMap renderClass ++ renderEnumClass c
  | .union u => renderUnion u

/-- `write_enum` as facts -/
def enumFacts (E : Ext) (cfg : Cfg) (e : RustEnum) (st : St) : Outcome (EnumDecl × St) :=
  match e.keys with
  | none =>
    (innerFacts E cfg e (structVariants e) st).bind fun (inner, st) =>
    let st := addImport st s%"enum" s%"Enum"
    (unitMembers E e.variants).bind fun members =>
      .ok (.unit inner { name := e.id.renamed, comments := e.comments, members }, st)
  | some (tag, content) =>
    (unionFacts E cfg e tag content st).bind fun (u, st) => .ok (.union u, st)

/-- **the facts render to exactly what `write_enum` writes** -/
theorem writeEnum_eq (E : Ext) (cfg : Cfg) (e : RustEnum) (st : St) :
    writeEnum E cfg e st = (enumFacts E cfg e st).bind fun (d, st) => .ok (renderDecl d, st) := by
  unfold writeEnum enumFacts
  cases e.keys with
  | none => simp only [Outcome.bind_assoc, Outcome.bind_ok, renderDecl]
  | some p => simp only [Outcome.bind_assoc, Outcome.bind_ok, renderDecl]

theorem writeEnum_inv {E : Ext} {cfg : Cfg} {e : RustEnum} {st st' : St} {text : Str}
    (h : writeEnum E cfg e st = .ok (text, st')) : ∃ d, enumFacts E cfg e st = .ok (d, st') ∧ renderDecl d = text := by
  obtain ⟨d, hd, rfl⟩ := Outcome.bind_ret_ok.1 (writeEnum_eq E cfg e st ▸ h)
  exact ⟨d, hd, rfl⟩

/-- a unit enum records its helper classes and an `Enum` class, an algebraic enum its union -/
theorem enumFacts_inv {E : Ext} {cfg : Cfg} {e : RustEnum} {st st' : St} {d : EnumDecl}
    (h : enumFacts E cfg e st = .ok (d, st')) :
    (e.keys = none ∧ ∃ inner st1 members, innerFacts E cfg e (structVariants e) st = .ok (inner, st1) ∧
      addImport st1 s%"enum" s%"Enum" = st' ∧ unitMembers E e.variants = .ok members ∧
      .unit inner { name := e.id.renamed, comments := e.comments, members } = d) ∨
    ∃ tag content u, e.keys = some (tag, content) ∧ unionFacts E cfg e tag content st = .ok (u, st') ∧ .union u = d := by
  unfold enumFacts at h
  cases hk : e.keys with
  | none =>
    rw [hk] at h
    obtain ⟨⟨inner, st1⟩, hi, h⟩ := Outcome.of_bind_ok h
    obtain ⟨members, hm, h⟩ := Outcome.of_bind_ok h
    obtain ⟨rfl, rfl⟩ := Outcome.ok_pair_inj h
    exact .inl ⟨rfl, inner, st1, members, hi, rfl, hm, rfl⟩
  | some kc =>
    obtain ⟨tag, content⟩ := kc
    rw [hk] at h
    obtain ⟨⟨u, st1⟩, hu, h⟩ := Outcome.of_bind_ok h
    obtain ⟨rfl, rfl⟩ := Outcome.ok_pair_inj h
    exact .inr ⟨tag, content, u, rfl, hu, rfl⟩

/-- `<Enum>Types.<MEMBER>` denotes the value of the member of the `Types` enumeration with that name —
provided there is exactly one (Python rejects a class body that defines an `Enum` member twice) -/
def resolve (u : PyUnion) (lit : Str) : Option Str :=
  match u.tags.filter fun m => u.typesName ++ s%"." ++ m.name == lit with
  | [m] => some m.wire
  | _ => none

/-- a variant class prints the tag key as the name of its `Literal[...]` attribute, and the content
key as the name of its second attribute when it has one -/
def variantHoles (v : PyVariant) : List (Role × Str) :=
  (.tag, v.tagKey) :: (match v.contentType with | some _ => [(.content, v.contentKey)] | none => [])

/-- a member `NAME = "wire"` of a `(str, Enum)` class is the case `NAME`, serialised as `wire`; a
variant class of a tagged union is the case whose tag attribute is `Literal[<Enum>Types.<MEMBER>]`,
serialised as that member's value -/
def wire : EnumDecl → EnumWire
  | .unit _ c => { cases := c.members.map fun m => ⟨some m.name, some m.wire⟩, holes := [] }
  | .union u =>
    { cases := u.variants.map fun v => ⟨some v.tagLiteral, resolve u v.tagLiteral⟩,
      holes := u.variants.flatMap variantHoles }

/-- the member names `write_enum` derives: `original.to_uppercase()` for a unit enum,
`renamed.to_case(Snake).to_uppercase()` for a tagged union -/
def memberNames (E : Ext) (e : RustEnum) : List Str :=
  match e.keys with
  | none => e.variants.map fun v => E.U.upperStr v.id.original
  | some _ => e.variants.map fun v => tagMemberName E v.id.renamed

theorem filter_unique {α β} [BEq β] [LawfulBEq β] (f : α → β) : ∀ (l : List α), (l.map f).Nodup →
    ∀ x ∈ l, l.filter (fun y => f y == f x) = [x] := by
  intro l
  induction l with
  | nil => intro _ x hx; cases hx
  | cons a t ih =>
    intro hn x hx
    rw [List.map_cons, List.nodup_cons] at hn
    simp only [List.mem_cons] at hx
    rcases hx with rfl | hx
    · have : t.filter (fun y => f y == f x) = [] := by
        rw [List.filter_eq_nil_iff]
        intro y hy hyx
        exact hn.1 (List.mem_map.2 ⟨y, hy, eq_of_beq hyx⟩)
      simp [this]
    · have hne : (f a == f x) = false := by
        cases hb : f a == f x with
        | false => rfl
        | true => exact absurd (List.mem_map.2 ⟨x, hx, (eq_of_beq hb).symm⟩) hn.1
      simp [hne, ih hn.2 x hx]

theorem unitMembers_facts (E : Ext) : ∀ (vs : List RustEnumVariant) (ms : List PyMember),
    unitMembers E vs = .ok ms →
      ms.map (·.name) = vs.map (fun v => E.U.upperStr v.id.original) ∧ ms.map (·.wire) = vs.map (·.id.renamed) := by
  intro vs
  induction vs with
  | nil => intro ms h; cases h; exact ⟨rfl, rfl⟩
  | cons v vs ih =>
    intro ms h
    cases v with
    | unit id cs =>
      simp only [unitMembers] at h
      obtain ⟨rest, hr, h⟩ := Outcome.of_bind_ok h
      cases h
      obtain ⟨i1, i2⟩ := ih rest hr
      exact ⟨by simp only [List.map_cons, i1]; rfl, by simp only [List.map_cons, i2]; rfl⟩
    | tuple _ _ _ => cases h
    | anonymousStruct _ _ _ => cases h

theorem variantFacts_facts (E : Ext) (cfg : Cfg) (e : RustEnum) (tag content : Str) (v : RustEnumVariant)
    (st st' : St) (pv : PyVariant) (h : variantFacts E cfg e tag content v st = .ok (pv, st')) :
    pv.tagKey = tag ∧ pv.contentKey = content ∧
      pv.tagLiteral = e.id.renamed ++ s%"Types." ++ tagMemberName E v.id.renamed := by
  obtain ⟨_, rfl, _⟩ := variantFacts_inv h
  exact ⟨rfl, rfl, rfl⟩

theorem variantsFacts_facts (E : Ext) (cfg : Cfg) (e : RustEnum) (tag content : Str)
    (vs : List RustEnumVariant) (st st' : St) (pvs : List PyVariant)
    (h : variantsFacts E cfg e tag content vs st = .ok (pvs, st')) :
    pvs.map (·.tagLiteral) = vs.map (fun v => e.id.renamed ++ s%"Types." ++ tagMemberName E v.id.renamed) ∧
      ∀ pv ∈ pvs, pv.tagKey = tag ∧ pv.contentKey = content :=
  Outcome.thread_ok_rec
    (P := fun vs pvs =>
      pvs.map (·.tagLiteral) = vs.map (fun v => e.id.renamed ++ s%"Types." ++ tagMemberName E v.id.renamed) ∧
      ∀ pv ∈ pvs, pv.tagKey = tag ∧ pv.contentKey = content)
    h (fun _ => rfl) (fun _ _ _ => rfl) ⟨rfl, fun _ hm => nomatch hm⟩
    fun v pv vs pvs st st' hv ⟨i1, i2⟩ => by
      obtain ⟨h1, h2, h3⟩ := variantFacts_facts E cfg e tag content v st st' pv hv
      exact ⟨by rw [List.map_cons, List.map_cons, h3, i1], List.forall_mem_cons.2 ⟨⟨h1, h2⟩, i2⟩⟩

/-- the tag literal of a variant resolves to the variant's wire name when member names are distinct -/
theorem resolve_variant (E : Ext) (e : RustEnum) (u : PyUnion)
    (htn : u.typesName = e.id.renamed ++ s%"Types")
    (htags : u.tags = e.variants.map fun v => { name := tagMemberName E v.id.renamed, wire := v.id.renamed, comments := [] })
    (hn : (e.variants.map fun v => tagMemberName E v.id.renamed).Nodup) (v : RustEnumVariant) (hv : v ∈ e.variants) :
    resolve u (e.id.renamed ++ s%"Types." ++ tagMemberName E v.id.renamed) = some v.id.renamed := by
  let mk : RustEnumVariant → PyMember := fun v =>
    { name := tagMemberName E v.id.renamed, wire := v.id.renamed, comments := [] }
  have hlit : ∀ n : Str, e.id.renamed ++ s%"Types." ++ n = u.typesName ++ s%"." ++ n := by
    intro n; rw [htn]; simp [List.append_assoc]
  have hnd : (u.tags.map fun m => u.typesName ++ s%"." ++ m.name).Nodup := by
    rw [htags, List.map_map]
    exact nodup_map_of_factors hn fun a _ b _ hab => List.append_cancel_left hab
  have hmem : mk v ∈ u.tags := by rw [htags]; exact List.mem_map.2 ⟨v, hv, rfl⟩
  have := filter_unique (fun m : PyMember => u.typesName ++ s%"." ++ m.name) u.tags hnd (mk v) hmem
  unfold resolve
  rw [hlit]
  simp only [mk] at this
  rw [this]

theorem union_names (E : Ext) (e : RustEnum) (u : PyUnion)
    (htn : u.typesName = e.id.renamed ++ s%"Types")
    (htags : u.tags = e.variants.map fun v => { name := tagMemberName E v.id.renamed, wire := v.id.renamed, comments := [] })
    (hn : (e.variants.map fun v => tagMemberName E v.id.renamed).Nodup)
    (h1 : u.variants.map (·.tagLiteral) =
      e.variants.map (fun v => e.id.renamed ++ s%"Types." ++ tagMemberName E v.id.renamed)) :
    u.variants.map (fun v => resolve u v.tagLiteral) = e.variants.map fun v => some v.id.renamed := by
  have : u.variants.map (fun v => resolve u v.tagLiteral) = (u.variants.map (·.tagLiteral)).map (resolve u) := by
    rw [List.map_map]; rfl
  rw [this, h1, List.map_map]
  apply List.map_congr_left
  intro v hvm
  exact resolve_variant E e u htn htags hn v hvm

/-- what an output says: its declared identifiers are pairwise distinct exactly when the derived
member names are; then the names are right; the keys always are -/
theorem facts (E : Ext) (cfg : Cfg) (e : RustEnum) (st st' : St) (d : EnumDecl)
    (h : enumFacts E cfg e st = .ok (d, st')) :
    ((wire d).Distinct ↔ (memberNames E e).Nodup) ∧ ((memberNames E e).Nodup → (wire d).Names e) ∧
      (wire d).Keys e := by
  unfold memberNames
  rcases enumFacts_inv h with ⟨hkeys, inner, _, members, _, _, hm, rfl⟩ | ⟨tag, content, u, hkeys, hu, rfl⟩
  · rw [hkeys]
    obtain ⟨h1, h2⟩ := unitMembers_facts E e.variants members hm
    exact ⟨by rw [← h1]; exact EnumWire.distinct_named members (·.name) _ [],
      fun _ => EnumWire.names_named members _ (·.wire) [] h2, .of_none hkeys rfl⟩
  · rw [hkeys]
    obtain ⟨_, _, _, variants, _, _, hv, rfl⟩ := unionFacts_inv hu
    obtain ⟨h1, h2⟩ := variantsFacts_facts E cfg e tag content e.variants _ _ variants hv
    refine ⟨?_, fun hk => ?_, .of_some hkeys ?_⟩
    · refine (EnumWire.distinct_named variants (·.tagLiteral) _ _).trans ?_
      have := nodup_map_inj (f := fun n : Str => e.id.renamed ++ s%"Types." ++ n)
        (fun a b hab => List.append_cancel_left hab) (e.variants.map fun v => tagMemberName E v.id.renamed)
      rw [List.map_map] at this
      rw [h1]
      exact this
    · exact EnumWire.names_map variants _ _ _ (union_names E e _ rfl rfl hk h1)
    · intro x hx
      obtain ⟨pv, hpv, hx⟩ := List.mem_flatMap.1 hx
      obtain ⟨ht, hc⟩ := h2 pv hpv
      unfold variantHoles at hx
      rw [ht, hc] at hx
      rcases List.mem_cons.1 hx with rfl | hx
      · exact Or.inl rfl
      · cases hct : pv.contentType with
        | none => rw [hct] at hx; cases hx
        | some t => rw [hct] at hx; exact Or.inr (List.mem_singleton.1 hx)

/-- **Python**: whatever `write_enum` emits for an in-scope enum whose derived member names are
pairwise distinct is correct on the wire -/
theorem correct (E : Ext) (cfg : Cfg) (e : RustEnum) (st st' : St) (d : EnumDecl)
    (hk : (memberNames E e).Nodup) (h : enumFacts E cfg e st = .ok (d, st')) : (wire d).Correct e :=
  have f := facts E cfg e st st' d h
  ⟨f.2.1 hk, f.1.2 hk, f.2.2⟩

/-- … and conversely: two variants whose derived member names coincide share one member -/
theorem collide (E : Ext) (cfg : Cfg) (e : RustEnum) (st st' : St) (d : EnumDecl)
    (hk : ¬ (memberNames E e).Nodup) (h : enumFacts E cfg e st = .ok (d, st')) : ¬ (wire d).Distinct :=
  fun hd => hk ((facts E cfg e st st' d h).1.1 hd)

end TsV.C02.Py
