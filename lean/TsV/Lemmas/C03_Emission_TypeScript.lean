import TsV.Lemmas.C03_Emission_Common
import TsV.Lemmas.Lang.TypeScript
/-!
# C03, emission clause — TypeScript
-/
namespace TsV.C03E.TS
open TsV TsV.Lang TsV.Lang.TypeScript TsV.C03E

theorem generate_blocks (U : UnicodeOps) (cfg : Cfg) (d : ParsedData) (imports : Option Pipeline.ScopedCrateTypes)
    (st0 : CustomMap) (text : Str) (st : CustomMap) (h : generate U cfg d imports st0 = .ok (text, st)) :
    ∃ items blocks, Pipeline.generateOrder d = some items ∧ Threaded (writeItem U cfg) items st0 blocks st ∧
      text = header cfg imports ++ blocks.flatten ++ endFile st := by
  obtain ⟨items, body, ho, hb, rfl⟩ := generate_ok h
  obtain ⟨blocks, hth, rfl⟩ :=
    Threaded.of_writeItems (ws := writeItems U cfg) (fun _ => rfl) (fun _ _ _ => rfl) items st0 body st hb
  exact ⟨items, blocks, ho, hth, rfl⟩

theorem comments_lineStart (n : Nat) (cs : List Str) : LineStart (comments n cs) := by
  unfold comments
  split
  · exact lineStart_nil
  · exact lineStart_append_right _ (by simp [nl])
  · exact lineStart_append_right _ (by simp [nl])

/-- **the block of an item defines the item, and is one declaration** -/
theorem block_defines (U : UnicodeOps) (cfg : Cfg) (it : RustItem) (st : CustomMap) (b : Str) (st' : CustomMap)
    (h : writeItem U cfg it st = .ok (b, st')) : SplitsInto (tsDefs U it) b := by
  cases it with
  | struct s =>
    obtain ⟨body, _, rfl⟩ := writeStruct_ok.1 h
    exact splitsInto_single (definesHead_append _ (definesHead_append _ (definesHead_head₂ _ (genericSuffix _) _
      (comments_lineStart _ _) (nameEnd_genericSuffix _ (nameEnd_cons _ (by decide))))))
  | alias a =>
    obtain ⟨ty, _, rfl⟩ := writeAlias_ok.1 h
    exact splitsInto_single (definesHead_append _ (definesHead_append _ (definesHead_append _
      (definesHead_head₂ _ (genericSuffix _) _ (comments_lineStart _ _)
        (nameEnd_genericSuffix _ (nameEnd_cons _ (by decide)))))))
  | const c =>
    obtain ⟨ty, _, rfl⟩ := writeConst_ok.1 h
    exact splitsInto_single (definesHead_append _ (definesHead_append _ (definesHead_append _ (definesHead_append _
      (definesHead_head₀ _ (nameEnd_cons _ (by decide)))))))
  | «enum» e =>
    rcases writeEnum_ok h with ⟨hk, _, rfl⟩ | ⟨tag, content, body, hk, _, rfl⟩
    · simp only [tsDefs, hk, Option.isNone_none, if_true]
      exact splitsInto_single (definesHead_append _ (definesHead_append _ (definesHead_head₂ _ (genericSuffix _) _
        (comments_lineStart _ _) (nameEnd_genericSuffix _ (nameEnd_cons _ (by decide))))))
    · simp only [tsDefs, hk, Option.isNone_some, Bool.false_eq_true, if_false]
      exact splitsInto_single (definesHead_append _ (definesHead_append _ (definesHead_head₂ _ (genericSuffix _) _
        (comments_lineStart _ _) (nameEnd_genericSuffix _ (nameEnd_cons _ (by decide))))))

/-- a single job of a single-file run -/
theorem generateAll_single (E : Ext) (cfg : Cfg) (mf : Bool) (c : Str) (d : ParsedData)
    (imps : Option Pipeline.ScopedCrateTypes) :
    generateAll E cfg mf [(c, d, imps)] =
      (generate E.U cfg d imps []).bind fun r => .ok [(c, r.1)] := by
  simp only [generateAll, generateFrom]
  cases generate E.U cfg d imps [] <;> rfl

theorem generateAll_nil (E : Ext) (cfg : Cfg) (mf : Bool) : generateAll E cfg mf [] = .ok [] := rfl

end TsV.C03E.TS
