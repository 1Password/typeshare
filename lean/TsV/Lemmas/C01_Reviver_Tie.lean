import TsV.Lemmas.C01_Reviver_State
/-!
# C01, the reviver — the steps are what the model prints

Whenever `writeItems` succeeds, `itemsSteps` succeeds with the same final state, and the property
line of every field step (`renderField tf`) occurs in the printed text.
-/
namespace TsV.C01R
open TsV TsV.Lang TsV.Lang.TypeScript TsV.Outcome

theorem render_infix {tf : TsField} {tfs : List TsField} (h : tf ∈ tfs) :
    renderField tf <:+: tfs.flatMap renderField := by
  obtain ⟨a, b, rfl⟩ := List.append_of_mem h
  exact ⟨a.flatMap renderField, b.flatMap renderField, by simp⟩

theorem mem_fieldSteps {fs : List RustField} {tfs : List TsField} {f : RustField} {tf : TsField}
    (h : Step.field f tf ∈ fieldSteps fs tfs) : f ∈ fs ∧ tf ∈ tfs := by
  unfold fieldSteps at h
  obtain ⟨p, hp, he⟩ := List.mem_map.1 h
  cases he
  exact ⟨(List.of_mem_zip hp).1, (List.of_mem_zip hp).2⟩

theorem ty_not_mem_fieldSteps {fs : List RustField} {tfs : List TsField} {t : RustType} :
    Step.ty t ∉ fieldSteps fs tfs := by
  intro h
  unfold fieldSteps at h
  obtain ⟨p, _, he⟩ := List.mem_map.1 h
  cases he

/-- what a step list says about a text: every property line it names is printed there -/
def Printed (steps : List Step) (txt : Str) : Prop :=
  ∀ f tf, Step.field f tf ∈ steps → renderField tf <:+: txt

theorem Printed.nil (txt : Str) : Printed [] txt := fun _ _ h => by simp at h

theorem Printed.append {a b : List Step} {x y : Str} (ha : Printed a x) (hb : Printed b y) :
    Printed (a ++ b) (x ++ y) := by
  intro f tf h
  rcases List.mem_append.1 h with h | h
  · exact (ha f tf h).trans (List.prefix_append x y).isInfix
  · exact (hb f tf h).trans (List.suffix_append x y).isInfix

theorem Printed.wrap {a : List Step} {x : Str} (p q : Str) (ha : Printed a x) : Printed a (p ++ x ++ q) :=
  fun f tf h => C12L.infix_mid p q (ha f tf h)

theorem printed_fields (fs : List RustField) (tfs : List TsField) :
    Printed (fieldSteps fs tfs) (tfs.flatMap renderField) :=
  fun _ _ h => render_infix (mem_fieldSteps h).2

theorem writeVariants_steps (cfg : Cfg) (e : RustEnum) (tag content : Str)
    (vs : List RustEnumVariant) (st st' : CustomMap) (txt : Str)
    (h : writeVariants cfg e tag content vs st = .ok (txt, st')) :
    ∃ steps, variantsSteps cfg e vs st = .ok (steps, st') ∧ Printed steps txt := by
  induction vs generalizing st txt with
  | nil =>
    obtain ⟨rfl, rfl⟩ := ok_pair_inj h
    exact ⟨[], rfl, Printed.nil _⟩
  | cons v vs ih =>
    unfold writeVariants at h
    obtain ⟨a, st1, h1, h⟩ := of_bind_pair_ok h
    obtain ⟨b, st2, h2, h⟩ := of_bind_pair_ok h
    obtain ⟨rfl, rfl⟩ := ok_pair_inj h
    obtain ⟨rest, hr, hp⟩ := ih st1 b h2
    cases v with
    | unit id cs =>
      obtain ⟨rfl, -⟩ := writeVariant_unit_ok.1 h1
      exact ⟨rest, by simp only [variantsSteps]; exact hr, fun f tf hm => (hp f tf hm).trans (List.suffix_append a b).isInfix⟩
    | tuple id cs ty =>
      obtain ⟨t, h5, -⟩ := writeVariant_tuple_ok.1 h1
      refine ⟨Step.ty ty :: rest, by simp only [variantsSteps, h5, bind_ok, hr], ?_⟩
      intro f tf hm
      simp only [List.mem_cons, reduceCtorEq, false_or] at hm
      exact (hp f tf hm).trans (List.suffix_append a b).isInfix
    | anonymousStruct id cs fs =>
      obtain ⟨tfs, h5, rfl⟩ := C01.TypeScript.writeVariant_struct h1
      refine ⟨fieldSteps fs tfs ++ rest, by simp only [variantsSteps, h5, bind_ok, hr], ?_⟩
      exact Printed.append (Printed.wrap _ (s%"}}") (printed_fields fs tfs)) hp

theorem writeItem_steps (U : UnicodeOps) (cfg : Cfg) (it : RustItem) (st st' : CustomMap) (txt : Str)
    (h : writeItem U cfg it st = .ok (txt, st')) :
    ∃ steps, itemSteps cfg it st = .ok (steps, st') ∧ Printed steps txt := by
  cases it with
  | struct s =>
    obtain ⟨tfs, h1, rfl⟩ := C01.TypeScript.writeStruct_fields cfg s st st' txt h
    refine ⟨fieldSteps s.fields tfs, by simp only [itemSteps, h1, bind_ok], ?_⟩
    exact Printed.wrap _ (s%"}\n\n") (printed_fields s.fields tfs)
  | «enum» e =>
    rcases writeEnum_ok h with ⟨hk, rfl, -⟩ | ⟨tag, content, body, hk, hb, rfl⟩
    · exact ⟨[], by simp only [itemSteps, hk], Printed.nil _⟩
    · obtain ⟨steps, hs, hp⟩ := writeVariants_steps cfg e tag content e.variants st st' body hb
      exact ⟨steps, by simp only [itemSteps, hk]; exact hs, Printed.wrap _ (s%";\n\n") hp⟩
  | alias a =>
    obtain ⟨ty, h1, -⟩ := writeAlias_ok.1 h
    refine ⟨[Step.ty a.ty], by simp only [itemSteps, h1, bind_ok], ?_⟩
    intro f tf hm; simp at hm
  | const c =>
    obtain ⟨ty, h1, -⟩ := writeConst_ok.1 h
    refine ⟨[Step.ty c.ty], by simp only [itemSteps, h1, bind_ok], ?_⟩
    intro f tf hm; simp at hm

theorem writeItems_steps (U : UnicodeOps) (cfg : Cfg) (its : List RustItem) (st st' : CustomMap) (txt : Str)
    (h : writeItems U cfg its st = .ok (txt, st')) :
    ∃ steps, itemsSteps cfg its st = .ok (steps, st') ∧ Printed steps txt := by
  induction its generalizing st txt with
  | nil =>
    obtain ⟨rfl, rfl⟩ := ok_pair_inj h
    exact ⟨[], rfl, Printed.nil _⟩
  | cons it its ih =>
    unfold writeItems at h
    obtain ⟨a, st1, h1, h⟩ := of_bind_pair_ok h
    obtain ⟨b, st2, h2, h⟩ := of_bind_pair_ok h
    obtain ⟨rfl, rfl⟩ := ok_pair_inj h
    obtain ⟨sa, hsa, hpa⟩ := writeItem_steps U cfg it st st1 a h1
    obtain ⟨sb, hsb, hpb⟩ := ih st1 b h2
    exact ⟨sa ++ sb, by simp only [itemsSteps, hsa, bind_ok, hsb], Printed.append hpa hpb⟩

/-- the field steps of `itemsSteps` are produced by `fieldFacts`: the property carries the field's
wire name, and its printed type is the one the state was updated for -/
def StepOk (cfg : Cfg) : Step → Prop
  | .ty _ => True
  | .field f tf => tf.name = propertyName f.id.renamed ∧ ∃ gens st st', fieldFacts cfg gens f st = .ok (tf, st')

theorem walk_stepOk (cfg : Cfg) : Walk cfg fun _ steps _ => ∀ s ∈ steps, StepOk cfg s where
  nil _ _ hs := nomatch hs
  append ha hb s hs := (List.mem_append.1 hs).elim (ha s) (hb s)
  field h s hs := by
    rw [List.mem_singleton.1 hs]
    exact ⟨C01.TypeScript.fieldFacts_name cfg _ _ _ _ _ h, _, _, _, h⟩
  ty _ s hs := by rw [List.mem_singleton.1 hs]; trivial

theorem itemsSteps_stepOk (cfg : Cfg) (its : List RustItem) (st st' : CustomMap) (steps : List Step)
    (h : itemsSteps cfg its st = .ok (steps, st')) : ∀ s ∈ steps, StepOk cfg s :=
  itemsSteps_walk (walk_stepOk cfg) its st st' steps h

/-- an `add` event comes from a field step that printed that type under that wire name -/
theorem add_mem_eventsOf {cfg : Cfg} {steps : List Step} {t k : Str} (h : Ev.add t k ∈ eventsOf cfg steps) :
    ∃ f tf, Step.field f tf ∈ steps ∧ tf.ty = t ∧ f.id.renamed = k ∧ hasCustom t = true := by
  unfold eventsOf at h
  obtain ⟨s, hs, he⟩ := List.mem_flatMap.1 h
  cases s with
  | ty r => simp [stepEvents, resetEvents] at he
  | field f tf =>
    simp only [stepEvents, List.mem_append] at he
    rcases he with he | he
    · split at he
      · simp at he
      · simp [resetEvents] at he
    · split at he
      · rename_i hc
        simp only [List.mem_singleton, Ev.add.injEq] at he
        exact ⟨f, tf, hs, he.1.symm, he.2.symm, he.1 ▸ hc⟩
      · simp at he

/-- a field step whose printed type is custom-translated adds its wire name -/
theorem add_of_field {cfg : Cfg} {steps : List Step} {f : RustField} {tf : TsField}
    (h : Step.field f tf ∈ steps) (hc : hasCustom tf.ty = true) : Ev.add tf.ty f.id.renamed ∈ eventsOf cfg steps := by
  unfold eventsOf
  refine List.mem_flatMap.2 ⟨_, h, ?_⟩
  simp [stepEvents, hc]

/-- a reset event comes from a special type that the configuration maps to a custom-translated type -/
theorem reset_mem_eventsOf {cfg : Cfg} {steps : List Step} {t : Str} (h : Ev.reset t ∈ eventsOf cfg steps) :
    ∃ r, (Step.ty r ∈ steps ∨ ∃ f tf, Step.field f tf ∈ steps ∧ f.ty = r ∧ typeOverride f .typescript = none) ∧
      t ∈ resetsOf cfg r := by
  unfold eventsOf at h
  obtain ⟨s, hs, he⟩ := List.mem_flatMap.1 h
  cases s with
  | ty r =>
    simp only [stepEvents, resetEvents, List.mem_map, Ev.reset.injEq] at he
    obtain ⟨m, hm, rfl⟩ := he
    exact ⟨r, Or.inl hs, hm⟩
  | field f tf =>
    simp only [stepEvents, List.mem_append] at he
    rcases he with he | he
    · cases ho : typeOverride f .typescript with
      | some x => rw [ho] at he; simp at he
      | none =>
        rw [ho] at he
        simp only [resetEvents, List.mem_map, Ev.reset.injEq] at he
        obtain ⟨m, hm, rfl⟩ := he
        exact ⟨f.ty, Or.inr ⟨f, tf, hs, rfl, ho⟩, hm⟩
    · split at he <;> simp at he

theorem eventsOf_noReset {cfg : Cfg} (H : NoCustomTarget cfg) (steps : List Step) (t : Str) :
    Ev.reset t ∉ eventsOf cfg steps := by
  intro h
  obtain ⟨r, _, hr⟩ := reset_mem_eventsOf h
  rw [resetsOf_nil H r] at hr
  simp at hr

end TsV.C01R
