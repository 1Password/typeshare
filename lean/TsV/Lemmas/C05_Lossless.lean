import TsV.Lemmas.C05_Inj
import TsV.Lemmas.C05_InjGo
import TsV.Lemmas.C05_Struct
/-!
# C05 — `show L` is injective up to leaf kinds (TypeScript, Kotlin, Swift, Scala, Python)

`show L t` is the rendering of a bracket term `desugar L t`; bracket terms are uniquely readable
(`Inj.render_inj`); `desugar L` has a left inverse up to leaf kinds (`resugar`).  `desugar_spec` proves
the first and the last together with the well-formedness of `desugar L t`; Go, whose grammar is prefix,
goes the same way through `InjGo` (`desugarGo_spec`).
-/
namespace TsV.C05L
open TsV TsV.C05L.Inj

/-- the back ends covered by the losslessness theorem -/
def Covered (L : TsV.Lang) : Prop := L = .typescript ∨ L = .kotlin ∨ L = .scala ∨ L = .python ∨ L = .swift

def grOf : TsV.Lang → Gr
  | .typescript => ⟨'<', '>', '[', [']']⟩
  | .kotlin => ⟨'<', '>', '?', []⟩
  | .swift => ⟨'<', '>', '?', []⟩
  | _ => ⟨'[', ']', '?', []⟩

theorem grOf_ok (L : TsV.Lang) : (grOf L).OK := by
  have ts : Gr.OK ⟨'<', '>', '[', [']']⟩ := by constructor <;> decide
  have angle : Gr.OK ⟨'<', '>', '?', []⟩ := by constructor <;> decide
  have square : Gr.OK ⟨'[', ']', '?', []⟩ := by constructor <;> decide
  cases L <;> assumption

def kwSeq : TsV.Lang → Str
  | .kotlin => s%"List" | .scala => s%"Vector" | .python => s%"List" | _ => []
def kwMap : TsV.Lang → Str
  | .typescript => s%"Record" | .kotlin => s%"HashMap" | .scala => s%"Map" | .python => s%"Dict"
  | .go => s%"map" | .swift => []
def kwOpt : TsV.Lang → Str
  | .scala => s%"Option" | .python => s%"Optional" | _ => []

/-- the container names a user type applied to arguments must not be called -/
def keywords (L : TsV.Lang) : List Str := [kwSeq L, kwMap L, kwOpt L]

def bump : Tm → Tm
  | .leaf n k => .leaf n (k + 1)
  | .app n a as k => .app n a as (k + 1)
  | .tup a as k => .tup a as (k + 1)
  | .dict a b k => .dict a b (k + 1)

mutual
  /-- a target type expression as a bracket term -/
  def desugar (L : TsV.Lang) : TTy → Tm
    | .prim n => .leaf n 0
    | .param n => .leaf n 0
    | .mapped n => .leaf n 0
    | .user n [] => .leaf n 0
    | .user n (a :: as) => .app n (desugar L a) (desugarList L as) 0
    | .seq t =>
      (match L with
      | .typescript => bump (desugar L t)
      | .swift => .tup (desugar L t) [] 0
      | _ => .app (kwSeq L) (desugar L t) [] 0)
    | .fixedSeq t n =>
      (match L, n with
      | .typescript, m + 1 => .tup (desugar L t) (List.replicate m (desugar L t)) 0
      | _, _ => .app (kwSeq L) (desugar L t) [] 0)
    | .map k v =>
      (match L with
      | .swift => .dict (desugar L k) (desugar L v) 0
      | _ => .app (kwMap L) (desugar L k) [desugar L v] 0)
    | .opt t =>
      (match L with
      | .typescript => desugar L t
      | .kotlin => bump (desugar L t)
      | .swift => bump (desugar L t)
      | _ => .app (kwOpt L) (desugar L t) [] 0)
  def desugarList (L : TsV.Lang) : List TTy → List Tm
    | [] => []
    | t :: ts => desugar L t :: desugarList L ts
end

mutual
  /-- the trees the theorem speaks about: no `mapped` node, names are identifiers, a user type with
  arguments is not called like a container of the target language, and only the constructors the
  translation produces for `L` (TypeScript: no `opt`, tuples of positive length; `fixedSeq` only in
  TypeScript and Go) -/
  def WF (L : TsV.Lang) : TTy → Prop
    | .prim n => NameOK n
    | .param n => NameOK n
    | .mapped _ => False
    | .user n args => NameOK n ∧ (args ≠ [] → n ∉ keywords L) ∧ WFl L args
    | .seq t => WF L t
    | .fixedSeq t n => hasFixed L = true ∧ (L = .typescript → n ≠ 0) ∧ WF L t
    | .map k v => WF L k ∧ WF L v
    | .opt t => L ≠ .typescript ∧ WF L t
  def WFl (L : TsV.Lang) : List TTy → Prop
    | [] => True
    | t :: ts => WF L t ∧ WFl L ts
end

mutual
  /-- forget which kind of leaf a name is -/
  def erase : TTy → TTy
    | .prim n => .prim n
    | .param n => .prim n
    | .mapped n => .mapped n
    | .user n [] => .prim n
    | .user n (a :: as) => .user n (erase a :: eraseList as)
    | .seq t => .seq (erase t)
    | .fixedSeq t n => .fixedSeq (erase t) n
    | .map k v => .map (erase k) (erase v)
    | .opt t => .opt (erase t)
  def eraseList : List TTy → List TTy
    | [] => []
    | t :: ts => erase t :: eraseList ts
end

theorem covered_fixed (L : TsV.Lang) (hL : Covered L) (h : hasFixed L = true) : L = .typescript := by
  rcases hL with rfl | rfl | rfl | rfl | rfl <;> simp [hasFixed] at h ⊢

/-! ## `show` is `render ∘ desugar` -/

def tailStr : List Str → Str
  | [] => []
  | x :: xs => ',' :: ' ' :: (x ++ tailStr xs)

theorem intercalate_cons (x : Str) : ∀ xs : List Str, Str.intercalate s%", " (x :: xs) = x ++ tailStr xs := by
  intro xs
  induction xs generalizing x with
  | nil => simp [Str.intercalate, tailStr]
  | cons y ys ih =>
    simp only [Str.intercalate, tailStr, ih y]
    simp

theorem posts_snoc (g : Gr) : ∀ k, posts g (k + 1) = posts g k ++ g.post := by
  intro k
  induction k with
  | zero => simp [posts]
  | succ k ih =>
    simp only [posts] at ih ⊢
    rw [ih, ← List.append_assoc, ih]

theorem render_bump (g : Gr) (t : Tm) : render g (bump t) = render g t ++ g.post := by
  cases t <;> simp [bump, render, posts_snoc]

theorem renderTail_replicate (g : Gr) (d : Tm) : ∀ m,
    renderTail g (List.replicate m d) = tailStr (List.replicate m (render g d)) := by
  intro m
  induction m with
  | zero => simp [renderTail, tailStr]
  | succ m ih => simp [List.replicate_succ, renderTail, tailStr, ih]

theorem nameOK_of_decide (n : Str) (h : (n ≠ [] ∧ ∀ ch ∈ n, special ch = false)) : NameOK n := h

theorem wft_bump (t : Tm) (h : WFt t) : WFt (bump t) := by
  cases t <;> simpa [bump, WFt] using h

theorem wfts_replicate (d : Tm) (h : WFt d) : ∀ m, WFts (List.replicate m d) := by
  intro m
  induction m with
  | zero => simp [WFts]
  | succ m ih => simp [List.replicate_succ, WFts, h, ih]

/-! ## a left inverse of `desugar` up to leaf kinds -/

/-- what one postfix mark means -/
def wrapPost (L : TsV.Lang) (t : TTy) : TTy :=
  match L with
  | .typescript => .seq t
  | _ => .opt t

def wrapN (L : TsV.Lang) : Nat → TTy → TTy
  | 0, t => t
  | k + 1, t => wrapPost L (wrapN L k t)

mutual
  def resugar (L : TsV.Lang) : Tm → TTy
    | .leaf n k => wrapN L k (.prim n)
    | .app n a as k => wrapN L k
        (if n = kwSeq L then .seq (resugar L a)
         else if n = kwOpt L then .opt (resugar L a)
         else if n = kwMap L then
           (match resugarList L as with
            | [b] => .map (resugar L a) b
            | bs => .user n (resugar L a :: bs))
         else .user n (resugar L a :: resugarList L as))
    | .tup a as k => wrapN L k
        (match L with
         | .swift => .seq (resugar L a)
         | _ => .fixedSeq (resugar L a) (as.length + 1))
    | .dict a b k => wrapN L k (.map (resugar L a) (resugar L b))
  def resugarList (L : TsV.Lang) : List Tm → List TTy
    | [] => []
    | t :: ts => resugar L t :: resugarList L ts
end

theorem resugar_bump (L : TsV.Lang) (t : Tm) : resugar L (bump t) = wrapPost L (resugar L t) := by
  cases t <;> simp [bump, resugar, wrapN]

mutual
/-- what the rest of the argument needs of `desugar`, in one induction: the text is the rendering of the
bracket term, the bracket term is well formed, and `resugar` reads the tree back up to leaf kinds -/
theorem desugar_spec (L : TsV.Lang) (hL : Covered L) : ∀ t : TTy, WF L t →
    «show» L t = render (grOf L) (desugar L t) ∧ WFt (desugar L t) ∧ resugar L (desugar L t) = erase t
  | .prim n, h | .param n, h =>
    ⟨by simp [«show», desugar, render, posts], by simpa [WF, desugar, WFt] using h,
     by simp [desugar, resugar, wrapN, erase]⟩
  | .mapped n, h => by simp [WF] at h
  | .user n [], h =>
    ⟨by simp [«show», desugar, render, posts], by simp only [WF] at h; simpa [desugar, WFt] using h.1,
     by simp [desugar, resugar, wrapN, erase]⟩
  | .user n (a :: as), h => by
    simp only [WF, WFl] at h
    obtain ⟨s1, w1, r1⟩ := desugar_spec L hL a h.2.2.1
    obtain ⟨s2, w2, r2⟩ := desugarList_spec L hL as h.2.2.2
    have hk := h.2.1 (by simp)
    simp only [keywords, List.mem_cons, List.not_mem_nil, or_false, not_or] at hk
    refine ⟨?_, by simp only [desugar, WFt]; exact ⟨h.1, w1, w2⟩,
      by simp only [desugar, resugar, wrapN, erase, hk.1, hk.2.1, hk.2.2, if_false, r1, r2]⟩
    simp only [«show», showAll, List.isEmpty_cons, Bool.false_eq_true, if_false, intercalate_cons, desugar,
      render, posts, s1, s2, List.append_assoc]
    rcases hL with rfl | rfl | rfl | rfl | rfl <;> rfl
  | .seq t, h => by
    simp only [WF] at h
    obtain ⟨s1, w1, r1⟩ := desugar_spec L hL t h
    refine ⟨?_, ?_, ?_⟩
    -- per back end both texts are the same literal pieces around the same variable parts: once `++` is
    -- associated to the right the keyword and bracket tables evaluate
    · rcases hL with rfl | rfl | rfl | rfl | rfl <;>
        (simp only [«show», desugar, render_bump, render, renderTail, posts, s1, List.append_assoc]; rfl)
    · rcases hL with rfl | rfl | rfl | rfl | rfl
      · simpa [desugar] using wft_bump _ w1
      · simp only [desugar, WFt, WFts]; exact ⟨by decide +kernel, w1, trivial⟩
      · simp only [desugar, WFt, WFts]; exact ⟨by decide +kernel, w1, trivial⟩
      · simp only [desugar, WFt, WFts]; exact ⟨by decide +kernel, w1, trivial⟩
      · simp only [desugar, WFt, WFts]; exact ⟨w1, trivial⟩
    · rcases hL with rfl | rfl | rfl | rfl | rfl <;> (simp only [erase, ← r1, desugar, resugar_bump]; rfl)
  | .fixedSeq t n, h => by
    simp only [WF] at h
    obtain ⟨hf, hn, h⟩ := h
    obtain rfl := covered_fixed L hL hf
    have hn := hn rfl
    obtain ⟨s1, w1, r1⟩ := desugar_spec .typescript hL t h
    cases n with
    | zero => exact absurd rfl hn
    | succ m =>
      exact ⟨by simp [«show», desugar, render, posts, List.replicate_succ, intercalate_cons, renderTail_replicate, s1, grOf],
        by simp only [desugar, WFt]; exact ⟨w1, wfts_replicate _ w1 m⟩,
        by simp [desugar, resugar, wrapN, erase, r1]⟩
  | .map k v, h => by
    simp only [WF] at h
    obtain ⟨s1, w1, r1⟩ := desugar_spec L hL k h.1
    obtain ⟨s2, w2, r2⟩ := desugar_spec L hL v h.2
    refine ⟨?_, ?_, ?_⟩
    · rcases hL with rfl | rfl | rfl | rfl | rfl <;>
        (simp only [«show», desugar, render, renderTail, posts, s1, s2, List.append_assoc, List.append_nil]; rfl)
    · rcases hL with rfl | rfl | rfl | rfl | rfl
      · simp only [desugar, WFt, WFts]; exact ⟨by decide +kernel, w1, w2, trivial⟩
      · simp only [desugar, WFt, WFts]; exact ⟨by decide +kernel, w1, w2, trivial⟩
      · simp only [desugar, WFt, WFts]; exact ⟨by decide +kernel, w1, w2, trivial⟩
      · simp only [desugar, WFt, WFts]; exact ⟨by decide +kernel, w1, w2, trivial⟩
      · simp only [desugar, WFt]; exact ⟨w1, w2⟩
    · rcases hL with rfl | rfl | rfl | rfl | rfl <;> (simp only [erase, ← r1, ← r2]; rfl)
  | .opt t, h => by
    simp only [WF] at h
    obtain ⟨s1, w1, r1⟩ := desugar_spec L hL t h.2
    rcases hL with rfl | rfl | rfl | rfl | rfl
    · exact absurd rfl h.1
    all_goals
      refine ⟨by simp only [«show», desugar, render_bump, render, renderTail, posts, s1, List.append_assoc]; rfl,
        ?_, by simp only [erase, ← r1, desugar, resugar_bump]; rfl⟩
    · simpa [desugar] using wft_bump _ w1
    · simp only [desugar, WFt, WFts]; exact ⟨by decide +kernel, w1, trivial⟩
    · simp only [desugar, WFt, WFts]; exact ⟨by decide +kernel, w1, trivial⟩
    · simpa [desugar] using wft_bump _ w1
theorem desugarList_spec (L : TsV.Lang) (hL : Covered L) : ∀ ts : List TTy, WFl L ts →
    tailStr (showAll L ts) = renderTail (grOf L) (desugarList L ts) ∧ WFts (desugarList L ts) ∧
      resugarList L (desugarList L ts) = eraseList ts
  | [], _ => by simp [showAll, tailStr, desugarList, renderTail, WFts, resugarList, eraseList]
  | t :: ts, h => by
    simp only [WFl] at h
    obtain ⟨s1, w1, r1⟩ := desugar_spec L hL t h.1
    obtain ⟨s2, w2, r2⟩ := desugarList_spec L hL ts h.2
    exact ⟨by simp [showAll, tailStr, desugarList, renderTail, s1, s2], by simp only [desugarList, WFts]; exact ⟨w1, w2⟩,
      by simp [desugarList, resugarList, eraseList, r1, r2]⟩
end

theorem showTail_eq (L : TsV.Lang) (hL : Covered L) : ∀ ts : List TTy, WFl L ts →
    tailStr (showAll L ts) = renderTail (grOf L) (desugarList L ts) :=
  fun ts h => (desugarList_spec L hL ts h).1

theorem wfts_desugar (L : TsV.Lang) (hL : Covered L) : ∀ ts : List TTy, WFl L ts → WFts (desugarList L ts) :=
  fun ts h => (desugarList_spec L hL ts h).2.1

theorem resugarList_desugar (L : TsV.Lang) (hL : Covered L) : ∀ ts : List TTy, WFl L ts →
    resugarList L (desugarList L ts) = eraseList ts :=
  fun ts h => (desugarList_spec L hL ts h).2.2

/-- **losslessness**: equal texts come from trees of equal structure and equal names -/
theorem show_injective (L : TsV.Lang) (hL : Covered L) (a b : TTy) (ha : WF L a) (hb : WF L b)
    (h : «show» L a = «show» L b) : erase a = erase b := by
  obtain ⟨sa, wa, ra⟩ := desugar_spec L hL a ha
  obtain ⟨sb, wb, rb⟩ := desugar_spec L hL b hb
  rw [sa, sb] at h
  rw [← ra, ← rb, render_inj (grOf L) (grOf_ok L) _ _ wa wb h]

/-! ## the translation produces well-formed trees -/

mutual
  /-- Rust types whose translation the losslessness theorem covers: no node is replaced by a type
  mapping, printed names are identifiers, a generic user type is not called like a container of the
  target language, TypeScript arrays are not empty -/
  def RWF (L : TsV.Lang) (c : TCfg) (gens : List Str) : RustType → Prop
    | t@(.simple id) => lookup L c t = none ∧ NameOK id ∧ NameOK (userName L c gens id)
    | t@(.generic id ps) => lookup L c t = none ∧ NameOK (userName L c gens id) ∧
        userName L c gens id ∉ keywords L ∧ RWFl L c gens ps
    | t@(.vec r) => lookup L c t = none ∧ RWF L c gens r
    | t@(.slice r) => lookup L c t = none ∧ RWF L c gens r
    | t@(.array r n) => lookup L c t = none ∧ (L = .typescript → n ≠ 0) ∧ RWF L c gens r
    | t@(.option r) => lookup L c t = none ∧ RWF L c gens r
    | t@(.hashMap k v) => lookup L c t = none ∧ RWF L c gens k ∧ RWF L c gens v
    | t@(.prim _) => lookup L c t = none
  def RWFl (L : TsV.Lang) (c : TCfg) (gens : List Str) : List RustType → Prop
    | [] => True
    | t :: ts => RWF L c gens t ∧ RWFl L c gens ts
end

theorem prim_nameOK (L : TsV.Lang) (p : Prim) (n : Str) (h : primTarget L p = .ok n) :
    NameOK n := by
  have table : ∀ L ∈ allLangs, ∀ p ∈ allPrims,
      (match primTarget L p with | .ok n => decide (NameOK n) | _ => true) = true := by decide +kernel
  have hn := table L (mem_allLangs L) p (mem_allPrims p)
  rw [h] at hn
  exact of_decide_eq_true hn

theorem RWF.unmapped {L : TsV.Lang} {c : TCfg} {gens : List Str} {t : RustType} (h : RWF L c gens t) :
    lookup L c t = none := by
  cases t with
  | prim p => rw [RWF] at h; exact h
  | _ => rw [RWF] at h; exact h.1

theorem wfl_of_forall₂ {L : TsV.Lang} {c : TCfg} {gens : List Str} {ts : List RustType} {Ts : List TTy}
    (h : C01.Forall₂ (fun t T => RWF L c gens t → WF L T) ts Ts) : RWFl L c gens ts → WFl L Ts := by
  induction h with
  | nil => exact fun _ => WFl.eq_1 L ▸ trivial
  | cons hab _ ih =>
    intro hr
    rw [RWFl] at hr
    rw [WFl]
    exact ⟨hab hr.1, ih hr.2⟩

theorem translate_wf (L : TsV.Lang) (c : TCfg) (gens : List Str) (t : RustType) (T : TTy) (h : RWF L c gens t)
    (e : translate L c gens t = .ok T) : WF L T :=
  translate_induct (motive := fun t T => RWF L c gens t → WF L T)
    (mapped := fun _ _ hm h => nomatch hm.symm.trans h.unmapped)
    (simple := fun id _ h => by
      rw [RWF] at h
      split
      · rw [WF]; exact h.2.1
      · rw [WF, WFl]; exact ⟨h.2.2, fun h => absurd rfl h, trivial⟩)
    (generic := fun id ps args _ ih h => by
      rw [RWF] at h
      rw [WF]
      exact ⟨h.2.1, fun _ => h.2.2.1, wfl_of_forall₂ ih h.2.2.2⟩)
    (vec := fun r x _ ih h => by rw [RWF] at h; rw [WF]; exact ih h.2)
    (slice := fun r x _ ih h => by rw [RWF] at h; rw [WF]; exact ih h.2)
    (array := fun r n x _ ih h => by
      rw [RWF] at h
      split
      · rw [WF]; exact ⟨‹_›, h.2.1, ih h.2.2⟩
      · rw [WF]; exact ih h.2.2)
    (option := fun r x _ ih h => by
      rw [RWF] at h
      split
      · exact ih h.2
      · rw [WF]; exact ⟨fun e => ‹¬ _› (by subst e; rfl), ih h.2⟩)
    (hashMap := fun k v a b _ _ ihk ihv h => by rw [RWF] at h; rw [WF]; exact ⟨ihk h.2.1, ihv h.2.2⟩)
    (prim := fun p n _ hn _ => by rw [WF]; exact prim_nameOK L p n hn) t T e h

theorem translateList_wf (L : TsV.Lang) (c : TCfg) (gens : List Str) :
    ∀ (ts : List RustType) (Ts : List TTy), RWFl L c gens ts → translateList L c gens ts = .ok Ts → WFl L Ts :=
  fun _ _ h e => wfl_of_forall₂ ((translateList_forall₂ e).imp fun t T et ht => translate_wf L c gens t T ht et) h

/-! ## Go -/

open TsV.C05L.InjGo in
mutual
  def desugarGo : TTy → GTm
    | .prim n => .leaf n
    | .param n => .leaf n
    | .mapped n => .leaf n
    | .user n [] => .leaf n
    | .user n (a :: as) => .app n (desugarGo a) (desugarGoList as)
    | .seq t => .pre .slice (desugarGo t)
    | .fixedSeq t n => .pre (.arr n) (desugarGo t)
    | .map k v => .mp (desugarGo k) (desugarGo v)
    | .opt t => .pre .ptr (desugarGo t)
  def desugarGoList : List TTy → List GTm
    | [] => []
    | t :: ts => desugarGo t :: desugarGoList ts
end

open TsV.C05L.InjGo in
mutual
  def resugarGo : GTm → TTy
    | .leaf n => .prim n
    | .app n a as => .user n (resugarGo a :: resugarGoList as)
    | .mp k v => .map (resugarGo k) (resugarGo v)
    | .pre .slice t => .seq (resugarGo t)
    | .pre .ptr t => .opt (resugarGo t)
    | .pre (.arr n) t => .fixedSeq (resugarGo t) n
  def resugarGoList : List GTm → List TTy
    | [] => []
    | t :: ts => resugarGo t :: resugarGoList ts
end

mutual
theorem desugarGo_spec : ∀ t : TTy, WF .go t →
    «show» .go t = InjGo.render (desugarGo t) ∧ InjGo.WFg (desugarGo t) ∧ resugarGo (desugarGo t) = erase t
  | .prim n, h | .param n, h =>
    ⟨by simp [«show», desugarGo, InjGo.render], by simpa [WF, desugarGo, InjGo.WFg] using h,
     by simp [desugarGo, resugarGo, erase]⟩
  | .mapped n, h => by simp [WF] at h
  | .user n [], h =>
    ⟨by simp [«show», desugarGo, InjGo.render], by simp only [WF] at h; simpa [desugarGo, InjGo.WFg] using h.1,
     by simp [desugarGo, resugarGo, erase]⟩
  | .user n (a :: as), h => by
    simp only [WF, WFl] at h
    obtain ⟨s1, w1, r1⟩ := desugarGo_spec a h.2.2.1
    obtain ⟨s2, w2, r2⟩ := desugarGoList_spec as h.2.2.2
    have hk := h.2.1 (by simp)
    simp only [keywords, kwMap, List.mem_cons, List.not_mem_nil, or_false, not_or] at hk
    exact ⟨by simp [«show», showAll, intercalate_cons, desugarGo, InjGo.render, s1, s2, brOpen, brClose],
      by simp only [desugarGo, InjGo.WFg]; exact ⟨h.1, hk.2.1, w1, w2⟩,
      by simp [desugarGo, resugarGo, erase, r1, r2]⟩
  | .seq t, h => by
    simp only [WF] at h
    obtain ⟨s1, w1, r1⟩ := desugarGo_spec t h
    exact ⟨by simp [«show», desugarGo, InjGo.render, InjGo.renderMark, s1], by simpa [desugarGo, InjGo.WFg] using w1,
      by simp [desugarGo, resugarGo, erase, r1]⟩
  | .fixedSeq t n, h => by
    simp only [WF] at h
    obtain ⟨s1, w1, r1⟩ := desugarGo_spec t h.2.2
    exact ⟨by simp [«show», desugarGo, InjGo.render, InjGo.renderMark, s1], by simpa [desugarGo, InjGo.WFg] using w1,
      by simp [desugarGo, resugarGo, erase, r1]⟩
  | .map k v, h => by
    simp only [WF] at h
    obtain ⟨s1, w1, r1⟩ := desugarGo_spec k h.1
    obtain ⟨s2, w2, r2⟩ := desugarGo_spec v h.2
    exact ⟨by simp [«show», desugarGo, InjGo.render, s1, s2], by simp only [desugarGo, InjGo.WFg]; exact ⟨w1, w2⟩,
      by simp [desugarGo, resugarGo, erase, r1, r2]⟩
  | .opt t, h => by
    simp only [WF] at h
    obtain ⟨s1, w1, r1⟩ := desugarGo_spec t h.2
    exact ⟨by simp [«show», desugarGo, InjGo.render, InjGo.renderMark, s1], by simpa [desugarGo, InjGo.WFg] using w1,
      by simp [desugarGo, resugarGo, erase, r1]⟩
theorem desugarGoList_spec : ∀ ts : List TTy, WFl .go ts →
    tailStr (showAll .go ts) = InjGo.renderTail (desugarGoList ts) ∧ InjGo.WFgs (desugarGoList ts) ∧
      resugarGoList (desugarGoList ts) = eraseList ts
  | [], _ => by simp [showAll, tailStr, desugarGoList, InjGo.renderTail, InjGo.WFgs, resugarGoList, eraseList]
  | t :: ts, h => by
    simp only [WFl] at h
    obtain ⟨s1, w1, r1⟩ := desugarGo_spec t h.1
    obtain ⟨s2, w2, r2⟩ := desugarGoList_spec ts h.2
    exact ⟨by simp [showAll, tailStr, desugarGoList, InjGo.renderTail, s1, s2],
      by simp only [desugarGoList, InjGo.WFgs]; exact ⟨w1, w2⟩, by simp [desugarGoList, resugarGoList, eraseList, r1, r2]⟩
end

theorem showTail_eqGo : ∀ ts : List TTy, WFl .go ts →
    tailStr (showAll .go ts) = InjGo.renderTail (desugarGoList ts) :=
  fun ts h => (desugarGoList_spec ts h).1

theorem wfgs_desugarGo : ∀ ts : List TTy, WFl .go ts → InjGo.WFgs (desugarGoList ts) :=
  fun ts h => (desugarGoList_spec ts h).2.1

theorem resugarList_desugarGo : ∀ ts : List TTy, WFl .go ts → resugarGoList (desugarGoList ts) = eraseList ts :=
  fun ts h => (desugarGoList_spec ts h).2.2

theorem show_injective_go (a b : TTy) (ha : WF .go a) (hb : WF .go b)
    (h : «show» .go a = «show» .go b) : erase a = erase b := by
  obtain ⟨sa, wa, ra⟩ := desugarGo_spec a ha
  obtain ⟨sb, wb, rb⟩ := desugarGo_spec b hb
  rw [sa, sb] at h
  rw [← ra, ← rb, InjGo.renderG_inj _ _ wa wb h]

/-- **losslessness, all six back ends** -/
theorem show_injective_all (L : TsV.Lang) (a b : TTy) (ha : WF L a) (hb : WF L b)
    (h : «show» L a = «show» L b) : erase a = erase b := by
  cases L with
  | go => exact show_injective_go a b ha hb h
  | typescript => exact show_injective _ (.inl rfl) a b ha hb h
  | kotlin => exact show_injective _ (.inr (.inl rfl)) a b ha hb h
  | scala => exact show_injective _ (.inr (.inr (.inl rfl))) a b ha hb h
  | python => exact show_injective _ (.inr (.inr (.inr (.inl rfl)))) a b ha hb h
  | swift => exact show_injective _ (.inr (.inr (.inr (.inr rfl)))) a b ha hb h

end TsV.C05L
