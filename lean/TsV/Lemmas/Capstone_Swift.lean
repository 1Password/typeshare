import TsV.Lemmas.Capstone_Items
import TsV.Lemmas.Capstone_Order
/-!
# Capstone — Swift: from `writeItem … = .ok (b, st')` to the fact records and the clauses
-/
namespace TsV.Cap.Sw
open TsV TsV.Syn TsV.Parser TsV.Pipeline TsV.Generate TsV.C03E TsV.Lang TsV.Lang.Swift TsV.Outcome

/-- C04's reading of one stored property (the initialiser parameter carries the same pair) -/
def Reads (p : StoredProp) (o : Bool) (core : Str) : Prop :=
  o = C04.Sw.isOptional p.ty p.optional ∧ core = C04.Sw.stripOptional p.ty p.optional

theorem writeItem_struct (U : UnicodeOps) (cfg : Cfg) (rs : RustStruct) (st st' : St) (b : Str)
    (h : writeItem U cfg (.struct rs) st = .ok (b, st')) :
    ∃ s, structFacts U cfg rs st = .ok (s, st') ∧ renderStruct U s = b :=
  writeStruct_ok.1 h

theorem writeItem_enum (U : UnicodeOps) (cfg : Cfg) (e : RustEnum) (st st' : St) (b : Str)
    (h : writeItem U cfg (.enum e) st = .ok (b, st')) :
    ∃ ss se, enumFacts U cfg e st = .ok (ss, se, st') ∧ nl ++ ss.flatMap (renderStruct U) ++ renderEnum U se = b :=
  writeEnum_ok h

/-- **clauses 2 + 3 for the struct of a source struct** -/
theorem struct_ok (E : Ext) (hU : E.U.AsciiCorrect) (cfg : Cfg) (targetOs : List Str) (c : Str) (r : Renames)
    (attrs : List Attr) (ident : Str) (gens : List Syn.GenericParam) (fs : List Field) (rs : RustStruct)
    (st st' : St) (s : SwiftStruct)
    (hparse : parseStruct E targetOs attrs ident gens (.named fs) = .ok (.struct rs))
    (hd : structFacts E.U cfg (recStruct c r rs) st = .ok (s, st')) :
    StructClauses E .swift (.swift cfg) targetOs c r attrs fs (recStruct c r rs)
      (C01.Swift.structKeys s) Reads s.props := by
  refine struct_clauses E hU .swift (.swift cfg) (cfg, st) targetOs c r attrs ident gens fs rs _ Reads _ hparse
    (by simp [C01.structKeys, hd]) ((C04.swift_struct hd).1.imp ?_)
  intro rf' p hp hs _
  obtain ⟨h1, h2⟩ := hp hs.1 hs.2.2
  exact ⟨_, _, ⟨rfl, rfl⟩, h1, h2⟩

/-- **clauses 2 + 4 for the declarations of a source enum**: `ss` are the helper structs of the struct variants -/
theorem enum_ok (E : Ext) (hU : E.U.AsciiCorrect) (cfg : Cfg) (targetOs : List Str) (c : Str) (r : Renames)
    (attrs : List Attr) (ident : Str) (gens : List Syn.GenericParam) (vs : List Variant) (e : RustEnum)
    (st st' : St) (ss : List SwiftStruct) (se : SwiftEnum) (acronyms : List Str)
    (hparse : parseEnum E targetOs attrs ident gens vs = .ok (.enum e))
    (hd : enumFacts E.U cfg (recEnum c r e) st = .ok (ss, se, st')) :
    EnumClauses E .swift targetOs attrs vs (recEnum c r e) acronyms (ss.map C01.Swift.structKeys) (C02.Sw.wire se) := by
  obtain ⟨st1, hs⟩ := C01.C01_swift_enum_structs E.U cfg _ st st' ss se hd
  refine enum_clauses E hU .swift (cfg, st) targetOs c r attrs ident gens vs e acronyms _ _ hparse
    (by simp [C01.enumKeys, hs]) ?_
  intro hsc hk
  exact C02.C02_backend .swift E hU acronyms _ hsc hk cfg st ss se st' hd

end TsV.Cap.Sw
