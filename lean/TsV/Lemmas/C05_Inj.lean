import TsV.Lemmas.C05
/-!
# C05 — unique readability of bracketed type expressions

A small term language (`Tm`): names, applications `name⟨a, b, …⟩`, tuples `[a, b, …]`, each carrying a
number of postfix marks (`?` in Kotlin, `[]` in TypeScript).  Its rendering is uniquely readable
(`ur`): equal texts come from equal terms.  TypeScript, Kotlin, Scala and Python type expressions
are renderings of such terms (`TsV.Lemmas.C05_Lossless`).
-/
namespace TsV.C05L.Inj
open TsV

/-- the characters that delimit names -/
def special (ch : Char) : Bool :=
  ch == '<' || ch == '>' || ch == '[' || ch == ']' || ch == ',' || ch == '?' || ch == ' ' || ch == ':' || ch == '*'

/-- a grammar: the application brackets and the postfix mark -/
structure Gr where
  o : Char
  c : Char
  p : Char          -- first character of the postfix mark
  ps : Str          -- its remaining characters

def Gr.post (g : Gr) : Str := g.p :: g.ps

structure Gr.OK (g : Gr) : Prop where
  o_sp : special g.o = true
  c_sp : special g.c = true
  p_sp : special g.p = true
  o_ne_comma : g.o ≠ ','
  o_ne_c : g.o ≠ g.c
  o_ne_rb : g.o ≠ ']'
  o_ne_p : g.o ≠ g.p
  c_ne_comma : g.c ≠ ','
  p_ne_comma : g.p ≠ ','
  p_ne_c : g.p ≠ g.c
  p_ne_rb : g.p ≠ ']'
  o_ne_colon : g.o ≠ ':'
  p_ne_colon : g.p ≠ ':'

inductive Tm where
  | leaf (n : Str) (k : Nat)
  | app (n : Str) (a : Tm) (as : List Tm) (k : Nat)
  | tup (a : Tm) (as : List Tm) (k : Nat)
  | dict (key val : Tm) (k : Nat)
deriving Inhabited

def posts (g : Gr) : Nat → Str
  | 0 => []
  | k + 1 => g.post ++ posts g k

mutual
  def render (g : Gr) : Tm → Str
    | .leaf n k => n ++ posts g k
    | .app n a as k => n ++ g.o :: (render g a ++ (renderTail g as ++ g.c :: posts g k))
    | .tup a as k => '[' :: (render g a ++ (renderTail g as ++ ']' :: posts g k))
    | .dict a b k => '[' :: (render g a ++ (':' :: ' ' :: (render g b ++ ']' :: posts g k)))
  def renderTail (g : Gr) : List Tm → Str
    | [] => []
    | t :: ts => ',' :: ' ' :: (render g t ++ renderTail g ts)
end

def NameOK (n : Str) : Prop := n ≠ [] ∧ ∀ ch ∈ n, special ch = false

instance (n : Str) : Decidable (NameOK n) := inferInstanceAs (Decidable (_ ∧ _))

mutual
  def WFt : Tm → Prop
    | .leaf n _ => NameOK n
    | .app n a as _ => NameOK n ∧ WFt a ∧ WFts as
    | .tup a as _ => WFt a ∧ WFts as
    | .dict a b _ => WFt a ∧ WFt b
  def WFts : List Tm → Prop
    | [] => True
    | t :: ts => WFt t ∧ WFts ts
end

/-- a rest that starts with a special character (or is empty) -/
def SpHead (X : Str) : Prop := ∀ ch rest, X = ch :: rest → special ch = true

/-- a rest that follows a complete term: empty, or a separator / closing bracket -/
def Stop (g : Gr) (r : Str) : Prop := ∀ ch rest, r = ch :: rest → ch = ',' ∨ ch = g.c ∨ ch = ']' ∨ ch = ':'

/-- maximal runs of characters satisfying `P` are determined by the text -/
theorem span_split (P : Char → Bool) : ∀ (n n' X X' : Str), (∀ ch ∈ n, P ch = true) → (∀ ch ∈ n', P ch = true) →
    (∀ ch rest, X = ch :: rest → P ch = false) → (∀ ch rest, X' = ch :: rest → P ch = false) →
    n ++ X = n' ++ X' → n = n' ∧ X = X' := by
  intro n
  induction n with
  | nil =>
    intro n' X X' _ hn' hX _ h
    cases n' with
    | nil => exact ⟨rfl, h⟩
    | cons c' n' =>
      exact absurd (hn' c' List.mem_cons_self) (by rw [hX c' _ h]; exact Bool.false_ne_true)
  | cons c n ih =>
    intro n' X X' hn hn' hX hX' h
    cases n' with
    | nil =>
      exact absurd (hn c List.mem_cons_self) (by rw [hX' c _ h.symm]; exact Bool.false_ne_true)
    | cons c' n' =>
      simp only [List.cons_append, List.cons.injEq] at h
      obtain ⟨rfl, h⟩ := h
      obtain ⟨rfl, rfl⟩ := ih n' X X' (fun ch hc => hn ch (List.mem_cons_of_mem _ hc))
        (fun ch hc => hn' ch (List.mem_cons_of_mem _ hc)) hX hX' h
      exact ⟨rfl, rfl⟩

/-- a name ends where the first special character stands -/
theorem name_split (n n' X X' : Str) (hn : ∀ ch ∈ n, special ch = false) (hn' : ∀ ch ∈ n', special ch = false)
    (hX : SpHead X) (hX' : SpHead X') (h : n ++ X = n' ++ X') : n = n' ∧ X = X' :=
  span_split (fun ch => !special ch) n n' X X' (fun ch hc => by rw [hn ch hc]; rfl) (fun ch hc => by rw [hn' ch hc]; rfl)
    (fun ch rest e => by rw [hX ch rest e]; rfl) (fun ch rest e => by rw [hX' ch rest e]; rfl) h

/-- a name does not begin where a tuple or a dictionary does -/
theorem name_ne_lbracket {n : Str} (hn : NameOK n) (X Y : Str) : n ++ X ≠ '[' :: Y := by
  obtain ⟨hne, hsp⟩ := hn
  cases n with
  | nil => exact absurd rfl hne
  | cons c n =>
    intro h
    have := hsp c List.mem_cons_self
    rw [(List.cons.inj h).1] at this
    cases this

theorem posts_cancel (g : Gr) : ∀ (k k' : Nat) (r1 r2 : Str),
    (∀ rest, r1 ≠ g.p :: rest) → (∀ rest, r2 ≠ g.p :: rest) →
    posts g k ++ r1 = posts g k' ++ r2 → k = k' ∧ r1 = r2 := by
  intro k
  induction k with
  | zero =>
    intro k' r1 r2 h1 _ h
    cases k' with
    | zero => exact ⟨rfl, h⟩
    | succ k' => exact absurd h (h1 _)
  | succ k ih =>
    intro k' r1 r2 h1 h2 h
    cases k' with
    | zero => exact absurd h.symm (h2 _)
    | succ k' =>
      simp only [posts, List.append_assoc] at h
      have := ih k' r1 r2 h1 h2 (List.append_cancel_left h)
      exact ⟨by omega, this.2⟩

theorem stop_not_p (g : Gr) (hg : g.OK) (r : Str) (hr : Stop g r) : ∀ rest, r ≠ g.p :: rest := by
  intro rest h
  rcases hr _ _ h with h | h | h | h
  · exact hg.p_ne_comma h
  · exact hg.p_ne_c h
  · exact hg.p_ne_rb h
  · exact hg.p_ne_colon h

/-- after a name: postfix marks, then a stop — never the opening bracket -/
theorem spHead_posts (g : Gr) (hg : g.OK) (k : Nat) (r : Str) (hr : Stop g r) :
    SpHead (posts g k ++ r) ∧ ∀ rest, posts g k ++ r ≠ g.o :: rest := by
  cases k with
  | zero =>
    simp only [posts, List.nil_append]
    constructor
    · intro ch rest h
      rcases hr ch rest h with rfl | rfl | rfl | rfl
      · rfl
      · exact hg.c_sp
      · rfl
      · rfl
    · intro rest h
      rcases hr _ _ h with h | h | h | h
      · exact hg.o_ne_comma h
      · exact hg.o_ne_c h
      · exact hg.o_ne_rb h
      · exact hg.o_ne_colon h
  | succ k =>
    simp only [posts, Gr.post, List.cons_append]
    constructor
    · intro ch rest h
      simp only [List.cons.injEq] at h
      rw [← h.1]; exact hg.p_sp
    · intro rest h
      simp only [List.cons.injEq] at h
      exact hg.o_ne_p h.1.symm

theorem spHead_cons (ch : Char) (h : special ch = true) (X : Str) : SpHead (ch :: X) := by
  intro c rest e
  simp only [List.cons.injEq] at e
  rw [← e.1]; exact h

theorem stop_cons_comma (g : Gr) (X : Str) : Stop g (',' :: X) := by
  intro c rest e
  simp only [List.cons.injEq] at e
  exact .inl e.1.symm

theorem stop_cons_c (g : Gr) (X : Str) : Stop g (g.c :: X) := by
  intro c rest e
  simp only [List.cons.injEq] at e
  exact .inr (.inl e.1.symm)

theorem stop_cons_rb (g : Gr) (X : Str) : Stop g (']' :: X) := by
  intro c rest e
  simp only [List.cons.injEq] at e
  exact .inr (.inr (.inl e.1.symm))

theorem stop_cons_colon (g : Gr) (X : Str) : Stop g (':' :: X) := by
  intro c rest e
  simp only [List.cons.injEq] at e
  exact .inr (.inr (.inr e.1.symm))

/-- what follows the first argument: the remaining arguments and the closing bracket -/
theorem stop_tail (g : Gr) (as : List Tm) (cl : Char) (hcl : cl = g.c ∨ cl = ']') (X : Str) :
    Stop g (renderTail g as ++ cl :: X) := by
  cases as with
  | nil =>
    simp only [renderTail, List.nil_append]
    rcases hcl with rfl | rfl
    · exact stop_cons_c g X
    · exact stop_cons_rb g X
  | cons t ts => simp only [renderTail, List.cons_append]; exact stop_cons_comma g _

mutual
/-- **unique readability** -/
theorem ur (g : Gr) (hg : g.OK) : ∀ (a b : Tm) (r1 r2 : Str), WFt a → WFt b → Stop g r1 → Stop g r2 →
    render g a ++ r1 = render g b ++ r2 → a = b ∧ r1 = r2
  | .leaf n k, b, r1, r2, ha, hb, h1, h2, h => by
    have hn : NameOK n := by simpa [WFt] using ha
    cases b with
    | leaf n' k' =>
      have hn' : NameOK n' := by simpa [WFt] using hb
      simp only [render, List.append_assoc] at h
      obtain ⟨rfl, e⟩ := name_split n n' _ _ hn.2 hn'.2 (spHead_posts g hg k r1 h1).1 (spHead_posts g hg k' r2 h2).1 h
      obtain ⟨rfl, rfl⟩ := posts_cancel g k k' r1 r2 (stop_not_p g hg r1 h1) (stop_not_p g hg r2 h2) e
      exact ⟨rfl, rfl⟩
    | app n' a' as' k' =>
      have hn' : NameOK n' := by simp only [WFt] at hb; exact hb.1
      simp only [render, List.append_assoc, List.cons_append] at h
      obtain ⟨_, e⟩ := name_split n n' _ _ hn.2 hn'.2 (spHead_posts g hg k r1 h1).1 (spHead_cons g.o hg.o_sp _) h
      exact absurd e ((spHead_posts g hg k r1 h1).2 _)
    | tup a' as' k' | dict a' b' k' =>
      simp only [render, List.append_assoc, List.cons_append] at h
      exact absurd h (name_ne_lbracket hn _ _)
  | .app n a as k, b, r1, r2, ha, hb, h1, h2, h => by
    simp only [WFt] at ha
    obtain ⟨hn, hwa, hwas⟩ := ha
    cases b with
    | leaf n' k' =>
      have hn' : NameOK n' := by simpa [WFt] using hb
      simp only [render, List.append_assoc, List.cons_append] at h
      obtain ⟨_, e⟩ := name_split n n' _ _ hn.2 hn'.2 (spHead_cons g.o hg.o_sp _) (spHead_posts g hg k' r2 h2).1 h
      exact absurd e.symm ((spHead_posts g hg k' r2 h2).2 _)
    | app n' a' as' k' =>
      simp only [WFt] at hb
      obtain ⟨hn', hwa', hwas'⟩ := hb
      simp only [render, List.append_assoc, List.cons_append] at h
      obtain ⟨rfl, e⟩ := name_split n n' _ _ hn.2 hn'.2 (spHead_cons g.o hg.o_sp _) (spHead_cons g.o hg.o_sp _) h
      simp only [List.cons.injEq, true_and] at e
      obtain ⟨rfl, e2⟩ := ur g hg a a' _ _ hwa hwa' (stop_tail g as g.c (.inl rfl) _) (stop_tail g as' g.c (.inl rfl) _) e
      obtain ⟨rfl, e3⟩ := urTail g hg g.c hg.c_ne_comma as as' _ _ hwas hwas' (.inl rfl) e2
      obtain ⟨rfl, rfl⟩ := posts_cancel g k k' r1 r2 (stop_not_p g hg r1 h1) (stop_not_p g hg r2 h2) e3
      exact ⟨rfl, rfl⟩
    | tup a' as' k' | dict a' b' k' =>
      simp only [render, List.append_assoc, List.cons_append] at h
      exact absurd h (name_ne_lbracket hn _ _)
  | .tup a as k, b, r1, r2, ha, hb, h1, h2, h => by
    simp only [WFt] at ha
    obtain ⟨hwa, hwas⟩ := ha
    cases b with
    | leaf n' k' =>
      have hn' : NameOK n' := by simpa [WFt] using hb
      simp only [render, List.append_assoc, List.cons_append] at h
      exact absurd h.symm (name_ne_lbracket hn' _ _)
    | app n' a' as' k' =>
      simp only [WFt] at hb
      simp only [render, List.append_assoc, List.cons_append] at h
      exact absurd h.symm (name_ne_lbracket hb.1 _ _)
    | tup a' as' k' =>
      simp only [WFt] at hb
      obtain ⟨hwa', hwas'⟩ := hb
      simp only [render, List.append_assoc, List.cons_append, List.cons.injEq, true_and] at h
      obtain ⟨rfl, e2⟩ := ur g hg a a' _ _ hwa hwa' (stop_tail g as ']' (.inr rfl) _) (stop_tail g as' ']' (.inr rfl) _) h
      obtain ⟨rfl, e3⟩ := urTail g hg ']' (by decide) as as' _ _ hwas hwas' (.inr rfl) e2
      obtain ⟨rfl, rfl⟩ := posts_cancel g k k' r1 r2 (stop_not_p g hg r1 h1) (stop_not_p g hg r2 h2) e3
      exact ⟨rfl, rfl⟩
    | dict a' b' k' =>
      simp only [WFt] at hb
      simp only [render, List.append_assoc, List.cons_append, List.cons.injEq, true_and] at h
      obtain ⟨_, e2⟩ := ur g hg a a' _ _ hwa hb.1 (stop_tail g as ']' (.inr rfl) _) (stop_cons_colon g _) h
      cases as with
      | nil => simp [renderTail] at e2
      | cons t ts => simp [renderTail] at e2
  | .dict a b' k, b, r1, r2, ha, hb, h1, h2, h => by
    simp only [WFt] at ha
    obtain ⟨hwa, hwb⟩ := ha
    cases b with
    | leaf n' k' =>
      have hn' : NameOK n' := by simpa [WFt] using hb
      simp only [render, List.append_assoc, List.cons_append] at h
      exact absurd h.symm (name_ne_lbracket hn' _ _)
    | app n' a' as' k' =>
      simp only [WFt] at hb
      simp only [render, List.append_assoc, List.cons_append] at h
      exact absurd h.symm (name_ne_lbracket hb.1 _ _)
    | tup a' as' k' =>
      simp only [WFt] at hb
      simp only [render, List.append_assoc, List.cons_append, List.cons.injEq, true_and] at h
      obtain ⟨_, e2⟩ := ur g hg a a' _ _ hwa hb.1 (stop_cons_colon g _) (stop_tail g as' ']' (.inr rfl) _) h
      cases as' with
      | nil => simp [renderTail] at e2
      | cons t ts => simp [renderTail] at e2
    | dict a' b'' k' =>
      simp only [WFt] at hb
      simp only [render, List.append_assoc, List.cons_append, List.cons.injEq, true_and] at h
      obtain ⟨rfl, e2⟩ := ur g hg a a' _ _ hwa hb.1 (stop_cons_colon g _) (stop_cons_colon g _) h
      simp only [List.cons.injEq, true_and] at e2
      obtain ⟨rfl, e3⟩ := ur g hg b' b'' _ _ hwb hb.2 (stop_cons_rb g _) (stop_cons_rb g _) e2
      simp only [List.cons.injEq, true_and] at e3
      obtain ⟨rfl, rfl⟩ := posts_cancel g k k' r1 r2 (stop_not_p g hg r1 h1) (stop_not_p g hg r2 h2) e3
      exact ⟨rfl, rfl⟩
theorem urTail (g : Gr) (hg : g.OK) (cl : Char) (hcl : cl ≠ ',') : ∀ (as bs : List Tm) (X1 X2 : Str),
    WFts as → WFts bs → (cl = g.c ∨ cl = ']') →
    renderTail g as ++ cl :: X1 = renderTail g bs ++ cl :: X2 → as = bs ∧ X1 = X2
  | [], [], X1, X2, _, _, _, h => by simpa [renderTail] using h
  | [], b :: bs, X1, X2, _, _, _, h => by
    simp only [renderTail, List.nil_append, List.cons_append, List.cons.injEq] at h
    exact absurd h.1 hcl
  | a :: as, [], X1, X2, _, _, _, h => by
    simp only [renderTail, List.nil_append, List.cons_append, List.cons.injEq] at h
    exact absurd h.1.symm hcl
  | a :: as, b :: bs, X1, X2, ha, hb, hc, h => by
    simp only [WFts] at ha hb
    simp only [renderTail, List.cons_append, List.append_assoc, List.cons.injEq, true_and] at h
    obtain ⟨rfl, e⟩ := ur g hg a b _ _ ha.1 hb.1 (stop_tail g as cl hc _) (stop_tail g bs cl hc _) h
    obtain ⟨rfl, rfl⟩ := urTail g hg cl hcl as bs X1 X2 ha.2 hb.2 hc e
    exact ⟨rfl, rfl⟩
end

/-- rendering is injective on well-formed terms -/
theorem render_inj (g : Gr) (hg : g.OK) (a b : Tm) (ha : WFt a) (hb : WFt b)
    (h : render g a = render g b) : a = b := by
  have := ur g hg a b [] [] ha hb (by intro _ _ e; cases e) (by intro _ _ e; cases e) (by simpa using h)
  exact this.1

end TsV.C05L.Inj
