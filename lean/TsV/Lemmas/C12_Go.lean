import TsV.Lemmas.Lang.Go
/-!
# C12, Go: every package the generated text refers to (`time`, `json`) is in the import block
-/
namespace TsV.C12L.Go
open TsV TsV.Lang TsV.Lang.Go TsV.C12L

/-- one printer step: imports only grow, and if the step printed `time.Time` then `time` is imported -/
def Step (st st' : Imports) (b : Bool) : Prop := (∀ x ∈ st, x ∈ st') ∧ (b = true → kTime ∈ st')

theorem Step.weaken {st st' : Imports} {b b' : Bool} (h : Step st st' b) (hb : b' = true → b = true) :
    Step st st' b' := ⟨h.1, fun x => h.2 (hb x)⟩

theorem step_eff (b : Bool) (st : Imports) : Step st (eff b st) b := by
  cases b with
  | false => exact ⟨fun _ h => h, fun h => nomatch h⟩
  | true => exact ⟨fun _ h => mem_insertSorted_of_mem h, fun _ => mem_insertSorted_self _ _⟩

theorem formatTypes_step (cfg : Cfg) : ∀ (ts : List RustType) (st : Imports) (ss : List Str) (st' : Imports),
    formatTypes cfg ts st = .ok (ss, st') → Step st st' (timeInList cfg ts) :=
  fun ts => (formatTypes_threads cfg ts).along (step_eff _)

/-- the generated text of an algebraic enum calls `json.Unmarshal` / `json.Marshal` and names
`json.RawMessage` (`renderUnmarshal`, `renderMarshal`) -/
def usesJson (d : ParsedData) : Bool := d.enums.any fun e => e.keys.isSome

/-- **helpersUsed (Go)**: the packages the text generated for `d` refers to on typeshare's account -/
def used (cfg : Cfg) (d : ParsedData) : List Str :=
  (if usesJson d then [kJson] else []) ++ (if (itemsOf d).any (itemTime cfg) then [kTime] else [])

/-- **helpersProvided (Go)**: the import block lists every package of the final import set, and it
is written between the package line and the body -/
theorem generate_spec (U : UnicodeOps) (cfg : Cfg) (d : ParsedData) (st0 : Imports) (text : Str) (st : Imports)
    (h : generate U cfg d st0 = .ok (text, st)) :
    (∀ p ∈ used cfg d, p ∈ st) ∧ (∀ p ∈ st0, p ∈ st) ∧
    ∃ body, text = beginFile cfg ++ renderImports st ++ body := by
  obtain ⟨items, body, ho, _, hst, rfl⟩ := generate_ok h
  have hs : Step (addImport st0 kJson) st (items.any (itemTime cfg)) := hst ▸ step_eff _ _
  rw [any_perm (generateOrder_perm d items ho)] at hs
  refine ⟨fun p hp => ?_, fun p hp => hs.1 p (mem_insertSorted_of_mem hp), body, rfl⟩
  rcases List.mem_append.1 hp with hp | hp <;> split at hp
  · cases List.mem_singleton.1 hp
    exact hs.1 _ (mem_insertSorted_self _ _)
  · cases hp
  · rename_i hb
    cases List.mem_singleton.1 hp
    exact hs.2 hb
  · cases hp

end TsV.C12L.Go
