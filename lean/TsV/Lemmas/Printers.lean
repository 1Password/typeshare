import TsV.Model.Lang.TypeScript
import TsV.Model.Lang.Kotlin
import TsV.Model.Lang.Swift
import TsV.Model.Lang.Scala
import TsV.Model.Lang.Go
import TsV.Model.Lang.Python
import TsV.Lemmas.Outcome
import TsV.Lemmas.Rename
/-!
# The type printers of the six back ends on their base cases

`formatType` / `formatTypes` of every back end recurse over a nested inductive type.  Lean derives
the unfolding equations of such a function on demand, in the first module that rewrites with it,
and that derivation is the dearest step of any proof about a printer.  The lemmas below rewrite
(where `rfl` would do) so that the equations are derived here, once; every module that unfolds a
printer imports this one.
-/
namespace TsV.Lang
variable (gens : List Str) (id : Str)

theorem TypeScript.formatType_simple (cfg : TypeScript.Cfg) (st : TypeScript.CustomMap) :
    TypeScript.formatType cfg gens (.simple id) st = .ok ((mapGet cfg.typeMappings id).getD id, st) := by
  rw [TypeScript.formatType]

theorem TypeScript.formatTypes_nil (cfg : TypeScript.Cfg) (st : TypeScript.CustomMap) :
    TypeScript.formatTypes cfg gens [] st = .ok ([], st) := by
  rw [TypeScript.formatTypes]

theorem Kotlin.formatType_simple (cfg : Kotlin.Cfg) :
    Kotlin.formatType cfg gens (.simple id) = .ok (Kotlin.formatSimple cfg gens id) := by
  rw [Kotlin.formatType]

theorem Kotlin.formatTypes_nil (cfg : Kotlin.Cfg) : Kotlin.formatTypes cfg gens [] = .ok [] := by
  rw [Kotlin.formatTypes]

theorem Swift.formatType_simple (cfg : Swift.Cfg) (st : Swift.St) :
    Swift.formatType cfg gens (.simple id) st = .ok (Swift.formatSimple cfg gens id, st) := by
  rw [Swift.formatType]

theorem Swift.formatTypes_nil (cfg : Swift.Cfg) (st : Swift.St) :
    Swift.formatTypes cfg gens [] st = .ok ([], st) := by
  rw [Swift.formatTypes]

theorem Scala.formatType_simple (cfg : Scala.Cfg) :
    Scala.formatType cfg gens (.simple id) = .ok ((mapGet cfg.typeMappings id).getD id) := by
  rw [Scala.formatType]

theorem Scala.formatTypes_nil (cfg : Scala.Cfg) : Scala.formatTypes cfg gens [] = .ok [] := by
  rw [Scala.formatTypes]

theorem Go.formatType_simple (cfg : Go.Cfg) (st : Go.Imports) :
    Go.formatType cfg (.simple id) st = .ok ((mapGet cfg.typeMappings id).getD id, st) := by
  rw [Go.formatType]

theorem Go.formatTypes_nil (cfg : Go.Cfg) (st : Go.Imports) : Go.formatTypes cfg [] st = .ok ([], st) := by
  rw [Go.formatTypes]

/-- without configured acronyms `acronyms_to_uppercase` is the identity -/
theorem Go.acr_nil (U : UnicodeOps) (cfg : Go.Cfg) (h : cfg.uppercaseAcronyms = []) (s : Str) :
    Go.acr U cfg s = .ok s := by
  unfold Go.acr; rw [h]; rfl

theorem Python.formatType_simple (cfg : Python.Cfg) (st : Python.St) :
    Python.formatType cfg gens (.simple id) st = .ok (Python.formatSimple cfg id st) := by
  rw [Python.formatType]

theorem Python.formatTypes_nil (cfg : Python.Cfg) (st : Python.St) :
    Python.formatTypes cfg gens [] st = .ok ([], st) := by
  rw [Python.formatTypes]

/-! The list traversals of the Kotlin back end are `mapM'` of their steps. -/
namespace Kotlin
open Outcome

theorem formatTypes_eq (cfg : Cfg) : formatTypes cfg gens = mapM' (formatType cfg gens) :=
  funext (traverse_eq (formatTypes_nil gens cfg) fun t ts => by
    rw [formatTypes]; cases formatType cfg gens t <;> cases formatTypes cfg gens ts <;> rfl)

theorem paramsFacts_eq (cfg : Cfg) (b : Bool) : paramsFacts cfg gens b = mapM' (paramFacts cfg gens b false) :=
  funext (traverse_eq rfl fun _ _ => rfl)

theorem casesFacts_eq (cfg : Cfg) (e : RustEnum) (key : Str) : casesFacts cfg e key = mapM' (caseFacts cfg e key) :=
  funext (traverse_eq rfl fun _ _ => rfl)

theorem structsFacts_eq (cfg : Cfg) : structsFacts cfg = mapM' (structFacts cfg) :=
  funext (traverse_eq rfl fun _ _ => rfl)

end Kotlin

end TsV.Lang

namespace TsV.C02
open TsV

/-- on strings without `"`, `\` and control characters `{:?}` just adds the quotes — so a `debug`
hole prints exactly the key between double quotes on the property's key alphabet -/
def plainChar (c : Char) : Bool := !(c = '"' || c = '\\' || c.toNat < 32 || c.toNat = 127)

theorem debugStr_plain (s : Str) (h : ∀ c ∈ s, plainChar c = true) :
    Lang.debugStr s = ['"'] ++ s ++ ['"'] := by
  unfold Lang.debugStr
  rw [RenameLemmas.flatMap_singleton _ id s, List.map_id]
  intro a hm
  have ha := h a hm
  simp only [plainChar, Bool.not_eq_true', Bool.or_eq_false_iff, decide_eq_false_iff_not] at ha
  obtain ⟨⟨⟨h1, h2⟩, h3⟩, h4⟩ := ha
  have hn : a ≠ '\n' := by rintro rfl; exact h3 (by decide)
  have hr : a ≠ '\r' := by rintro rfl; exact h3 (by decide)
  have ht : a ≠ '\t' := by rintro rfl; exact h3 (by decide)
  have h7 : ¬ (decide (a.toNat < 32) || decide (a.toNat = 127)) = true := by
    simp only [Bool.or_eq_true, decide_eq_true_eq]; omega
  rw [if_neg h1, if_neg h2, if_neg hn, if_neg hr, if_neg ht, if_neg (by omega), if_neg h7]
  rfl

end TsV.C02
