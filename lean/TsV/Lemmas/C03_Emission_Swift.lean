import TsV.Lemmas.C03_Emission_Common
/-!
# C03, emission clause — Swift
-/
namespace TsV.C03E.Sw
open TsV TsV.Lang TsV.Lang.Swift TsV.C03E

theorem generate_blocks (U : UnicodeOps) (cfg : Cfg) (multi : Bool) (d : ParsedData) (st0 : St) (text : Str) (st : St)
    (h : generate U cfg multi d st0 = .ok (text, st)) :
    ∃ items blocks, Pipeline.generateOrder d = some items ∧ Threaded (writeItem U cfg) items st0 blocks st ∧
      text = beginFile cfg ++ blocks.flatten ++ endFile cfg multi st := by
  unfold generate at h
  cases ho : Pipeline.generateOrder d with
  | none => simp [ho] at h
  | some items =>
    simp only [ho] at h
    obtain ⟨⟨body, st1⟩, hb, h⟩ := Outcome.of_bind_ok h
    cases h
    obtain ⟨blocks, hth, rfl⟩ :=
      Threaded.of_writeItems (ws := writeItems U cfg) (fun _ => rfl) (fun _ _ _ => rfl) items st0 body st1 hb
    exact ⟨items, blocks, rfl, hth, rfl⟩

theorem comments_lineStart (U : UnicodeOps) (n : Nat) (cs : List Str) : LineStart (comments U n cs) :=
  lineStart_lines _ cs

theorem nameEnd_genericClause (ps : List GenericParam) {q : Str} (h : NameEnd q) :
    NameEnd (renderGenericClause ps ++ q) := by
  unfold renderGenericClause
  split
  · simpa using h
  · exact nameEnd_append _ (nameEnd_cons _ (by decide))

theorem renderStruct_defines (U : UnicodeOps) (s : SwiftStruct) :
    DefinesHead s%"public struct " s.name (renderStruct U s) := by
  unfold renderStruct
  -- the head, followed by twelve more pieces of text
  iterate 12 apply definesHead_append
  exact definesHead_head₂ _ (renderGenericClause _) _ (lineStart_append (lineStart_nl []) (comments_lineStart _ _ _))
    (nameEnd_genericClause _ (nameEnd_cons _ (by decide)))

def enumKw (indirect : Bool) : Str := if indirect then s%"public indirect enum " else s%"public enum "

theorem renderEnum_defines (U : UnicodeOps) (e : SwiftEnum) :
    DefinesHead (enumKw e.indirect) e.name (renderEnum U e) := by
  unfold renderEnum enumKw
  cases e.indirect
  · simp only [List.append_assoc, Bool.false_eq_true, if_false, List.nil_append]
    exact definesHead_r (kw := s%"public enum ") _ _ (comments_lineStart _ _ _)
      (nameEnd_genericClause _ (nameEnd_cons _ (by decide)))
  · simp only [List.append_assoc, if_true]
    exact definesHead_r (kw := s%"public indirect enum ") _ _ (comments_lineStart _ _ _)
      (nameEnd_genericClause _ (nameEnd_cons _ (by decide)))

/-- the struct written for a `RustStruct` is named `kw (prefix ++ renamed)` -/
theorem structFacts_name (U : UnicodeOps) (cfg : Cfg) (rs : RustStruct) (st st' : St) (d : SwiftStruct)
    (h : structFacts U cfg rs st = .ok (d, st')) : d.name = kw (cfg.pfx ++ rs.id.renamed) :=
  C09.tie_swift_struct U cfg rs st st' d h

/-- the records written for an enum carry exactly the keywords and names `swDefs` lists -/
theorem enumFacts_heads {U : UnicodeOps} {cfg : Cfg} {e : RustEnum} {st st' : St} {ss : List SwiftStruct}
    {se : SwiftEnum} (h : enumFacts U cfg e st = .ok (ss, se, st')) :
    (ss.map fun s => (s%"public struct ", s.name)) ++ [(enumKw se.indirect, se.name)] = swDefs cfg (.enum e) := by
  obtain ⟨st1, cs, hs, _, rfl⟩ := Lang.Swift.enumFacts_ok h
  have hn := congrArg (List.map fun n => (s%"public struct ", n)) (C09.swift_anon_names U cfg e _ _ _ _ hs)
  rw [List.map_map, List.map_map] at hn
  exact congrArg (· ++ _) hn

/-- **the block of an item splits into exactly the definitions `swDefs` lists** -/
theorem block_defines (U : UnicodeOps) (cfg : Cfg) (it : RustItem) (st : St) (b : Str) (st' : St)
    (h : writeItem U cfg it st = .ok (b, st')) : SplitsInto (swDefs cfg it) b := by
  cases it with
  | struct s =>
    obtain ⟨d, hd, rfl⟩ := Lang.Swift.writeStruct_ok.1 h
    have hn := structFacts_name U cfg s st st' d hd
    simp only [swDefs, ← hn]
    exact splitsInto_single (renderStruct_defines U d)
  | alias a =>
    obtain ⟨ty, _, rfl⟩ := Lang.Swift.writeAlias_ok.1 h
    exact splitsInto_single (definesHead_append _ (definesHead_append _ (definesHead_head₂ _ (genericSuffix _) _
      (lineStart_append (lineStart_nl []) (comments_lineStart _ _ _))
      (nameEnd_genericSuffix _ (nameEnd_cons _ (by decide))))))
  | const c => simp [writeItem] at h
  | «enum» e =>
    obtain ⟨structs, se, hf, rfl⟩ := Lang.Swift.writeEnum_ok h
    rw [← enumFacts_heads hf, List.append_assoc, List.flatMap_def]
    exact splitsInto_lead nl (by simp [nl]) (splitsInto_snoc
      (splitsInto_chunks (paired_iff.2 (.of_map _ _ structs fun s _ => renderStruct_defines U s)))
      (renderEnum_defines U se))

theorem writeItem_not_const (U : UnicodeOps) (cfg : Cfg) (c : RustConst) (st : St) :
    writeItem U cfg (.const c) st = .err (.formatError s%"ConstUnsupported") := rfl

theorem generateAll_single (E : Ext) (cfg : Cfg) (c : Str) (d : ParsedData)
    (imps : Option Pipeline.ScopedCrateTypes) :
    generateAll E cfg false [(c, d, imps)] = (generate E.U cfg false d false).bind fun r => .ok [(c, r.1)] := by
  simp only [generateAll, generateFrom]
  generalize generate E.U cfg false d false = g
  cases g with
  | ok r => obtain ⟨t, s⟩ := r; simp [postGeneration, Outcome.bind]
  | err e => rfl
  | panic s => rfl

theorem generateAll_nil (E : Ext) (cfg : Cfg) : generateAll E cfg false [] = .ok [] := rfl

end TsV.C03E.Sw
