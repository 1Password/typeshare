import TsV.Lemmas.Collect
import TsV.Lemmas.C06_SortedMap
/-! the collector fold for several crates: a sorted map whose entry for a crate is the fold of that crate's arrivals -/
namespace TsV.Collect
open TsV TsV.Pipeline

def lookup (m : List (Str × ParsedData)) (c : Str) : Option ParsedData := (m.find? (·.1 == c)).map (·.2)

/-- keys strictly increasing -/
def Sorted : List (Str × ParsedData) → Prop
  | [] => True
  | [_] => True
  | (k1, _) :: (k2, v2) :: rest => Str.lt k1 k2 = true ∧ Sorted ((k2, v2) :: rest)

/-- the adjacent-keys reading of "sorted" and the pairwise one agree -/
theorem sorted_iff_keys : ∀ {m : List (Str × ParsedData)}, Sorted m ↔ C06M.SSorted (m.map (·.1)) := by
  intro m
  induction m with
  | nil => simp [Sorted, C06M.SSorted]
  | cons p rest ih =>
    cases rest with
    | nil => simp [Sorted, C06M.SSorted]
    | cons q t =>
      obtain ⟨k, v⟩ := p
      obtain ⟨k', v'⟩ := q
      rw [show Sorted ((k, v) :: (k', v') :: t) ↔ Str.lt k k' = true ∧ Sorted ((k', v') :: t) from Iff.rfl, ih]
      refine ⟨fun ⟨hlt, hs⟩ => List.pairwise_cons.2 ⟨fun a ha => ?_, hs⟩,
        fun h => ⟨(List.pairwise_cons.1 h).1 _ List.mem_cons_self, (List.pairwise_cons.1 h).2⟩⟩
      rcases List.mem_cons.1 ha with rfl | ha
      · exact hlt
      · exact Order.lt_trans _ _ _ hlt ((List.pairwise_cons.1 hs).1 a ha)

/-- the collector's step is `entry(crate).and_modify(|v| v += d).or_insert(default += d)` -/
theorem upsert_eq_alter (d : ParsedData) : ∀ m : List (Str × ParsedData),
    upsert m d = C06M.alter d.crateName (addAssign {} d) (fun v => addAssign v d) m := by
  intro m
  induction m with
  | nil => rfl
  | cons p rest ih => rw [upsert, C06M.alter, ih]

theorem upsert_sorted (m : List (Str × ParsedData)) (d : ParsedData) (h : Sorted m) : Sorted (upsert m d) := by
  rw [upsert_eq_alter]
  exact sorted_iff_keys.2 (C06M.alter_sorted _ _ _ m (sorted_iff_keys.1 h))

theorem upsert_lookup (m : List (Str × ParsedData)) (d : ParsedData) (c : Str) (hs : Sorted m) :
    lookup (upsert m d) c =
      if c = d.crateName then some (addAssign ((lookup m c).getD {}) d) else lookup m c := by
  show C06M.get? (upsert m d) c = if c = d.crateName then some (addAssign ((C06M.get? m c).getD {}) d)
    else C06M.get? m c
  rw [upsert_eq_alter, C06M.get?_alter _ _ _ c m (sorted_iff_keys.1 hs)]
  by_cases hc : c = d.crateName
  · subst hc
    cases C06M.get? m d.crateName <;> rfl
  · simp only [hc, if_false]

theorem collect_sorted_aux : ∀ (a : List ParsedData) (m : List (Str × ParsedData)), Sorted m →
    Sorted (a.foldl upsert m) := by
  intro a
  induction a with
  | nil => exact fun _ h => h
  | cons d t ih => exact fun m h => ih (upsert m d) (upsert_sorted m d h)

/-- the collector's map is sorted by crate name (it is a `BTreeMap`) -/
theorem collect_sorted (a : List ParsedData) : Sorted (collect a) := collect_sorted_aux a [] trivial

theorem collect_lookup_aux : ∀ (a : List ParsedData) (m : List (Str × ParsedData)) (c : Str), Sorted m →
    lookup (a.foldl upsert m) c =
      (match lookup m c, a.filter (fun d => d.crateName == c) with
       | none, [] => none
       | some v, l => some (merged v l)
       | none, l => some (merged {} l)) := by
  intro a
  induction a with
  | nil => intro m c _; cases h : lookup m c <;> simp [merged, h]
  | cons d t ih =>
    intro m c hs
    simp only [List.foldl_cons]
    rw [ih (upsert m d) c (upsert_sorted m d hs), upsert_lookup m d c hs]
    by_cases hc : c = d.crateName
    · subst hc
      simp only [if_true, List.filter_cons, beq_self_eq_true]
      cases h : lookup m d.crateName <;> simp [merged]
    · have : (d.crateName == c) = false := by simpa using fun e => hc e.symm
      simp only [hc, if_false, List.filter_cons, this]
      rfl

/-- **the collector partitions by crate**: the entry of crate `c` is the fold, in arrival order, of
exactly the arrivals whose crate is `c`; there is no entry for a crate without arrivals -/
theorem collect_lookup (a : List ParsedData) (c : Str) :
    lookup (collect a) c =
      (match a.filter (fun d => d.crateName == c) with
       | [] => none
       | l => some (merged {} l)) := by
  unfold collect
  rw [collect_lookup_aux a [] c trivial]
  simp only [lookup, List.find?_nil, Option.map_none]
  cases a.filter (fun d => d.crateName == c) <;> rfl

end TsV.Collect
