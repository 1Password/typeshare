import TsV.Lemmas.C10_Files_Common
import TsV.Lemmas.C10_TypeScript
import TsV.Lemmas.C03_Emission_TypeScript
import TsV.Lemmas.C12_TypeScript
/-!
# C10, whole files — TypeScript

The file-level lexer of TypeScript (`lexCfg .typescript = ⟨false, false⟩`) does not track `<`/`>`
(the reviver / replacer helpers use `=>`, `<=`, `>=`); the declaration-level theorems are proved for
the stricter lexer `T = ⟨true, false⟩` and transferred with `nb_dropAngles`.

The printer state (`types_for_custom_json_translation`) reaches the text through the `key === "…"`
clauses of the `Date` reviver: the invariant `StOk` says every recorded property name is over
`[A-Za-z0-9_-]`.
-/
namespace TsV.C10Files.TS
open TsV TsV.Lang TsV.C10Lex TsV.Lang.TypeScript TsV.C10TypeScript TsV.C03E TsV.C10Files
open TsV.C12L.TypeScript (clauses)

/-- the file-level lexer -/
def F : LexCfg := ⟨false, false⟩

theorem nb_of_T {x : Str} (h : NB T x) : NB F x := nb_dropAngles h

def StOk (st : CustomMap) : Prop := ∀ p ∈ st, ∀ i ∈ p.2, KeyStr i

theorem stOk_nil : StOk [] := fun _ h => by simp at h

theorem cmInsert_ok {k : Str} {v : List Str} (hv : ∀ i ∈ v, KeyStr i) {m : CustomMap} (h : StOk m) :
    StOk (cmInsert m k v) := fun p hp =>
  ((C01R.mem_cmInsert k v p m).2.1 hp).elim (fun e => e ▸ hv) (h p)

theorem cmGet_ok {m : CustomMap} (h : StOk m) (k : Str) : ∀ i ∈ (cmGet m k).getD [], KeyStr i := by
  unfold cmGet
  cases hf : m.find? (·.1 == k) with
  | none => simp
  | some p => simpa using h p (List.mem_of_find?_eq_some hf)

/-- the invariant is carried from `st` to `st'` -/
def Pres (st st' : CustomMap) : Prop := StOk st → StOk st'

theorem Pres.refl (st : CustomMap) : Pres st st := id
theorem Pres.trans {a b c : CustomMap} (h1 : Pres a b) (h2 : Pres b c) : Pres a c := fun h => h2 (h1 h)

theorem pres_apply (e : C01R.Ev) (hk : ∀ t k, e = .add t k → KeyStr k) (st : CustomMap) : Pres st (e.apply st) :=
  fun h => by
    cases e with
    | reset t => exact cmInsert_ok (v := []) (fun _ hi => nomatch hi) h
    | add t k =>
      exact cmInsert_ok (fun i hi => (TsV.Order.mem_insertSorted_iff.1 hi).elim (fun e => e ▸ hk t k rfl) (cmGet_ok h t i)) h

/-- the invariant survives any events whose added names are keys -/
theorem pres_run (evs : List C01R.Ev) (hk : ∀ t k, C01R.Ev.add t k ∈ evs → KeyStr k) (st : CustomMap) :
    Pres st (C01R.run st evs) :=
  Outcome.foldl_rel Pres.refl Pres.trans C01R.Ev.apply evs st fun e he => pres_apply e fun t k h => hk t k (h ▸ he)

theorem formatTypes_pres (cfg : Cfg) (gens : List Str) : ∀ (ts : List RustType) (st : CustomMap) (ss : List Str)
      (st' : CustomMap), formatTypes cfg gens ts st = .ok (ss, st') → Pres st st' :=
  fun ts => (formatTypes_threads cfg gens ts).along (pres_run _ fun _ _ hm => absurd hm add_not_mem_resetEvents)

/-- the names an item adds are wire names of its fields -/
theorem itemEvents_keys {cfg : Cfg} {it : RustItem} (hs : ItemOk it) {t k : Str}
    (hm : C01R.Ev.add t k ∈ itemEvents cfg it) : KeyStr k := by
  have field : ∀ {gens : List Str} {fs : List RustField}, (∀ f ∈ fs, FieldOk f) →
      C01R.Ev.add t k ∈ fs.flatMap (fieldEvents cfg gens) → KeyStr k := fun hfs h => by
    obtain ⟨f, hf, hm⟩ := List.mem_flatMap.1 h
    rw [(add_mem_fieldEvents.1 hm).2]; exact (hfs f hf).key
  cases it with
  | struct s => exact field hs.fields hm
  | «enum» e =>
    simp only [itemEvents] at hm
    split at hm
    · cases hm
    · obtain ⟨v, hv, hm⟩ := List.mem_flatMap.1 hm
      have hvo : VariantOk v := hs.variants v hv
      cases v with
      | anonymousStruct id cs fs => exact field hvo.2.2.2 hm
      | unit id cs => cases hm
      | tuple id cs ty => exact absurd hm add_not_mem_resetEvents
  | alias a => exact absurd hm add_not_mem_resetEvents
  | const c => exact absurd hm add_not_mem_resetEvents

/-- `write_item` keeps the invariant when the item's field keys are over `[A-Za-z0-9_-]` -/
theorem writeItem_pres (U : UnicodeOps) (cfg : Cfg) (it : RustItem) (hs : ItemOk it) (st : CustomMap) (text : Str)
    (st' : CustomMap) (h : writeItem U cfg it st = .ok (text, st')) : Pres st st' :=
  (writeItem_threads U cfg it).along (pres_run _ fun _ _ => itemEvents_keys hs) st text st' h

theorem dottedChar_strChar (c : Char) (h : dottedChar c = true) : strChar c = true := by
  simp only [dottedChar, Bool.or_eq_true, beq_iff_eq] at h
  rcases h with h | h
  · exact keyChar_strChar c h
  · subst h; decide +kernel

/-- what reaches the file around the declarations: the version text and the crate / type names of the
import lines are dotted identifier fragments -/
structure FileOk (cfg : Cfg) (imports : Option Pipeline.ScopedCrateTypes) : Prop where
  version : ∀ v, cfg.versionHeader = some v → Dotted v
  imports : ∀ i, imports = some i → ∀ p ∈ i, Dotted p.1 ∧ ∀ t ∈ p.2, Dotted t

theorem beginFile_nb (cfg : Cfg) (hv : ∀ v, cfg.versionHeader = some v → Dotted v) : NB F (beginFile cfg) := by
  unfold beginFile
  split
  · rename_i v hv'
    exact Tr.l0.b (dotted_block v (hv v hv')) |>.l.nb (by decide +kernel)
  · exact NB.nil

theorem writeImports_nb (i : Pipeline.ScopedCrateTypes) (h : ∀ p ∈ i, Dotted p.1 ∧ ∀ t ∈ p.2, Dotted t) :
    NB F (writeImports i) :=
  NB.append (NB.flatMap _ _ fun p hp =>
    Tr.l0.h (NB.intercalate s%", " nb_commaSep p.2 fun t ht => ((h p hp).2 t ht).nb)
      |>.l.b (fun stk => str_body p.1 stk fun c hc => dottedChar_strChar c ((h p hp).1 c hc)) |>.l.nb (by decide +kernel))
    NB.nl

theorem header_nb (cfg : Cfg) (imports) (hf : FileOk cfg imports) : NB F (TsV.C03E.TS.header cfg imports) := by
  unfold TsV.C03E.TS.header
  refine (beginFile_nb cfg hf.version).append ?_
  cases imports with
  | none => exact NB.nil
  | some i => exact writeImports_nb i (hf.imports i rfl)

theorem reviverUint8_nb : NB F reviverUint8 := nb_of_wb (by decide +kernel)
theorem replacerUint8_nb : NB F replacerUint8 := nb_of_wb (by decide +kernel)
theorem replacerDate_nb : NB F replacerDate := nb_of_wb (by decide +kernel)

theorem reviverDate_nb (ids : List Str) (h : ∀ i ∈ ids, KeyStr i) : NB F (reviverDate ids) := by
  -- `if (… .test(value)` leaves the `(` open, the key clauses are balanced, `) { … }` closes it
  refine Tr.l0.h (NB.ite _ NB.nil ?_) |>.l.nb (by decide +kernel)
  refine Tr.l0.h (NB.intercalate _ (Tr.l0.nb (by decide +kernel)) _ fun x hx => ?_) |>.l.nb (by decide +kernel)
  obtain ⟨i, hi, rfl⟩ := List.mem_map.1 hx
  exact Tr.l0.b (KeyStr.strBody (h i hi)) |>.l.nb (by decide +kernel)

theorem clauses_nb (st : CustomMap) (h : StOk st) : ∀ p ∈ clauses st, NB F p.1 ∧ NB F p.2 := by
  intro p hp
  simp only [clauses, List.mem_filterMap] at hp
  obtain ⟨x, _, hx⟩ := hp
  split at hx
  · cases hx; exact ⟨reviverUint8_nb, replacerUint8_nb⟩
  · split at hx
    · cases hx; exact ⟨reviverDate_nb _ (cmGet_ok h _), replacerDate_nb⟩
    · cases hx

theorem endFile_nb (st : CustomMap) (h : StOk st) : NB F (endFile st) := by
  unfold endFile
  split
  · exact NB.nil
  · have hc := clauses_nb st h
    have hsep : NB F s%"\n    " := Tr.l0.nb (by decide +kernel)
    have h1 : ∀ a ∈ (clauses st).map (·.1), NB F a := by
      intro a ha
      simp only [List.mem_map] at ha
      obtain ⟨p, hp, rfl⟩ := ha
      exact (hc p hp).1
    have h2 : ∀ a ∈ (clauses st).map (·.2), NB F a := by
      intro a ha
      simp only [List.mem_map] at ha
      obtain ⟨p, hp, rfl⟩ := ha
      exact (hc p hp).2
    -- the doc block; `export const ReviverFunc = … => {` and the reviver clauses; `… };` and the
    -- replacer head; the replacer clauses; `… };`
    exact (Tr.h0 (nb_of_T (comments_nb 0 _ (by decide +kernel)))).l.h (NB.intercalate _ hsep _ h1) |>.l.h
      (NB.intercalate _ hsep _ h2) |>.l.nb (by decide +kernel)

theorem writeItem_nb (U : UnicodeOps) (hU : U.AsciiCorrect) {cfg : Cfg} (H : CfgOk cfg) (it : RustItem) (hs : ItemOk it)
    (st : CustomMap) (text : Str) (st' : CustomMap) (h : writeItem U cfg it st = .ok (text, st')) : NB T text := by
  cases it with
  | struct s => exact writeStruct_nb H s st text st' hs h
  | «enum» en => exact writeEnum_nb H en st text st' hs h
  | alias a => exact writeAlias_nb H a st text st' hs h
  | const c =>
    exact writeConst_nb U H c st text st' hs.ty (IdentStr.key (upperStr_ident U hU (toSnake_ident U hs.name))) h

/-- **one output file**: closed at file level, and the printer state keeps its invariant -/
theorem generate_nb (U : UnicodeOps) (hU : U.AsciiCorrect) {cfg : Cfg} (H : CfgOk cfg) (d : ParsedData)
    (imports : Option Pipeline.ScopedCrateTypes) (hf : FileOk cfg imports)
    (hitems : ∀ it ∈ TsV.C12L.itemsOf d, ItemOk it) (st0 : CustomMap) (h0 : StOk st0) (text : Str) (st : CustomMap)
    (h : generate U cfg d imports st0 = .ok (text, st)) : NB F text ∧ StOk st := by
  obtain ⟨items, blocks, ho, hth, rfl⟩ := TsV.C03E.TS.generate_blocks U cfg d imports st0 text st h
  obtain ⟨hb, hst⟩ := Threaded.inv (P := StOk) (Q := NB T) hth h0 (fun it hit s b s' hs hw =>
    ⟨writeItem_nb U hU H it (hitems it (mem_of_generateOrder ho hit)) s b s' hw,
     writeItem_pres U cfg it (hitems it (mem_of_generateOrder ho hit)) s b s' hw hs⟩)
  exact ⟨((header_nb cfg imports hf).append (NB.flatten _ fun b hb' => nb_of_T (hb b hb'))).append (endFile_nb st hst), hst⟩

/-- what a run needs of its jobs -/
def JobsOk (cfg : Cfg) (jobs : List (Str × ParsedData × Option Pipeline.ScopedCrateTypes)) : Prop :=
  ∀ j ∈ jobs, FileOk cfg j.2.2 ∧ ∀ it ∈ TsV.C12L.itemsOf j.2.1, ItemOk it

theorem generateFrom_nb (U : UnicodeOps) (hU : U.AsciiCorrect) {cfg : Cfg} (H : CfgOk cfg) :
    ∀ (jobs : List (Str × ParsedData × Option Pipeline.ScopedCrateTypes)) (st0 : CustomMap), StOk st0 → JobsOk cfg jobs →
      ∀ outs, generateFrom U cfg jobs st0 = .ok outs → ∀ o ∈ outs, NB F o.2 := by
  intro jobs
  induction jobs with
  | nil => intro _ _ _ outs h; simp only [generateFrom] at h; cases h; simp
  | cons j rest ih =>
    obtain ⟨crate, d, imps⟩ := j
    intro st0 h0 hj outs h
    simp only [generateFrom] at h
    obtain ⟨text, st, hg, h⟩ := Outcome.of_bind_pair_ok h
    obtain ⟨outs', ho, h⟩ := Outcome.of_bind_ok h
    cases h
    obtain ⟨hf, hit⟩ := hj (crate, d, imps) (by simp)
    obtain ⟨hnb, hst⟩ := generate_nb U hU H d imps hf hit st0 h0 text st hg
    intro o hoo
    rcases List.mem_cons.1 hoo with rfl | hoo
    · exact hnb
    · exact ih st hst (fun j hjm => hj j (by simp [hjm])) outs' ho o hoo

end TsV.C10Files.TS
