import TsV.Lemmas.C04_Go
/-!
# C04, Go: the acronym pass commutes with the punctuation of pointer and slice types

`write_field` runs `convert_acronyms_to_uppercase` over the *whole* translated type text, including
the leading `*` / `[]`.  The pass matches each acronym's Pascal-cased pattern in the text; a
pattern that is non-empty and does not begin with the punctuation character cannot match at that
character, and (the character being one byte) every offset behind it is shifted by exactly one,
so the pass on `c :: s` is `c ::` the pass on `s`.
-/
namespace TsV.C04.Go
open TsV TsV.Lang TsV.Lang.Go TsV.C04

/-- the pattern of an acronym is non-empty and does not begin with `c` -/
def GoodPat (c : Char) (pat : Str) : Prop :=
  (match pat with
   | p :: _ => p != c
   | [] => false) = true

instance (c : Char) (pat : Str) : Decidable (GoodPat c pat) := by unfold GoodPat; infer_instance

theorem GoodPat.cons {c : Char} {pat : Str} (h : GoodPat c pat) : ∃ p ps, pat = p :: ps ∧ p ≠ c := by
  cases pat with
  | nil => simp [GoodPat] at h
  | cons p ps => exact ⟨p, ps, rfl, by simpa [GoodPat] using h⟩

theorem go_shift (pat : Str) (k : Nat) : ∀ (fuel off : Nat) (s : Str),
    matchIndices.go pat fuel (off + k) s = (matchIndices.go pat fuel off s).map (· + k) := by
  intro fuel
  induction fuel with
  | zero => intro off s; simp [matchIndices.go]
  | succ n ih =>
    intro off s
    cases s with
    | nil => simp [matchIndices.go]
    | cons c t =>
      simp only [matchIndices.go]
      split
      · have : off + k + utf8Len pat = off + utf8Len pat + k := by omega
        rw [this, ih]; simp
      · have : off + k + c.utf8Size = off + c.utf8Size + k := by omega
        rw [this, ih]

theorem matchIndices_shift {c : Char} (hc : c.utf8Size = 1) {pat : Str} (hp : GoodPat c pat) (name : Str) :
    matchIndices (c :: name) pat = (matchIndices name pat).map (· + 1) := by
  obtain ⟨p, ps, rfl, hne⟩ := hp.cons
  have hsw : Str.startsWith (c :: name) (p :: ps) = false := by
    have : (c == p) = false := by simpa using fun h => hne h.symm
    simp [Str.startsWith, this]
  simp only [matchIndices, List.isEmpty_cons, Bool.false_eq_true, if_false, List.length_cons,
    matchIndices.go, hsw, hc]
  have := go_shift (p :: ps) 1 name.length 0 name
  simpa using this

theorem foldl_utf8 (res : Str) : ∀ (n k : Nat),
    res.foldl (fun n c => n + c.utf8Size) (n + k) = res.foldl (fun n c => n + c.utf8Size) n + k := by
  induction res with
  | nil => intro n k; rfl
  | cons c t ih =>
    intro n k
    simp only [List.foldl_cons]
    have : n + k + c.utf8Size = n + c.utf8Size + k := by omega
    rw [this, ih]

theorem utf8Len_cons {c : Char} (hc : c.utf8Size = 1) (res : Str) : utf8Len (c :: res) = utf8Len res + 1 := by
  simp only [utf8Len, List.foldl_cons, hc]
  exact foldl_utf8 res 0 1

theorem splitAtByte_cons {c : Char} (hc : c.utf8Size = 1) (res : Str) (n : Nat) :
    splitAtByte (c :: res) (n + 1) = (splitAtByte res n).map fun (x : Str × Str) => (c :: x.1, x.2) := by
  simp [splitAtByte, hc]

theorem replaceRange_cons {c : Char} (hc : c.utf8Size = 1) (res : Str) (lo hi : Nat) (rep : Str) :
    replaceRange (c :: res) (lo + 1) (hi + 1) rep =
      (replaceRange res lo hi rep).bind fun r => .ok (c :: r) := by
  unfold replaceRange
  rw [utf8Len_cons hc, splitAtByte_cons hc, Nat.add_sub_add_right]
  simp only [Nat.add_lt_add_iff_right]
  by_cases hlt : utf8Len res < hi
  · rw [if_pos hlt, if_pos hlt]; rfl
  · rw [if_neg hlt, if_neg hlt]
    cases splitAtByte res lo with
    | none => rfl
    | some x =>
      obtain ⟨a, rest⟩ := x
      simp only [Option.map_some]
      cases splitAtByte rest (hi - lo) <;> rfl

/-- a monadic left fold whose step commutes with `φ` commutes with `φ` -/
theorem foldlM_comm {α β : Type} {f g : β → α → Outcome β} (φ : β → β) (l : List α) (b : β)
    (h : ∀ a ∈ l, ∀ b, g (φ b) a = (f b a).bind fun r => .ok (φ r)) :
    l.foldlM g (φ b) = (l.foldlM f b).bind fun r => .ok (φ r) := by
  induction l generalizing b with
  | nil => rfl
  | cons a t ih =>
    rw [List.foldlM_cons, List.foldlM_cons, h a List.mem_cons_self b]
    cases f b a with
    | ok r => exact ih r fun a' ha' => h a' (List.mem_cons_of_mem a ha')
    | err e => rfl
    | panic s => rfl

theorem applyAcronym_shift (U : UnicodeOps) {c : Char} (hc : c.utf8Size = 1) (a : Str)
    (hp : GoodPat c (Rename.toPascal U a)) (name res : Str) :
    applyAcronym U (c :: name) (c :: res) a = (applyAcronym U name res a).bind fun r => .ok (c :: r) := by
  unfold applyAcronym
  simp only
  rw [matchIndices_shift hc hp, List.foldlM_map]
  refine foldlM_comm (c :: ·) _ res fun i _ res => ?_
  have hi : i + 1 + (Rename.toPascal U a).length = (i + (Rename.toPascal U a).length) + 1 := by omega
  rw [hi, List.getElem?_cons_succ]
  split
  · exact replaceRange_cons hc res i _ _
  · rfl

theorem convertAcronyms_shift (U : UnicodeOps) {c : Char} (hc : c.utf8Size = 1) (acronyms : List Str)
    (hp : ∀ a ∈ acronyms, GoodPat c (Rename.toPascal U a)) (name : Str) :
    convertAcronyms U acronyms (c :: name) = (convertAcronyms U acronyms name).bind fun r => .ok (c :: r) :=
  foldlM_comm (c :: ·) acronyms name fun a ha res => applyAcronym_shift U hc a (hp a ha) name res

/-- whether a Pascal-cased pattern is non-empty, and its first character, do not depend on the all-capitals
flag (the first character written is always `asciiUpper` of the first character that is not `_`) -/
theorem goodPat_pascalGo (c : Char) (b b' : Bool) (a : Str) :
    GoodPat c (Rename.pascalGo b true a) ↔ GoodPat c (Rename.pascalGo b' true a) := by
  induction a with
  | nil => simp [Rename.pascalGo]
  | cons x t ih =>
    simp only [Rename.pascalGo]
    by_cases hx : x = '_'
    · simp only [hx, if_true]; exact ih
    · simp only [hx, if_false, if_true, GoodPat]

/-- … hence not on the Unicode tables either -/
theorem goodPat_toPascal (c : Char) (U U' : UnicodeOps) (a : Str) :
    GoodPat c (Rename.toPascal U a) ↔ GoodPat c (Rename.toPascal U' a) :=
  goodPat_pascalGo c _ _ a

/-- the acronyms' patterns are non-empty and begin with none of `*`, `[`, `]` (true of every
acronym made of letters and digits).  The pattern is `to_pascal_case` of the acronym; whether it is empty and
what it begins with is the same for every Unicode table (`goodPat_toPascal`), so the ASCII one is named. -/
def SaneAcronyms (cfg : Cfg) : Prop :=
  ∀ a ∈ cfg.uppercaseAcronyms, ∀ c ∈ ['*', '[', ']'], GoodPat c (Rename.toPascal UnicodeOps.ascii a)

/-- **the acronym pass is transparent for pointer / slice punctuation** for every sane acronym list -/
theorem acrTransparent_of_sane (U : UnicodeOps) (cfg : Cfg) (h : SaneAcronyms cfg) : AcrTransparent U cfg := by
  intro c s hcm
  have hc : c.utf8Size = 1 := by
    simp only [List.mem_cons, List.not_mem_nil, or_false] at hcm
    rcases hcm with rfl | rfl | rfl <;> decide
  exact convertAcronyms_shift U hc _ (fun a ha => (goodPat_toPascal c _ U a).1 (h a ha c hcm)) s

example : SaneAcronyms { uppercaseAcronyms := [s%"id", s%"url", s%"API"] } := by
  intro a ha c hc
  simp only [List.mem_cons, List.not_mem_nil, or_false] at ha hc
  rcases ha with rfl | rfl | rfl <;> rcases hc with rfl | rfl | rfl <;> decide

end TsV.C04.Go
