import TsV.Lemmas.Topsort
/-! the topological-order invariant of `toposort_impl::inner` on acyclic graphs -/
namespace TsV.Topsort

/-- `i` depends on `j` -/
def Edge (g : List (List Nat)) (i j : Nat) : Prop := ∃ deps, g[i]? = some deps ∧ j ∈ deps

/-- reachability by at least one edge -/
inductive Reach (g : List (List Nat)) : Nat → Nat → Prop
  | single {a b} : Edge g a b → Reach g a b
  | step {a b c} : Reach g a b → Edge g b c → Reach g a c

def Acyclic (g : List (List Nat)) : Prop := ∀ a, ¬ Reach g a a

/-- every emitted node has all its dependencies strictly before it -/
def Ord (g : List (List Nat)) (res : List Nat) : Prop :=
  ∀ pre i post, res = pre ++ i :: post → ∀ deps, g[i]? = some deps → ∀ j ∈ deps, j ∈ pre

/-- every node on the DFS stack reaches every node still to be visited at this level -/
def PathInv (g : List (List Nat)) (seen nodes : List Nat) : Prop :=
  ∀ s ∈ seen, ∀ x ∈ nodes, Reach g s x

theorem split_snoc {α} (pre : List α) (i : α) (post l : List α) (d : α)
    (h : pre ++ i :: post = l ++ [d]) :
    (post = [] ∧ pre = l ∧ i = d) ∨ (∃ post', post = post' ++ [d] ∧ l = pre ++ i :: post') := by
  rcases List.eq_nil_or_concat post with rfl | ⟨post', x, rfl⟩
  · left
    have : pre ++ [i] = l ++ [d] := by simpa using h
    have h1 := List.append_inj' this rfl
    exact ⟨rfl, h1.1, by simpa using h1.2⟩
  · right
    have : (pre ++ i :: post') ++ [x] = l ++ [d] := by simpa using h
    have h1 := List.append_inj' this rfl
    refine ⟨post', ?_, h1.1.symm⟩
    have : x = d := by simpa using h1.2
    subst this; simp

theorem ord_snoc (g : List (List Nat)) (res : List Nat) (d : Nat) (ho : Ord g res)
    (hd : ∀ deps, g[d]? = some deps → ∀ j ∈ deps, j ∈ res) : Ord g (res ++ [d]) := by
  intro pre i post h deps hdeps j hj
  rcases split_snoc pre i post res d h.symm with ⟨_, rfl, rfl⟩ | ⟨post', _, hres⟩
  · exact hd deps hdeps j hj
  · exact ho pre i post' hres deps hdeps j hj

/-- on an acyclic graph the search never returns early (a listed node on the stack would reach itself), so the
dependencies of a node are all in `res` when the node is appended -/
theorem inner_ord (g : List (List Nat)) (hac : Acyclic g) :
    ∀ fuel nodes st st', inner g fuel nodes st = some st' → PathInv g st.seen nodes → Ord g st.res →
      Ord g st'.res := by
  intro fuel nodes st
  fun_induction inner g fuel nodes st with
  | case1 => intro st' h; simp at h
  | case2 => intro st' h _ ho; cases h; exact ho
  | case3 fuel d rest st hres ih =>
    intro st' h hp ho
    exact ih st' h (fun s hs x hx => hp s hs x (List.mem_cons_of_mem _ hx)) ho
  | case4 fuel d rest st hres hseen =>
    intro st' h hp _
    exact absurd (hp d (by simpa using hseen) d List.mem_cons_self) (hac d)
  | case5 fuel d rest st hres hseen hnone => intro st' h; simp at h
  | case6 fuel d rest st hres hseen deps hdeps hnone ih1 => intro st' h; simp at h
  | case7 fuel d rest st hres hseen deps hdeps st1 hsome ih1 ih2 =>
    intro st' h hp ho
    have hdseen : d ∉ st.seen := by simpa using hseen
    have hp1 : PathInv g (st.seen ++ [d]) deps := by
      intro s hs x hx
      rcases List.mem_append.1 hs with hs | hs
      · exact Reach.step (hp s hs d List.mem_cons_self) ⟨deps, hdeps, hx⟩
      · cases List.mem_singleton.1 hs; exact Reach.single ⟨deps, hdeps, hx⟩
    obtain ⟨hs1, _, hc1⟩ := inner_dfs g _ _ _ _ hsome
    have hc1 : ∀ j ∈ deps, j ∈ st1.res := hc1.resolve_right fun ⟨j, hj, hs⟩ => hac j (hp1 j hs j hj)
    have hseen2 : st1.seen.erase d = st.seen := by
      rw [show st1.seen = st.seen ++ [d] from hs1, erase_append_self hdseen]
    apply ih2 st' h
    · rw [hseen2]; exact fun s hs x hx => hp s hs x (List.mem_cons_of_mem _ hx)
    · apply ord_snoc g _ _ (ih1 st1 hsome hp1 ho)
      intro deps' hd' j hj
      rw [hdeps] at hd'; cases hd'
      exact hc1 j hj

end TsV.Topsort
