/-!
# Two lists related element by element

Core Lean has no `List.Forall₂`.  The development states "same length, related position by position"
through `C01.Forall₂`; `C03E.Paired`, `C04.Pointwise` and `C06M.Rel₂` say the same thing in the
statements of other properties, and each comes with one lemma that turns it into `Forall₂`
(`paired_iff`, `pointwise_iff`, `rel₂_iff`, next to their definitions).  Everything that is true of
such a pair of lists is proved here, once.  A successful traversal relates its input and its output in
this way (`Outcome.mapM'_forall₂`, `Outcome.thread_forall₂`); the element-wise readings of a traversal
(`length`, `getElem`, `map`, membership) are instances of the lemmas below.
-/
namespace TsV.C01

/-- two lists related element by element (core Lean has no `List.Forall₂`) -/
inductive Forall₂ {α β} (R : α → β → Prop) : List α → List β → Prop
  | nil : Forall₂ R [] []
  | cons {a b l₁ l₂} : R a b → Forall₂ R l₁ l₂ → Forall₂ R (a :: l₁) (b :: l₂)

namespace Forall₂
variable {α β γ δ : Type _} {R : α → β → Prop} {l : List α} {r : List β}

/-- the implication may use that the two elements are members -/
theorem imp_mem {S : α → β → Prop} (h : Forall₂ R l r) (hRS : ∀ a ∈ l, ∀ b ∈ r, R a b → S a b) : Forall₂ S l r := by
  induction h with
  | nil => exact .nil
  | cons hab _ ih =>
    exact .cons (hRS _ List.mem_cons_self _ List.mem_cons_self hab)
      (ih fun a ha b hb => hRS a (List.mem_cons_of_mem _ ha) b (List.mem_cons_of_mem _ hb))

theorem imp {S : α → β → Prop} (hRS : ∀ a b, R a b → S a b) (h : Forall₂ R l r) : Forall₂ S l r :=
  h.imp_mem fun a _ b _ => hRS a b

theorem length_eq (h : Forall₂ R l r) : l.length = r.length := by
  induction h with
  | nil => rfl
  | cons _ _ ih => rw [List.length_cons, List.length_cons, ih]

theorem get (h : Forall₂ R l r) : ∀ (i : Nat) (hl : i < l.length) (hr : i < r.length), R l[i] r[i] := by
  induction h with
  | nil => exact fun _ hl => nomatch hl
  | cons hab _ ih =>
    intro i hl hr
    cases i with
    | zero => exact hab
    | succ j => exact ih j (Nat.lt_of_succ_lt_succ hl) (Nat.lt_of_succ_lt_succ hr)

theorem get? (h : Forall₂ R l r) : ∀ (k : Nat) (a : α), l[k]? = some a → ∃ b, r[k]? = some b ∧ R a b := by
  induction h with
  | nil => exact fun _ _ e => nomatch e
  | cons hab _ ih =>
    intro k a e
    cases k with
    | zero => cases e; exact ⟨_, rfl, hab⟩
    | succ j => exact ih j a e

theorem mem_left (h : Forall₂ R l r) : ∀ a ∈ l, ∃ b ∈ r, R a b := by
  induction h with
  | nil => exact fun _ ha => nomatch ha
  | cons hab _ ih =>
    exact List.forall_mem_cons.2 ⟨⟨_, List.mem_cons_self, hab⟩,
      fun a ha => let ⟨b, hb, hr⟩ := ih a ha; ⟨b, List.mem_cons_of_mem _ hb, hr⟩⟩

theorem flip (h : Forall₂ R l r) : Forall₂ (fun b a => R a b) r l := by
  induction h with
  | nil => exact .nil
  | cons hab _ ih => exact .cons hab ih

theorem mem_right (h : Forall₂ R l r) : ∀ b ∈ r, ∃ a ∈ l, R a b := h.flip.mem_left

theorem map_left_iff {g : γ → α} {cs : List γ} : Forall₂ R (cs.map g) r ↔ Forall₂ (fun c b => R (g c) b) cs r := by
  induction cs generalizing r with
  | nil => exact ⟨fun h => by cases h; exact .nil, fun h => by cases h; exact .nil⟩
  | cons c cs ih =>
    exact ⟨fun h => by cases h with | cons hab ht => exact .cons hab (ih.1 ht),
      fun h => by cases h with | cons hab ht => exact .cons hab (ih.2 ht)⟩

theorem map_right_iff {g : γ → β} {cs : List γ} : Forall₂ R l (cs.map g) ↔ Forall₂ (fun a c => R a (g c)) l cs :=
  ⟨fun h => (map_left_iff.1 h.flip).flip, fun h => (map_left_iff.2 h.flip).flip⟩

/-- both lists are images of one list -/
theorem of_map {R : β → γ → Prop} (f : α → β) (g : α → γ) (l : List α) (h : ∀ a ∈ l, R (f a) (g a)) :
    Forall₂ R (l.map f) (l.map g) := by
  induction l with
  | nil => exact .nil
  | cons a l ih => exact .cons (h a List.mem_cons_self) (ih fun x hx => h x (List.mem_cons_of_mem _ hx))

theorem append {l' : List α} {r' : List β} (h : Forall₂ R l r) (h' : Forall₂ R l' r') : Forall₂ R (l ++ l') (r ++ r') := by
  induction h with
  | nil => exact h'
  | cons hab _ ih => exact .cons hab ih

theorem comp {S : β → γ → Prop} {t : List γ} (h : Forall₂ R l r) (h' : Forall₂ S r t) :
    Forall₂ (fun a c => ∃ b, R a b ∧ S b c) l t := by
  induction h generalizing t with
  | nil => cases h'; exact .nil
  | cons hab _ ih => cases h' with | cons hbc ht => exact .cons ⟨_, hab, hbc⟩ (ih ht)

/-- projections that related elements share are shared by the lists -/
theorem map_eq {f : α → γ} {g : β → γ} (h : Forall₂ R l r) (hfg : ∀ a ∈ l, ∀ b ∈ r, R a b → f a = g b) :
    l.map f = r.map g := by
  have := h.imp_mem hfg
  clear h hfg
  induction this with
  | nil => rfl
  | cons hab _ ih => rw [List.map_cons, List.map_cons, hab, ih]

end Forall₂

end TsV.C01
