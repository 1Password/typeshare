import TsV.Lemmas.C01_Spec
import TsV.Props.C08
import TsV.Lemmas.C04_Parse
import TsV.Lemmas.Outcome
import TsV.Lemmas.ParserOk
/-!
# C01, parse half: the parser model computes serde's key
-/
namespace TsV.C01
open TsV TsV.Str TsV.Syn TsV.Parser TsV.Serde TsV.Outcome TsV.RenameLemmas

theorem forall₂_map_nested {α β γ δ ε} {S : β → ε → Prop} {sel : α → List β} (g : γ → List δ) (k : δ → ε)
    {ps : List α} {ds : List γ} (h : Forall₂ (fun p d => Forall₂ (fun f q => S f (k q)) (sel p) (g d)) ps ds) :
    Forall₂ (fun p ks => Forall₂ S (sel p) ks) ps (ds.map fun d => (g d).map k) :=
  Forall₂.map_right_iff.2 (h.imp fun _ _ hp => Forall₂.map_right_iff.2 hp)

theorem forall₂_map_self {α β} {R : α → β → Prop} (g : α → β) (l : List α) (h : ∀ a ∈ l, R a (g a)) :
    Forall₂ R l (l.map g) := by simpa using Forall₂.of_map id g l h

theorem forall₂_mem_left {α β} {R : α → β → Prop} {P : α → Prop} {l1 l2} (h : Forall₂ R l1 l2)
    (hP : ∀ a ∈ l1, P a) : Forall₂ (fun a b => P a ∧ R a b) l1 l2 := h.imp_mem fun a ha _ _ hab => ⟨hP a ha, hab⟩

theorem forall₂_eq_map {α β} (g : α → β) {l1 : List α} {l2 : List β} (h : Forall₂ (fun a b => b = g a) l1 l2) :
    l2 = l1.map g := by simpa using (h.map_eq (f := g) (g := id) fun _ _ _ _ e => e.symm).symm

theorem thread_forall₂' {α β σ : Type} {f : α → σ → Outcome (β × σ)} {fs : List α → σ → Outcome (List β × σ)}
    {l : List α} {st : σ} {r : List β} {st' : σ} (h : fs l st = .ok (r, st'))
    (nil_eq : ∀ st, fs [] st = .ok ([], st))
    (cons_eq : ∀ a as st,
      fs (a :: as) st = (f a st).bind fun p => (fs as p.2).bind fun q => .ok (p.1 :: q.1, q.2))
    {R : α → β → Prop} (hR : ∀ a st b st', f a st = .ok (b, st') → R a b) : Forall₂ R l r :=
  (thread_forall₂ h nil_eq cons_eq).imp fun a b ⟨st, st', hb⟩ => hR a st b st' hb

theorem stripRaw_cases (i : Str) : (∃ rest, i = 'r' :: '#' :: rest ∧ stripRaw i = rest) ∨ stripRaw i = i := by
  unfold stripRaw
  split
  · exact Or.inl ⟨_, rfl, rfl⟩
  · exact Or.inr rfl

/-- `get_ident`'s `replace("r#", "")` is `unraw` on conventional identifiers -/
theorem original_eq_stripRaw (i : Str) (h : IdentConv i) : replaceSub i s%"r#" [] = stripRaw i := by
  unfold IdentConv C16.FieldConv at h
  have hh : '#' ∉ stripRaw i := fun hc => absurd (h _ hc) (by decide)
  rcases stripRaw_cases i with ⟨rest, hi, hr⟩ | hr
  · rw [hr] at hh ⊢; subst hi
    -- the leading `r#` is replaced in the first step; the rest has no `#`
    unfold replaceSub
    rw [if_neg (by decide)]
    simp only [replaceSub.go, startsWith, beq_self_eq_true, Bool.and_self, if_true, List.length_cons,
      List.length_nil, List.drop_succ_cons, List.drop_zero, List.nil_append]
    exact replaceSub_go_id _ [] (by decide) _ rest hh
  · rw [hr] at hh ⊢; exact replaceSub_id _ [] (by decide) i hh

theorem getIdent_ok (E : Ext) (i : Option Str) (attrs : List Attr) (ra : Option Str) (id : Id)
    (h : getIdent E i attrs ra = .ok id) :
    ∃ renamed, Rename.renameAllToCase E.U id.original ra = .ok renamed ∧
      id.original = C03.origOf i ∧
      id.renamed = (serdeRename E attrs).getD renamed := by
  obtain ⟨renamed, h1, rfl⟩ := Parser.getIdent_ok h
  exact ⟨renamed, h1, rfl, rfl⟩

/-- **explicit rename**: the wire name is the `serde(rename)` value, whatever the identifier -/
theorem getIdent_explicit (E : Ext) (i : Option Str) (attrs : List Attr) (ra : Option Str) (id : Id) (k : Str)
    (h : getIdent E i attrs ra = .ok id) (hk : serdeRename E attrs = some k) : id.renamed = k := by
  obtain ⟨_, _, _, h3⟩ := getIdent_ok E i attrs ra id h
  simpa [hk] using h3

/-- **`get_ident` computes serde's key**: with an explicit rename unconditionally, otherwise on
conventional identifiers, for every rule string (known, unknown or absent) -/
theorem getIdent_key (E : Ext) (hU : E.U.AsciiCorrect) (i : Str) (attrs : List Attr) (ra : Option Str)
    (id : Id) (h : getIdent E (some i) attrs ra = .ok id)
    (hs : IdentConv i ∨ (serdeRename E attrs).isSome = true) :
    C16.Agree (.ok id.renamed) (fieldKey E ra attrs i) := by
  obtain ⟨renamed, h1, h2, h3⟩ := getIdent_ok E (some i) attrs ra id h
  unfold fieldKey
  cases hk : serdeRename E attrs with
  | some k => rw [hk] at h3; simp at h3; rw [h3]; exact C16.agrees_ok _ _ rfl
  | none =>
    rw [hk] at h3; simp at h3
    have hc : IdentConv i := by
      rcases hs with hs | hs
      · exact hs
      · rw [hk] at hs; simp at hs
    simp only [C03.origOf] at h2
    rw [original_eq_stripRaw i hc] at h2
    rw [h2] at h1
    rw [h3]
    cases ra with
    | none =>
      simp only [Option.bind_none]
      rw [C16.no_rule] at h1
      cases h1; exact C16.agrees_ok _ _ rfl
    | some r =>
      simp only [Option.bind_some]
      cases hr : Rule.ofStr r with
      | none =>
        rw [C16.unknown_rule _ _ _ hr] at h1
        cases h1; exact C16.agrees_ok _ _ rfl
      | some rule =>
        have := C16.C16_field E.U hU r rule hr (stripRaw i) hc
        rw [h1] at this
        exact this

/-- the relation between a source field and its parsed identifier that C01 is about -/
def ParsedKey (E : Ext) (ra : Option Str) (f : Field) (id : Id) : Prop :=
  (∀ k, serdeRename E f.attrs = some k → id.renamed = k) ∧
  ((∃ i, f.ident = some i ∧ IdentConv i) ∨ (∃ i, f.ident = some i) ∧ (serdeRename E f.attrs).isSome = true →
    C16.Agree (.ok id.renamed) (fieldKeyOf E ra f))

theorem parseField_key (E : Ext) (hU : E.U.AsciiCorrect) (cf : Bool) (ra : Option Str) (f : Field)
    (rf : RustField) (h : parseField E cf ra f = .ok rf) : ParsedKey E ra f rf.id := by
  have hid := (parseField_ok h).id
  refine ⟨fun k hk => getIdent_explicit E _ _ _ _ k hid hk, ?_⟩
  intro hs
  unfold fieldKeyOf
  rcases hs with ⟨i, hi, hc⟩ | ⟨⟨i, hi⟩, hr⟩
  · rw [hi] at hid ⊢
    exact getIdent_key E hU i f.attrs ra rf.id hid (Or.inl hc)
  · rw [hi] at hid ⊢
    exact getIdent_key E hU i f.attrs ra rf.id hid (Or.inr hr)

theorem parseFields_keys (E : Ext) (hU : E.U.AsciiCorrect) (ra : Option Str) (fs : List Field)
    (rfs : List RustField) (h : mapM' (parseField E true ra) fs = .ok rfs) :
    Forall₂ (fun f rf => ParsedKey E ra f rf.id) fs rfs :=
  Forall₂.imp (fun f rf hf => parseField_key E hU true ra f rf hf) (mapM'_forall₂ _ fs rfs h)

/-- **structs**: the parsed fields are the kept source fields, each with serde's key (container rule) -/
theorem parseStruct_keys (E : Ext) (hU : E.U.AsciiCorrect) (targetOs : List Str) (attrs : List Attr)
    (ident : Str) (gens : List GenericParam) (fs : List Field) (rs : RustStruct)
    (h : parseStruct E targetOs attrs ident gens (.named fs) = .ok (.struct rs)) :
    Forall₂ (fun f rf => ParsedKey E (serdeRenameAll E attrs) f rf.id) (kept targetOs fs) rs.fields := by
  exact parseFields_keys E hU _ _ _ (parseStruct_struct_ok h).2

/-- **struct variants**: the *variant's* `rename_all` governs its fields, not the enum's -/
theorem parseEnumVariant_keys (E : Ext) (hU : E.U.AsciiCorrect) (targetOs : List Str)
    (enumRa : Option Str) (v : Variant) (id : Id) (cs : List Str) (rfs : List RustField)
    (h : parseEnumVariant E targetOs enumRa v = .ok (.anonymousStruct id cs rfs)) :
    ∃ fs, v.fields = .named fs ∧
      Forall₂ (fun f rf => ParsedKey E (serdeRenameAll E v.attrs) f rf.id) (kept targetOs fs) rfs := by
  cases (parseEnumVariant_ok h).2 with
  | named hfs h3 => exact ⟨_, hfs, parseFields_keys E hU _ _ _ h3⟩

/-- what C01 says about one variant -/
def VariantKeys (E : Ext) (targetOs : List Str) (v : Variant) (rv : RustEnumVariant) : Prop :=
  ∀ id cs rfs, rv = .anonymousStruct id cs rfs →
    ∃ fs, v.fields = .named fs ∧
      Forall₂ (fun f rf => ParsedKey E (serdeRenameAll E v.attrs) f rf.id) (kept targetOs fs) rfs

/-- **enums**: every kept variant, in order; each struct variant as in `parseEnumVariant_keys` -/
theorem parseEnum_keys (E : Ext) (hU : E.U.AsciiCorrect) (targetOs : List Str) (attrs : List Attr)
    (ident : Str) (gens : List GenericParam) (variants : List Variant) (e : RustEnum)
    (h : parseEnum E targetOs attrs ident gens variants = .ok (.enum e)) :
    Forall₂ (VariantKeys E targetOs)
      (variants.filter fun v => !isSkipped v.attrs targetOs) e.variants :=
  Forall₂.imp (fun v _ hv id cs rfs hrv => parseEnumVariant_keys E hU targetOs _ v id cs rfs (hrv ▸ hv))
    (mapM'_forall₂ _ _ _ (parseEnum_enum_ok h).2)

/-! ## serde's keys of in-scope fields lie in the key alphabet -/

theorem fc_keyChar (c : Char) (h : fcChar c = true) : keyChar c = true := by
  simp only [fcChar, Bool.or_eq_true, beq_iff_eq] at h
  simp only [keyChar, Bool.or_eq_true, beq_iff_eq]
  rcases h with (h | h) | h
  · exact Or.inl (Or.inl (Or.inl (Or.inl h)))
  · exact Or.inl (Or.inl (Or.inr h))
  · exact Or.inl (Or.inr h)

theorem fc_upper_keyChar (c : Char) (h : fcChar c = true) : keyChar (asciiUpper c) = true := by
  cases hl : isAsciiLower c with
  | false => rw [asciiUpper_of_notLower c hl]; exact fc_keyChar c h
  | true => simp [keyChar, lower_upper_isUpper c hl]

theorem keyChar_lower (c : Char) (h : keyChar c = true) : keyChar (asciiLower c) = true := by
  cases hu : isAsciiUpper c with
  | false => rw [asciiLower_of_notUpper c hu]; exact h
  | true => simp [keyChar, upper_lower_isLower c hu]

theorem fieldConv_keyStr (s : Str) (h : C16.FieldConv s) : KeyStr s :=
  fun c hc => fc_keyChar c (h c hc)

theorem upper_keyStr (s : Str) (h : C16.FieldConv s) : KeyStr (toAsciiUpper s) := by
  intro c hc
  simp only [toAsciiUpper, List.mem_map] at hc
  obtain ⟨x, hx, rfl⟩ := hc
  exact fc_upper_keyChar x (h x hx)

theorem fieldPascalGo_keyStr (s : Str) (h : C16.FieldConv s) : ∀ cap, KeyStr (fieldPascalGo cap s) := by
  induction s with
  | nil => intro cap c hc; simp [fieldPascalGo] at hc
  | cons a t ih =>
    intro cap
    have ht : C16.FieldConv t := fun x hx => h x (by simp [hx])
    have ha := h a (by simp)
    simp only [fieldPascalGo]
    split
    · exact ih ht true
    · split
      · intro c hc
        simp only [List.mem_cons] at hc
        rcases hc with rfl | hc
        · exact fc_upper_keyChar a ha
        · exact ih ht false c hc
      · intro c hc
        simp only [List.mem_cons] at hc
        rcases hc with rfl | hc
        · exact fc_keyChar _ ha
        · exact ih ht false c hc

theorem kebab_keyStr (s : Str) (h : KeyStr s) : KeyStr (replaceChar s '_' ['-']) := by
  intro c hc
  simp only [replaceChar, List.mem_flatMap] at hc
  obtain ⟨x, hx, hc⟩ := hc
  split at hc
  · rw [List.mem_singleton.1 hc]; decide +kernel
  · rw [List.mem_singleton.1 hc]; exact h x hx

theorem applyField_keyStr (rule : Rule) (s v : Str) (hs : C16.FieldConv s)
    (h : applyField rule s = .ok v) : KeyStr v := by
  cases rule <;> simp only [applyField] at h
  case camel =>
    have hp := fieldPascalGo_keyStr s hs true
    unfold fieldPascal at h
    generalize fieldPascalGo true s = p at h hp
    cases p with
    | nil => simp [Serde.lowerFirst] at h
    | cons c rest =>
      simp only [Serde.lowerFirst] at h
      split at h
      · cases h
        intro x hx
        simp only [List.mem_cons] at hx
        rcases hx with rfl | hx
        · exact keyChar_lower c (hp c (by simp))
        · exact hp x (by simp [hx])
      · cases h
  all_goals cases h
  · exact fieldConv_keyStr s hs
  · exact fieldConv_keyStr s hs
  · exact upper_keyStr s hs
  · exact fieldPascalGo_keyStr s hs true
  · exact fieldConv_keyStr s hs
  · exact upper_keyStr s hs
  · exact kebab_keyStr s (fieldConv_keyStr s hs)
  · exact kebab_keyStr _ (upper_keyStr s hs)

/-- **serde's key of an in-scope field is over the key alphabet** -/
theorem fieldKey_keyStr (E : Ext) (ra : Option Str) (attrs : List Attr) (i k : Str) (hi : IdentConv i)
    (hr : ∀ k', serdeRename E attrs = some k' → KeyStr k') (h : fieldKey E ra attrs i = .ok k) : KeyStr k := by
  unfold fieldKey at h
  split at h
  · rename_i k' hk; cases h; exact hr _ hk
  · split at h
    · exact applyField_keyStr _ _ _ hi h
    · cases h; exact fieldConv_keyStr _ hi

theorem fieldKeyOf_keyStr (E : Ext) (ra : Option Str) (f : Field) (k : Str) (hf : FieldInScope E f)
    (h : fieldKeyOf E ra f = .ok k) : KeyStr k := by
  obtain ⟨⟨i, hi, hc⟩, hr⟩ := hf
  unfold fieldKeyOf at h
  rw [hi] at h
  exact fieldKey_keyStr E ra f.attrs i k hc hr h

end TsV.C01
