import TsV.Model.Deps
import TsV.Lemmas.RustTypes
import TsV.Lemmas.Topsort
import TsV.Lemmas.ListRel
/-!
# Helper lemmas for `Props/C11_Coverage.lean`: the dependency extraction `Deps.depsItem` / `Deps.depsType`

* one step equation for each of the two mutually recursive functions: `depsType_succ` (every type is a
  head name applied to `RustType.parameters`) and `depsItem_succ`;
* the key structural fact: the nested `get_dependencies(tp, …)` call inside
  `get_dependencies_from_type` is always a **no-op** (the name was inserted into `seen` just
  before), so `res` only ever receives *direct* references — except through the `generic_types`
  loop of a type alias;
* the unconditional invariant `Ext`: `seen` only shrinks (as a sublist), `res` only grows, and
  everything pushed can be looked up;
* state restoration for `seen`;
* `lookup` / `getIndex` / `mapM` facts used to read the graph off `Deps.graph`.
-/
namespace TsV.Deps
open TsV

variable (items : List RustItem)

/-- a sublist of `S ++ [x]` loses its `x` and becomes a sublist of `S` -/
theorem sublist_erase_of_snoc {S X : List Str} {x : Str} (hx : x ∉ S) (h : X.Sublist (S ++ [x])) :
    (X.erase x).Sublist S := by
  obtain ⟨X1, X2, rfl, h1, h2⟩ := List.sublist_append_iff.1 h
  have hx1 : x ∉ X1 := fun hm => hx (h1.subset hm)
  rw [List.erase_append_right _ hx1]
  have : X2 = [] ∨ X2 = [x] := by
    cases h2 with
    | cons _ h => left; simpa using h
    | cons_cons _ h => right; have := List.sublist_nil.1 h; simp [this]
  rcases this with rfl | rfl <;> simpa using h1

/-- a sublist that still contains every element of a duplicate-free list is that list -/
theorem sublist_eq_of_nodup {α} {l' l : List α} (hs : l'.Sublist l) (hn : l.Nodup)
    (hall : ∀ y ∈ l, y ∈ l') : l' = l := by
  induction hs with
  | slnil => rfl
  | @cons l1 l2 a h ih =>
    exfalso
    have : a ∈ l2 := h.subset (hall a (by simp))
    exact (List.nodup_cons.1 hn).1 this
  | @cons_cons l1 l2 a h ih =>
    have hn' := List.nodup_cons.1 hn
    congr 1
    apply ih hn'.2
    intro y hy
    have := hall y (by simp [hy])
    rcases List.mem_cons.1 this with rfl | h'
    · exact absurd hy hn'.1
    · exact h'

theorem foldl_congr_mem {α β} (F G : β → α → β) (l : List α) (h : ∀ a ∈ l, ∀ b, F b a = G b a) (b : β) :
    l.foldl F b = l.foldl G b := by
  induction l generalizing b with
  | nil => rfl
  | cons a t ih =>
    simp only [List.foldl_cons]
    rw [h a (by simp) b]
    exact ih (fun a' ha' => h a' (by simp [ha'])) _

theorem foldl_invariant {α β} (F : β → α → β) (P : β → Prop) (l : List α)
    (h : ∀ a ∈ l, ∀ b, P b → P (F b a)) (b : β) (hb : P b) : P (l.foldl F b) := by
  induction l generalizing b with
  | nil => exact hb
  | cons a t ih =>
    exact ih (fun a' ha' => h a' (List.mem_cons_of_mem _ ha')) _ (h a List.mem_cons_self b hb)

/-! ### a type as a head applied to `RustType.parameters` -/

/-- the name a type stands for by itself (what `get_dependencies_from_type` looks up) -/
def headName : RustType → Option Str
  | .simple id | .generic id _ => some id
  | _ => none

theorem parameters_induct {motive : RustType → Prop}
    (h : ∀ t, (∀ p ∈ t.parameters, motive p) → motive t) (t : RustType) : motive t := by
  induction t using rustType_induct with
  | simple id => exact h _ (fun _ hp => nomatch hp)
  | prim p => exact h _ (fun _ hp => nomatch hp)
  | generic id ps ih => exact h _ ih
  | vec r ih | array r n ih | slice r ih | option r ih =>
    exact h _ (fun p hp => by cases List.mem_singleton.1 hp; exact ih)
  | hashMap k v ihk ihv =>
    exact h _ (fun p hp => by
      rcases List.mem_cons.1 hp with rfl | hp
      · exact ihk
      · cases List.mem_singleton.1 hp; exact ihv)

theorem allIds_eq (t : RustType) : t.allIds = t.id :: RustType.allIdsList t.parameters := by
  cases t <;> simp [RustType.allIds, RustType.allIdsList, RustType.parameters, RustType.id]

theorem mem_allIdsList_iff {ps : List RustType} {y : Str} :
    y ∈ RustType.allIdsList ps ↔ ∃ p ∈ ps, y ∈ p.allIds := by
  induction ps with
  | nil => simp [RustType.allIdsList]
  | cons a t ih => simp [RustType.allIdsList, ih]

theorem mapM_cons_some {α β} {f : α → Option β} {a : α} {l : List α} {r : List β} :
    (a :: l).mapM f = some r ↔ ∃ b bs, f a = some b ∧ l.mapM f = some bs ∧ r = b :: bs := by
  rw [List.mapM_cons]
  cases f a <;> cases l.mapM f <;> simp [eq_comm]

/-- a successful `mapM` in `Option` relates input and output element by element -/
theorem mapM_forall₂ {α β} {f : α → Option β} {l : List α} {r : List β} (h : l.mapM f = some r) :
    C01.Forall₂ (fun a b => f a = some b) l r := by
  induction l generalizing r with
  | nil => cases h; exact .nil
  | cons a l ih =>
    obtain ⟨b, bs, ha, hl, rfl⟩ := mapM_cons_some.1 h
    exact .cons ha (ih hl)

theorem mapM_isSome {α β} (f : α → Option β) : ∀ (l : List α),
    (∀ a ∈ l, (f a).isSome) → (l.mapM f).isSome := by
  intro l h
  induction l with
  | nil => simp
  | cons a t ih =>
    simp only [List.mapM_cons]
    obtain ⟨b, hb⟩ := Option.isSome_iff_exists.1 (h a (by simp))
    obtain ⟨bs, hbs⟩ := Option.isSome_iff_exists.1 (ih fun a' ha' => h a' (by simp [ha']))
    simp [hb, hbs]

variable {items}

theorem lookup_name {id : Str} {thing : RustItem} (h : lookup items id = some thing) :
    thing.originalName = id := by
  unfold lookup at h
  have := List.find?_some h
  simpa using this

theorem lookup_mem {id : Str} {thing : RustItem} (h : lookup items id = some thing) :
    thing ∈ items := by
  unfold lookup at h
  have := List.mem_of_find?_eq_some h
  simpa using this

theorem lookup_isSome_of_mem {it : RustItem} (h : it ∈ items) :
    (lookup items it.originalName).isSome := by
  unfold lookup
  rw [List.find?_isSome]
  exact ⟨it, by simpa using h, by simp⟩

theorem sameItem_name {a b : RustItem} (h : sameItem a b = true) : a.originalName = b.originalName := by
  cases a <;> cases b <;> simp_all [sameItem, RustItem.originalName]

theorem sameItem_refl (a : RustItem) : sameItem a a = true := by
  cases a <;> simp [sameItem]

theorem getIndex_spec {thing : RustItem} {j : Nat} (h : getIndex items thing = some j) :
    ∃ c, items[j]? = some c ∧ c.originalName = thing.originalName := by
  unfold getIndex at h
  obtain ⟨hj, hp, _⟩ := List.findIdx?_eq_some_iff_getElem.1 h
  exact ⟨items[j], by simp [hj], sameItem_name hp⟩

theorem getIndex_isSome_of_mem {thing : RustItem} (h : thing ∈ items) :
    (getIndex items thing).isSome := by
  unfold getIndex
  rw [List.findIdx?_isSome]
  simp only [List.any_eq_true]
  exact ⟨thing, h, sameItem_refl thing⟩

/-- original names are pairwise distinct -/
def NamesDistinct (items : List RustItem) : Prop := (items.map RustItem.originalName).Nodup

theorem names_inj (hd : NamesDistinct items) {i j : Nat} {a b : RustItem}
    (ha : items[i]? = some a) (hb : items[j]? = some b) (hn : a.originalName = b.originalName) :
    i = j := by
  obtain ⟨hi, rfl⟩ := List.getElem?_eq_some_iff.1 ha
  obtain ⟨hj, rfl⟩ := List.getElem?_eq_some_iff.1 hb
  have hi' : i < (items.map RustItem.originalName).length := by simpa using hi
  have hj' : j < (items.map RustItem.originalName).length := by simpa using hj
  have : (items.map RustItem.originalName)[i] = (items.map RustItem.originalName)[j] := by
    simpa using hn
  exact (List.getElem_inj hd).mp this

theorem lookup_of_distinct (hd : NamesDistinct items) {j : Nat} {b : RustItem}
    (hb : items[j]? = some b) : lookup items b.originalName = some b := by
  have hmem : b ∈ items := List.mem_iff_getElem?.2 ⟨j, hb⟩
  obtain ⟨c, hc⟩ := Option.isSome_iff_exists.1 (lookup_isSome_of_mem hmem)
  have hcn := lookup_name hc
  obtain ⟨k, hk⟩ := List.mem_iff_getElem?.1 (lookup_mem hc)
  have := names_inj hd hk hb hcn
  subst this
  rw [hk] at hb; cases hb
  exact hc

theorem getIndex_of_distinct (hd : NamesDistinct items) {j : Nat} {b : RustItem}
    (hb : items[j]? = some b) : getIndex items b = some j := by
  have hmem : b ∈ items := List.mem_iff_getElem?.2 ⟨j, hb⟩
  obtain ⟨k, hk⟩ := Option.isSome_iff_exists.1 (getIndex_isSome_of_mem hmem)
  obtain ⟨c, hc, hcn⟩ := getIndex_spec hk
  have := names_inj hd hc hb hcn
  subst this
  exact hk

theorem DS.eta (ds : DS) : (⟨ds.res, ds.seen⟩ : DS) = ds := by cases ds; rfl

theorem insert_fresh {ds : DS} {x : Str} (h : x ∉ ds.seen) :
    ds.insert x = (true, ⟨ds.res, ds.seen ++ [x]⟩) := by
  simp [DS.insert, h]

theorem insert_seen {ds : DS} {x : Str} (h : x ∈ ds.seen) : ds.insert x = (false, ds) := by
  simp [DS.insert, h]

@[simp] theorem remove_res (ds : DS) (x : Str) : (ds.remove x).res = ds.res := rfl
@[simp] theorem remove_seen (ds : DS) (x : Str) : (ds.remove x).seen = ds.seen.erase x := rfl

variable (items)

/-! ### the nested `get_dependencies` call is a no-op -/

/-- `get_dependencies` on an item whose name is already in `seen` (or without fuel) changes nothing -/
theorem depsItem_of_seen (f : Nat) (it : RustItem) (ds : DS) (h : it.originalName ∈ ds.seen) :
    depsItem items f it ds = ds := by
  cases f with
  | zero => cases it <;> simp [depsItem]
  | succ f =>
    cases it with
    | struct s => simp only [RustItem.originalName] at h; simp [depsItem, insert_seen h]
    | enum e =>
      simp only [RustItem.originalName] at h
      simp only [depsItem]; cases e.keys <;> simp [insert_seen h]
    | alias a => simp only [RustItem.originalName] at h; simp [depsItem, insert_seen h]
    | const c => simp only [RustItem.originalName] at h; simp [depsItem, insert_seen h]

theorem depsType_zero (t : RustType) (ds : DS) : depsType items 0 t ds = ds := by
  simp [depsType]

/-- the head of `Simple { id }` / `Generic { id, .. }`: if `id` is an item and not in `seen`, push
it; `seen` is left as it was (insert, no-op `get_dependencies`, remove) -/
def headPush (h : Option Str) (ds : DS) : DS :=
  match h with
  | some id => if (lookup items id).isSome ∧ id ∉ ds.seen then ⟨ds.res ++ [id], ds.seen⟩ else ds
  | none => ds

@[simp] theorem headPush_seen (h : Option Str) (ds : DS) : (headPush items h ds).seen = ds.seen := by
  cases h with
  | none => rfl
  | some id => simp only [headPush]; split <;> rfl

theorem mem_headPush_res {h : Option Str} {ds : DS} {x : Str} :
    x ∈ (headPush items h ds).res ↔
      x ∈ ds.res ∨ (h = some x ∧ (lookup items x).isSome ∧ x ∉ ds.seen) := by
  cases h with
  | none => simp [headPush]
  | some id =>
    simp only [headPush]
    by_cases hc : (lookup items id).isSome ∧ id ∉ ds.seen
    · simp only [if_pos hc, List.mem_append, List.mem_singleton, Option.some.injEq]
      exact or_congr_right ⟨fun e => by subst e; exact ⟨rfl, hc⟩, fun e => e.1.symm⟩
    · simp only [if_neg hc, Option.some.injEq]
      exact ⟨Or.inl, fun e => e.elim (fun h => h) fun e => absurd (e.1 ▸ e.2) hc⟩

/-- `for t in ts { get_dependencies_from_type(t, …) }` -/
def typesFold (f : Nat) (ts : List RustType) (ds : DS) : DS :=
  ts.foldl (fun ds t => depsType items f t ds) ds

/-- the `generic_types` loop of `get_type_alias_dependencies` -/
def gensFold (f : Nat) (gs : List Str) (ds : DS) : DS :=
  gs.foldl (fun ds g => match lookup items g with
    | some thing => depsItem items f thing ds
    | none => ds) ds

theorem typesFold_invariant (f : Nat) (ts : List RustType) (P : DS → Prop)
    (h : ∀ t ∈ ts, ∀ ds, P ds → P (depsType items f t ds)) (ds : DS) (hd : P ds) :
    P (typesFold items f ts ds) :=
  foldl_invariant _ P ts h ds hd

theorem gensFold_invariant (f : Nat) (gs : List Str) (P : DS → Prop)
    (h : ∀ g ∈ gs, ∀ thing, lookup items g = some thing → ∀ ds, P ds → P (depsItem items f thing ds))
    (ds : DS) (hd : P ds) : P (gensFold items f gs ds) :=
  foldl_invariant _ P gs (fun g hg b hb => by
    split
    · next thing hl => exact h g hg thing hl b hb
    · exact hb) ds hd

/-- One step of `get_dependencies_from_type` on any type: the head is handled first, then the
parameters are walked **unconditionally**, then `tp.id()` leaves `seen`. -/
theorem depsType_succ (f : Nat) (t : RustType) (ds : DS) :
    depsType items (f+1) t ds =
      (typesFold items f t.parameters (headPush items (headName t) ds)).remove t.id := by
  cases t
  case simple id | generic id ps =>
    cases h : lookup items id with
    | none => simp [depsType, RustType.id, h, headPush, headName, typesFold, RustType.parameters]
    | some thing =>
      by_cases hs : id ∈ ds.seen
      · simp [depsType, RustType.id, h, headPush, headName, insert_seen hs, hs, typesFold,
          RustType.parameters]
      · have hn : thing.originalName ∈ (DS.push ⟨ds.res, ds.seen ++ [id]⟩ id).seen := by
          rw [lookup_name h]; simp [DS.push]
        simp only [depsType, RustType.id, h, insert_fresh hs, if_true]
        rw [depsItem_of_seen items f thing _ hn]
        simp [DS.remove, DS.push, Topsort.erase_snoc_self hs, headPush, headName, h, hs, typesFold,
          RustType.parameters]
  all_goals simp only [depsType, RustType.id, headName, headPush, typesFold, RustType.parameters,
    List.foldl_cons, List.foldl_nil]

/-- the types `get_dependencies` walks for an item, in order -/
def typesOf : RustItem → List RustType
  | .struct s => s.fields.map (·.ty)
  | .enum e =>
    match e.keys with
    | none => []
    | some _ => e.variants.flatMap fun v => match v with
      | .tuple _ _ ty => [ty]
      | .anonymousStruct _ _ fs => fs.map (·.ty)
      | .unit _ _ => []
  | .alias a => [a.ty]
  | .const c => [c.ty]

/-- the generic parameter names `get_type_alias_dependencies` looks up -/
def gensOf : RustItem → List Str
  | .alias a => a.genericTypes
  | _ => []

theorem depsItem_zero (it : RustItem) (ds : DS) : depsItem items 0 it ds = ds := by
  cases it <;> simp [depsItem]

/-- one uniform description of `get_dependencies` on an item whose name is not in `seen` -/
theorem depsItem_succ (f : Nat) (it : RustItem) (ds : DS) (h : it.originalName ∉ ds.seen) :
    depsItem items (f+1) it ds =
      (gensFold items f (gensOf it)
        (typesFold items f (typesOf it) ⟨ds.res, ds.seen ++ [it.originalName]⟩)).remove
          it.originalName := by
  cases it with
  | struct s =>
    simp only [RustItem.originalName] at h
    simp only [depsItem, insert_fresh h, if_true, gensOf, gensFold, typesOf, typesFold,
      RustItem.originalName, List.foldl_nil, List.foldl_map]
  | enum e =>
    simp only [RustItem.originalName] at h
    simp only [depsItem, gensOf, gensFold, typesOf, typesFold, RustItem.originalName, List.foldl_nil]
    cases hk : e.keys with
    | none =>
      simp only [List.foldl_nil]
      cases ds with
      | mk r s => simp only [DS.remove] at *; rw [Topsort.erase_snoc_self h]
    | some kv =>
      simp only [insert_fresh h, if_true, List.foldl_flatMap]
      congr 1
      apply foldl_congr_mem
      intro v _ b
      cases v <;> simp [List.foldl_map]
  | alias a =>
    simp only [RustItem.originalName] at h
    simp only [depsItem, insert_fresh h, if_true, gensOf, gensFold, typesOf, typesFold,
      RustItem.originalName, List.foldl_nil, List.foldl_cons]
    rfl
  | const c =>
    simp only [RustItem.originalName] at h
    simp only [depsItem, insert_fresh h, if_true, gensOf, gensFold, typesOf, typesFold,
      RustItem.originalName, List.foldl_nil, List.foldl_cons]

/-! ### the unconditional invariant -/

/-- `seen` only shrinks, `res` only grows, everything pushed resolves -/
structure Ext (ds ds' : DS) : Prop where
  seen : ds'.seen.Sublist ds.seen
  res : ∃ new, ds'.res = ds.res ++ new ∧ ∀ x ∈ new, (lookup items x).isSome

variable {items}

theorem Ext.refl (ds : DS) : Ext items ds ds := ⟨List.Sublist.refl _, [], by simp, by simp⟩

theorem Ext.trans {a b c : DS} (h1 : Ext items a b) (h2 : Ext items b c) : Ext items a c := by
  obtain ⟨n1, hr1, hn1⟩ := h1.res
  obtain ⟨n2, hr2, hn2⟩ := h2.res
  refine ⟨h2.seen.trans h1.seen, n1 ++ n2, by rw [hr2, hr1, List.append_assoc], ?_⟩
  intro x hx
  rcases List.mem_append.1 hx with h | h
  · exact hn1 x h
  · exact hn2 x h

theorem Ext.remove {a b : DS} (h : Ext items a b) (x : Str) : Ext items a (b.remove x) :=
  ⟨(List.erase_sublist).trans h.seen, h.res⟩

theorem Ext.mono {a b : DS} (h : Ext items a b) {x : Str} (hx : x ∈ a.res) : x ∈ b.res := by
  obtain ⟨n, hr, _⟩ := h.res
  rw [hr]; simp [hx]

theorem Ext.foldl {α} (F : DS → α → DS) (l : List α) (h : ∀ a ∈ l, ∀ ds, Ext items ds (F ds a))
    (ds : DS) : Ext items ds (l.foldl F ds) :=
  foldl_invariant F (Ext items ds) l (fun a ha b hb => hb.trans (h a ha b)) ds (Ext.refl ds)

/-- insert `x`, push some resolvable names, run something that satisfies `Ext`, remove `x` -/
theorem Ext.bracket {ds ds' : DS} {x : Str} {new0 : List Str} (hx : x ∉ ds.seen)
    (hnew0 : ∀ y ∈ new0, (lookup items y).isSome)
    (h : Ext items ⟨ds.res ++ new0, ds.seen ++ [x]⟩ ds') : Ext items ds (ds'.remove x) := by
  obtain ⟨n, hr, hn⟩ := h.res
  refine ⟨sublist_erase_of_snoc hx h.seen, new0 ++ n, by simp [hr], ?_⟩
  intro y hy
  rcases List.mem_append.1 hy with h' | h'
  · exact hnew0 y h'
  · exact hn y h'

variable (items)

theorem headPush_ext (h : Option Str) (ds : DS) : Ext items ds (headPush items h ds) := by
  refine ⟨by simp, ?_⟩
  cases h with
  | none => exact ⟨[], by simp [headPush], by simp⟩
  | some id =>
    simp only [headPush]
    split
    · rename_i hc; exact ⟨[id], rfl, by simp [hc.1]⟩
    · exact ⟨[], by simp, by simp⟩

theorem typesFold_ext_of {f : Nat} (H : ∀ t ds, Ext items ds (depsType items f t ds)) (ts : List RustType)
    (ds : DS) : Ext items ds (typesFold items f ts ds) :=
  Ext.foldl _ ts (fun t _ ds => H t ds) ds

theorem gensFold_ext_of {f : Nat} (H : ∀ it ds, Ext items ds (depsItem items f it ds)) (gs : List Str)
    (ds : DS) : Ext items ds (gensFold items f gs ds) :=
  gensFold_invariant items f gs (Ext items ds) (fun _ _ thing _ b hb => hb.trans (H thing b)) ds (Ext.refl ds)

/-- **unconditional invariant** of both functions, for every fuel and every state -/
theorem ext_all (f : Nat) :
    (∀ it ds, Ext items ds (depsItem items f it ds)) ∧
    (∀ t ds, Ext items ds (depsType items f t ds)) := by
  induction f with
  | zero =>
    exact ⟨fun it ds => by rw [depsItem_zero]; exact Ext.refl ds,
           fun t ds => by rw [depsType_zero]; exact Ext.refl ds⟩
  | succ f ih =>
    obtain ⟨ihI, ihT⟩ := ih
    refine ⟨?_, ?_⟩
    · intro it ds
      by_cases h : it.originalName ∈ ds.seen
      · rw [depsItem_of_seen items _ it ds h]; exact Ext.refl ds
      · rw [depsItem_succ items f it ds h]
        apply Ext.bracket (new0 := []) h (by simp)
        simp only [List.append_nil]
        exact (typesFold_ext_of items ihT _ _).trans (gensFold_ext_of items ihI _ _)
    · intro t ds
      rw [depsType_succ]
      exact ((headPush_ext items _ ds).trans (typesFold_ext_of items ihT _ _)).remove _

theorem depsType_ext (f : Nat) (t : RustType) (ds : DS) : Ext items ds (depsType items f t ds) :=
  (ext_all items f).2 t ds
theorem depsItem_ext (f : Nat) (it : RustItem) (ds : DS) : Ext items ds (depsItem items f it ds) :=
  (ext_all items f).1 it ds
theorem typesFold_ext (f : Nat) (ts : List RustType) (ds : DS) :
    Ext items ds (typesFold items f ts ds) :=
  typesFold_ext_of items (depsType_ext items f) ts ds
theorem gensFold_ext (f : Nat) (gs : List Str) (ds : DS) : Ext items ds (gensFold items f gs ds) :=
  gensFold_ext_of items (depsItem_ext items f) gs ds

theorem gensFold_of_none (f : Nat) (gs : List Str) (ds : DS) (h : ∀ g ∈ gs, lookup items g = none) :
    gensFold items f gs ds = ds :=
  gensFold_invariant items f gs (· = ds) (fun g hg thing hl => by rw [h g hg] at hl; cases hl) ds rfl

/-- at top level (fresh `HashSet`) the item's own traversal: `res` is what the two loops pushed -/
theorem depsItem_top (f : Nat) (it : RustItem) :
    (depsItem items (f+1) it ⟨[], []⟩).res =
      (gensFold items f (gensOf it) (typesFold items f (typesOf it) ⟨[], [it.originalName]⟩)).res := by
  rw [depsItem_succ items f it ⟨[], []⟩ (by simp)]
  simp

/-- **the `seen` set is empty again** after the traversal of an item started on an empty set —
unconditionally (cycles, self references and the trailing `remove` included) -/
theorem depsItem_top_seen (f : Nat) (it : RustItem) : (depsItem items f it ⟨[], []⟩).seen = [] := by
  have := (depsItem_ext items f it ⟨[], []⟩).seen
  simpa using this

theorem mem_allIdsList {p : RustType} {ps : List RustType} (hp : p ∈ ps) {y : Str}
    (hy : y ∈ p.allIds) : y ∈ RustType.allIdsList ps :=
  mem_allIdsList_iff.2 ⟨p, hp, hy⟩

/-- names that do not occur in the type (as an id at any depth, container ids such as `Vec`
included) stay in `seen` -/
theorem depsType_retains (f : Nat) : ∀ (t : RustType) (ds : DS) (y : Str), y ∈ ds.seen → y ∉ t.allIds →
    y ∈ (depsType items f t ds).seen := by
  induction f with
  | zero => intro t ds y hy _; rw [depsType_zero]; exact hy
  | succ f ih =>
    intro t ds y hy hn
    rw [allIds_eq, List.mem_cons, not_or] at hn
    rw [depsType_succ, remove_seen, List.mem_erase_of_ne hn.1]
    exact typesFold_invariant items f t.parameters (y ∈ ·.seen)
      (fun p hp b hb => ih p b y hb fun hy => hn.2 (mem_allIdsList hp hy)) _ (by simpa using hy)

/-- **state restoration for a type**: if none of the names in `seen` occurs in the type,
`get_dependencies_from_type` hands `seen` back exactly as it found it (the trailing
`seen.remove(tp.id())` removes nothing) -/
theorem depsType_seen_eq (f : Nat) (t : RustType) (ds : DS) (hn : ds.seen.Nodup)
    (h : ∀ y ∈ ds.seen, y ∉ t.allIds) : (depsType items f t ds).seen = ds.seen :=
  sublist_eq_of_nodup (depsType_ext items f t ds).seen hn
    (fun y hy => depsType_retains items f t ds y hy (h y hy))

theorem typesFold_seen_eq (f : Nat) (ts : List RustType) (ds : DS) (hn : ds.seen.Nodup)
    (h : ∀ t ∈ ts, ∀ y ∈ ds.seen, y ∉ t.allIds) : (typesFold items f ts ds).seen = ds.seen :=
  typesFold_invariant items f ts (·.seen = ds.seen)
    (fun t ht b hb => by
      rw [← hb] at hn h
      exact (depsType_seen_eq items f t b hn (h t ht)).trans hb) ds rfl

/-- **state restoration for an item** (no generic parameter of the item names an item): if neither
the names in `seen` nor the item's own name occur in its types, `get_dependencies` hands `seen`
back exactly as it found it -/
theorem depsItem_seen_eq (f : Nat) (it : RustItem) (ds : DS) (hn : ds.seen.Nodup)
    (hg : ∀ g ∈ gensOf it, lookup items g = none)
    (h : ∀ t ∈ typesOf it, ∀ y ∈ t.allIds, y ∉ ds.seen ∧ y ≠ it.originalName) :
    (depsItem items f it ds).seen = ds.seen := by
  by_cases hs : it.originalName ∈ ds.seen
  · rw [depsItem_of_seen items f it ds hs]
  · cases f with
    | zero => rw [depsItem_zero]
    | succ f =>
      rw [depsItem_succ items f it ds hs, gensFold_of_none items f _ _ hg]
      have hn' : (ds.seen ++ [it.originalName]).Nodup := by
        rw [List.nodup_append]
        refine ⟨hn, by simp, ?_⟩
        intro a ha b hb
        simp only [List.mem_singleton] at hb
        subst hb
        intro hab; subst hab; exact hs ha
      have := typesFold_seen_eq items f (typesOf it) ⟨ds.res, ds.seen ++ [it.originalName]⟩ hn'
        (by
          intro t ht y hy hy'
          simp only [List.mem_append, List.mem_singleton] at hy
          rcases hy with hy | hy
          · exact (h t ht y hy').1 hy
          · exact (h t ht y hy').2 hy)
      simp only [remove_seen, this]
      exact Topsort.erase_snoc_self hs

end TsV.Deps
