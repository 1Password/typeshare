import TsV.Lemmas.Printers
import TsV.Lemmas.C05
import TsV.Lemmas.RustTypes
/-!
# C05 — the six `formatType`s are `show L ∘ translate L` (text component)

Kotlin and Scala are pure: their printers are equal to `omap (show L) ∘ translate L`.  The other four thread a state
they never read.  `Prints k y g` says that from every state the text of the call `k` is `g` of the stateless outcome
`y`; it is kept by the constructions the printers are made of (`ret`, `bind`, `comp`, the type-mapping prelude
`special`, the walk over an argument list `types`), so each of the four is one induction whose clauses name the
construction.
-/
namespace TsV.C05L
open TsV TsV.Lang

/-- the same for a pure printer -/
theorem pure_bind {α β γ δ} (y : Outcome γ) (g : γ → α) (k : α → Outcome β) (k' : γ → Outcome δ)
    (g' : δ → β) (hk : ∀ c, k (g c) = omap g' (k' c)) :
    (omap g y).bind k = omap g' (y.bind k') := by
  cases y with
  | ok c => exact hk c
  | err e => rfl
  | panic e => rfl

theorem proj_ok {σ α γ} {x : Outcome (α × σ)} {y : Outcome γ} {g : γ → α} {a : α} {s : σ}
    (h : omap Prod.fst x = omap g y) (hx : x = .ok (a, s)) : ∃ c, y = .ok c ∧ g c = a := by
  subst hx
  cases y with
  | ok c => exact ⟨c, rfl, (Outcome.ok.inj h).symm⟩
  | err e => cases h
  | panic e => cases h


/-- from every state the text of the stateful call `k` is `g` of the stateless outcome `y` -/
def Prints {σ α γ : Type} (k : σ → Outcome (α × σ)) (y : Outcome γ) (g : γ → α) : Prop :=
  ∀ st, omap Prod.fst (k st) = omap g y

namespace Prints
variable {σ α β γ δ : Type}

theorem ret (c : γ) (f : σ → σ) (g : γ → α) : Prints (fun st => .ok (g c, f st)) (.ok c) g := fun _ => rfl

theorem err (e : ErrKind) (g : γ → α) : Prints (fun _ : σ => (.err e : Outcome (α × σ))) (.err e) g := fun _ => rfl

/-- sequencing in a state-threading printer versus sequencing in the pure translation -/
theorem bind {k : σ → Outcome (α × σ)} {y : Outcome γ} {g : γ → α} {F : α × σ → Outcome (β × σ)}
    {F' : γ → Outcome δ} {g' : δ → β} (hk : Prints k y g) (hF : ∀ c, Prints (fun st => F (g c, st)) (F' c) g') :
    Prints (fun st => (k st).bind F) (y.bind F') g' := fun st => by
  have hx := hk st
  show omap Prod.fst ((k st).bind F) = _
  generalize k st = x at hx
  cases x with
  | ok p =>
    obtain ⟨a, s⟩ := p
    cases y with
    | ok c => obtain rfl := Outcome.ok.inj hx; exact hF c s
    | err e => cases hx
    | panic e => cases hx
  | err e => cases y <;> cases hx <;> rfl
  | panic e => cases y <;> cases hx <;> rfl

theorem ite (b : Prop) [Decidable b] {k₁ k₂ : σ → Outcome (α × σ)} {y₁ y₂ : Outcome γ} {g : γ → α}
    (h₁ : Prints k₁ y₁ g) (h₂ : Prints k₂ y₂ g) :
    Prints (fun st => if b then k₁ st else k₂ st) (if b then y₁ else y₂) g := by
  split
  · exact h₁
  · exact h₂

theorem comp {k : σ → Outcome (α × σ)} {y : Outcome γ} {g : γ → α} (hk : Prints k y g) (f : σ → σ) :
    Prints (fun st => k (f st)) y g := fun st => hk (f st)

theorem of_eq {k k' : σ → Outcome (α × σ)} {y : Outcome γ} {g : γ → α} (h : ∀ st, k st = k' st)
    (hk : Prints k' y g) : Prints k y g := fun st => (h st).symm ▸ hk st

end Prints

theorem showAll_isEmpty (L : TsV.Lang) (ts : List TTy) : (showAll L ts).isEmpty = ts.isEmpty := by
  cases ts <;> simp [showAll]

/-- the text of a user type applied to its arguments, as every back end writes it -/
theorem show_user (L : TsV.Lang) (n : Str) (args : List TTy) :
    «show» L (.user n args) =
      n ++ (if (showAll L args).isEmpty then []
            else brOpen L ++ Str.intercalate s%", " (showAll L args) ++ brClose L) := by
  simp [«show», showAll_isEmpty]

/-- TypeScript, Go and Python look a special type up by its `Display` name before they print it (`special` in the
three models: the configured name with whatever the hit does to the state, else the printer proper) -/
theorem Prints.special {σ : Type} (L : TsV.Lang) (c : TCfg) (t : RustType) (hkey : lookupKey L t = some t.display)
    (hit : Str → σ → σ) {k : σ → Outcome (Str × σ)} {K : Outcome TTy} (h : Prints k K («show» L)) :
    Prints (fun st => match mapGet c.typeMappings t.display with | some m => .ok (m, hit m st) | none => k st)
      (withMap L c t K) («show» L) := by
  intro st
  unfold withMap lookup
  rw [hkey]
  dsimp only
  cases mapGet c.typeMappings t.display with
  | some m => rfl
  | none => exact h st

/-- the argument list, for any printer that walks it the way the six do -/
theorem Prints.types {σ : Type} {L : TsV.Lang} {c : TCfg} {gens : List Str} {step : RustType → σ → Outcome (Str × σ)}
    {run : List RustType → σ → Outcome (List Str × σ)} (nil : ∀ st, run [] st = .ok ([], st))
    (cons : ∀ t ts st, run (t :: ts) st =
      (step t st).bind fun (s, st) => (run ts st).bind fun (ss, st) => .ok (s :: ss, st)) :
    ∀ ts, (∀ t ∈ ts, Prints (step t) (translate L c gens t) («show» L)) →
      Prints (run ts) (translateList L c gens ts) (showAll L) := by
  intro ts
  induction ts with
  | nil => intro _ st; rw [nil, translateList]; rfl
  | cons t ts ih =>
    intro h
    refine Prints.of_eq (cons t ts) ?_
    rw [translateList]
    exact Prints.bind (h t List.mem_cons_self) fun x =>
      Prints.bind (ih fun u hu => h u (List.mem_cons_of_mem _ hu)) fun xs => Prints.ret (x :: xs) id (showAll L)

/-- a user type applied to arguments: mapped as a whole, else the head and the printed arguments -/
theorem Prints.generic {σ : Type} (L : TsV.Lang) (c : TCfg) (gens : List Str) (id : Str) (ps : List RustType)
    (hit : Str → σ → σ) {k : σ → Outcome (List Str × σ)} {F : List Str × σ → Outcome (Str × σ)}
    (hk : Prints k (translateList L c gens ps) (showAll L))
    (hF : mapGet c.typeMappings id = none → ∀ args,
      Prints (fun st => F (showAll L args, st)) (.ok (.user (userName L c gens id) args)) («show» L)) :
    Prints (fun st => match mapGet c.typeMappings id with | some m => .ok (m, hit m st) | none => (k st).bind F)
      (translate L c gens (.generic id ps)) («show» L) := by
  intro st
  rw [translate]
  unfold withMap lookup lookupKey
  dsimp only
  cases hm : mapGet c.typeMappings id with
  | some m => rfl
  | none => exact Prints.bind hk (hF hm) st

/-- a user type without arguments, where names are not prefixed -/
theorem simple_plain {L : TsV.Lang} (hL : prefixes L = false) (c : TCfg) (gens : List Str) (id : Str) :
    omap («show» L) (translate L c gens (.simple id)) = .ok ((mapGet c.typeMappings id).getD id) := by
  rw [translate]
  unfold withMap lookup lookupKey userName
  rw [hL]
  dsimp only
  cases mapGet c.typeMappings id with
  | some m => rfl
  | none => dsimp only; split <;> simp [«show»]

theorem isGenericKey_simple (gens : List Str) (id : Str) : isGenericKey gens (.simple id) = gens.contains id := rfl

/-! ## TypeScript (the reviver / replacer registrations threaded) -/

theorem ts_formatType (cfg : TypeScript.Cfg) (gens : List Str) (t : RustType) :
    Prints (TypeScript.formatType cfg gens t) (translate .typescript (tcfgTS cfg) gens t) («show» .typescript) := by
  induction t using rustType_induct with
  | simple id => exact fun _ => (simple_plain rfl (tcfgTS cfg) gens id).symm
  | generic id ps ih =>
    refine Prints.of_eq (fun st => ?_) (Prints.generic .typescript (tcfgTS cfg) gens id ps (fun _ st => st)
      (F := fun p => .ok ((mapGet cfg.typeMappings id).getD id ++ (if p.1.isEmpty then [] else angle p.1), p.2))
      (Prints.types (run := TypeScript.formatTypes cfg gens) (fun _ => rfl) (fun _ _ _ => rfl) ps ih)
      fun hm args st => by rw [omap_ok, omap_ok, show_user, show mapGet cfg.typeMappings id = none from hm]; rfl)
    -- the model spells the bind out as a three-way match
    rw [TypeScript.formatType]
    dsimp only [tcfgTS]
    cases mapGet cfg.typeMappings id with
    | some m => rfl
    | none => cases TypeScript.formatTypes cfg gens ps st <;> rfl
  | vec r ih | slice r ih =>
    exact Prints.special .typescript (tcfgTS cfg) _ rfl _ (Prints.bind ih fun x => Prints.ret _ _ _)
  | array r n ih =>
    exact Prints.special .typescript (tcfgTS cfg) _ rfl _ (Prints.bind ih fun x => Prints.ret _ _ _)
  | option r ih =>
    refine Prints.special .typescript (tcfgTS cfg) _ rfl _ fun st => ?_
    rw [ih st]; cases translate .typescript (tcfgTS cfg) gens r <;> rfl
  | hashMap k v ihk ihv =>
    refine Prints.special .typescript (tcfgTS cfg) _ rfl _ ?_
    cases k with
    | simple id =>
      exact Prints.ite (gens.contains id = true) (Prints.err _ _)
        (Prints.bind ihk fun _ => Prints.bind ihv fun _ => Prints.ret _ _ _)
    | _ => exact Prints.bind ihk fun _ => Prints.bind ihv fun _ => Prints.ret _ _ _
  | prim p =>
    refine Prints.special .typescript (tcfgTS cfg) _ rfl _ fun st => ?_
    cases p <;> rfl

theorem ts_formatTypes (cfg : TypeScript.Cfg) (gens : List Str) :
    ∀ (ts : List RustType) (st : TypeScript.CustomMap),
    omap Prod.fst (TypeScript.formatTypes cfg gens ts st) =
      omap (showAll .typescript) (translateList .typescript (tcfgTS cfg) gens ts) :=
  fun ts => Prints.types (fun _ => rfl) (fun _ _ _ => rfl) ts fun t _ => ts_formatType cfg gens t

/-! ## Kotlin (pure) -/

theorem kt_simple (cfg : Kotlin.Cfg) (gens : List Str) (id : Str) (h : mapGet cfg.typeMappings id = none) :
    Kotlin.formatSimple cfg gens id = userName .kotlin (tcfgKt cfg) gens id := by
  simp only [Kotlin.formatSimple, h, userName, prefixes, tcfgKt, Bool.true_and]
  cases gens.contains id <;> simp

mutual
theorem kt_formatType (cfg : Kotlin.Cfg) (gens : List Str) : ∀ (t : RustType),
    Kotlin.formatType cfg gens t = omap («show» .kotlin) (translate .kotlin (tcfgKt cfg) gens t)
  | .simple id => by
    simp only [Kotlin.formatType, translate, withMap, lookup, lookupKey]
    cases hm : mapGet cfg.typeMappings id with
    | some m => simp [Kotlin.formatSimple, tcfgKt, hm, «show»]
    | none =>
      have : mapGet (tcfgKt cfg).typeMappings id = none := hm
      simp only [this, kt_simple cfg gens id hm, omap_ok, userName, prefixes, Bool.true_and]
      cases gens.contains id <;> simp [«show»]
  | .generic id ps => by
    simp only [Kotlin.formatType, translate, withMap, lookup, lookupKey]
    cases hm : mapGet cfg.typeMappings id with
    | some m => simp [tcfgKt, hm, «show»]
    | none =>
      have : mapGet (tcfgKt cfg).typeMappings id = none := hm
      simp only [this, kt_formatTypes cfg gens ps, kt_simple cfg gens id hm]
      cases translateList .kotlin (tcfgKt cfg) gens ps with
      | ok args => simp only [omap_ok, Outcome.bind_ok, show_user, brOpen, brClose, angle]
      | err e => rfl
      | panic e => rfl
  | .vec r | .slice r | .array r _ | .option r => by
    simp only [Kotlin.formatType, translate, withMap, lookup, lookupKey, usesDisplay, kt_formatType cfg gens r]
    cases translate .kotlin (tcfgKt cfg) gens r <;> rfl
  | .hashMap k v => by
    simp only [Kotlin.formatType, translate, withMap, lookup, lookupKey, usesDisplay, kt_formatType cfg gens k,
      kt_formatType cfg gens v, genericKeyForbidden]
    cases translate .kotlin (tcfgKt cfg) gens k <;> cases translate .kotlin (tcfgKt cfg) gens v <;> rfl
  | .prim p => by
    simp only [Kotlin.formatType, translate, withMap, lookup, lookupKey, usesDisplay, primTarget]
    cases Kotlin.formatPrim p <;> simp [«show»]
theorem kt_formatTypes (cfg : Kotlin.Cfg) (gens : List Str) : ∀ (ts : List RustType),
    Kotlin.formatTypes cfg gens ts = omap (showAll .kotlin) (translateList .kotlin (tcfgKt cfg) gens ts)
  | [] => by simp [Kotlin.formatTypes, translateList, showAll]
  | t :: ts => by
    simp only [Kotlin.formatTypes, translateList, kt_formatType cfg gens t, kt_formatTypes cfg gens ts]
    cases translate .kotlin (tcfgKt cfg) gens t <;> cases translateList .kotlin (tcfgKt cfg) gens ts <;> rfl
end

/-! ## Scala (pure) -/

mutual
theorem sc_formatType (cfg : Scala.Cfg) (gens : List Str) : ∀ (t : RustType),
    Scala.formatType cfg gens t = omap («show» .scala) (translate .scala (tcfgSc cfg) gens t)
  | .simple id => by
    simp only [Scala.formatType, translate, withMap, lookup, lookupKey, tcfgSc]
    cases mapGet cfg.typeMappings id <;> simp [«show», userName, prefixes]
    split <;> simp [«show»]
  | .generic id ps => by
    simp only [Scala.formatType, translate, withMap, lookup, lookupKey, tcfgSc]
    cases hm : mapGet cfg.typeMappings id with
    | some m => simp [«show»]
    | none =>
      have ih := sc_formatTypes cfg gens ps
      simp only [tcfgSc] at ih
      simp only [ih]
      cases translateList .scala { typeMappings := cfg.typeMappings } gens ps with
      | ok args =>
        simp only [omap_ok, Outcome.bind_ok, show_user, brOpen, brClose, Scala.bracket, userName, prefixes,
          Bool.false_and, Option.getD_none]
        rfl
      | err e => rfl
      | panic e => rfl
  | .vec r | .slice r | .array r _ | .option r => by
    simp only [Scala.formatType, translate, withMap, lookup, lookupKey, usesDisplay, sc_formatType cfg gens r]
    exact pure_bind _ _ _ _ _ fun _ => rfl
  | .hashMap k v => by
    simp only [Scala.formatType, translate, withMap, lookup, lookupKey, usesDisplay, sc_formatType cfg gens k,
      sc_formatType cfg gens v, genericKeyForbidden]
    exact pure_bind _ _ _ _ _ fun _ => pure_bind _ _ _ _ _ fun _ => rfl
  | .prim p => by
    simp only [Scala.formatType, translate, withMap, lookup, lookupKey, usesDisplay]
    cases p <;> rfl
theorem sc_formatTypes (cfg : Scala.Cfg) (gens : List Str) : ∀ (ts : List RustType),
    Scala.formatTypes cfg gens ts = omap (showAll .scala) (translateList .scala (tcfgSc cfg) gens ts)
  | [] => by simp [Scala.formatTypes, translateList, showAll]
  | t :: ts => by
    simp only [Scala.formatTypes, translateList, sc_formatType cfg gens t, sc_formatTypes cfg gens ts]
    exact pure_bind _ _ _ _ _ fun _ => pure_bind _ _ _ _ _ fun _ => rfl
end

/-! ## Swift (one bit of state) -/

theorem sw_simple (cfg : Swift.Cfg) (gens : List Str) (id : Str) (h : mapGet cfg.typeMappings id = none) :
    Swift.formatSimple cfg gens id = userName .swift (tcfgSw cfg) gens id := by
  simp only [Swift.formatSimple, h, userName, prefixes, tcfgSw, Bool.true_and]
  cases gens.contains id <;> simp

theorem sw_formatType (cfg : Swift.Cfg) (gens : List Str) (t : RustType) :
    Prints (Swift.formatType cfg gens t) (translate .swift (tcfgSw cfg) gens t) («show» .swift) := by
  induction t using rustType_induct with
  | simple id =>
    intro st
    simp only [Swift.formatType, translate, withMap, lookup, lookupKey]
    cases hm : mapGet cfg.typeMappings id with
    | some m => simp [Swift.formatSimple, tcfgSw, hm, «show»]
    | none =>
      have : mapGet (tcfgSw cfg).typeMappings id = none := hm
      simp only [this, sw_simple cfg gens id hm, omap_ok, userName, prefixes, Bool.true_and]
      cases gens.contains id <;> simp [«show»]
  | generic id ps ih =>
    refine Prints.of_eq (fun st => ?_) (Prints.generic .swift (tcfgSw cfg) gens id ps (fun _ st => st)
      (F := fun p => .ok (Swift.formatSimple cfg gens id ++ (if p.1.isEmpty then [] else angle p.1), p.2))
      (Prints.types (run := Swift.formatTypes cfg gens) (fun _ => rfl) (fun _ _ _ => rfl) ps ih)
      fun hm args st => by rw [omap_ok, omap_ok, show_user, sw_simple cfg gens id hm]; rfl)
    rw [Swift.formatType]
    dsimp only [tcfgSw]
    cases mapGet cfg.typeMappings id with
    | some m => rfl
    | none => cases Swift.formatTypes cfg gens ps st <;> rfl
  | vec r ih | slice r ih | array r n ih | option r ih => exact Prints.bind ih fun _ => Prints.ret _ _ _
  | hashMap k v ihk ihv => exact Prints.bind ihk fun _ => Prints.bind ihv fun _ => Prints.ret _ _ _
  | prim p => intro st; cases p <;> rfl

theorem sw_formatTypes (cfg : Swift.Cfg) (gens : List Str) : ∀ (ts : List RustType) (st : Swift.St),
    omap Prod.fst (Swift.formatTypes cfg gens ts st) =
      omap (showAll .swift) (translateList .swift (tcfgSw cfg) gens ts) :=
  fun ts => Prints.types (fun _ => rfl) (fun _ _ _ => rfl) ts fun t _ => sw_formatType cfg gens t

/-! ## Go (import set threaded; the generic-parameter list is ignored by the printer) -/

theorem go_formatType (cfg : Go.Cfg) (gens : List Str) (t : RustType) :
    Prints (Go.formatType cfg t) (translate .go (tcfgGo cfg) gens t) («show» .go) := by
  induction t using rustType_induct with
  | simple id => exact fun _ => (simple_plain rfl (tcfgGo cfg) gens id).symm
  | generic id ps ih =>
    refine Prints.of_eq (fun st => ?_) (Prints.generic .go (tcfgGo cfg) gens id ps (fun _ st => st)
      (F := fun p => .ok ((mapGet cfg.typeMappings id).getD id ++ (if p.1.isEmpty then [] else Go.bracket p.1), p.2))
      (Prints.types (run := Go.formatTypes cfg) (fun _ => rfl) (fun _ _ _ => rfl) ps ih)
      fun hm args st => by rw [omap_ok, omap_ok, show_user, show mapGet cfg.typeMappings id = none from hm]; rfl)
    rw [Go.formatType]; rfl
  | vec r ih | slice r ih | array r n ih =>
    exact Prints.special .go (tcfgGo cfg) _ rfl _ (Prints.bind ih fun _ => Prints.ret _ _ _)
  | option r ih =>
    refine Prints.special .go (tcfgGo cfg) _ rfl _ (Prints.bind ih fun x st => ?_)
    simp only [dropsOption, tcfgGo]
    by_cases h : (r.isVec && cfg.noPointerSlice) = true <;> simp [h, «show»]
  | hashMap k v ihk ihv =>
    exact Prints.special .go (tcfgGo cfg) _ rfl _ (Prints.bind ihk fun _ => Prints.bind ihv fun _ => Prints.ret _ _ _)
  | prim p =>
    refine Prints.special .go (tcfgGo cfg) _ rfl _ fun st => ?_
    simp only [primTarget, Outcome.bind_ok, omap_ok, «show»]
    rcases h : Go.primType p with ⟨g, _ | imp⟩ <;> simp

theorem go_formatTypes (cfg : Go.Cfg) (gens : List Str) : ∀ (ts : List RustType) (st : Go.Imports),
    omap Prod.fst (Go.formatTypes cfg ts st) = omap (showAll .go) (translateList .go (tcfgGo cfg) gens ts) :=
  fun ts => Prints.types (fun _ => rfl) (fun _ _ _ => rfl) ts fun t _ => go_formatType cfg gens t

/-! ## Python (imports, type variables, custom-JSON set threaded) -/

theorem py_formatType (cfg : Python.Cfg) (gens : List Str) (t : RustType) :
    Prints (Python.formatType cfg gens t) (translate .python (tcfgPy cfg) gens t) («show» .python) := by
  induction t using rustType_induct with
  | simple id => exact fun _ => (simple_plain rfl (tcfgPy cfg) gens id).symm
  | generic id ps ih =>
    refine Prints.of_eq (fun st => ?_) (Prints.generic .python (tcfgPy cfg) gens id ps (fun _ => (Python.addImports · id))
      (F := fun p => .ok ((mapGet cfg.typeMappings id).getD id ++ Python.bracketSuffix p.1, Python.addImports p.2 id))
      ((Prints.types (run := Python.formatTypes cfg gens) (fun _ => rfl) (fun _ _ _ => rfl) ps ih).comp (Python.addImports · id))
      fun hm args st => by rw [omap_ok, omap_ok, show_user, show mapGet cfg.typeMappings id = none from hm]; rfl)
    rw [Python.formatType]
    dsimp only [tcfgPy, Python.formatSimple]
    cases mapGet cfg.typeMappings id with
    | some m => rfl
    | none => cases Python.formatTypes cfg gens ps (Python.addImports st id) <;> rfl
  | vec r ih | slice r ih | array r n ih | option r ih =>
    exact Prints.special .python (tcfgPy cfg) _ rfl _ (Prints.bind (ih.comp _) fun _ => Prints.ret _ _ _)
  | hashMap k v ihk ihv =>
    refine Prints.special .python (tcfgPy cfg) _ rfl _ ?_
    cases k with
    | simple id =>
      exact Prints.ite (gens.contains id = true) (Prints.err _ _)
        (Prints.bind (ihk.comp _) fun _ => Prints.bind ihv fun _ => Prints.ret _ _ _)
    | _ => exact Prints.bind (ihk.comp _) fun _ => Prints.bind ihv fun _ => Prints.ret _ _ _
  | prim p =>
    refine Prints.special .python (tcfgPy cfg) _ rfl _ fun st => ?_
    cases p <;> rfl

theorem py_formatTypes (cfg : Python.Cfg) (gens : List Str) : ∀ (ts : List RustType) (st : Python.St),
    omap Prod.fst (Python.formatTypes cfg gens ts st) =
      omap (showAll .python) (translateList .python (tcfgPy cfg) gens ts) :=
  fun ts => Prints.types (fun _ => rfl) (fun _ _ _ => rfl) ts fun t _ => py_formatType cfg gens t

end TsV.C05L
