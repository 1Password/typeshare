import TsV.Lemmas.Printers
import TsV.Lemmas.C10_Type
import TsV.Lemmas.RustTypes
import TsV.Lemmas.Lang.Kotlin
/-!
# C10 — Kotlin: every declaration the model renders is lexically well-formed
-/
namespace TsV.C10Kotlin
open TsV TsV.Lang TsV.C10Lex TsV.Lang.Kotlin

/-- Kotlin's lexer: `<`/`>` are brackets in declarations, no raw strings -/
def K : LexCfg := ⟨true, false⟩

/-- the configuration: the prefix is an identifier fragment and every type mapping maps to a
balanced string -/
structure CfgOk (cfg : Cfg) : Prop where
  pfx : KeyStr cfg.pfx
  maps : ∀ p ∈ cfg.typeMappings, wellBracketed K p.2 = true

theorem CfgOk.mapped {cfg : Cfg} (H : CfgOk cfg) {k v : Str} (h : mapGet cfg.typeMappings k = some v) : NB K v :=
  mapGet_nb H.maps h

theorem formatType_nb {cfg : Cfg} (H : CfgOk cfg) (gens : List Str) (t : RustType) :
    ∀ (s : Str), TypeOk t → formatType cfg gens t = .ok s → NB K s :=
  fun _ ht h => C05L.pure_nb .kotlin ⟨H.pfx, H.maps⟩ gens ht (C05L.kt_formatType cfg gens t) h

/-- doc lines: no line break inside one comment (the `Bad` class of C15 for `///` comments) -/
def DocsOk (cs : List Str) : Prop := ∀ c ∈ cs, '\n' ∉ c

instance (cs : List Str) : Decidable (DocsOk cs) := by unfold DocsOk; infer_instance

theorem comments_nb (n : Nat) (cs : List Str) (h : DocsOk cs) : NB K (comments n cs) :=
  NB.flatMap _ _ fun c hc => NB.commentLine n s%"/ " c (by decide) (h c hc)

theorem removeDash_key {s : Str} (h : KeyStr s) : KeyStr (removeDash s) := replaceDash_key h

theorem variantName_ident {U : UnicodeOps} {s : Str} (h : IdentStr s) : IdentStr (variantName U s) :=
  (toPascal_ident (U := U) h).guard

structure ParamOk (p : KtParam) : Prop where
  docs : DocsOk p.comments
  name : NB K p.name
  ty : NB K p.ty
  dflt : NB K p.dflt

theorem renderParam_nb (p : KtParam) (h : ParamOk p) : NB K (renderParam p) := by
  refine (Tr.h0 (comments_nb 1 _ h.docs)).h ?_ |>.append (.ite _ .lit .lit) |>.h h.name |>.l.h h.ty |>.h h.dflt |>.nb
    (by decide +kernel)
  split
  · exact Tr.l0.h (NB.debugStr _) |>.l.nb (by decide +kernel)
  · exact NB.nil

abbrev FieldOk := FieldScope Lang.kotlin K DocsOk

theorem defaultSuffix_nb (f : RustField) : NB K (defaultSuffix f) :=
  (Tr.ite _ .lit (.ite _ .lit .nil)).nb (by decide +kernel)

theorem paramFacts_ok {cfg : Cfg} (H : CfgOk cfg) (gens : List Str) (rs priv : Bool) (f : RustField) (p : KtParam)
    (hf : FieldOk f) (h : paramFacts cfg gens rs priv f = .ok p) : ParamOk p := by
  obtain ⟨ty, hty, rfl⟩ := Outcome.of_bind_ret h
  refine ⟨hf.docs, (removeDash_key hf.key).nb, ?_, defaultSuffix_nb f⟩
  split at hty
  · rename_i t ht
    obtain rfl := Outcome.ok.inj hty
    exact nb_of_wb (hf.override t ht)
  · exact formatType_nb H gens f.ty ty hf.ty hty

theorem paramsFacts_ok {cfg : Cfg} (H : CfgOk cfg) (gens : List Str) (rs : Bool) (fs : List RustField) (ps : List KtParam)
    (hf : ∀ f ∈ fs, FieldOk f) (h : paramsFacts cfg gens rs fs = .ok ps) : ∀ p ∈ ps, ParamOk p := fun p hp =>
  let ⟨f, hfm, hfp⟩ := Outcome.mapM'_ok_mem (paramsFacts_eq gens cfg rs ▸ h) p hp
  paramFacts_ok H gens rs false f p (hf f hfm) hfp

theorem renderParams_nb : ∀ (ps : List KtParam), (∀ p ∈ ps, ParamOk p) → NB K (renderParams ps) := by
  intro ps
  induction ps with
  | nil => exact fun _ => NB.nil
  | cons p ps ih =>
    intro h
    have hp := renderParam_nb p (h p (by simp))
    cases ps with
    | nil => exact hp.append NB.nl
    | cons q ps =>
      show NB K (renderParam p ++ s%",\n" ++ renderParams (q :: ps))
      exact (Tr.h0 hp).l.h (ih fun x hx => h x (by simp [hx])) |>.nb (by decide +kernel)

theorem renderEntry_nb (c : KtEntry) (hd : DocsOk c.comments) (hn : NB K c.name) : NB K (renderEntry c) :=
  (Tr.h0 (comments_nb 1 _ hd)).l.h (NB.debugStr _) |>.l.l.h hn |>.l.h (NB.debugStr _) |>.l.nb (by decide +kernel)

def PayloadOk : KtPayload → Prop
  | .object => True
  | .content key ty => NB K key ∧ NB K ty
  | .inner key tyName gens => NB K key ∧ NB K tyName ∧ NB K gens

structure CaseOk (c : KtCase) : Prop where
  docs : DocsOk c.comments
  /-- the wire name is written between plain quotes, unescaped -/
  serial : KeyStr c.serialName
  name : NB K c.name
  generics : NB K c.generics
  payload : PayloadOk c.payload
  parent : NB K c.parent
  parentGenerics : NB K c.parentGenerics

theorem renderCase_nb (c : KtCase) (h : CaseOk c) : NB K (renderCase c) := by
  refine (Tr.h0 (comments_nb 1 _ h.docs)).l.l.b (KeyStr.strBody h.serial) |>.l.h ?_ |>.l.h h.parent
    |>.h h.parentGenerics |>.l.nb (by decide +kernel)
  have hp := h.payload
  split
  · exact Tr.l0.h h.name |>.nb (by decide +kernel)
  · rename_i key ty heq
    rw [heq] at hp
    exact Tr.l0.h h.name |>.h h.generics |>.l.l.h hp.1 |>.l.h hp.2 |>.l.nb (by decide +kernel)
  · rename_i key tyName gens heq
    rw [heq] at hp
    exact Tr.l0.h h.name |>.h h.generics |>.l.l.h hp.1 |>.l.h hp.2.1 |>.h hp.2.2 |>.l.nb (by decide +kernel)

def DeclOk : KtDecl → Prop
  | .typeAlias cs name gens ty => DocsOk cs ∧ NB K name ∧ NB K gens ∧ NB K ty
  | .valueClass cs name p _ => DocsOk cs ∧ NB K name ∧ ParamOk p
  | .object cs name => DocsOk cs ∧ NB K name
  | .dataClass cs name gens ps _ => DocsOk cs ∧ NB K name ∧ NB K gens ∧ ∀ p ∈ ps, ParamOk p
  | .enumClass cs name gens es => DocsOk cs ∧ NB K name ∧ NB K gens ∧ ∀ e ∈ es, DocsOk e.comments ∧ NB K e.name
  | .sealedClass cs name gens cases => DocsOk cs ∧ NB K name ∧ NB K gens ∧ ∀ c ∈ cases, CaseOk c

/-- **every Kotlin declaration whose pieces are in scope is lexically closed** -/
theorem renderDecl_nb : ∀ (d : KtDecl), DeclOk d → NB K (renderDecl d)
  | .typeAlias cs name gens ty, ⟨hd, hn, hg, ht⟩ =>
    (Tr.h0 (comments_nb 0 _ hd)).l.h hn |>.h hg |>.l.h ht |>.l.nb (by decide +kernel)
  | .valueClass cs name p red, ⟨hd, hn, hp⟩ =>
    (Tr.h0 (comments_nb 0 _ hd)).l.h hn |>.l.h (renderParam_nb p hp) |>.l.append (.ite _ .lit .lit) |>.l.nb
      (by decide +kernel)
  | .object cs name, ⟨hd, hn⟩ => (Tr.h0 (comments_nb 0 _ hd)).l.l.h hn |>.l.nb (by decide +kernel)
  | .dataClass cs name gens ps red, ⟨hd, hn, hg, hps⟩ => by
    refine (Tr.h0 (comments_nb 0 _ hd)).l.l.h hn |>.h hg |>.l.h (renderParams_nb ps hps)
      |>.append (g := goes ⟨.code, ['(']⟩ init) ?_ |>.l.nb (by decide +kernel)
    split
    · exact (Tr.l0.h (NB.debugStr _)).l.only (by decide +kernel)
    · exact Tr.l0.only (by decide +kernel)
  | .enumClass cs name gens es, ⟨hd, hn, hg, hes⟩ =>
    (Tr.h0 (comments_nb 0 _ hd)).l.l.h hn |>.h hg |>.l.l.h
      (NB.flatMap renderEntry es fun e he => renderEntry_nb e (hes e he).1 (hes e he).2) |>.l.nb (by decide +kernel)
  | .sealedClass cs name gens cases, ⟨hd, hn, hg, hcs⟩ =>
    (Tr.h0 (comments_nb 0 _ hd)).l.l.h hn |>.h hg |>.l.l.h (NB.flatMap renderCase cases fun c hc => renderCase_nb c (hcs c hc))
      |>.l.nb (by decide +kernel)

/-! ## from the parsed items to the declarations -/

abbrev StructOk := StructScope Lang.kotlin K DocsOk
abbrev AliasOk := AliasScope DocsOk
abbrev VariantOk := VariantScope Lang.kotlin K DocsOk
abbrev EnumOk := EnumScope Lang.kotlin K DocsOk

theorem generics_nb {gs : List Str} (h : ∀ g ∈ gs, IdentStr g) : NB K (genericSuffix gs) :=
  NB.genericSuffix gs fun g hg => (h g hg).nb

theorem structFacts_ok {cfg : Cfg} (H : CfgOk cfg) (rs : RustStruct) (d : KtDecl) (hs : StructOk rs)
    (h : structFacts cfg rs = .ok d) : DeclOk d := by
  obtain ⟨-, rfl⟩ | ⟨-, ps, hp, rfl⟩ := structFacts_inv h
  · exact ⟨hs.docs, (KeyStr.nb (KeyStr.append H.pfx hs.name))⟩
  · exact ⟨hs.docs, (KeyStr.nb (KeyStr.append H.pfx hs.name)), generics_nb hs.generics,
      paramsFacts_ok H _ _ rs.fields ps hs.fields hp⟩

theorem aliasFacts_ok {cfg : Cfg} (H : CfgOk cfg) (a : RustTypeAlias) (d : KtDecl) (ha : AliasOk a)
    (h : aliasFacts cfg a = .ok d) : DeclOk d := by
  obtain ⟨-, p, hp, rfl⟩ | ⟨-, ty, hf, rfl⟩ := aliasFacts_inv h
  · refine ⟨ha.docs, (KeyStr.nb (KeyStr.append
      H.pfx ha.renamed)), paramFacts_ok H [] false a.isRedacted _ p ?_ hp⟩
    exact ⟨by intro c hc; simp [valueField] at hc, (by decide : KeyStr s%"value"), (by decide : IdentStr s%"value"), ha.ty,
      by intro t ht; simp [valueField, typeOverride] at ht⟩
  · exact ⟨ha.docs, (KeyStr.nb (KeyStr.append H.pfx ha.renamed)), generics_nb ha.generics,
      formatType_nb H a.genericTypes a.ty ty ha.ty hf⟩

theorem payloadFacts_ok {cfg : Cfg} (H : CfgOk cfg) (e : RustEnum) (he : EnumOk e) (key : Str) (hk : KeyStr key)
    (v : RustEnumVariant) (hv : VariantOk v) (pl : KtPayload) (h : payloadFacts cfg e key v = .ok pl) : PayloadOk pl := by
  cases v with
  | unit id cs => cases h; trivial
  | tuple id cs ty =>
    obtain ⟨t, hf, rfl⟩ := Outcome.of_bind_ret h
    exact ⟨hk.nb, formatType_nb H _ ty t hv.2.2.2 hf⟩
  | anonymousStruct id cs fs =>
    cases h
    exact ⟨hk.nb, KeyStr.nb (KeyStr.append (KeyStr.append (KeyStr.append
      H.pfx he.renamed) (IdentStr.key hv.original)) (by decide : KeyStr s%"Inner")),
      generics_nb fun g hg => he.generics g (usedGenerics_mem _ fs g hg)⟩

theorem casesFacts_ok {cfg : Cfg} (H : CfgOk cfg) (e : RustEnum) (he : EnumOk e) (key : Str) (hk : KeyStr key)
    (vs : List RustEnumVariant) (cs : List KtCase) (hv : ∀ v ∈ vs, VariantOk v)
    (h : casesFacts cfg e key vs = .ok cs) : ∀ c ∈ cs, CaseOk c := fun c hc =>
  let ⟨v, hvm, hvc⟩ := Outcome.mapM'_ok_mem (casesFacts_eq cfg e key ▸ h) c hc
  let ⟨pl, hpl, e'⟩ := caseFacts_inv hvc
  have hgp := generics_nb he.generics
  e' ▸ ⟨(hv v hvm).docs, (hv v hvm).renamed, IdentStr.nb (variantName_ident (hv v hvm).original), hgp,
    payloadFacts_ok H e he key hk v (hv v hvm) pl hpl, KeyStr.nb (KeyStr.append H.pfx he.renamed), hgp⟩

theorem innerStruct_ok (e : RustEnum) (he : EnumOk e) (p : Id × List RustField) (hmem : p ∈ structVariants e) :
    StructOk (innerStruct e p) := by
  obtain ⟨hid, hfs⟩ := structVariants_scope e he p hmem
  exact anonymousStruct_scope he (KeyStr.append (KeyStr.append
    he.renamed (IdentStr.key hid)) (by decide : KeyStr s%"Inner"))
    (anonymousStruct_docs e _ _ p.2 hid he.original) hfs

theorem enumDecl_ok {cfg : Cfg} (H : CfgOk cfg) (e : RustEnum) (he : EnumOk e) (d : KtDecl) (h : EnumDecl cfg e d) :
    DeclOk d := by
  have hname : NB K (cfg.pfx ++ e.id.renamed) := (KeyStr.nb (KeyStr.append H.pfx he.renamed))
  cases h with
  | unit hk =>
    refine ⟨he.docs, hname, generics_nb he.generics, fun en hen => ?_⟩
    obtain ⟨v, hv, rfl⟩ := List.mem_map.1 hen
    exact ⟨(he.variants v hv).docs, IdentStr.nb (he.variants v hv).original⟩
  | algebraic hk hc =>
    exact ⟨he.docs, hname, generics_nb he.generics,
      casesFacts_ok H e he _ (he.content _ hk) e.variants _ he.variants hc⟩

abbrev ItemOk := ItemScope Lang.kotlin K DocsOk

/-- every declaration of an item in scope is in scope -/
theorem declOf_ok {cfg : Cfg} (H : CfgOk cfg) {it : RustItem} (hit : ItemOk it) {d : KtDecl} (h : DeclOf cfg it d) :
    DeclOk d := by
  cases h with
  | struct hs => exact structFacts_ok H _ d hit hs
  | alias ha => exact aliasFacts_ok H _ d hit ha
  | inner hp hs => exact structFacts_ok H _ d (innerStruct_ok _ hit _ hp) hs
  | own ho => exact enumDecl_ok H _ hit d ho

theorem itemFacts_ok {cfg : Cfg} (H : CfgOk cfg) (it : RustItem) (hit : ItemOk it) (ds : List KtDecl)
    (h : itemFacts cfg it = .ok ds) : ∀ d ∈ ds, DeclOk d := fun d hd => declOf_ok H hit (itemFacts_mem h d hd)

theorem itemsFacts_ok {cfg : Cfg} (H : CfgOk cfg) (its : List RustItem) (ds : List KtDecl)
    (hit : ∀ it ∈ its, ItemOk it) (h : itemsFacts cfg its = .ok ds) : ∀ d ∈ ds, DeclOk d := fun d hd =>
  let ⟨it, hm, ho⟩ := itemsFacts_mem h d hd
  declOf_ok H (hit it hm) ho

/-! ## the file around the declarations -/

/-- the settings that reach the file header: the version text has no `*` or `/`, the package name and
the crate / type names of the import lines are dotted identifier fragments -/
structure FileOk (cfg : Cfg) (d : ParsedData) (imports : Option Pipeline.ScopedCrateTypes) : Prop where
  version : ∀ v, cfg.versionHeader = some v → Dotted v
  package : Dotted cfg.package
  crate : Dotted d.crateName
  imports : ∀ i, imports = some i → ∀ p ∈ i, Dotted p.1 ∧ ∀ t ∈ p.2, Dotted t

theorem beginFile_nb (cfg : Cfg) (d : ParsedData) (imports) (hf : FileOk cfg d imports) : NB K (beginFile cfg d) := by
  unfold beginFile
  split
  · exact NB.nil
  · refine (Tr.h0 ?_).h ?_ |>.l.nb (by decide +kernel)
    · split
      · rename_i v hv
        exact Tr.l0.b (dotted_block v (hf.version v hv)) |>.l.nb (by decide +kernel)
      · exact NB.nil
    · split
      · exact Tr.l0.h hf.package.nb |>.l.h hf.crate.nb |>.l.nb (by decide +kernel)
      · exact Tr.l0.h hf.package.nb |>.l.nb (by decide +kernel)

theorem writeImports_nb (cfg : Cfg) (i : Pipeline.ScopedCrateTypes) (hp : Dotted cfg.package)
    (hx : KeyStr cfg.pfx) (hi : ∀ p ∈ i, Dotted p.1 ∧ ∀ t ∈ p.2, Dotted t) : NB K (writeImports cfg i) :=
  NB.append (NB.flatMap _ _ fun p hpm => NB.flatMap _ _ fun t ht =>
    Tr.l0.h hp.nb |>.l.h (hi p hpm).1.nb |>.l.h hx.nb |>.h ((hi p hpm).2 t ht).nb |>.l.nb (by decide +kernel)) NB.nl

/-! ## what a declaration defines (binding semantics) -/

def declName : KtDecl → Str
  | .typeAlias _ n _ _ | .valueClass _ n _ _ | .object _ n | .dataClass _ n _ _ _
  | .enumClass _ n _ _ | .sealedClass _ n _ _ => n

theorem structFacts_name {cfg : Cfg} (rs : RustStruct) (d : KtDecl) (h : structFacts cfg rs = .ok d) :
    declName d = cfg.pfx ++ rs.id.renamed := by
  obtain ⟨-, rfl⟩ | ⟨-, ps, -, rfl⟩ := structFacts_inv h <;> rfl

/-- item names that are identifiers (the complement of the dashed-name class) -/
def NamesIdent : RustItem → Prop
  | .struct s => isIdentifier s.id.renamed = true
  | .enum e => isIdentifier e.id.renamed = true ∧
      ∀ v ∈ e.variants, IdentStr v.id.original
  | .alias a => isIdentifier a.id.renamed = true   -- (the `typealias` is named after `id.renamed` since 0c924cd)
  | .const _ => True

/-- **every name a Kotlin declaration introduces is an identifier** when the item's names are -/
theorem declName_identifier {cfg : Cfg} (hp : IdentPrefix cfg.pfx) (it : RustItem) (hn : NamesIdent it)
    (ds : List KtDecl) (h : itemFacts cfg it = .ok ds) : ∀ d ∈ ds, isIdentifier (declName d) = true := by
  intro d hd
  cases itemFacts_mem h d hd with
  | struct hs => rw [structFacts_name _ _ hs]; exact isIdentifier_prefixed hp hn
  | alias ha =>
    obtain ⟨-, p, -, rfl⟩ | ⟨-, ty, -, rfl⟩ := aliasFacts_inv ha <;> exact isIdentifier_prefixed hp hn
  | own ho => cases ho <;> exact isIdentifier_prefixed hp hn.1
  | @inner e p d hmem hs =>
    rw [structFacts_name _ _ hs]
    obtain ⟨v, hv, hsome⟩ := List.mem_filterMap.1 (show p ∈ structVariants e from hmem)
    have hvo := hn.2 v hv
    cases v with
    | unit _ _ => simp at hsome
    | tuple _ _ _ => simp at hsome
    | anonymousStruct vid cs fs =>
      obtain rfl := Option.some.inj hsome
      exact isIdentifier_prefixed hp (isIdentifier_append (isIdentifier_append hn.1 hvo) (by decide : IdentStr s%"Inner"))

end TsV.C10Kotlin
