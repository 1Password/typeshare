import TsV.Model.Lang.Python
import TsV.Lemmas.Lang.Python
import TsV.Lemmas.C04_Common
/-!
# C04 for the Python back end (`write_field` in python.rs)
-/
namespace TsV.C04.Py
open TsV TsV.Lang TsV.Lang.Python TsV.C04

/-! ## binding semantics (trusted specification)

pydantic's idiom for an optional field is `name: Optional[T] = Field(default=None)`: the type is
`Optional[…]` *and* the default is `None`.  For the two custom-translated types (`bytes`,
`datetime`) the type is wrapped as `Annotated[<type>, BeforeValidator(f), PlainSerializer(g)]`;
the validators are metadata, the first argument is the type.  Because of that wrapper the
semantics is given as a relation between the fact record and the pair (optional?, underlying
type) rather than by parsing the string. -/

/-- `Annotated[core, BeforeValidator(…), PlainSerializer(…)]` with the functions of `c` -/
def annotated (core : Str) (c : CustomFns) : Str :=
  s%"Annotated[" ++ core ++ s%", BeforeValidator(" ++ c.deserializationName ++
    s%"), PlainSerializer(" ++ c.serializationName ++ s%")]"

/-- `ty` spells the type `core`: bare, or inside the `Annotated[…]` wrapper of one of the two
custom translations -/
def Spells (ty core : Str) : Prop :=
  ty = core ∨ ty = annotated core bytesFns ∨ ty = annotated core datetimeFns

def optionalOf (core : Str) : Str := s%"Optional[" ++ core ++ s%"]"

/-- the field record declares a field that is optional (`o = true`: `Optional[core]` with default
`None`) or required (`o = false`: `core`, no default) -/
def Denotes (p : PyField) (o : Bool) (core : Str) : Prop :=
  p.default = (if o then some s%"None" else none) ∧
  Spells p.ty (if o then optionalOf core else core)

/-- without a type mapping keyed by the type itself `format_special_type` goes on to its arms -/
theorem special_unmapped {cfg : Cfg} {t : RustType} (h : mapGet cfg.typeMappings t.display = none)
    (st : St) (k : St → Outcome (Str × St)) : special cfg t st k = k st := by
  unfold special
  rw [h]

theorem formatType_option {cfg : Cfg} {gens : List Str} {r : RustType} (st : St)
    (h : NoOptionKey cfg.typeMappings (.option r)) :
    formatType cfg gens (.option r) st =
      (formatType cfg gens r (addImport st kTyping s%"Optional")).bind fun (x : Str × St) =>
        .ok (optionalOf x.1, x.2) :=
  special_unmapped (h rfl) st _

theorem formatType_option_ok {cfg : Cfg} {gens : List Str} {r : RustType} {st st' : St} {t : Str}
    (hk : NoOptionKey cfg.typeMappings (.option r))
    (h : formatType cfg gens (.option r) st = .ok (t, st')) :
    ∃ s, formatType cfg gens r (addImport st kTyping s%"Optional") = .ok (s, st') ∧ t = optionalOf s := by
  rw [formatType_option st hk] at h
  obtain ⟨⟨s, st1⟩, hs, h⟩ := Outcome.of_bind_ok h
  obtain ⟨h1, rfl⟩ := Outcome.ok_pair_inj h
  exact ⟨s, hs, h1.symm⟩

theorem jsonTranslation_cases {t : Str} {c : CustomFns} (h : jsonTranslation t = some c) :
    c = bytesFns ∨ c = datetimeFns := by
  unfold jsonTranslation at h
  split at h
  · left; simpa using h.symm
  · split at h
    · right; simpa using h.symm
    · simp at h

/-- what `write_field` puts into the record, given the translation `pt` of the field's type: the
default is `None` exactly for `opt f`; the type is `pt`, inside `Optional[…]` when only
`serde(default)` makes the field optional, possibly inside the `Annotated[…]` wrapper -/
theorem fieldFacts_ok {E : Ext} {cfg : Cfg} {gens : List Str} {f : RustField} {st st' : St} {p : PyField}
    (h : fieldFacts E cfg gens f st = .ok (p, st')) :
    ∃ pt st1, formatType cfg gens f.ty st = .ok (pt, st1) ∧
      p.default = (if opt f then some s%"None" else none) ∧
      Spells p.ty (if !f.ty.isOptional && f.hasDefault then optionalOf pt else pt) := by
  obtain ⟨pt, st1, _, hpt, rfl, rfl⟩ := fieldFacts_inv h
  have hd : ((f.ty.isOptional || f.hasDefault) || (!f.ty.isOptional && f.hasDefault)) = opt f := by
    unfold opt; cases f.ty.isOptional <;> cases f.hasDefault <;> rfl
  refine ⟨pt, st1, hpt, by rw [← hd], ?_⟩
  dsimp only
  cases hc : jsonTranslation pt with
  | none => exact Or.inl rfl
  | some c =>
    rcases jsonTranslation_cases hc with rfl | rfl
    · exact Or.inr (Or.inl rfl)
    · exact Or.inr (Or.inr rfl)

/-- **Python, one field**: `Optional[T]` with default `None` exactly when the field is `Option<_>`
or has `serde(default)`; `T` is the translation of the `Option`-stripped Rust type (for some
printer state: the import set differs, the text does not depend on it) -/
theorem field {E : Ext} {cfg : Cfg} {gens : List Str} {f : RustField} {st st' : St} {p : PyField}
    (hk : NoOptionKey cfg.typeMappings f.ty)
    (h : fieldFacts E cfg gens f st = .ok (p, st')) :
    ∃ core st0 st1, formatType cfg gens (stripOption f.ty) st0 = .ok (core, st1) ∧
      Denotes p (opt f) core := by
  obtain ⟨pt, st1, hpt, hd, hs⟩ := fieldFacts_ok h
  cases ho : f.ty.isOptional with
  | false =>
    refine ⟨pt, st, st1, by rw [stripOption_of_not_optional _ ho]; exact hpt, hd, ?_⟩
    rw [ho] at hs
    rw [show opt f = f.hasDefault by rw [opt, ho]; rfl]
    exact hs
  | true =>
    obtain ⟨r, hr⟩ := (isOptional_iff _).1 ho
    rw [hr] at hpt hk
    obtain ⟨s, hs', rfl⟩ := formatType_option_ok hk hpt
    refine ⟨s, _, _, by rw [hr]; exact hs', hd, ?_⟩
    rw [ho] at hs
    rw [show opt f = true by rw [opt, ho]; rfl]
    exact hs

def FieldGen (E : Ext) (cfg : Cfg) (gens : List Str) (f : RustField) (p : PyField) : Prop :=
  ∃ st st', fieldFacts E cfg gens f st = .ok (p, st')

theorem fieldsFacts_pointwise (E : Ext) (cfg : Cfg) (gens : List Str)
    (fs : List RustField) (st : St) (ps : List PyField) (st' : St)
    (h : fieldsFacts E cfg gens fs st = .ok (ps, st')) : Pointwise (FieldGen E cfg gens) fs ps :=
  thread_pointwise h (fun _ => rfl) fun _ _ _ => rfl

/-- **every field of every struct** has its pydantic field, in order -/
theorem struct_fields {E : Ext} {cfg : Cfg} {rs : RustStruct} {st st' : St} {c : PyClass}
    (h : structFacts E cfg rs st = .ok (c, st')) :
    Pointwise (FieldGen E cfg rs.genericTypes) rs.fields c.fields := by
  obtain ⟨_, _, hf, rfl⟩ := structFacts_inv h
  exact fieldsFacts_pointwise _ _ _ _ _ _ _ hf

theorem innerFacts_pointwise (E : Ext) (cfg : Cfg) (e : RustEnum)
    (vs : List (Id × List RustField)) (st : St) (cs : List PyClass) (st' : St)
    (h : innerFacts E cfg e vs st = .ok (cs, st')) :
    Pointwise (fun (v : Id × List RustField) c => ∃ gens, Pointwise (FieldGen E cfg gens) v.2 c.fields) vs cs :=
  (thread_pointwise h (fun _ => rfl) fun _ _ _ => rfl).imp fun _ _ ⟨_, _, hc⟩ => ⟨_, struct_fields hc⟩

/-- **every field of every struct variant**: one inner class per struct variant, in order -/
theorem variant_fields {E : Ext} {cfg : Cfg} {e : RustEnum} {tag content : Str} {st st' : St} {u : PyUnion}
    (h : unionFacts E cfg e tag content st = .ok (u, st')) :
    Pointwise (fun (v : Id × List RustField) c => ∃ gens, Pointwise (FieldGen E cfg gens) v.2 c.fields)
      (structVariants e) u.inner := by
  obtain ⟨_, _, _, _, _, hin, _, rfl⟩ := unionFacts_inv h
  exact innerFacts_pointwise _ _ _ _ _ _ _ hin

/-- **newtype-variant payload**: the content attribute is typed with the translation of the
payload type (so `Option<T>` gives `Optional[T]`, `formatType_option`; no default is printed) -/
theorem payload {E : Ext} {cfg : Cfg} {e : RustEnum} {tag content : Str} {id : Id} {cs : List Str}
    {ty : RustType} {st st' : St} {v : PyVariant}
    (h : variantFacts E cfg e tag content (.tuple id cs ty) st = .ok (v, st')) :
    ∃ t st1, v.contentType = some t ∧ formatType cfg e.genericTypes ty st = .ok (t, st1) := by
  obtain ⟨_, rfl, t, st1, ht, rfl⟩ := variantFacts_inv h
  exact ⟨t, st1, rfl, ht⟩

/-- **alias**: `X = <translation of the type>`; afterwards the generic parameters of the alias are
registered as type variables (since the `fix:` commit f8d1040) -/
theorem alias {cfg : Cfg} {a : RustTypeAlias} {st st' : St} {pa : PyAlias}
    (h : aliasFacts cfg a st = .ok (pa, st')) :
    ∃ st1, formatType cfg a.genericTypes a.ty st = .ok (pa.ty, st1) ∧
      st' = a.genericTypes.foldl addTypeVar st1 := by
  obtain ⟨_, st1, hty, rfl, rfl⟩ := aliasFacts_inv h
  exact ⟨st1, hty, rfl⟩

end TsV.C04.Py
