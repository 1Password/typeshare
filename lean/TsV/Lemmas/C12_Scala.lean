import TsV.Lemmas.Lang.Scala
import TsV.Lemmas.C12_Common
/-!
# C12, Scala: the unsigned aliases are used by `format_type` at any depth, and the alias block is
driven by a scan (`uses_unsigned`) that descends to any depth as well (since the `fix:` commit 37c1b68;
before, the scan looked one level deep and not under arrays / slices)
-/
namespace TsV.C12L.Scala
open TsV TsV.Lang TsV.Lang.Scala TsV.C12L

def isUnsignedPrim : Prim → Bool
  | .u8 | .u16 | .u32 | .u53 | .u64 | .usize => true
  | _ => false

mutual
  /-- does formatting `t` print one of `UByte` / `UShort` / `UInt` / `ULong`?  Follows `formatType`
  arm by arm (a type-mapped generic is replaced wholesale, its arguments are never formatted). -/
  def unsignedIn (cfg : Cfg) : RustType → Bool
    | .simple _ => false
    | .generic id ps => if (mapGet cfg.typeMappings id).isSome then false else unsignedInList cfg ps
    | .vec t | .array t _ | .slice t | .option t => unsignedIn cfg t
    | .hashMap k v => unsignedIn cfg k || unsignedIn cfg v
    | .prim p => isUnsignedPrim p
  def unsignedInList (cfg : Cfg) : List RustType → Bool
    | [] => false
    | t :: ts => unsignedIn cfg t || unsignedInList cfg ts
end

def aliasNames : List Str := [s%"UByte", s%"UShort", s%"UInt", s%"ULong"]

/-! ### `unsignedIn` really is "the formatted string mentions an alias name" -/

theorem formatTypes_mentions_of (cfg : Cfg) (gens : List Str) : ∀ ts : List RustType,
    (∀ t ∈ ts, ∀ s, formatType cfg gens t = .ok s → unsignedIn cfg t = true → ∃ n ∈ aliasNames, n <:+: s) →
    ∀ ss, formatTypes cfg gens ts = .ok ss → unsignedInList cfg ts = true →
      ∃ n ∈ aliasNames, ∃ x ∈ ss, n <:+: x := by
  intro ts
  induction ts with
  | nil => exact fun _ _ _ hu => nomatch hu
  | cons t ts ihs =>
    intro ih ss h hu
    obtain ⟨s1, h1, h2⟩ := Outcome.of_bind_ok h
    obtain ⟨ss2, h3, rfl⟩ := Outcome.of_bind_ret h2
    rcases Bool.or_eq_true_iff.1 hu with hu | hu
    · obtain ⟨n, hn, hi⟩ := ih t List.mem_cons_self s1 h1 hu
      exact ⟨n, hn, s1, List.mem_cons_self, hi⟩
    · obtain ⟨n, hn, x, hx, hi⟩ := ihs (fun t ht => ih t (List.mem_cons_of_mem _ ht)) ss2 h3 hu
      exact ⟨n, hn, x, List.mem_cons_of_mem _ hx, hi⟩

theorem formatType_mentions (cfg : Cfg) (gens : List Str) (t : RustType) : ∀ (s : Str),
    formatType cfg gens t = .ok s → unsignedIn cfg t = true → ∃ n ∈ aliasNames, n <:+: s := by
  induction t using rustType_induct with
  | simple id => exact fun s _ hu => nomatch hu
  | generic id ps ih =>
    intro s h hu
    rw [formatType] at h
    have hu : (if (mapGet cfg.typeMappings id).isSome then false else unsignedInList cfg ps) = true := hu
    split at h
    · rename_i hm
      rw [hm, Option.isSome_some, if_pos rfl] at hu; cases hu
    · rename_i hm
      rw [hm, Option.isSome_none, if_neg Bool.false_ne_true] at hu
      split at h
      · rename_i strs hps
        cases h
        obtain ⟨n, hn, x, hx, hi⟩ := formatTypes_mentions_of cfg gens ps ih strs hps hu
        refine ⟨n, hn, ?_⟩
        have hne : strs.isEmpty = false := by cases strs with
          | nil => cases hx
          | cons _ _ => rfl
        rw [hne, if_neg Bool.false_ne_true, bracket, ← List.append_assoc, ← List.append_assoc]
        exact infix_mid _ _ (infix_intercalate s%", " strs ⟨x, hx, hi⟩)
      · cases h
      · cases h
  | vec r ih | slice r ih | array r n ih | option r ih =>
    intro s h hu
    obtain ⟨s1, h1, rfl⟩ := Outcome.of_bind_ret h
    obtain ⟨n, hn, hi⟩ := ih s1 h1 hu
    exact ⟨n, hn, infix_mid _ _ hi⟩
  | hashMap k v ihk ihv =>
    intro s h hu
    obtain ⟨s1, h1, h2⟩ := Outcome.of_bind_ok h
    obtain ⟨s2, h3, rfl⟩ := Outcome.of_bind_ret h2
    rcases Bool.or_eq_true_iff.1 hu with hu | hu
    · obtain ⟨n, hn, hi⟩ := ihk s1 h1 hu
      refine ⟨n, hn, ?_⟩
      rw [List.append_assoc, List.append_assoc]
      exact infix_mid _ _ hi
    · obtain ⟨n, hn, hi⟩ := ihv s2 h3 hu
      exact ⟨n, hn, infix_mid _ _ hi⟩
  | prim p =>
    intro s h hu
    cases p <;> first
      | exact absurd hu Bool.false_ne_true
      | (cases h; exact ⟨_, by decide, List.infix_refl _⟩)
theorem formatTypes_mentions (cfg : Cfg) (gens : List Str) : ∀ (ts : List RustType) (ss : List Str),
    formatTypes cfg gens ts = .ok ss → unsignedInList cfg ts = true →
    ∃ n ∈ aliasNames, ∃ x ∈ ss, n <:+: x :=
  fun ts => formatTypes_mentions_of cfg gens ts fun t _ => formatType_mentions cfg gens t


/-! ## what one file formats, what the scan sees -/

/-- the type of a field when typeshare formats it (a `#[typeshare(scala(type = ".."))]` override is
the user's text and is not formatted) -/
def fieldFormatted (f : RustField) : List RustType :=
  match typeOverride f .scala with
  | some _ => []
  | none => [f.ty]

/-- the types `format_type` is called on while one enum is written: the fields of the classes
generated for its struct variants, and — for an algebraic enum — the tuple payloads -/
def enumFormatted (e : RustEnum) : List RustType :=
  (structVariants e).flatMap (fun p => p.2.flatMap fieldFormatted) ++
  (match e.keys with
   | none => []
   | some _ => e.variants.flatMap fun v => match v with
     | .tuple _ _ ty => [ty]
     | _ => [])

/-- every type tree `format_type` is called on while the file for `d` is generated -/
def formatted (d : ParsedData) : List RustType :=
  d.aliases.map (·.ty) ++ d.structs.flatMap (fun s => s.fields.flatMap fieldFormatted) ++
  d.enums.flatMap enumFormatted

/-- **helpersUsed (Scala)**: some formatted type prints an unsigned alias name -/
def used (cfg : Cfg) (d : ParsedData) : Bool := (formatted d).any (unsignedIn cfg)

theorem isUnsigned_prim (p : Prim) : isUnsigned (.prim p) = isUnsignedPrim p := by
  cases p <;> rfl

theorem unsignedInList_eq_any (cfg : Cfg) : ∀ ps : List RustType, unsignedInList cfg ps = ps.any (unsignedIn cfg) := by
  intro ps
  induction ps with
  | nil => rfl
  | cons t ts ih => exact congrArg (unsignedIn cfg t || ·) ih

theorem usesUnsignedList_eq_any : ∀ ps : List RustType, usesUnsignedList ps = ps.any usesUnsigned := by
  intro ps
  induction ps with
  | nil => rfl
  | cons t ts ih => exact congrArg (usesUnsigned t || ·) ih

theorem usesUnsignedList_of (cfg : Cfg) : ∀ ts : List RustType,
    (∀ t ∈ ts, unsignedIn cfg t = true → usesUnsigned t = true) →
    unsignedInList cfg ts = true → usesUnsignedList ts = true := by
  intro ts ih h
  rw [unsignedInList_eq_any, List.any_eq_true] at h
  obtain ⟨t, ht, hu⟩ := h
  rw [usesUnsignedList_eq_any, List.any_eq_true]
  exact ⟨t, ht, ih t ht hu⟩

/-- the scan finds every unsigned integer that formatting prints (it also enters the arguments
of type-mapped generics, which are never formatted: the scan may say yes where nothing is used) -/
theorem usesUnsigned_of_unsignedIn (cfg : Cfg) (t : RustType) : unsignedIn cfg t = true → usesUnsigned t = true := by
  -- on a constructor both functions compute, so each case is the statement about the components
  induction t using rustType_induct with
  | simple id => exact fun h => nomatch h
  | generic id ps ih =>
    intro h
    have h : (if (mapGet cfg.typeMappings id).isSome then false else unsignedInList cfg ps) = true := h
    split at h
    · cases h
    · exact usesUnsignedList_of cfg ps ih h
  | vec r ih | slice r ih | array r n ih | option r ih => exact ih
  | hashMap k v ihk ihv => exact fun h => Bool.or_eq_true_iff.2 ((Bool.or_eq_true_iff.1 h).imp ihk ihv)
  | prim p => exact fun h => (isUnsigned_prim p).trans h

theorem usesUnsignedList_of_unsignedInList (cfg : Cfg) : ∀ ts : List RustType,
    unsignedInList cfg ts = true → usesUnsignedList ts = true :=
  fun ts => usesUnsignedList_of cfg ts fun t _ => usesUnsigned_of_unsignedIn cfg t

theorem fieldFormatted_sub (f : RustField) : ∀ t ∈ fieldFormatted f, t = f.ty := by
  intro t ht
  unfold fieldFormatted at ht
  split at ht <;> simp_all

/-- everything that is formatted is also a starting point of the scan -/
theorem formatted_sub_scanned (d : ParsedData) : ∀ t ∈ formatted d, t ∈ scannedTypes d := by
  intro t ht
  simp only [formatted, List.mem_append, List.mem_map, List.mem_flatMap] at ht
  simp only [scannedTypes, List.mem_append, List.mem_map, List.mem_flatMap]
  rcases ht with (⟨a, ha, rfl⟩ | ⟨s, hs, f, hf, htf⟩) | ⟨e, he, hte⟩
  · exact Or.inl (Or.inl ⟨a, ha, rfl⟩)
  · exact Or.inl (Or.inr ⟨s, hs, f, hf, (fieldFormatted_sub f t htf).symm⟩)
  · refine Or.inr ⟨e, he, ?_⟩
    simp only [enumFormatted, List.mem_append, List.mem_flatMap] at hte
    rcases hte with ⟨p, hp, f, hf, htf⟩ | hte
    · simp only [structVariants, List.mem_filterMap] at hp
      obtain ⟨v, hv, hvp⟩ := hp
      refine ⟨v, hv, ?_⟩
      cases v with
      | unit i c => simp at hvp
      | tuple i c ty => simp at hvp
      | anonymousStruct i c fs =>
        simp only [Option.some.injEq] at hvp
        subst hvp
        simp only [List.mem_map]
        exact ⟨f, hf, (fieldFormatted_sub f t htf).symm⟩
    · cases hk : e.keys with
      | none => rw [hk] at hte; simp at hte
      | some k =>
        rw [hk] at hte
        simp only [List.mem_flatMap] at hte
        obtain ⟨v, hv, hvt⟩ := hte
        refine ⟨v, hv, ?_⟩
        cases v with
        | unit i c => simp at hvt
        | tuple i c ty => simpa using hvt
        | anonymousStruct i c fs => simp at hvt

/-- **helpersProvided (Scala)**, on the fact record of the file: the package object starts with the
alias block -/
def definesUnsigned (f : ScFile) : Bool :=
  match f.packageObject with
  | some (u, _) => u
  | none => false

/-- the alias block is written iff the scan says so -/
theorem fileFacts_defines (cfg : Cfg) (d : ParsedData) (f : ScFile) (h : fileFacts cfg d = .ok f) :
    definesUnsigned f = unsignedIntegerUsed d := by
  obtain ⟨-, -, as, cs, es, -, -, -, rfl⟩ := fileFacts_inv h
  unfold definesUnsigned fileOf
  cases ho : C03E.Sc.hasObject d with
  | true => rfl
  | false => exact ((Bool.or_eq_false_iff.1 ho).1).symm

/-- … and when it is, the rendered file contains the four alias definitions -/
theorem renderFile_defines (f : ScFile) (h : definesUnsigned f = true) : unsignedAliases <:+: renderFile f := by
  unfold definesUnsigned at h
  unfold renderFile
  cases hp : f.packageObject with
  | none => simp [hp] at h
  | some p =>
    obtain ⟨u, as⟩ := p
    rw [hp] at h
    simp only at h
    subst h
    simp only [↓reduceIte]
    apply infix_mid
    exact ⟨s%"package object " ++ f.last ++ s%" {\n\n", (as.flatMap renderAlias) ++ s%"}\n", by
      simp only [List.append_assoc]⟩

/-- whenever some formatted type prints an unsigned alias, the scan says so -/
theorem used_provided (cfg : Cfg) (d : ParsedData) (hu : used cfg d = true) : unsignedIntegerUsed d = true := by
  simp only [used, List.any_eq_true] at hu
  obtain ⟨t, ht, htu⟩ := hu
  simp only [unsignedIntegerUsed, List.any_eq_true]
  exact ⟨t, formatted_sub_scanned d t ht, usesUnsigned_of_unsignedIn cfg t htu⟩

theorem usesUnsignedList_eq_of (cfg : Cfg) : ∀ ts : List RustType,
    (∀ t ∈ ts, usesUnsigned t = unsignedIn cfg t) → usesUnsignedList ts = unsignedInList cfg ts := by
  intro ts h
  rw [usesUnsignedList_eq_any, unsignedInList_eq_any]
  exact any_congr_mem h

/-- without type mappings the scan and the formatter agree type by type: the scan is exact -/
theorem usesUnsigned_eq_unsignedIn (cfg : Cfg) (hm : cfg.typeMappings = []) (t : RustType) :
    usesUnsigned t = unsignedIn cfg t := by
  induction t using rustType_induct with
  | simple id => rfl
  | generic id ps ih =>
    show usesUnsignedList ps = if (mapGet cfg.typeMappings id).isSome then false else unsignedInList cfg ps
    rw [hm]
    exact usesUnsignedList_eq_of cfg ps ih
  | vec r ih | slice r ih | array r n ih | option r ih => exact ih
  | hashMap k v ihk ihv =>
    show (usesUnsigned k || usesUnsigned v) = (unsignedIn cfg k || unsignedIn cfg v)
    rw [ihk, ihv]
  | prim p => exact isUnsigned_prim p

end TsV.C12L.Scala
