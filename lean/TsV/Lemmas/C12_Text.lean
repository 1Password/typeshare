import TsV.Lemmas.C12_Common
import TsV.Lemmas.C05_Langs
/-!
# C12 — a printer whose text is a function of something the state does not enter prints the same text from every state
-/
namespace TsV.C12L
open TsV TsV.C05L

/-- `k`'s text is `g` of an outcome `y` in which no state occurs (`C05L.ts_formatType`, … have this form) -/
theorem Indep.of_text {σ α γ : Type} {k : σ → Outcome (α × σ)} {y : Outcome γ} {g : γ → α}
    (h : ∀ st, omap Prod.fst (k st) = omap g y) : Indep k := by
  intro st a st' hk st2
  obtain ⟨c, hy, rfl⟩ := proj_ok (h st) hk
  have h2 := h st2
  rw [hy] at h2
  cases hk2 : k st2 with
  | ok p => rw [hk2] at h2; exact ⟨p.2, by rw [← Outcome.ok.inj h2]⟩
  | err e => rw [hk2] at h2; cases h2
  | panic m => rw [hk2] at h2; cases h2

end TsV.C12L
