import TsV.Props.C03_Emission
import TsV.Props.C01
import TsV.Props.C02
import TsV.Props.C04
import TsV.Props.C05
import TsV.Props.C09
import TsV.Props.C11_Coverage
/-!
# Capstone — the language-independent part of the composition

From `Generate.run … [f] = .ok (.outputs outs)` to "this source item of `f` was parsed to `p`, the
back end received `recItem … p`", and what `reconcile` (`recItem`) leaves alone: identifiers, keys,
`serde(default)`, decorators, optionality — so that the per-item theorems (C01, C02, C04, C05), which
speak about one parsed item, apply to what the back end printed.

Glue definitions of this file (no new specification, only packaging): `Forall₃`, `FieldFrom`,
`recStruct`, `recEnum`.
-/
namespace TsV.Cap
open TsV TsV.Syn TsV.Parser TsV.Pipeline TsV.Generate TsV.C03E TsV.Lang TsV.Outcome

/-! ## the parsed items of the file, aligned with the source items -/

theorem okItems_all (outs : List (Outcome RustItem)) (hnp : ∀ o ∈ outs, NP o) (h : errKinds outs = []) :
    outs = (okItems outs).map Outcome.ok := by
  induction outs with
  | nil => rfl
  | cons o r ih =>
    have ihr := ih fun o ho => hnp o (List.mem_cons_of_mem _ ho)
    cases o with
    | ok it => exact congrArg (Outcome.ok it :: ·) (ihr h)
    | err e => cases h
    | panic s => cases hnp (.panic s) List.mem_cons_self

/-- **every annotated accepted item parsed** (when there is no parse error): the parsed items are the
source items, in order, each the result of the item parser -/
theorem parsed_aligned (E : Ext) (ctx : ParseContext) (f : Syn.File) (h : parseErrs E ctx f = []) :
    (sourceItems ctx f).map (C03.parseItem E ctx) = (parsedItems E ctx f).map Outcome.ok := by
  unfold parsedItems
  exact okItems_all _ (by
    intro o ho
    simp only [List.mem_map] at ho
    obtain ⟨it, _, rfl⟩ := ho
    exact NoPanic.parseItem_np E ctx it) h

theorem mem_okItems {p : RustItem} {outs : List (Outcome RustItem)} (h : Outcome.ok p ∈ outs) : p ∈ okItems outs := by
  induction outs with
  | nil => cases h
  | cons o r ih =>
    cases o with
    | ok it =>
      rcases List.mem_cons.1 h with h | h
      · cases h; exact List.mem_cons_self
      · exact List.mem_cons_of_mem _ (ih h)
    | err e => exact ih ((List.mem_cons.1 h).resolve_left nofun)
    | panic s => exact ih ((List.mem_cons.1 h).resolve_left nofun)

/-- a source item that parses is among the parsed items -/
theorem mem_parsed (E : Ext) (ctx : ParseContext) (f : Syn.File) {src : Item} {p : RustItem}
    (hs : src ∈ sourceItems ctx f) (hp : C03.parseItem E ctx src = .ok p) : p ∈ parsedItems E ctx f := by
  unfold parsedItems
  exact mem_okItems (List.mem_map.2 ⟨src, hs, hp⟩)

/-- … and its reconciled form is among the items handed to the back end -/
theorem mem_emitted (E : Ext) (lang : LangCfg) (targetOs : List Str) (f : SourceFile) {src : Item} {p : RustItem}
    (hs : src ∈ sourceItems (ctxOf lang targetOs) f.file) (hp : C03.parseItem E (ctxOf lang targetOs) src = .ok p) :
    recItem f.crateName (renamesFor f.crateName (parsedItems E (ctxOf lang targetOs) f.file)) p ∈
      C03_Emission.emitted E lang targetOs f :=
  List.mem_map.2 ⟨p, mem_parsed E _ _ hs hp, rfl⟩

/-- the block of an item the back end received: its position among the items, and the block there -/
theorem block_of {R : RustItem → Str → Prop} {items emitted : List RustItem} {blocks : List Str}
    (hperm : items.Perm emitted) (hpair : Paired R items blocks) {x : RustItem} (hx : x ∈ emitted) :
    ∃ (k : Nat) (b : Str), items[k]? = some x ∧ blocks[k]? = some b ∧ R x b := by
  obtain ⟨k, hk⟩ := List.getElem?_of_mem (hperm.symm.subset hx)
  obtain ⟨b, hb, hr⟩ := (paired_iff.1 hpair).get? k x hk
  exact ⟨k, b, hk, hb, hr⟩

/-! ## what `reconcile` leaves alone -/

theorem checkType_isOptional (c : Str) (r : Renames) (i : List ImportedType) (t : RustType) :
    (checkType c r i t).isOptional = t.isOptional := by
  cases t with
  | simple id => cases h : resolveRenamed c r i id <;> simp [checkType, RustType.isOptional, h]
  | generic id ps => cases h : resolveRenamed c r i id <;> simp [checkType, RustType.isOptional, h]
  | _ => simp [checkType, RustType.isOptional]

theorem checkType_stripOption (c : Str) (r : Renames) (i : List ImportedType) (t : RustType) :
    C04.stripOption (checkType c r i t) = checkType c r i (C04.stripOption t) := by
  cases t with
  | simple id => cases h : resolveRenamed c r i id <;> simp [checkType, C04.stripOption, h]
  | generic id ps => cases h : resolveRenamed c r i id <;> simp [checkType, C04.stripOption, h]
  | _ => simp [checkType, C04.stripOption]

theorem checkType_isDoubleOptional (c : Str) (r : Renames) (i : List ImportedType) (t : RustType) :
    (checkType c r i t).isDoubleOptional = t.isDoubleOptional := by
  rw [Bool.eq_iff_iff, C04.isDoubleOptional_iff, C04.isDoubleOptional_iff, checkType_isOptional,
    checkType_stripOption, checkType_isOptional]

@[simp] theorem checkField_id (c : Str) (r : Renames) (i : List ImportedType) (f : RustField) :
    (checkField c r i f).id = f.id := rfl
@[simp] theorem checkField_hasDefault (c : Str) (r : Renames) (i : List ImportedType) (f : RustField) :
    (checkField c r i f).hasDefault = f.hasDefault := rfl
@[simp] theorem checkField_decorators (c : Str) (r : Renames) (i : List ImportedType) (f : RustField) :
    (checkField c r i f).decorators = f.decorators := rfl
@[simp] theorem checkField_ty (c : Str) (r : Renames) (i : List ImportedType) (f : RustField) :
    (checkField c r i f).ty = checkType c r i f.ty := rfl

theorem checkField_opt (c : Str) (r : Renames) (i : List ImportedType) (f : RustField) :
    C04.opt (checkField c r i f) = C04.opt f := by
  simp [C04.opt, checkType_isOptional]

theorem checkField_typeOverride (c : Str) (r : Renames) (i : List ImportedType) (f : RustField) (l : TsV.Lang) :
    typeOverride (checkField c r i f) l = typeOverride f l := rfl

/-- the struct a back end receives for the parsed struct `rs` -/
def recStruct (c : Str) (r : Renames) (rs : RustStruct) : RustStruct :=
  { rs with fields := rs.fields.map (checkField c r []) }

/-- the enum a back end receives for the parsed enum `e` -/
def recEnum (c : Str) (r : Renames) (e : RustEnum) : RustEnum :=
  { e with variants := e.variants.map (checkVariant c r []) }

theorem recItem_struct (c : Str) (r : Renames) (rs : RustStruct) : recItem c r (.struct rs) = .struct (recStruct c r rs) := rfl
theorem recItem_enum (c : Str) (r : Renames) (e : RustEnum) : recItem c r (.enum e) = .enum (recEnum c r e) := rfl

/-- the block of a source struct that parses: the block written for its reconciled form -/
theorem struct_block {R : RustItem → Str → Prop} {E : Ext} {lang : LangCfg} {targetOs : List Str} {f : SourceFile}
    {items : List RustItem} {blocks : List Str} (hperm : items.Perm (C03_Emission.emitted E lang targetOs f))
    (hpair : Paired R items blocks) {attrs : List Attr} {ident : Str} {gens : List GenericParam} {fields : Fields}
    {rs : RustStruct} (hsrc : Item.struct attrs ident gens fields ∈ sourceItems (ctxOf lang targetOs) f.file)
    (hparse : parseStruct E targetOs attrs ident gens fields = .ok (.struct rs)) :
    ∃ (k : Nat) (b : Str),
      items[k]? = some (.struct (recStruct f.crateName (renamesFor f.crateName (parsedItems E (ctxOf lang targetOs) f.file)) rs)) ∧
      blocks[k]? = some b ∧
      R (.struct (recStruct f.crateName (renamesFor f.crateName (parsedItems E (ctxOf lang targetOs) f.file)) rs)) b :=
  block_of hperm hpair (mem_emitted E lang targetOs f hsrc hparse)

theorem enum_block {R : RustItem → Str → Prop} {E : Ext} {lang : LangCfg} {targetOs : List Str} {f : SourceFile}
    {items : List RustItem} {blocks : List Str} (hperm : items.Perm (C03_Emission.emitted E lang targetOs f))
    (hpair : Paired R items blocks) {attrs : List Attr} {ident : Str} {gens : List GenericParam} {vs : List Variant}
    {e : RustEnum} (hsrc : Item.enum attrs ident gens vs ∈ sourceItems (ctxOf lang targetOs) f.file)
    (hparse : parseEnum E targetOs attrs ident gens vs = .ok (.enum e)) :
    ∃ (k : Nat) (b : Str),
      items[k]? = some (.enum (recEnum f.crateName (renamesFor f.crateName (parsedItems E (ctxOf lang targetOs) f.file)) e)) ∧
      blocks[k]? = some b ∧
      R (.enum (recEnum f.crateName (renamesFor f.crateName (parsedItems E (ctxOf lang targetOs) f.file)) e)) b :=
  block_of hperm hpair (mem_emitted E lang targetOs f hsrc hparse)

theorem recStruct_ids (c : Str) (r : Renames) (rs : RustStruct) :
    C01.fieldIds (recStruct c r rs).fields = C01.fieldIds rs.fields :=
  C01.reconcile_keeps_ids c r [] rs.fields

theorem recEnum_ids (c : Str) (r : Renames) (e : RustEnum) :
    (structVariants (recEnum c r e)).map (fun p => C01.fieldIds p.2) =
      (structVariants e).map (fun p => C01.fieldIds p.2) :=
  C01.reconcile_keeps_variant_ids c r [] e

theorem recEnum_variant_ids (c : Str) (r : Renames) (e : RustEnum) :
    (recEnum c r e).variants.map (·.id) = e.variants.map (·.id) := by
  simp [recEnum, List.map_map, Function.comp_def, checkVariant_id]

/-- the scope of C02's back-end half is not touched by `reconcile` -/
theorem recEnum_inScope (c : Str) (r : Renames) (e : RustEnum) (h : C02.InScopeEnum e) :
    C02.InScopeEnum (recEnum c r e) := by
  constructor
  · intro v hv
    simp only [recEnum, List.mem_map] at hv
    obtain ⟨v0, hv0, rfl⟩ := hv
    rw [checkVariant_id]
    exact h.camel v0 hv0
  · have : (recEnum c r e).variants.map (·.id.original) = e.variants.map (·.id.original) := by
      simp [recEnum, List.map_map, Function.comp_def, checkVariant_id]
    rw [this]
    exact h.distinct

/-- … nor is what `Correct` says: names, keys and distinctness only read the identifiers and the keys -/
theorem correct_recEnum (c : Str) (r : Renames) (e : RustEnum) (w : C02.EnumWire)
    (h : w.Correct (recEnum c r e)) : w.Correct e := by
  refine ⟨?_, h.distinct, ?_⟩
  · have := h.names
    unfold C02.EnumWire.Names at this ⊢
    rw [this]
    simp [recEnum, List.map_map, Function.comp_def, checkVariant_id]
  · have := h.keys
    unfold C02.EnumWire.Keys at this ⊢
    exact this

theorem variantIsUnit_check (c : Str) (r : Renames) (v : RustEnumVariant) :
    variantIsUnit (checkVariant c r [] v) = variantIsUnit v := by
  cases v <;> rfl

/-! ## three lists, position by position -/

inductive Forall₃ {α β γ : Type} (R : α → β → γ → Prop) : List α → List β → List γ → Prop
  | nil : Forall₃ R [] [] []
  | cons {a b c as bs cs} : R a b c → Forall₃ R as bs cs → Forall₃ R (a :: as) (b :: bs) (c :: cs)

theorem Forall₃.mk₂ {α β γ : Type} {P : α → β → Prop} {Q : β → γ → Prop} :
    ∀ {as : List α} {bs : List β} {cs : List γ}, C01.Forall₂ P as bs → C01.Forall₂ Q bs cs →
      Forall₃ (fun a b c => P a b ∧ Q b c) as bs cs := by
  intro as bs cs h1
  induction h1 generalizing cs with
  | nil => intro h2; cases h2; exact .nil
  | cons h1 _ ih => intro h2; cases h2 with | cons h2 t2 => exact .cons ⟨h1, h2⟩ (ih t2)

theorem Forall₃.imp {α β γ : Type} {R S : α → β → γ → Prop} (h : ∀ a b c, R a b c → S a b c) :
    ∀ {as : List α} {bs : List β} {cs : List γ}, Forall₃ R as bs cs → Forall₃ S as bs cs := by
  intro as bs cs hr
  induction hr with
  | nil => exact .nil
  | cons hr _ ih => exact .cons (h _ _ _ hr) ih

/-- index form -/
theorem Forall₃.get {α β γ : Type} {R : α → β → γ → Prop} :
    ∀ {as : List α} {bs : List β} {cs : List γ}, Forall₃ R as bs cs →
      as.length = bs.length ∧ bs.length = cs.length ∧
      ∀ (i : Nat) a b c, as[i]? = some a → bs[i]? = some b → cs[i]? = some c → R a b c := by
  intro as bs cs h
  induction h with
  | nil => exact ⟨rfl, rfl, fun i a b c h => by simp at h⟩
  | cons hr _ ih =>
    obtain ⟨h1, h2, h3⟩ := ih
    refine ⟨by simp [h1], by simp [h2], ?_⟩
    intro i a b c ha hb hc
    cases i with
    | zero => simp at ha hb hc; subst ha hb hc; exact hr
    | succ j => exact h3 j a b c (by simpa using ha) (by simpa using hb) (by simpa using hc)

theorem pointwise_of_forall₂ {α β} {R : α → β → Prop} : ∀ {l1 : List α} {l2 : List β},
    C01.Forall₂ R l1 l2 → C04.Pointwise R l1 l2 := by
  intro l1 l2 h
  induction h with
  | nil => exact .nil
  | cons h _ ih => exact .cons h ih

theorem forall₂_of_pointwise {α β} {R : α → β → Prop} : ∀ {l1 : List α} {l2 : List β},
    C04.Pointwise R l1 l2 → C01.Forall₂ R l1 l2 := by
  intro l1 l2 h
  induction h with
  | nil => exact .nil
  | cons h _ ih => exact .cons h ih

/-! ## source field ↦ the field the back end receives -/

/-- the field `rf'` a back end receives comes from the source field `f` of a container whose
`rename_all` is `ra`: parsed by `parse_field`, its type rewritten by `reconcile` -/
def FieldFrom (E : Ext) (ra : Option Str) (c : Str) (r : Renames) (f : Field) (rf' : RustField) : Prop :=
  ∃ rf, parseField E true ra f = .ok rf ∧ rf' = checkField c r [] rf

theorem parseStruct_fields (E : Ext) (targetOs : List Str) (attrs : List Attr)
    (ident : Str) (gens : List GenericParam) (fs : List Field) (rs : RustStruct)
    (h : parseStruct E targetOs attrs ident gens (.named fs) = .ok (.struct rs)) :
    C01.Forall₂ (fun f rf => parseField E true (serdeRenameAll E attrs) f = .ok rf) (C01.kept targetOs fs) rs.fields := by
  exact Outcome.mapM'_forall₂ _ _ _ (Parser.parseStruct_struct_ok h).2

/-- **every kept source field of a struct, in order, is the origin of one field of the reconciled struct** -/
theorem parseStruct_fieldsFrom (E : Ext) (targetOs : List Str) (attrs : List Attr)
    (ident : Str) (gens : List GenericParam) (fs : List Field) (rs : RustStruct) (c : Str) (r : Renames)
    (h : parseStruct E targetOs attrs ident gens (.named fs) = .ok (.struct rs)) :
    C01.Forall₂ (FieldFrom E (serdeRenameAll E attrs) c r) (C01.kept targetOs fs) (recStruct c r rs).fields :=
  C01.Forall₂.map_right_iff.2
    (C01.Forall₂.imp (fun _ rf hf => ⟨rf, hf, rfl⟩) (parseStruct_fields E targetOs attrs ident gens fs rs h))

/-- **C04's parse clause through `reconcile`**: the field the back end receives is optional (C04's ground
truth `opt`) exactly when the written type (after `serialized_as`) is `Option<_>` or the field carries the
bare `serde(default)`; its decorators and `Option`-ness are those of the parsed field -/
theorem fieldFrom_opt {E : Ext} {ra : Option Str} {c : Str} {r : Renames} {f : Field} {rf' : RustField}
    (h : FieldFrom E ra c r f rf') :
    ∃ t ty, C04.effectiveType E f.attrs f.ty = some t ∧ RustTypes.tryFrom t = .ok ty ∧
      rf'.ty = checkType c r [] ty ∧
      C04.opt rf' = (C04.isOptionSyn t || C04.bareDefault f.attrs) ∧
      rf'.ty.isDoubleOptional = C04.isDoubleOptionSyn t ∧
      rf'.decorators = getFieldDecorators E f.attrs := by
  obtain ⟨rf, hp, rfl⟩ := h
  have hf := Parser.parseField_ok hp
  obtain ⟨t, het, htf⟩ := C04.fieldType_spec E f.attrs f.ty rf.ty hf.ty
  refine ⟨t, rf.ty, het, htf, rfl, ?_, ?_, hf.decorators⟩
  · rw [checkField_opt, C04.opt, hf.hasDefault, C04.serdeDefault_eq, C04.isOptional_spec t _ htf]
  · rw [← C04.isDoubleOptional_spec t _ htf]
    exact checkType_isDoubleOptional c r [] rf.ty

/-! ## the parsed items of one kind are parse results of that kind -/

theorem parseItem_struct (E : Ext) (lang : LangCfg) (targetOs : List Str) (attrs : List Attr) (ident : Str)
    (gens : List GenericParam) (fields : Fields) :
    C03.parseItem E (ctxOf lang targetOs) (.struct attrs ident gens fields) =
      parseStruct E targetOs attrs ident gens fields := rfl

theorem parseItem_enum (E : Ext) (lang : LangCfg) (targetOs : List Str) (attrs : List Attr) (ident : Str)
    (gens : List GenericParam) (vs : List Variant) :
    C03.parseItem E (ctxOf lang targetOs) (.enum attrs ident gens vs) = parseEnum E targetOs attrs ident gens vs := rfl

end TsV.Cap
