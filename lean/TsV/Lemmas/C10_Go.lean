import TsV.Lemmas.C10_Type
import TsV.Lemmas.Lang.Go
import TsV.Lemmas.Outcome
import TsV.Lemmas.RustTypes
import TsV.Model.Lang.Go
/-!
# C10 — Go: every declaration the model renders is lexically well-formed

`CfgOk` restricts to `uppercase_acronyms = []` (the acronym pass splices strings produced by the
external Unicode upper-casing at byte offsets; without entries it is the identity).  The lemmas on
declarations that pass names through it are stated over `Conf`, which says what they need of the pass.
-/
namespace TsV.C10Go
open TsV TsV.Lang TsV.C10Lex TsV.Lang.Go

/-- Go's lexer: generics are `[…]`, the back-tick delimits raw strings (struct tags) -/
def G : LexCfg := ⟨false, true⟩

structure CfgOk (cfg : Cfg) : Prop where
  acronyms : cfg.uppercaseAcronyms = []
  maps : ∀ p ∈ cfg.typeMappings, wellBracketed G p.2 = true


theorem acr_id (U : UnicodeOps) {cfg : Cfg} (H : CfgOk cfg) (name : Str) : acr U cfg name = .ok name := by
  simp [acr, convertAcronyms, H.acronyms, pure]

theorem raw_body (s : Str) (stk : List Char) (h : '`' ∉ s) : Run G s ⟨.raw, stk⟩ ⟨.raw, stk⟩ :=
  Run.loop fun c hc => if_neg fun (e : c = '`') => h (e ▸ hc)

theorem KeyStr.no_tick {s : Str} (h : KeyStr s) : '`' ∉ s :=
  fun hm => not_mem_of_class (h _ hm) (l := ['`']) (by decide +kernel) (by simp)

/-! ## `{:?}` on keys -/

/-- key characters are printable ASCII -/
theorem keyChar_range {c : Char} (h : keyChar c = true) : 32 ≤ c.toNat ∧ c.toNat < 127 := by
  simp only [keyChar, identChar, Bool.or_eq_true, beq_iff_eq] at h
  rcases h with (((h | h) | h) | rfl) | rfl
  · have := (RenameLemmas.isAsciiLower_iff c).1 h; omega
  · have := (RenameLemmas.isAsciiUpper_iff c).1 h; omega
  · have := RenameLemmas.digit_range c h; omega
  · decide
  · decide

theorem debugStr_key {s : Str} (h : KeyStr s) : debugStr s = s%"\"" ++ s ++ s%"\"" :=
  C02.debugStr_plain s fun c hc => by
    have hn : c ∉ ['"', '\\'] := not_mem_of_class (h c hc) (by decide +kernel)
    obtain ⟨hlo, hhi⟩ := keyChar_range (h c hc)
    simp only [List.mem_cons, List.not_mem_nil, or_false, not_or] at hn
    simp only [C02.plainChar, hn.1, hn.2, decide_false, Bool.or_self, Bool.false_or, Bool.not_eq_true',
      Bool.or_eq_false_iff, decide_eq_false_iff_not]
    omega

theorem debugInner_key {s : Str} (h : KeyStr s) : debugInner s = s := by
  unfold debugInner
  rw [debugStr_key h]
  simp

theorem CfgOk.mapped {cfg : Cfg} (H : CfgOk cfg) {k v : Str} (h : mapGet cfg.typeMappings k = some v) : NB G v :=
  mapGet_nb H.maps h

theorem bracket_nb (ps : List Str) (h : ∀ p ∈ ps, NB G p) : NB G (bracket ps) :=
  NB.square (NB.intercalate _ nb_commaSep ps h)

/-- A type is printed as a neutral piece; of the configuration only the type mappings matter. -/
theorem formatType_nb {cfg : Cfg} (hm : ∀ p ∈ cfg.typeMappings, wellBracketed G p.2 = true) (t : RustType) :
    ∀ (st : Imports) (s : Str) (st' : Imports), TypeOk t → formatType cfg t st = .ok (s, st') → NB G s :=
  fun st _ _ ht h => C05L.text_nb (lx := G) (c := C05L.tcfgGo cfg) .go ⟨fun _ h => (by cases h), hm⟩ [] ht
    (C05L.go_formatType cfg [] t st) h

def DocsOk (cs : List Str) : Prop := ∀ c ∈ cs, '\n' ∉ c
instance (cs : List Str) : Decidable (DocsOk cs) := by unfold DocsOk; infer_instance

theorem comments_nb (n : Nat) (cs : List Str) (h : DocsOk cs) : NB G (comments n cs) :=
  NB.flatMap _ _ fun c hc => NB.commentLine n s%" " c (by decide) (h c hc)

abbrev FieldOk := FieldScope Lang.go G DocsOk
abbrev StructOk := StructScope Lang.go G DocsOk
abbrev AliasOk := AliasScope DocsOk
abbrev VariantOk := VariantScope Lang.go G DocsOk
abbrev EnumOk := EnumScope Lang.go G DocsOk

structure GoFieldOk (f : GoField) : Prop where
  docs : DocsOk f.comments
  name : NB G f.name
  ty : NB G f.ty
  json : '`' ∉ f.jsonName

theorem renderField_nb (f : GoField) (h : GoFieldOk f) : NB G (renderField f) :=
  (Tr.h0 (comments_nb 1 _ h.docs)).l.h h.name |>.l.h h.ty |>.l.b (fun stk => raw_body f.jsonName stk h.json)
    |>.append (.ite _ .lit .nil) |>.l.nb (by decide +kernel)

/-- What the declarations need of the configuration: balanced type mappings, and an acronym pass
(`acronyms_to_uppercase`) that keeps neutral pieces, identifiers and key strings.  Without acronyms the
pass is the identity (`CfgOk.conf`); `C10_Files_GoAcr` shows the same for acronyms that are identifier
fragments. -/
structure Conf (U : UnicodeOps) (cfg : Cfg) : Prop where
  maps : ∀ p ∈ cfg.typeMappings, wellBracketed G p.2 = true
  nb : ∀ {name r : Str}, NB G name → acr U cfg name = .ok r → NB G r
  ident : ∀ {name r : Str}, IdentStr name → acr U cfg name = .ok r → IdentStr r
  key : ∀ {name r : Str}, KeyStr name → acr U cfg name = .ok r → KeyStr r

theorem CfgOk.conf (U : UnicodeOps) {cfg : Cfg} (H : CfgOk cfg) : Conf U cfg := by
  have e : ∀ {name r : Str}, acr U cfg name = .ok r → name = r :=
    fun h => Outcome.ok.inj ((acr_id U H _).symm.trans h)
  exact ⟨H.maps, fun hn h => e h ▸ hn, fun hn h => e h ▸ hn, fun hn h => e h ▸ hn⟩

theorem fieldFacts_ok {U : UnicodeOps} {cfg : Cfg} (H : Conf U cfg) (f : RustField) (hf : FieldOk f) (st : Imports)
    (g : GoField) (st' : Imports) (h : fieldFacts U cfg f st = .ok (g, st')) : GoFieldOk g := by
  obtain ⟨typeName, goType, name, hty, hgt, hname, rfl⟩ := fieldFacts_inv h
  have htn : NB G typeName := by
    split at hty
    · rename_i t ht; cases hty; exact nb_of_wb (hf.override _ ht)
    · exact formatType_nb H.maps f.ty st typeName _ hf.ty hty
  refine ⟨hf.docs, IdentStr.nb (H.ident (toPascal_ident hf.original) hname), ?_, ?_⟩
  · refine NB.append ?_ (H.nb htn hgt)
    split
    · exact Tr.l0.nb (by decide +kernel)
    · exact NB.nil
  · rw [debugInner_key hf.key]; exact KeyStr.no_tick hf.key

theorem fieldsFacts_ok {U : UnicodeOps} {cfg : Cfg} (H : Conf U cfg) (fs : List RustField) (st : Imports)
    (gs : List GoField) (st' : Imports) (hf : ∀ f ∈ fs, FieldOk f) (h : fieldsFacts U cfg fs st = .ok (gs, st')) :
    ∀ g ∈ gs, GoFieldOk g :=
  fun g hg =>
    let ⟨f, hfm, _, s, s', hfg, e⟩ := Outcome.thread_mem (g := fun _ b => b) (fun _ => rfl) (fun _ _ _ => rfl) h g hg
    e ▸ fieldFacts_ok H f (hf f hfm) s _ s' hfg

structure GoStructOk (d : GoStruct) : Prop where
  docs : DocsOk d.comments
  name : NB G d.name
  generics : ∀ g ∈ d.generics, IdentStr g
  fields : ∀ f ∈ d.fields, GoFieldOk f

theorem renderStruct_nb (d : GoStruct) (h : GoStructOk d) : NB G (renderStruct d) := by
  refine (Tr.h0 (comments_nb 0 _ h.docs)).l.h h.name |>.h ?_
    |>.l.h (NB.flatMap renderField d.fields fun f hf => renderField_nb f (h.fields f hf)) |>.l.nb (by decide +kernel)
  split
  · exact NB.nil
  · refine Tr.l0.h (NB.intercalate _ (Tr.l0.nb (by decide +kernel)) _ fun x hx => ?_) |>.l.nb (by decide +kernel)
    obtain ⟨g, hg, rfl⟩ := List.mem_map.1 hx
    exact (Tr.h0 (IdentStr.nb (h.generics g hg))).l.nb (by decide +kernel)

theorem structFacts_ok {U : UnicodeOps} {cfg : Cfg} (H : Conf U cfg) (rs : RustStruct) (hs : StructOk rs) (st : Imports)
    (d : GoStruct) (st' : Imports) (h : structFacts U cfg rs st = .ok (d, st')) : GoStructOk d := by
  obtain ⟨name, fields, hname, hf, rfl⟩ := structFacts_inv h
  exact ⟨hs.docs, KeyStr.nb (H.key hs.name hname), hs.generics, fieldsFacts_ok H rs.fields st fields _ hs.fields hf⟩

theorem writeStruct_nb {U : UnicodeOps} {cfg : Cfg} (H : Conf U cfg) (rs : RustStruct) (hs : StructOk rs)
    (st : Imports) (text : Str) (st' : Imports) (h : writeStruct U cfg rs st = .ok (text, st')) : NB G text := by
  obtain ⟨d, hd, rfl⟩ := Outcome.bind_ret_ok.1 h
  exact renderStruct_nb d (structFacts_ok H rs hs st d _ hd)

theorem writeAlias_nb {U : UnicodeOps} {cfg : Cfg} (H : Conf U cfg) (a : RustTypeAlias) (ha : AliasOk a)
    (st : Imports) (text : Str) (st' : Imports) (h : writeAlias U cfg a st = .ok (text, st')) : NB G text := by
  obtain ⟨d, hd, rfl⟩ := Outcome.bind_ret_ok.1 h
  obtain ⟨name, ty, hname, hty, rfl⟩ := aliasFacts_inv hd
  exact (Tr.h0 (comments_nb 0 _ ha.docs)).l.h (KeyStr.nb (H.key ha.renamed hname)) |>.l.h
    (formatType_nb H.maps a.ty st ty _ ha.ty hty) |>.l.nb (by decide +kernel)

/-- a constant does not pass through the acronym pass: only the type mappings matter -/
theorem writeConst_nb {U : UnicodeOps} {cfg : Cfg} (hm : ∀ p ∈ cfg.typeMappings, wellBracketed G p.2 = true)
    (c : RustConst) (hc : ConstScope c) (st : Imports) (text : Str) (st' : Imports)
    (h : writeConst U cfg c st = .ok (text, st')) : NB G text := by
  obtain ⟨d, hd, rfl⟩ := Outcome.bind_ret_ok.1 h
  obtain ⟨ty, hty, rfl⟩ := constFacts_inv hd
  exact Tr.l0.h (IdentStr.nb (toPascal_ident hc.name)) |>.l.h (formatType_nb hm c.ty st ty _ hc.ty hty) |>.l.h
    (Plain.nb (natToStr_plain G c.expr)) |>.l.nb (by decide +kernel)


theorem renderUnitEnum_nb (e : GoUnitEnum) (hd : DocsOk e.comments) (hn : NB G e.name)
    (hc : ∀ c ∈ e.consts, DocsOk c.comments ∧ NB G c.name ∧ NB G c.ty) : NB G (renderUnitEnum e) :=
  (Tr.h0 (comments_nb 0 _ hd)).l.h hn |>.l.l.h (NB.flatMap _ _ fun c hcm =>
      Tr.l0.h (comments_nb 1 _ (hc c hcm).1) |>.l.h (hc c hcm).2.1 |>.l.h (hc c hcm).2.2 |>.l.h (NB.debugStr _) |>.nb
        (by decide +kernel))
    |>.l.nb (by decide +kernel)

theorem unitConsts_ok {U : UnicodeOps} {cfg : Cfg} (H : Conf U cfg) (original : Str) (ho : IdentStr original) :
    ∀ (vs : List RustEnumVariant) (cs : List GoConst), (∀ v ∈ vs, VariantOk v) → unitConsts U cfg original vs = .ok cs →
      ∀ c ∈ cs, DocsOk c.comments ∧ NB G c.name ∧ NB G c.ty := by
  intro vs
  induction vs with
  | nil => intro cs _ h; simp only [unitConsts] at h; cases h; simp
  | cons v vs ih =>
    intro cs hv h
    cases v with
    | unit id dcs =>
      simp only [unitConsts] at h
      obtain ⟨en, hen, h⟩ := Outcome.of_bind_ok h
      obtain ⟨vn, hvn, h⟩ := Outcome.of_bind_ok h
      obtain ⟨rest, hr, h⟩ := Outcome.of_bind_ok h
      obtain rfl := Outcome.ok.inj h
      intro c hc
      simp only [List.mem_cons] at hc
      rcases hc with rfl | hc
      · have hvo := hv (.unit id dcs) (by simp)
        have h1 := H.ident ho hen
        exact ⟨hvo.1, IdentStr.nb (IdentStr.append h1 (H.ident hvo.2.1 hvn)), IdentStr.nb h1⟩
      · exact ih rest (fun w hw => hv w (by simp [hw])) hr c hc
    | tuple _ _ _ => simp [unitConsts] at h
    | anonymousStruct _ _ _ => simp [unitConsts] at h

structure AlgVariantOk (v : GoAlgVariant) : Prop where
  docs : DocsOk v.comments
  name : NB G v.name
  constName : NB G v.constName
  payload : ∀ p, v.payload = some p → NB G p.ty

structure AlgEnumOk (e : GoAlgEnum) : Prop where
  docs : DocsOk e.comments
  anonymous : ∀ s ∈ e.anonymous, GoStructOk s
  name : NB G e.name
  short : NB G e.short
  keyType : NB G e.keyType
  tagField : NB G e.tagField
  contentField : NB G e.contentField
  tagKey : KeyStr e.tagKey
  contentKey : KeyStr e.contentKey
  variants : ∀ v ∈ e.variants, AlgVariantOk v

theorem renderDecodeCase_nb (e : GoAlgEnum) (he : AlgEnumOk e) (v : GoAlgVariant) (hv : AlgVariantOk v) :
    NB G (renderDecodeCase e v) := by
  refine Tr.l0.h hv.constName |>.l.h ?_ |>.nb (by decide +kernel)
  split
  · rename_i p hp
    exact Tr.l0.h (hv.payload p hp) |>.l.h he.short |>.l.h he.contentField |>.l.nb (by decide +kernel)
  · exact Tr.l0.nb (by decide +kernel)

theorem renderAccessor_nb (e : GoAlgEnum) (he : AlgEnumOk e) (v : GoAlgVariant) (hv : AlgVariantOk v) :
    NB G (renderAccessor e v) := by
  unfold renderAccessor
  split
  · rename_i p hp
    have hty := hv.payload p hp
    exact Tr.l0.h he.short |>.l.h he.name |>.l.h hv.name |>.l.append (.ite _ .lit .nil) |>.h hty |>.l.l.h he.short
      |>.l.h he.contentField |>.l.h hty |>.l.l.append (.ite _ .nil .lit) |>.l.nb (by decide +kernel)
  · exact NB.nil

theorem renderConstructor_nb (e : GoAlgEnum) (he : AlgEnumOk e) (v : GoAlgVariant) (hv : AlgVariantOk v) :
    NB G (renderConstructor e v) := by
  unfold renderConstructor
  split
  · rename_i p hp
    exact Tr.l0.h hv.constName |>.l.append (.ite _ .lit .nil) |>.h (hv.payload p hp) |>.l.h he.name |>.l.l.h he.name
      |>.l.l.h he.tagField |>.l.h hv.constName |>.l.l.h he.contentField |>.l.append (.ite _ .nil .lit) |>.l.l.nb
      (by decide +kernel)
  · exact Tr.l0.h hv.constName |>.l.h he.name |>.l.l.h he.name |>.l.l.h he.tagField |>.l.h hv.constName |>.l.l.nb
      (by decide +kernel)

theorem renderUnmarshal_nb (e : GoAlgEnum) (he : AlgEnumOk e) : NB G (renderUnmarshal e) :=
  Tr.l0.h he.short |>.l.h he.name |>.l.l.l.h he.keyType |>.l.b (fun stk => raw_body e.tagKey stk (KeyStr.no_tick he.tagKey))
    |>.l.l.b (fun stk => raw_body e.contentKey stk (KeyStr.no_tick he.contentKey)) |>.l.l.l.l.h he.short |>.l.h he.tagField
    |>.l.l.h he.short |>.l.h he.tagField
    |>.l.h (NB.flatMap (renderDecodeCase e) e.variants fun v hv => renderDecodeCase_nb e he v (he.variants v hv))
    |>.l.l.h he.short |>.l.h he.contentField |>.l.l.nb (by decide +kernel)

theorem renderMarshal_nb (e : GoAlgEnum) (he : AlgEnumOk e) : NB G (renderMarshal e) :=
  Tr.l0.h he.short |>.l.h he.name |>.l.l.l.h he.keyType |>.l.b (fun stk => raw_body e.tagKey stk (KeyStr.no_tick he.tagKey))
    |>.l.l.b (fun stk => raw_body e.contentKey stk (KeyStr.no_tick he.contentKey)) |>.l.l.l.h he.short |>.l.h he.tagField
    |>.l.l.h he.short |>.l.h he.contentField |>.l.l.nb (by decide +kernel)

theorem renderAlgEnum_nb (e : GoAlgEnum) (he : AlgEnumOk e) : NB G (renderAlgEnum e) := by
  have tag : ∀ stk, Run G (debugStr e.tagKey) ⟨.raw, stk⟩ ⟨.raw, stk⟩ := fun stk => by
    rw [debugStr_key he.tagKey]
    exact raw_body _ _ (by simp [KeyStr.no_tick he.tagKey])
  exact (Tr.h0 (NB.flatMap renderStruct e.anonymous fun s hs => renderStruct_nb s (he.anonymous s hs))).h
      (comments_nb 0 _ he.docs)
    |>.l.h he.keyType |>.l.l.h (NB.flatMap _ _ fun v hv =>
      (Tr.h0 (comments_nb 1 _ (he.variants v hv).docs)).l.h (he.variants v hv).constName |>.l.h he.keyType |>.l.h
        (NB.debugStr _) |>.l.nb (by decide +kernel))
    |>.l.l.h he.name |>.l.l.h he.tagField |>.l.h he.keyType |>.l.b tag |>.l.l.h he.contentField |>.l.l.l.h
      (renderUnmarshal_nb e he)
    |>.l.h (renderMarshal_nb e he)
    |>.l.h (NB.flatMap (renderAccessor e) e.variants fun v hv => renderAccessor_nb e he v (he.variants v hv))
    |>.l.h (NB.flatMap (renderConstructor e) e.variants fun v hv => renderConstructor_nb e he v (he.variants v hv))
    |>.l.nb (by decide +kernel)

end TsV.C10Go
