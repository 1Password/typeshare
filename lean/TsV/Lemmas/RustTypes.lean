import TsV.Model.RustTypes
import TsV.Lemmas.Outcome
/-!
# The type parser in equational form, and induction on parsed types

`tryFrom` is written with explicit `match`es on `Outcome`s; read as binds, its equations let a proof
by induction on the syntax use the `Outcome` lemmas (`np_bind`, `of_bind_ok`, `bind_isOk_false`, …)
without looking at the matches again.  `fromPath` is a chain of six guards on the identifier:
`fromPath_arms` walks it once and says what can come out, arm by arm; the two arms guarded by a table
(`smartPointers`, `unsupported64`) get an equation each, from the fact that the tables are disjoint
from each other and from the container names.
-/
namespace TsV.RustTypes
open TsV TsV.Syn TsV.Outcome

theorem tryFrom_path_eq (q : List Str) (last : Str) (args : List SynType) :
    tryFrom (.path q last args) = (tryFromList args).bind (fromPath last) := by
  simp only [tryFrom]; cases tryFromList args <;> rfl

theorem tryFrom_slice_eq (e : SynType) : tryFrom (.slice e) = (tryFrom e).bind fun t => .ok (.slice t) := by
  simp only [tryFrom]; cases tryFrom e <;> rfl

/-- without a literal length the array is an `UnexpectedToken` whatever the element type does -/
theorem tryFrom_array_none (e : SynType) : tryFrom (.array e none) = .err .unexpectedToken := by
  simp only [tryFrom]; cases tryFrom e <;> rfl

theorem tryFrom_array_some (e : SynType) (n : Nat) : tryFrom (.array e (some n)) =
    (tryFrom e).bind fun t => if n ≤ usizeMax then .ok (.array t n) else .err .numericLiteral := by
  simp only [tryFrom]; cases tryFrom e <;> rfl

theorem tryFromList_cons_eq (t : SynType) (ts : List SynType) :
    tryFromList (t :: ts) = (tryFrom t).bind fun r => (tryFromList ts).bind fun rs => .ok (r :: rs) := by
  simp only [tryFromList]; cases tryFrom t <;> cases tryFromList ts <;> rfl

/-- what `fromPath` returns, arm by arm, each with the guard that selects it -/
theorem fromPath_arms (id : Str) (ps : List RustType) :
    fromPath id ps = .err .unsupportedType ∨ ∃ r, fromPath id ps = .ok r ∧
      ((id = s%"Vec" ∧ ∃ p t, ps = p :: t ∧ r = .vec p) ∨
       (id = s%"Option" ∧ ∃ p t, ps = p :: t ∧ r = .option p) ∨
       (id = s%"HashMap" ∧ ∃ k v t, ps = k :: v :: t ∧ r = .hashMap k v) ∨
       (id ∈ smartPointers ∧ ∃ p t, ps = p :: t ∧ r = p) ∨
       (id ≠ s%"Option" ∧ id ∉ smartPointers ∧
        ((∃ p, primTable.lookup id = some p ∧ r = .prim p) ∨ r = .simple id ∨ r = .generic id ps))) := by
  unfold fromPath
  by_cases h1 : id = s%"Vec"
  · rw [if_pos h1]
    cases ps with
    | nil => exact .inl rfl
    | cons p t => exact .inr ⟨_, rfl, .inl ⟨h1, p, t, rfl, rfl⟩⟩
  rw [if_neg h1]
  by_cases h2 : id = s%"Option"
  · rw [if_pos h2]
    cases ps with
    | nil => exact .inl rfl
    | cons p t => exact .inr ⟨_, rfl, .inr (.inl ⟨h2, p, t, rfl, rfl⟩)⟩
  rw [if_neg h2]
  by_cases h3 : id = s%"HashMap"
  · rw [if_pos h3]
    match ps with
    | [] | [_] => exact .inl rfl
    | k :: v :: t => exact .inr ⟨_, rfl, .inr (.inr (.inl ⟨h3, k, v, t, rfl, rfl⟩))⟩
  rw [if_neg h3]
  by_cases h4 : smartPointers.contains id = true
  · rw [if_pos h4]
    cases ps with
    | nil => exact .inl rfl
    | cons p t => exact .inr ⟨_, rfl, .inr (.inr (.inr (.inl ⟨List.contains_iff_mem.1 h4, p, t, rfl, rfl⟩)))⟩
  rw [if_neg h4]
  by_cases h5 : unsupported64.contains id = true
  · rw [if_pos h5]; exact .inl rfl
  rw [if_neg h5]
  have h4' : id ∉ smartPointers := fun hm => h4 (List.contains_iff_mem.2 hm)
  cases hl : primTable.lookup id with
  | some p => exact .inr ⟨_, rfl, .inr (.inr (.inr (.inr ⟨h2, h4', .inl ⟨p, rfl, rfl⟩⟩)))⟩
  | none =>
    by_cases h6 : ps.isEmpty = true
    · exact .inr ⟨_, if_pos h6, .inr (.inr (.inr (.inr ⟨h2, h4', .inr (.inl rfl)⟩)))⟩
    · exact .inr ⟨_, if_neg h6, .inr (.inr (.inr (.inr ⟨h2, h4', .inr (.inr rfl)⟩)))⟩

/-- the same without the guards: an `UnsupportedType` error, or a type that is a container of leading
parameters, the first parameter itself, a primitive of `primTable`, or the name (with the
parameters) -/
theorem fromPath_cases (id : Str) (ps : List RustType) :
    fromPath id ps = .err .unsupportedType ∨ ∃ r, fromPath id ps = .ok r ∧
      ((∃ p t, ps = p :: t ∧ (r = .vec p ∨ r = .option p ∨ r = p)) ∨
       (∃ k v t, ps = k :: v :: t ∧ r = .hashMap k v) ∨
       (∃ p, primTable.lookup id = some p ∧ r = .prim p) ∨
       r = .simple id ∨ r = .generic id ps) := by
  rcases fromPath_arms id ps with h | ⟨r, hr, h⟩
  · exact .inl h
  · refine .inr ⟨r, hr, ?_⟩
    rcases h with ⟨_, p, t, hps, hr⟩ | ⟨_, p, t, hps, hr⟩ | ⟨_, k, v, t, hps, hr⟩ | ⟨_, p, t, hps, hr⟩ | ⟨_, _, h⟩
    · exact .inl ⟨p, t, hps, .inl hr⟩
    · exact .inl ⟨p, t, hps, .inr (.inl hr)⟩
    · exact .inr (.inl ⟨k, v, t, hps, hr⟩)
    · exact .inl ⟨p, t, hps, .inr (.inr hr)⟩
    · exact .inr (.inr h)

theorem container_ne_of_mem : ∀ id ∈ smartPointers ++ unsupported64,
    id ≠ s%"Vec" ∧ id ≠ s%"Option" ∧ id ≠ s%"HashMap" := by decide +kernel

theorem not_smartPointer_of_unsupported64 : ∀ id ∈ unsupported64, smartPointers.contains id = false := by
  decide +kernel

/-- the arm of the serde-transparent wrappers (`Box`, `Arc`, …) -/
theorem fromPath_smartPointer {id : Str} (h : smartPointers.contains id = true) (p : RustType)
    (ps : List RustType) : fromPath id (p :: ps) = .ok p := by
  obtain ⟨h1, h2, h3⟩ := container_ne_of_mem id (List.mem_append_left _ (List.contains_iff_mem.1 h))
  unfold fromPath
  rw [if_neg h1, if_neg h2, if_neg h3, if_pos h]

/-- the arm of the 64-bit integers -/
theorem fromPath_unsupported64 {id : Str} (h : unsupported64.contains id = true) (ps : List RustType) :
    fromPath id ps = .err .unsupportedType := by
  have hm := List.contains_iff_mem.1 h
  obtain ⟨h1, h2, h3⟩ := container_ne_of_mem id (List.mem_append_right _ hm)
  have h4 : ¬ smartPointers.contains id = true := by
    rw [not_smartPointer_of_unsupported64 id hm]; exact Bool.false_ne_true
  unfold fromPath
  rw [if_neg h1, if_neg h2, if_neg h3, if_neg h4, if_pos h]

theorem tryFrom_reference (t : SynType) : tryFrom (.reference t) = tryFrom t := by
  simp only [tryFrom]

end TsV.RustTypes

namespace TsV

/-- Induction on a type with the arguments of a generic as a list of smaller types: the form in
which every back end's `formatType` / `formatTypes` pair recurses. -/
theorem rustType_induct {motive : RustType → Prop}
    (simple : ∀ id, motive (.simple id))
    (generic : ∀ id ps, (∀ t ∈ ps, motive t) → motive (.generic id ps))
    (vec : ∀ r, motive r → motive (.vec r))
    (array : ∀ r n, motive r → motive (.array r n))
    (slice : ∀ r, motive r → motive (.slice r))
    (hashMap : ∀ k v, motive k → motive v → motive (.hashMap k v))
    (option : ∀ r, motive r → motive (.option r))
    (prim : ∀ p, motive (.prim p)) (t : RustType) : motive t := by
  induction t using RustType.rec (motive_2 := fun ts => ∀ t ∈ ts, motive t) with
  | simple id => exact simple id
  | generic id ps ih => exact generic id ps ih
  | vec r ih => exact vec r ih
  | array r n ih => exact array r n ih
  | slice r ih => exact slice r ih
  | hashMap k v ihk ihv => exact hashMap k v ihk ihv
  | option r ih => exact option r ih
  | prim p => exact prim p
  | nil => rename_i h; cases h
  | cons t ts iht ihts =>
    rename_i x hx
    rcases List.mem_cons.1 hx with rfl | hx
    · exact iht
    · exact ihts x hx

end TsV

