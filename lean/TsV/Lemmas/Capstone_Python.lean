import TsV.Lemmas.Capstone_Items
import TsV.Lemmas.Capstone_Order
/-!
# Capstone — Python: from `writeItem … = .ok (b, st')` to the fact records and the clauses
-/
namespace TsV.Cap.Py
open TsV TsV.Syn TsV.Parser TsV.Pipeline TsV.Generate TsV.C03E TsV.Lang TsV.Lang.Python TsV.Outcome

/-- the helper classes of the struct variants -/
def innerOf : C02.Py.EnumDecl → List PyClass
  | .unit inner _ => inner
  | .union u => u.inner

theorem enumFacts_inner (E : Ext) (cfg : Cfg) (e : RustEnum) (st st' : St) (d : C02.Py.EnumDecl)
    (h : C02.Py.enumFacts E cfg e st = .ok (d, st')) :
    ∃ st1, innerFacts E cfg e (structVariants e) st = .ok (innerOf d, st1) := by
  rcases C02.Py.enumFacts_inv h with ⟨_, _, st1, _, hi, _, _, rfl⟩ | ⟨t, c, u, _, hu, rfl⟩
  · exact ⟨st1, hi⟩
  · exact C01.C01_python_enum_classes E cfg e t c st _ u hu

/-- **clauses 2 + 3 for the class of a source struct**; C04's reading of one pydantic field is a relation
(`Py.Denotes`: the same text reads bare or as `Annotated[…]`) -/
theorem struct_ok (E : Ext) (hU : E.U.AsciiCorrect) (cfg : Cfg) (targetOs : List Str) (c : Str) (r : Renames)
    (attrs : List Attr) (ident : Str) (gens : List GenericParam) (fs : List Field) (rs : RustStruct)
    (st st' : St) (cl : PyClass)
    (hparse : parseStruct E targetOs attrs ident gens (.named fs) = .ok (.struct rs))
    (hd : structFacts E cfg (recStruct c r rs) st = .ok (cl, st')) :
    StructClauses E .python (.python cfg) targetOs c r attrs fs (recStruct c r rs)
      (cl.fields.map C01.Python.boundKey) C04.Py.Denotes cl.fields := by
  refine struct_clauses E hU .python (.python cfg) (cfg, st) targetOs c r attrs ident gens fs rs _ C04.Py.Denotes _ hparse
    (by simp [C01.structKeys, hd]) ((C04.python_struct hd).imp ?_)
  intro rf' p hp hs _
  obtain ⟨core, st0, st1, hf, hden⟩ := hp hs.2.1
  exact ⟨_, core, hden, rfl, ⟨st0, st1, hf⟩⟩

/-- **clauses 2 + 4 for the declarations of a source enum** -/
theorem enum_ok (E : Ext) (hU : E.U.AsciiCorrect) (cfg : Cfg) (targetOs : List Str) (c : Str) (r : Renames)
    (attrs : List Attr) (ident : Str) (gens : List GenericParam) (vs : List Variant) (e : RustEnum)
    (st st' : St) (d : C02.Py.EnumDecl) (acronyms : List Str)
    (hparse : parseEnum E targetOs attrs ident gens vs = .ok (.enum e))
    (hd : C02.Py.enumFacts E cfg (recEnum c r e) st = .ok (d, st')) :
    EnumClauses E .python targetOs attrs vs (recEnum c r e) acronyms
      ((innerOf d).map (·.fields.map C01.Python.boundKey)) (C02.Py.wire d) := by
  obtain ⟨st1, hi⟩ := enumFacts_inner E cfg _ st st' d hd
  refine enum_clauses E hU .python (cfg, st) targetOs c r attrs ident gens vs e acronyms _ _ hparse
    (by simp [C01.enumKeys, hi]) ?_
  intro hsc hk
  exact C02.C02_backend .python E hU acronyms _ hsc hk cfg st d st' hd

end TsV.Cap.Py
