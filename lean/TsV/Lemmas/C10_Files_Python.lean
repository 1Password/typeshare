import TsV.Lemmas.C10_Type_Python
import TsV.Lemmas.C12_Python
import TsV.Lemmas.C10_Files_Common
import TsV.Lemmas.C03_Emission_Python
import TsV.Model.Lang.Python
/-!
# C10, Python — every declaration and every file the model writes is closed for `C10LexPy`

`fieldFacts_ok` … `writeItem_ok`: the rendered text is a neutral piece.  `writeItem_pres`: the printer
state keeps the invariant `StOk` (the recorded modules / identifiers are dotted names, the recorded type
variables are identifiers) — the state is printed in the header of the file.
-/
namespace TsV.C10Files.Py
open TsV TsV.Lang TsV.C10Lex TsV.Lang.Python TsV.C03E TsV.C10Files

/-- every type mapping maps to a balanced string -/
def CfgOk (cfg : Cfg) : Prop := ∀ p ∈ cfg.typeMappings, C10LexPy.wellBracketedPy p.2 = true

instance (cfg : Cfg) : Decidable (CfgOk cfg) := by unfold CfgOk; infer_instance

theorem CfgOk.mapped {cfg : Cfg} (H : CfgOk cfg) {k v : Str} (h : mapGet cfg.typeMappings k = some v) : NBp v := by
  obtain ⟨p, hp, rfl⟩ := mapGet_mem h
  exact nbp_of_wb (H p hp)

/-- the one assumption on `convert_case`'s snake-casing: names over `[A-Za-z0-9_-]` stay such names -/
def SnakeOk (E : Ext) : Prop := ∀ s, KeyStr s → KeyStr (E.snakeCase s)

structure StOk (st : Python.St) : Prop where
  imports : ∀ p ∈ st.imports, Dotted p.1 ∧ ∀ i ∈ p.2, Dotted i
  typeVars : ∀ n ∈ st.typeVars, IdentStr n

theorem stOk_empty : StOk {} := ⟨fun _ h => by simp at h, fun _ h => by simp at h⟩

def Pres (st st' : Python.St) : Prop := StOk st → StOk st'
theorem Pres.refl (st : Python.St) : Pres st st := id
theorem Pres.trans {a b c : Python.St} (h1 : Pres a b) (h2 : Pres b c) : Pres a c := fun h => h2 (h1 h)

theorem impInsert_ok {m i : Str} (hm : Dotted m) (hi : Dotted i) : ∀ {l : List (Str × List Str)},
    (∀ p ∈ l, Dotted p.1 ∧ ∀ x ∈ p.2, Dotted x) → ∀ p ∈ impInsert l m i, Dotted p.1 ∧ ∀ x ∈ p.2, Dotted x := by
  intro l
  induction l with
  | nil =>
    intro _ p hp
    simp only [impInsert, List.mem_singleton] at hp
    subst hp
    exact ⟨hm, by intro x hx; simp only [List.mem_singleton] at hx; subst hx; exact hi⟩
  | cons kv rest ih =>
    obtain ⟨k, v⟩ := kv
    intro h
    have hkv := h (k, v) (by simp)
    have hr : ∀ p ∈ rest, Dotted p.1 ∧ ∀ x ∈ p.2, Dotted x := fun p hp => h p (by simp [hp])
    simp only [impInsert]
    split
    · intro p hp
      simp only [List.mem_cons] at hp
      rcases hp with rfl | hp
      · refine ⟨hkv.1, ?_⟩
        intro x hx
        rcases TsV.Order.mem_insertSorted_iff.1 hx with rfl | hx
        · exact hi
        · exact hkv.2 x hx
      · exact hr p hp
    · split
      · intro p hp
        simp only [List.mem_cons] at hp
        rcases hp with rfl | rfl | hp
        · exact ⟨hm, by intro x hx; simp only [List.mem_singleton] at hx; subst hx; exact hi⟩
        · exact hkv
        · exact hr p hp
      · intro p hp
        simp only [List.mem_cons] at hp
        rcases hp with rfl | hp
        · exact hkv
        · exact ih hr p hp

theorem addImport_pres (st : Python.St) (m i : Str) (hm : Dotted m) (hi : Dotted i) : Pres st (addImport st m i) :=
  fun h => ⟨impInsert_ok hm hi h.imports, h.typeVars⟩

theorem addTypeVar_pres (st : Python.St) (n : Str) (hn : IdentStr n) : Pres st (addTypeVar st n) := by
  intro h
  have h1 := addImport_pres st kTyping s%"TypeVar" (by decide +kernel) (by decide +kernel) h
  refine ⟨h1.imports, ?_⟩
  intro x hx
  simp only [addTypeVar, setInsert] at hx
  rcases TsV.Order.mem_insertSorted_iff.1 hx with rfl | hx
  · exact hn
  · exact h1.typeVars x hx

theorem addImports_pres (st : Python.St) (tp : Str) : Pres st (addImports st tp) := by
  unfold addImports
  split
  · exact addImport_pres _ _ _ (by decide +kernel) (by decide +kernel)
  · split
    · exact addImport_pres _ _ _ (by decide +kernel) (by decide +kernel)
    · exact Pres.refl st

theorem addCustom_pres (st : Python.St) (t : Str) : Pres st (addCustom st t) := fun h => ⟨h.imports, h.typeVars⟩

/-- the `datetime` import added before the header is written (`fix:` commit bfc37c3) -/
theorem addDatetimeImport_pres (st : Python.St) : Pres st (addDatetimeImport st) := by
  unfold addDatetimeImport
  split
  · exact addImport_pres _ _ _ (by decide +kernel) (by decide +kernel)
  · exact Pres.refl st

theorem imports_dotted : ∀ p ∈ C12L.Python.imports, Dotted p.1 ∧ Dotted p.2 := by decide +kernel

/-- the four state updates keep `StOk` when the type variables declared are identifiers, hence so does
every printer function (`C12L.Python.Writes`) -/
theorem writes_pres {α : Type} {k : Python.St → Outcome (α × Python.St)} (hk : C12L.Python.Writes IdentStr k) :
    C12L.Along Pres k :=
  hk.along Pres.refl Pres.trans
    (fun st p hp => addImport_pres st p.1 p.2 (imports_dotted p hp).1 (imports_dotted p hp).2)
    addImports_pres addCustom_pres addTypeVar_pres

def DocsOk (cs : List Str) : Prop := ∀ c ∈ cs, '\n' ∉ c
instance (cs : List Str) : Decidable (DocsOk cs) := by unfold DocsOk; infer_instance

/-- the lexer argument of the scope structures only constrains type overrides, which the Python back
end does not read -/
def P0 : LexCfg := ⟨false, false⟩

abbrev FieldOk := FieldScope Lang.python P0 DocsOk
abbrev StructOk := StructScope Lang.python P0 DocsOk
abbrev AliasOk := AliasScope DocsOk
abbrev VariantOk := VariantScope Lang.python P0 DocsOk
abbrev EnumOk := EnumScope Lang.python P0 DocsOk
abbrev ItemOk := ItemScope Lang.python P0 DocsOk

def StrChars (s : Str) : Prop := ∀ c ∈ s, strChar c = true

theorem KeyStr.strChars {s : Str} (h : KeyStr s) : StrChars s := fun c hc => keyChar_strChar c (h c hc)

structure PyFieldOk (f : PyField) : Prop where
  name : NBp f.name
  alias : ∀ a, f.alias = some a → StrChars a
  ty : NBp f.ty
  default : ∀ d, f.default = some d → NBp d

/-- the `= Field(…)` suffix of a field line -/
def fieldSuffix (alias default : Option Str) : Str :=
  let decorators :=
    (match alias with | some a => [s%"alias=\"" ++ a ++ s%"\""] | none => []) ++
    (match default with | some d => [s%"default=" ++ d] | none => [])
  if decorators.isEmpty then [] else s%" = Field(" ++ Str.intercalate s%", " decorators ++ s%")"

theorem fieldSuffix_nbp (alias default : Option Str) (ha : ∀ a, alias = some a → StrChars a)
    (hd : ∀ d, default = some d → NBp d) : NBp (fieldSuffix alias default) := by
  cases alias with
  | none =>
    cases default with
    | none => exact NBp.nil
    | some d =>
      have e : fieldSuffix none (some d) = s%" = Field(default=" ++ d ++ s%")" := by simp [fieldSuffix, Str.intercalate]
      exact e ▸ (Tr.l0.hp (hd d rfl) |>.l.nbp (by decide +kernel))
  | some a =>
    cases default with
    | none =>
      have e : fieldSuffix (some a) none = s%" = Field(alias=\"" ++ a ++ s%"\")" := by simp [fieldSuffix, Str.intercalate]
      exact e ▸ (Tr.l0.qp (ha a rfl) |>.nbp (by decide +kernel))
    | some d =>
      have e : fieldSuffix (some a) (some d) = s%" = Field(alias=\"" ++ a ++ s%"\", default=" ++ d ++ s%")" := by
        simp [fieldSuffix, Str.intercalate]
      exact e ▸ (Tr.l0.qp (ha a rfl) |>.hp (hd d rfl) |>.l.nbp (by decide +kernel))

theorem renderField_eq (f : PyField) : renderField f =
    s%"    " ++ f.name ++ s%": " ++ f.ty ++ fieldSuffix f.alias f.default ++ nl ++ docstring 1 f.comments := rfl

theorem renderField_nbp (f : PyField) (h : PyFieldOk f) : NBp (renderField f) :=
  renderField_eq f ▸ (Tr.l0.hp h.name |>.l.hp h.ty |>.hp (fieldSuffix_nbp _ _ h.alias h.default) |>.l.hp (docstring_nbp 1 _)
    |>.nbp (by decide +kernel))

theorem propertyAwareRename_key (E : Ext) (hS : SnakeOk E) {name : Str} (h : KeyStr name) :
    KeyStr (propertyAwareRename E name) := by
  unfold propertyAwareRename
  simp only
  split
  · exact KeyStr.append h (by decide +kernel)
  · exact hS name h

theorem jsonTranslation_names {t : Str} {c : CustomFns} (h : jsonTranslation t = some c) :
    IdentStr c.deserializationName ∧ IdentStr c.serializationName := by
  unfold jsonTranslation at h
  split at h
  · cases h; exact ⟨by decide +kernel, by decide +kernel⟩
  · split at h
    · cases h; exact ⟨by decide +kernel, by decide +kernel⟩
    · cases h

theorem of_ite_some {α : Type} {c : Prop} [Decidable c] {x a : α} {P : α → Prop} (hx : P x)
    (h : (if c then some x else none) = some a) : P a := by
  split at h
  · cases h; exact hx
  · cases h

theorem fieldFacts_ok (E : Ext) (hS : SnakeOk E) {cfg : Cfg} (H : CfgOk cfg) (gens : List Str) (f : RustField)
    (hf : FieldOk f) (st : Python.St) (pf : PyField) (st' : Python.St)
    (h : fieldFacts E cfg gens f st = .ok (pf, st')) : PyFieldOk pf := by
  obtain ⟨pythonType, st1, _, hty, rfl, rfl⟩ := fieldFacts_inv h
  have htn := formatType_nbp H gens f.ty st pythonType st1 hf.ty hty
  have hname := propertyAwareRename_key E hS (IdentStr.key hf.original)
  have hopt : NBp (if (!f.ty.isOptional && f.hasDefault) = true then s%"Optional[" ++ pythonType ++ s%"]" else pythonType) := by
    split
    · exact Tr.l0.hp htn |>.l.nbp (by decide +kernel)
    · exact htn
  refine ⟨KeyStr.nbp hname, fun a ha => of_ite_some (P := StrChars) (KeyStr.strChars hf.key) ha, ?_,
    fun d hd => of_ite_some (P := NBp) (Tr.l0.nbp (by decide +kernel)) hd⟩
  dsimp only
  cases hc : jsonTranslation pythonType with
  | none => exact hopt
  | some c =>
    obtain ⟨hn1, hn2⟩ := jsonTranslation_names hc
    exact Tr.l0.hp hopt |>.l.hp (IdentStr.nbp hn1) |>.l.hp (IdentStr.nbp hn2) |>.l.nbp (by decide +kernel)

theorem fieldsFacts_ok (E : Ext) (hS : SnakeOk E) {cfg : Cfg} (H : CfgOk cfg) (gens : List Str) :
    ∀ (fs : List RustField) (st : Python.St) (pfs : List PyField) (st' : Python.St), (∀ f ∈ fs, FieldOk f) →
      fieldsFacts E cfg gens fs st = .ok (pfs, st') → ∀ pf ∈ pfs, PyFieldOk pf :=
  thread_forall (fun _ => rfl) (fun _ _ _ => rfl)
    fun f st pf st' hf h => fieldFacts_ok E hS H gens f hf st pf st' h

structure PyClassOk (c : PyClass) : Prop where
  name : NBp c.name
  generics : ∀ g ∈ c.generics, IdentStr g
  fields : ∀ f ∈ c.fields, PyFieldOk f

theorem renderClass_nbp (c : PyClass) (h : PyClassOk c) : NBp (renderClass c) := by
  refine Tr.l0.hp h.name |>.l.hp ?_ |>.l.hp (docstring_nbp 1 c.comments)
    |>.append (.ite _ .lit .nil) |>.hp (NBp.flatMap renderField c.fields fun f hf => renderField_nbp f (h.fields f hf))
    |>.append (.ite _ .lit .nil) |>.l.nbp (by decide +kernel)
  exact C10Lex.Tr.ite _ .lit (Tr.l0.hp (NBp.intercalate _ nbp_commaSep _ fun g hg => IdentStr.nbp (h.generics g hg)) |>.l)
    |>.nbp (by decide +kernel)

theorem structFacts_ok (E : Ext) (hS : SnakeOk E) {cfg : Cfg} (H : CfgOk cfg) (rs : RustStruct) (hs : StructOk rs)
    (st : Python.St) (c : PyClass) (st' : Python.St) (h : structFacts E cfg rs st = .ok (c, st')) : PyClassOk c := by
  obtain ⟨_, fields, hf, rfl⟩ := structFacts_inv h
  exact ⟨KeyStr.nbp hs.name, hs.generics,
    fieldsFacts_ok E hS H rs.genericTypes rs.fields _ fields _ (fun f hf => hs.fields f hf) hf⟩

theorem upperStr_key (U : UnicodeOps) (hU : U.AsciiCorrect) {s : Str} (h : KeyStr s) : KeyStr (U.upperStr s) :=
  upperStr_class keyChar_ascii keyChar_upper U hU h

theorem writeAlias_ok {cfg : Cfg} (H : CfgOk cfg) (a : RustTypeAlias) (ha : AliasOk a) (st : Python.St) (text : Str)
    (st' : Python.St) (h : ((aliasFacts cfg a st).bind fun (pa, st) => Outcome.ok (renderAlias pa, st)) = .ok (text, st')) :
    NBp text := by
  obtain ⟨pa, hpa, rfl⟩ := Outcome.bind_ret_ok.1 h
  obtain ⟨ty, st2, hty, _, rfl⟩ := aliasFacts_inv hpa
  have hn := formatType_nbp H a.genericTypes a.ty st ty st2 ha.ty hty
  exact (Tr.h0 (KeyStr.nbp ha.renamed)).l.hp hn |>.l.hp (docstring_nbp 0 _) |>.nbp (by decide +kernel)

theorem writeConst_ok (E : Ext) (hU : E.U.AsciiCorrect) {cfg : Cfg} (H : CfgOk cfg) (c : RustConst) (hc : ConstScope c)
    (st : Python.St) (text : Str) (st' : Python.St)
    (h : ((constFacts E cfg c st).bind fun (pc, st) => Outcome.ok (renderConst pc, st)) = .ok (text, st')) :
    NBp text := by
  obtain ⟨pc, hpc, rfl⟩ := Outcome.bind_ret_ok.1 h
  obtain ⟨ty, hty, rfl⟩ := constFacts_inv hpc
  have hn := formatType_nbp H [] c.ty st ty _ hc.ty hty
  exact (Tr.h0 (IdentStr.nbp (upperStr_ident E.U hU (toSnake_ident E.U hc.name)))).l.hp hn |>.l.hp (natToStr_nbp _) |>.l.nbp
    (by decide +kernel)

theorem KeyStr.no_quote {s : Str} (h : KeyStr s) : '"' ∉ s := by
  intro hm; have := h _ hm; revert this; decide +kernel

/-- `    NAME = "wire"\n` -/
theorem memberLine_nbp (name wire : Str) (hn : NBp name) (hw : StrChars wire) :
    NBp (s%"    " ++ name ++ s%" = \"" ++ wire ++ s%"\"\n") :=
  Tr.l0.hp hn |>.l.qp hw |>.nbp (by decide +kernel)

structure PyMemberOk (m : PyMember) : Prop where
  name : NBp m.name
  wire : KeyStr m.wire

theorem renderEnumClass_nbp (c : PyEnumClass) (hn : NBp c.name) (hm : ∀ m ∈ c.members, PyMemberOk m) :
    NBp (renderEnumClass c) := by
  refine Tr.l0.hp hn |>.l.hp (docstring_nbp 1 _) |>.hp ?_ |>.nbp (by decide +kernel)
  split
  · exact Tr.l0.nbp (by decide +kernel)
  · refine NBp.flatMap _ _ fun m hmm => ?_
    rw [RenameLemmas.replaceChar_absent _ _ _ (KeyStr.no_quote (hm m hmm).wire)]
    exact (memberLine_nbp m.name m.wire (hm m hmm).name (KeyStr.strChars (hm m hmm).wire)).append (docstring_nbp 1 _)

theorem unitMembers_ok (E : Ext) (hU : E.U.AsciiCorrect) : ∀ (vs : List RustEnumVariant) (ms : List PyMember),
    (∀ v ∈ vs, VariantOk v) → unitMembers E vs = .ok ms → ∀ m ∈ ms, PyMemberOk m := by
  intro vs
  induction vs with
  | nil => intro ms _ h; simp only [unitMembers] at h; cases h; simp
  | cons v vs ih =>
    intro ms hv h
    cases v with
    | unit id cs =>
      simp only [unitMembers] at h
      obtain ⟨rest, hr, h⟩ := Outcome.of_bind_ok h
      cases h
      intro m hm
      simp only [List.mem_cons] at hm
      rcases hm with rfl | hm
      · have hvo := hv (.unit id cs) (by simp)
        exact ⟨IdentStr.nbp (upperStr_ident E.U hU hvo.2.1), hvo.2.2⟩
      · exact ih rest (fun w hw => hv w (by simp [hw])) hr m hm
    | tuple _ _ _ => simp [unitMembers] at h
    | anonymousStruct _ _ _ => simp [unitMembers] at h

theorem innerFacts_ok (E : Ext) (hS : SnakeOk E) {cfg : Cfg} (H : CfgOk cfg) (e : RustEnum) (he : EnumOk e) :
    ∀ (l : List (Id × List RustField)) (st : Python.St) (cs : List PyClass) (st' : Python.St),
    (∀ p ∈ l, IdentStr p.1.original ∧ ∀ f ∈ p.2, FieldOk f) →
    innerFacts E cfg e l st = .ok (cs, st') → ∀ c ∈ cs, PyClassOk c :=
  thread_forall
    (f := fun (p : Id × List RustField) st =>
      structFacts E cfg (anonymousStruct e (innerName e p.1.original) p.1.original p.2) st)
    (A := fun p => IdentStr p.1.original ∧ ∀ f ∈ p.2, FieldOk f) (fun _ => rfl) (fun _ _ _ => rfl)
    fun p st c st' hp h => structFacts_ok E hS H _ (anonymousStruct_scope he
      (KeyStr.append (KeyStr.append he.renamed (IdentStr.key hp.1)) (by decide +kernel : KeyStr s%"Inner"))
      (anonymousStruct_docs e _ _ p.2 hp.1 he.original) hp.2) st c st' h

structure PyVariantOk (v : PyVariant) : Prop where
  className : NBp v.className
  tagKey : NBp v.tagKey
  tagLiteral : NBp v.tagLiteral
  contentKey : NBp v.contentKey
  contentType : ∀ t, v.contentType = some t → NBp t

theorem renderVariant_nbp (v : PyVariant) (h : PyVariantOk v) : NBp (renderVariant v) := by
  refine Tr.l0.hp h.className |>.l.hp (docstring_nbp 1 v.comments) |>.l.hp h.tagKey |>.l.hp h.tagLiteral
    |>.l.hp h.tagLiteral |>.l.hp ?_ |>.l.nbp (by decide +kernel)
  split
  · exact NBp.nil
  · rename_i t ht
    exact Tr.l0.hp h.contentKey |>.l.hp (h.contentType t ht) |>.l.nbp (by decide +kernel)

theorem tagMemberName_key (E : Ext) (hU : E.U.AsciiCorrect) (hS : SnakeOk E) {s : Str} (h : KeyStr s) :
    KeyStr (tagMemberName E s) := upperStr_key E.U hU (hS s h)

theorem variantFacts_ok (E : Ext) (hU : E.U.AsciiCorrect) (hS : SnakeOk E) {cfg : Cfg} (H : CfgOk cfg) (e : RustEnum)
    (he : EnumOk e) (tag content : Str) (htag : IdentStr tag) (hcontent : KeyStr content) (v : RustEnumVariant)
    (hv : VariantOk v) (st : Python.St) (pv : PyVariant) (st' : Python.St)
    (h : variantFacts E cfg e tag content v st = .ok (pv, st')) : PyVariantOk pv := by
  have hcls : NBp (e.id.renamed ++ v.id.original) := KeyStr.nbp (KeyStr.append he.renamed (IdentStr.key hv.original))
  have hlit : NBp (e.id.renamed ++ s%"Types." ++ tagMemberName E v.id.renamed) := by
    refine Dotted.nbp ?_
    intro c hc
    simp only [List.mem_append] at hc
    rcases hc with (hc | hc) | hc
    · simp [dottedChar, he.renamed c hc]
    · revert c; decide +kernel
    · simp [dottedChar, tagMemberName_key E hU hS hv.renamed c hc]
  obtain ⟨ct, rfl, hct⟩ := variantFacts_inv h
  refine ⟨hcls, IdentStr.nbp htag, hlit, KeyStr.nbp hcontent, fun t ht => ?_⟩
  cases v with
  | unit id cs => rw [← hct] at ht; cases ht
  | tuple id cs ty =>
    obtain ⟨t', st1, hf, rfl⟩ := hct
    cases ht
    exact formatType_nbp H e.genericTypes ty st t st1 hv.2.2.2 hf
  | anonymousStruct id cs fs =>
    rw [← hct] at ht; cases ht
    exact KeyStr.nbp (KeyStr.append (KeyStr.append he.renamed (IdentStr.key hv.2.1)) (by decide +kernel : KeyStr s%"Inner"))

theorem variantsFacts_ok (E : Ext) (hU : E.U.AsciiCorrect) (hS : SnakeOk E) {cfg : Cfg} (H : CfgOk cfg) (e : RustEnum)
    (he : EnumOk e) (tag content : Str) (htag : IdentStr tag) (hcontent : KeyStr content) :
    ∀ (vs : List RustEnumVariant) (st : Python.St) (pvs : List PyVariant) (st' : Python.St), (∀ v ∈ vs, VariantOk v) →
      variantsFacts E cfg e tag content vs st = .ok (pvs, st') → ∀ pv ∈ pvs, PyVariantOk pv :=
  thread_forall (fun _ => rfl) (fun _ _ _ => rfl)
    fun v st pv st' hv h => variantFacts_ok E hU hS H e he tag content htag hcontent v hv st pv st' h

structure PyUnionOk (u : PyUnion) : Prop where
  name : NBp u.name
  docs : DocsOk u.comments
  inner : ∀ c ∈ u.inner, PyClassOk c
  typesName : NBp u.typesName
  tags : ∀ m ∈ u.tags, PyMemberOk m
  variants : ∀ v ∈ u.variants, PyVariantOk v

/-- the lines of the `…Types` enumeration, each with its line break -/
theorem tagLines_nbp (tags : List PyMember) (h : ∀ m ∈ tags, PyMemberOk m) :
    NBp (Str.intercalate nl (tags.map fun m => s%"    " ++ m.name ++ s%" = \"" ++ m.wire ++ s%"\"") ++ nl) := by
  cases htags : tags with
  | nil => exact NBp.nl
  | cons m ms =>
    rw [← htags, intercalate_nl _ (by simp [htags])]
    apply NBp.flatMap
    intro x hx
    simp only [List.mem_map] at hx
    obtain ⟨m', hm', rfl⟩ := hx
    have hmo := h m' hm'
    have e : s%"    " ++ m'.name ++ s%" = \"" ++ m'.wire ++ s%"\"" ++ nl = s%"    " ++ m'.name ++ s%" = \"" ++ m'.wire ++ s%"\"\n" := by
      simp [nl]
    rw [e]
    exact memberLine_nbp m'.name m'.wire hmo.name (KeyStr.strChars hmo.wire)

theorem renderUnion_nbp (u : PyUnion) (h : PyUnionOk u) : NBp (renderUnion u) := by
  refine (Tr.h0 (NBp.flatMap renderClass u.inner fun c hc => renderClass_nbp c (h.inner c hc))).l.hp h.typesName
    |>.l.append₂ (Tr.h0 (tagLines_nbp u.tags h.tags))
    |>.l.hp (NBp.flatMap renderVariant u.variants fun v hv => renderVariant_nbp v (h.variants v hv))
    |>.hp (hashComments_nbp 0 _ h.docs) |>.hp ?_ |>.nbp (by decide +kernel)
  split
  · rename_i v hv
    exact (Tr.h0 h.name).l.hp (h.variants v (by simp [hv])).className |>.l.nbp (by decide +kernel)
  · refine (Tr.h0 h.name).l.hp (NBp.intercalate _ (Tr.l0.nbp (by decide +kernel)) _ fun x hx => ?_) |>.l.l.nbp (by decide +kernel)
    obtain ⟨v, hv, rfl⟩ := List.mem_map.1 hx
    exact (h.variants v hv).className


theorem unionFacts_ok (E : Ext) (hU : E.U.AsciiCorrect) (hS : SnakeOk E) {cfg : Cfg} (H : CfgOk cfg) (e : RustEnum)
    (he : EnumOk e) (tag content : Str) (hk : e.keys = some (tag, content)) (st : Python.St) (u : PyUnion)
    (st' : Python.St) (h : unionFacts E cfg e tag content st = .ok (u, st')) : PyUnionOk u := by
  obtain ⟨inner, st1, _, variants, st2, hin, hvs, rfl⟩ := unionFacts_inv h
  have hi := innerFacts_ok E hS H e he _ st inner st1 (structVariants_scope e he) hin
  have hv := variantsFacts_ok E hU hS H e he tag content (he.tag _ hk) (he.content _ hk) e.variants _ variants st2
    he.variants hvs
  refine ⟨KeyStr.nbp he.renamed, he.docs, hi, KeyStr.nbp (KeyStr.append he.renamed (by decide +kernel : KeyStr s%"Types")), ?_, hv⟩
  intro m hm
  simp only [List.mem_map] at hm
  obtain ⟨v, hvm, rfl⟩ := hm
  exact ⟨KeyStr.nbp (tagMemberName_key E hU hS (he.variants v hvm).renamed), (he.variants v hvm).renamed⟩

/-- **Python enums** (unit enums as `(str, Enum)` classes; algebraic enums as the classes of the
struct variants, the `…Types` enumeration, one class per variant and the union alias) -/
theorem writeEnum_ok (E : Ext) (hU : E.U.AsciiCorrect) (hS : SnakeOk E) {cfg : Cfg} (H : CfgOk cfg) (e : RustEnum)
    (he : EnumOk e) (st : Python.St) (text : Str) (st' : Python.St) (h : writeEnum E cfg e st = .ok (text, st')) :
    NBp text := by
  obtain ⟨d, hd, rfl⟩ := C02.Py.writeEnum_inv h
  rcases C02.Py.enumFacts_inv hd with ⟨_, inner, st1, members, hin, _, hm, rfl⟩ | ⟨tag, content, u, hk, hu, rfl⟩
  · have hi := innerFacts_ok E hS H e he _ st inner st1 (structVariants_scope e he) hin
    refine NBp.append (NBp.flatMap _ _ fun c hc => renderClass_nbp c (hi c hc)) ?_
    exact renderEnumClass_nbp { name := e.id.renamed, comments := e.comments, members := members } (KeyStr.nbp he.renamed)
      (unitMembers_ok E hU e.variants members he.variants hm)
  · exact renderUnion_nbp u (unionFacts_ok E hU hS H e he tag content hk st u _ hu)

theorem writeItem_ok (E : Ext) (hU : E.U.AsciiCorrect) (hS : SnakeOk E) {cfg : Cfg} (H : CfgOk cfg) (it : RustItem)
    (hs : ItemOk it) (st : Python.St) (text : Str) (st' : Python.St) (h : writeItem E cfg it st = .ok (text, st')) :
    NBp text := by
  cases it with
  | struct s =>
    obtain ⟨c, hc, rfl⟩ := Outcome.bind_ret_ok.1 h
    exact renderClass_nbp c (structFacts_ok E hS H s hs st c _ hc)
  | «enum» e => exact writeEnum_ok E hU hS H e hs st text st' h
  | alias a => exact writeAlias_ok H a hs st text st' h
  | const c => exact writeConst_ok E hU H c hs st text st' h

theorem writeItem_pres (E : Ext) (cfg : Cfg) (it : RustItem) (hs : ItemOk it) : C12L.Along Pres (writeItem E cfg it) :=
  writes_pres (C12L.Python.writeItem_writes E cfg it (by
    cases it with
    | struct s => exact hs.generics
    | «enum» e => exact hs.generics
    | alias a => exact hs.generics
    | const c => exact fun _ h => nomatch h))

theorem dotted_tri (v : Str) (h : Dotted v) (stk : List Char) : Run v ⟨.tri '"', stk⟩ ⟨.tri '"', stk⟩ :=
  Run.loop fun c hc => by
    have h1 : c ≠ '\\' := fun e => absurd (h c hc) (e ▸ by decide)
    have h2 : c ≠ '"' := fun e => absurd (h c hc) (e ▸ by decide)
    simp only [C10LexPy.step, h1, h2, if_false]

theorem beginFile_nbp (cfg : Cfg) (hv : ∀ v, cfg.versionHeader = some v → Dotted v) : NBp (beginFile cfg) := by
  unfold beginFile
  split
  · rename_i v hv'
    exact Tr.l0.bp (dotted_tri v (hv v hv')) |>.l.nbp (by decide +kernel)
  · exact NBp.nil

theorem typeVarLine_nbp (n : Str) (h : IdentStr n) : NBp (n ++ s%" = TypeVar(\"" ++ n ++ s%"\")") :=
  (Tr.h0 (IdentStr.nbp h)).l.qp (KeyStr.strChars (IdentStr.key h)) |>.nbp (by decide +kernel)

theorem writeAllImports_nbp (st : Python.St) (h : StOk st) : NBp (writeAllImports st) := by
  unfold writeAllImports
  refine Tr.l0.hp (NBp.intercalate _ NBp.nl _ fun x hx => ?_) |>.l.hp ?_ |>.nbp (by decide +kernel)
  · obtain ⟨⟨m, ids⟩, hp, rfl⟩ := List.mem_map.1 ((List.mem_mergeSort).1 hx)
    obtain ⟨hm, hids⟩ := h.imports _ hp
    exact Tr.l0.hp (Dotted.nbp hm) |>.l.hp (NBp.intercalate _ (Tr.l0.nbp (by decide +kernel)) _ fun i hi => Dotted.nbp (hids i hi)) |>.nbp
      (by decide +kernel)
  · split
    · exact NBp.nl
    · refine (Tr.h0 (NBp.intercalate _ NBp.nl _ fun x hx => ?_)).l.nbp (by decide +kernel)
      obtain ⟨n, hn, rfl⟩ := List.mem_map.1 hx
      exact typeVarLine_nbp n (h.typeVars n hn)

theorem bytesFns_nbp : NBp (bytesFns.serializationContent ++ s%"\n\n" ++ bytesFns.deserializationContent ++ nl ++ nl) :=
  nbp_of_wb (by decide +kernel)
theorem datetimeFns_nbp :
    NBp (datetimeFns.serializationContent ++ s%"\n\n" ++ datetimeFns.deserializationContent ++ nl ++ nl) :=
  nbp_of_wb (by decide +kernel)

theorem writeCustomFns_nbp (st : Python.St) : NBp (writeCustomFns st) := by
  unfold writeCustomFns
  apply NBp.flatMap
  intro c hc
  simp only [List.mem_filterMap] at hc
  obtain ⟨t, _, ht⟩ := hc
  unfold jsonTranslation at ht
  split at ht
  · cases ht; exact bytesFns_nbp
  · split at ht
    · cases ht; exact datetimeFns_nbp
    · cases ht

theorem generate_ok (E : Ext) (hU : E.U.AsciiCorrect) (hS : SnakeOk E) {cfg : Cfg} (H : CfgOk cfg)
    (hv : ∀ v, cfg.versionHeader = some v → Dotted v) (d : ParsedData)
    (hitems : ∀ it ∈ TsV.C12L.itemsOf d, ItemOk it) (st0 : Python.St) (h0 : StOk st0) (text : Str) (st : Python.St)
    (h : generate E cfg d st0 = .ok (text, st)) : NBp text ∧ StOk st := by
  obtain ⟨items, blocks, st1, ho, hth, rfl, rfl⟩ := TsV.C03E.Py.generate_blocks E cfg d st0 text _ h
  obtain ⟨hb, hst1⟩ := Threaded.inv (P := StOk) (Q := NBp) hth h0 (fun it hit s b s' hs hw =>
    have hi := hitems it (mem_of_generateOrder ho hit)
    ⟨writeItem_ok E hU hS H it hi s b s' hw, writeItem_pres E cfg it hi s b s' hw hs⟩)
  have hst := addDatetimeImport_pres st1 hst1
  exact ⟨(((beginFile_nbp cfg hv).append (writeAllImports_nbp _ hst)).append (writeCustomFns_nbp _)).append
    (NBp.flatten _ hb), hst⟩

def JobsOk (jobs : List (Str × ParsedData × Option Pipeline.ScopedCrateTypes)) : Prop :=
  ∀ j ∈ jobs, ∀ it ∈ TsV.C12L.itemsOf j.2.1, ItemOk it

theorem generateFrom_ok (E : Ext) (hU : E.U.AsciiCorrect) (hS : SnakeOk E) {cfg : Cfg} (H : CfgOk cfg)
    (hv : ∀ v, cfg.versionHeader = some v → Dotted v) :
    ∀ (jobs : List (Str × ParsedData × Option Pipeline.ScopedCrateTypes)) (st0 : Python.St), StOk st0 → JobsOk jobs →
      ∀ outs, generateFrom E cfg jobs st0 = .ok outs → ∀ o ∈ outs, NBp o.2 :=
  fun _ _ h0 hj _ h o ho =>
    have ⟨j, hjm, stIn, st, hi, hg⟩ := TsV.C12L.threaded_mem (step := fun j st => generate E cfg j.2.1 st) (I := StOk)
      (fun _ => rfl) (fun _ _ _ => rfl)
      (fun j hjm st text st' hg hi => (generate_ok E hU hS H hv j.2.1 (hj j hjm) st hi text st' hg).2) h h0 o ho
    (generate_ok E hU hS H hv j.2.1 (hj j hjm) stIn hi o.2 st hg).1

end TsV.C10Files.Py
