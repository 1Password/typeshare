import TsV.Lemmas.Lang.Kotlin
import TsV.Lemmas.C04_Common
import TsV.Lemmas.Printers
/-!
# C04 for the Kotlin back end (`write_element` in kotlin.rs)
-/
namespace TsV.C04.Kt
open TsV TsV.Lang TsV.Lang.Kotlin TsV.C04

/-! ## binding semantics (trusted specification)

Kotlin's idiom for an optional constructor parameter is a nullable type with default `null`:
`val x: T? = null`.  `KtParam.dflt` is the text after the type: `? = null` completes the idiom by
itself; ` = null` completes it when the printed type already ends in `?`. -/

def isOptional (p : KtParam) : Bool :=
  p.dflt == s%"? = null" || (p.dflt == s%" = null" && endsWith p.ty s%"?")

/-- the type without the marker -/
def stripOptional (p : KtParam) : Str :=
  if p.dflt == s%" = null" && endsWith p.ty s%"?" then p.ty.dropLast else p.ty

/-- the three forms of a parameter and how the semantics reads them -/
theorem reads_nullable {p : KtParam} {s : Str} (hd : p.dflt = s%" = null") (ht : p.ty = s ++ s%"?") :
    isOptional p = true ∧ stripOptional p = s := by
  have he : endsWith p.ty s%"?" = true := by rw [ht]; exact endsWith_append _ _
  unfold isOptional stripOptional
  rw [hd, he]
  exact ⟨by decide, by rw [if_pos (by decide), ht]; exact dropLast_append_singleton s '?'⟩

theorem reads_defaulted {p : KtParam} (hd : p.dflt = s%"? = null") :
    isOptional p = true ∧ stripOptional p = p.ty := by
  simp [isOptional, stripOptional, hd]

theorem reads_required {p : KtParam} (hd : p.dflt = []) : isOptional p = false ∧ stripOptional p = p.ty := by
  simp [isOptional, stripOptional, hd]

theorem formatType_option (cfg : Cfg) (gens : List Str) (r : RustType) :
    formatType cfg gens (.option r) = (formatType cfg gens r).bind fun s => .ok (s ++ s%"?") := by
  show (match formatType cfg gens r with | .ok s => _ | .err e => _ | .panic s => _) = _
  cases formatType cfg gens r <;> rfl

theorem formatType_option_ok {cfg : Cfg} {gens : List Str} {r : RustType} {t : Str}
    (h : formatType cfg gens (.option r) = .ok t) :
    ∃ s, formatType cfg gens r = .ok s ∧ t = s ++ s%"?" := by
  rw [formatType_option] at h
  exact (Outcome.of_bind_ret h).imp fun _ h => ⟨h.1, h.2.symm⟩

theorem paramFacts_ok {cfg : Cfg} {gens : List Str} {rsn priv : Bool} {f : RustField} {p : KtParam}
    (h : paramFacts cfg gens rsn priv f = .ok p) :
    p.dflt = defaultSuffix f ∧
    (match typeOverride f .kotlin with
     | some t => p.ty = t
     | none => formatType cfg gens f.ty = .ok p.ty) := by
  obtain ⟨ty, hty, rfl⟩ := Outcome.of_bind_ret h
  refine ⟨rfl, ?_⟩
  cases ho : typeOverride f .kotlin with
  | some t => rw [ho] at hty; simp at hty; simp [hty]
  | none => rw [ho] at hty; simpa using hty

theorem defaultSuffix_option (f : RustField) (h : f.ty.isOptional = true) : defaultSuffix f = s%" = null" := by
  simp [defaultSuffix, h]

theorem defaultSuffix_default (f : RustField) (h : f.ty.isOptional = false) (hd : f.hasDefault = true) :
    defaultSuffix f = s%"? = null" := by
  simp [defaultSuffix, h, hd]

theorem defaultSuffix_required (f : RustField) (h : f.ty.isOptional = false) (hd : f.hasDefault = false) :
    defaultSuffix f = [] := by
  simp [defaultSuffix, h, hd]

/-- **Kotlin, one field** (no `kotlin(type = …)` override): the parameter is `T? = null` exactly
when the field is `Option<_>` or has `serde(default)`, and without the marker the type is the
translation of the `Option`-stripped Rust type -/
theorem field {cfg : Cfg} {gens : List Str} {rsn priv : Bool} {f : RustField} {p : KtParam}
    (hov : typeOverride f .kotlin = none) (h : paramFacts cfg gens rsn priv f = .ok p) :
    isOptional p = opt f ∧ formatType cfg gens (stripOption f.ty) = .ok (stripOptional p) := by
  obtain ⟨hd, ht⟩ := paramFacts_ok h
  rw [hov] at ht
  simp only at ht
  cases ho : f.ty.isOptional with
  | true =>
    obtain ⟨r, hr⟩ := (isOptional_iff _).1 ho
    rw [hr] at ht
    obtain ⟨s, hs, hts⟩ := formatType_option_ok ht
    rw [defaultSuffix_option f ho] at hd
    obtain ⟨hi, hst⟩ := reads_nullable hd hts
    exact ⟨by rw [hi, opt, ho]; rfl, by rw [hst, hr]; exact hs⟩
  | false =>
    rw [stripOption_of_not_optional _ ho]
    cases hdef : f.hasDefault with
    | true =>
      rw [defaultSuffix_default f ho hdef] at hd
      obtain ⟨hi, hst⟩ := reads_defaulted hd
      exact ⟨by rw [hi, opt, hdef, Bool.or_true], by rw [hst]; exact ht⟩
    | false =>
      rw [defaultSuffix_required f ho hdef] at hd
      obtain ⟨hi, hst⟩ := reads_required hd
      exact ⟨by rw [hi, opt, ho, hdef]; rfl, by rw [hst]; exact ht⟩

/-- with a `kotlin(type = "t")` override the text `t` replaces the translated type *including* the
`?` that `Option` would have contributed; the `serde(default)` marker is still appended -/
theorem field_override {cfg : Cfg} {gens : List Str} {rsn priv : Bool} {f : RustField} {p : KtParam} {t : Str}
    (hov : typeOverride f .kotlin = some t) (h : paramFacts cfg gens rsn priv f = .ok p) :
    p.ty = t ∧
    isOptional p = ((f.hasDefault && !f.ty.isOptional) || (f.ty.isOptional && endsWith t s%"?")) := by
  obtain ⟨hd, ht⟩ := paramFacts_ok h
  rw [hov] at ht
  simp only at ht
  refine ⟨ht, ?_⟩
  cases ho : f.ty.isOptional <;> cases hdef : f.hasDefault <;>
    simp [isOptional, hd, defaultSuffix, ho, hdef, ht]

/-- the fact record belongs to the field -/
def FieldGen (cfg : Cfg) (gens : List Str) (f : RustField) (p : KtParam) : Prop :=
  ∃ rsn priv, paramFacts cfg gens rsn priv f = .ok p

theorem paramsFacts_pointwise (cfg : Cfg) (gens : List Str) (rsn : Bool)
    (fs : List RustField) (ps : List KtParam) (h : paramsFacts cfg gens rsn fs = .ok ps) :
    Pointwise (FieldGen cfg gens) fs ps :=
  (mapM'_pointwise _ _ _ (paramsFacts_eq gens cfg rsn ▸ h)).imp fun _ _ hp => ⟨rsn, false, hp⟩

/-- the constructor parameters of a declaration -/
def params : KtDecl → List KtParam
  | .dataClass _ _ _ ps _ => ps
  | .valueClass _ _ p _ => [p]
  | _ => []

/-- **every field of every struct** has its parameter, in order -/
theorem struct_fields {cfg : Cfg} {rs : RustStruct} {d : KtDecl} (h : structFacts cfg rs = .ok d) :
    Pointwise (FieldGen cfg rs.genericTypes) rs.fields (params d) := by
  obtain ⟨he, rfl⟩ | ⟨-, ps, hps, rfl⟩ := structFacts_inv h
  · rw [he]; exact .nil
  · exact paramsFacts_pointwise _ _ _ _ _ hps

/-- **every field of every struct variant**: the helper classes come first, one per struct
variant in order, and their parameters belong to the variant's fields -/
theorem variant_fields {cfg : Cfg} {e : RustEnum} {ds : List KtDecl} (h : enumFacts cfg e = .ok ds) :
    ∃ inners last, ds = inners ++ [last] ∧
      Pointwise (fun (v : Id × List RustField) d => ∃ gens, Pointwise (FieldGen cfg gens) v.2 (params d))
        (structVariants e) inners := by
  obtain ⟨inners, last, hi, -, rfl⟩ := enumFacts_inv h
  exact ⟨inners, last, rfl, (mapM'_pointwise _ _ _ (innerStructs_inv hi)).imp fun _ _ hd => ⟨_, struct_fields hd⟩⟩

/-- **newtype-variant payload**: the marker lives in the type — the payload is printed as the
translation of the payload type (so `Option<T>` gives `T?`, by `formatType_option`) -/
theorem payload {cfg : Cfg} {e : RustEnum} {ck : Str} {id : Id} {cs : List Str} {ty : RustType} {c : KtCase}
    (h : caseFacts cfg e ck (.tuple id cs ty) = .ok c) :
    ∃ t, c.payload = .content ck t ∧ formatType cfg e.genericTypes ty = .ok t := by
  obtain ⟨t, ht, rfl⟩ := Outcome.of_bind_ret h
  exact ⟨t, rfl, ht⟩

/-- **alias** (`type X = …` and newtype structs): a `typealias` of the translated type; with the
`JvmInline` decorator, a value class whose single parameter follows the field rule -/
theorem alias {cfg : Cfg} {a : RustTypeAlias} {d : KtDecl} (h : aliasFacts cfg a = .ok d) :
    (isInline a.decorators = false ∧ ∃ ty, d = .typeAlias a.comments (cfg.pfx ++ a.id.renamed)
        (genericSuffix a.genericTypes) ty ∧ formatType cfg a.genericTypes a.ty = .ok ty) ∨
    (isInline a.decorators = true ∧ ∃ p, params d = [p] ∧
        isOptional p = a.ty.isOptional ∧ formatType cfg [] (stripOption a.ty) = .ok (stripOptional p)) := by
  obtain ⟨hi, p, hp, rfl⟩ | ⟨hi, ty, hty, rfl⟩ := aliasFacts_inv h
  · have := field (f := valueField a.ty) rfl hp
    exact .inr ⟨hi, p, rfl, by simpa [opt, valueField] using this.1, by simpa [valueField] using this.2⟩
  · exact .inl ⟨hi, ty, rfl, hty⟩

end TsV.C04.Kt
