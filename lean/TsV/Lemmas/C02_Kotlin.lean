import TsV.Lemmas.Printers
import TsV.Lemmas.C02_Base
import TsV.Lemmas.Lang.Kotlin
/-!
# C02, Kotlin: `@SerialName` of every entry / subclass, the content parameter name
(kotlinx.serialization's class discriminator is not written by typeshare: no tag key is carried)
-/
namespace TsV.C02.Kt
open TsV TsV.Lang TsV.Lang.Kotlin TsV.C02

/-- the content-key holes of one subclass: the name of its single constructor parameter -/
def payloadHoles : KtPayload → List (Role × Str)
  | .object => []
  | .content key _ => [(.content, key)]
  | .inner key _ _ => [(.content, key)]

/-- binding semantics: an `enum class` entry / a subclass of the `sealed class` is the case named
`name`, serialised under its `@SerialName`; a data subclass carries its payload under the name of
its constructor parameter.  Other declarations (the classes generated for struct variants) declare
no enum case. -/
def declWire : KtDecl → EnumWire
  | .enumClass _ _ _ entries => { cases := entries.map fun c => ⟨some c.name, some c.serialName⟩, holes := [] }
  | .sealedClass _ _ _ cases =>
    { cases := cases.map fun c => ⟨some c.name, some c.serialName⟩,
      holes := cases.flatMap fun c => payloadHoles c.payload }
  | _ => { cases := [], holes := [] }

/-- everything the declarations written for one enum say -/
def wire (ds : List KtDecl) : EnumWire :=
  { cases := ds.flatMap fun d => (declWire d).cases, holes := ds.flatMap fun d => (declWire d).holes }

theorem structFacts_wire (cfg : Cfg) (rs : RustStruct) (d : KtDecl) (h : structFacts cfg rs = .ok d) :
    declWire d = { cases := [], holes := [] } := by
  obtain ⟨-, rfl⟩ | ⟨-, ps, -, rfl⟩ := structFacts_inv h <;> rfl

theorem structsFacts_wire (cfg : Cfg) (ss : List RustStruct) (ds : List KtDecl)
    (h : structsFacts cfg ss = .ok ds) : ∀ d ∈ ds, declWire d = { cases := [], holes := [] } :=
  Outcome.mapM'_ok_pred _ _ (structFacts_wire cfg) ss ds (structsFacts_eq cfg ▸ h)

theorem wire_inners (inners : List KtDecl) (d : KtDecl)
    (h : ∀ x ∈ inners, declWire x = { cases := [], holes := [] }) : wire (inners ++ [d]) = declWire d := by
  have hc : inners.flatMap (fun d => (declWire d).cases) = [] := by
    rw [List.flatMap_eq_nil_iff]; intro x hx; rw [h x hx]
  have hh : inners.flatMap (fun d => (declWire d).holes) = [] := by
    rw [List.flatMap_eq_nil_iff]; intro x hx; rw [h x hx]
  simp [wire, List.flatMap_append, hc, hh]

theorem payloadFacts_holes (cfg : Cfg) (e : RustEnum) (ck : Str) (v : RustEnumVariant) (pl : KtPayload)
    (h : payloadFacts cfg e ck v = .ok pl) : ∀ x ∈ payloadHoles pl, x = (.content, ck) := by
  cases v with
  | unit id cs => cases h; exact fun _ hx => nomatch hx
  | tuple id cs ty => obtain ⟨t, -, rfl⟩ := Outcome.of_bind_ret h; exact fun _ hx => List.mem_singleton.1 hx
  | anonymousStruct id cs fs => cases h; exact fun _ hx => List.mem_singleton.1 hx

theorem casesFacts_facts (cfg : Cfg) (e : RustEnum) (ck : Str) (vs : List RustEnumVariant) (cs : List KtCase)
    (h : casesFacts cfg e ck vs = .ok cs) :
    cs.map (·.serialName) = vs.map (·.id.renamed) ∧ cs.map (·.name) = vs.map (fun v => variantName cfg.U v.id.original) ∧
      ∀ c ∈ cs, ∀ x ∈ payloadHoles c.payload, x = (.content, ck) := by
  have hm := casesFacts_eq cfg e ck ▸ h
  refine ⟨Outcome.mapM'_map _ _ _ (fun v c hc => ?_) vs cs hm, Outcome.mapM'_map _ _ _ (fun v c hc => ?_) vs cs hm,
    fun c hc => ?_⟩
  · obtain ⟨pl, -, rfl⟩ := caseFacts_inv hc; rfl
  · obtain ⟨pl, -, rfl⟩ := caseFacts_inv hc; rfl
  · obtain ⟨v, -, hvc⟩ := Outcome.mapM'_ok_mem hm c hc
    obtain ⟨pl, hpl, rfl⟩ := caseFacts_inv hvc
    exact payloadFacts_holes cfg e ck v pl hpl

/-- the class name of a subclass is the UpperCamelCase identifier itself -/
theorem variantName_upperCamel (U : UnicodeOps) (hU : U.AsciiCorrect) (s : Str) (h : C16.UpperCamel s) :
    variantName U s = s := by
  unfold variantName
  rw [C16.toPascal_upperCamel U hU s h]
  obtain ⟨c, rest, rfl, hc⟩ := upperCamel_head s h
  simp [RenameLemmas.upper_notDigit c hc]

/-- **Kotlin**: whatever `write_enum` emits for an in-scope enum is correct on the wire -/
theorem correct (cfg : Cfg) (hU : cfg.U.AsciiCorrect) (e : RustEnum) (hs : InScopeEnum e) (ds : List KtDecl)
    (h : enumFacts cfg e = .ok ds) : (wire ds).Correct e := by
  obtain ⟨inners, d, hi, hd, rfl⟩ := enumFacts_inv h
  rw [wire_inners inners _ (structsFacts_wire cfg _ inners hi)]
  cases hd with
  | unit hk =>
    exact .of_named (e.variants.map entryFacts) (·.name) (·.serialName)
      (by rw [List.map_map]; rfl) (by rw [List.map_map]; exact hs.distinct) (.of_none hk rfl)
  | @algebraic tag content cases hk hc =>
    obtain ⟨h1, h2, h3⟩ := casesFacts_facts cfg e content e.variants cases hc
    refine .of_named cases (·.name) (·.serialName) h1 ?_ (.of_some hk ?_)
    · rw [h2, List.map_congr_left fun v hv => variantName_upperCamel cfg.U hU _ (hs.camel v hv)]
      exact hs.distinct
    · intro x hx
      obtain ⟨c, hc', hx⟩ := List.mem_flatMap.1 hx
      exact Or.inr (h3 c hc' x hx)

end TsV.C02.Kt
