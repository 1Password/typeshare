import TsV.Model.Outcome
import TsV.Lemmas.ListRel
/-!
# `Outcome` plumbing

Every proof about a model function written in `do` notation takes a successful run apart with
`of_bind_ok` / `bind_eq_ok` (one bind) and reasons about its loops with one of three induction
principles: `mapM'_ok_rec` for `mapM'`, `traverse_ok_rec` / `thread_ok_rec` for a traversal the model
writes out by recursion, without and with a printer state threaded through.  The no-panic proofs
compose with `np_bind`.  Nothing here knows about a particular stage of the model.
-/
namespace TsV.Outcome
open TsV.C01 (Forall₂)
variable {α β γ : Type}

theorem of_bind_ok {x : Outcome α} {f : α → Outcome β} {b : β} (h : x.bind f = ok b) :
    ∃ a, x = ok a ∧ f a = ok b := by
  cases x with
  | ok a => exact ⟨a, rfl, h⟩
  | err e => cases h
  | panic s => cases h

theorem of_bind_pair_ok {x : Outcome (α × β)} {f : α × β → Outcome γ} {r : γ}
    (h : x.bind f = ok r) : ∃ a b, x = ok (a, b) ∧ f (a, b) = ok r :=
  let ⟨p, hx, hf⟩ := of_bind_ok h; ⟨p.1, p.2, hx, hf⟩

/-- the last bind of a model function returns a value built from what the call before it returned -/
theorem of_bind_ret {x : Outcome α} {g : α → β} {b : β} (h : (x.bind fun a => ok (g a)) = ok b) :
    ∃ a, x = ok a ∧ g a = b :=
  let ⟨a, hx, hb⟩ := of_bind_ok h; ⟨a, hx, ok.inj hb⟩

theorem bind_ok_iff (x : Outcome α) (f : α → Outcome β) (b : β) :
    x.bind f = ok b ↔ ∃ a, x = ok a ∧ f a = ok b :=
  ⟨of_bind_ok, fun ⟨_, hx, hf⟩ => by rw [hx]; exact hf⟩

theorem bind_eq_ok (x : Outcome α) (f : α → Outcome β) (b : β) :
    (x >>= f) = ok b ↔ ∃ a, x = ok a ∧ f a = ok b := bind_ok_iff x f b

/-- Taking `ok (a, s) = ok (b, s')` apart without touching `a` and `b`: `cases` on such an equation
first normalises both sides, which is slow when one of them is a long rendered text. -/
theorem ok_pair_inj {σ : Type} {a b : α} {s s' : σ} (h : ok (a, s) = ok (b, s')) : a = b ∧ s = s' :=
  Prod.mk.inj (ok.inj h)

theorem bind_assoc (x : Outcome α) (f : α → Outcome β) (g : β → Outcome γ) :
    (x.bind f).bind g = x.bind fun a => (f a).bind g := by
  cases x <;> rfl

theorem bind_pure (x : Outcome α) : (x.bind fun a => (pure a : Outcome α)) = x := by
  cases x <;> rfl

/-- Two continuations need only agree on the value that was returned.  (Closing the `err` and
`panic` cases of such a goal by `rfl` makes the kernel compare the continuations.) -/
theorem bind_congr_ok {x : Outcome α} {f g : α → Outcome β} (h : ∀ a, x = ok a → f a = g a) :
    x.bind f = x.bind g := by
  cases x with
  | ok a => exact h a rfl
  | err e => rfl
  | panic s => rfl

theorem exists_err_iff (o : Outcome α) : (∃ e, o = err e) ↔ o.isErr = true := by
  cases o <;> simp [isErr]

theorem isOk_iff (o : Outcome α) : o.isOk = true ↔ ∃ a, o = ok a := by
  cases o <;> simp [isOk]

theorem bind_isOk_false (x : Outcome α) (f : α → Outcome β) (h : x.isOk = false) :
    (x.bind f).isOk = false := by
  cases x <;> simp_all [isOk, bind]

theorem bind_isOk_false' (x : Outcome α) (f : α → Outcome β) (h : x.isOk = false) :
    (x >>= f).isOk = false := bind_isOk_false x f h

theorem bind_isOk_false_right (x : Outcome α) (f : α → Outcome β) (h : ∀ a, (f a).isOk = false) :
    (x >>= f).isOk = false := by
  cases x with
  | ok a => exact h a
  | err e => rfl
  | panic s => rfl

section mapM
universe u
variable {α : Type u}

@[simp] theorem mapM'_nil (f : α → Outcome β) : mapM' f [] = ok [] := rfl

theorem mapM'_cons_ok {f : α → Outcome β} {a : α} {l : List α} {r : List β} :
    mapM' f (a :: l) = ok r ↔ ∃ b bs, f a = ok b ∧ mapM' f l = ok bs ∧ r = b :: bs := by
  simp only [mapM']
  cases f a <;> cases mapM' f l <;> simp [eq_comm]

/-- Induction principle behind every element-wise fact: it holds of the empty run and is kept by one
more successful step. -/
theorem mapM'_ok_rec {f : α → Outcome β} {P : List α → List β → Prop} {l : List α} {r : List β}
    (h : mapM' f l = ok r) (nil : P [] [])
    (cons : ∀ a b l r, f a = ok b → mapM' f l = ok r → P l r → P (a :: l) (b :: r)) : P l r := by
  induction l generalizing r with
  | nil => cases h; exact nil
  | cons a l ih =>
    obtain ⟨b, bs, ha, hl, rfl⟩ := mapM'_cons_ok.1 h
    exact cons a b l bs ha hl (ih hl)

theorem mapM'_forall₂ (f : α → Outcome β) (l : List α) (r : List β) (h : mapM' f l = ok r) :
    Forall₂ (fun a b => f a = ok b) l r :=
  mapM'_ok_rec (P := Forall₂ fun a b => f a = ok b) h .nil fun _ _ _ _ ha _ ih => .cons ha ih

theorem mapM'_ok_length (f : α → Outcome β) (l : List α) (r : List β) (h : mapM' f l = ok r) :
    r.length = l.length := (mapM'_forall₂ f l r h).length_eq.symm

theorem mapM'_ok_all (f : α → Outcome β) (l : List α) (r : List β) (h : mapM' f l = ok r) :
    ∀ x ∈ l, (f x).isOk = true :=
  mapM'_ok_rec (P := fun l _ => ∀ x ∈ l, (f x).isOk = true) h (by simp)
    fun a b _ _ ha _ ih => by simpa [ha, isOk] using ih

/-- element-wise description of a successful `mapM'` -/
theorem mapM'_ok_forall₂ (f : α → Outcome β) (l : List α) (r : List β) (h : mapM' f l = ok r) :
    ∀ i (hi : i < l.length) (hr : i < r.length), f l[i] = ok r[i] := (mapM'_forall₂ f l r h).get

/-- a successful `mapM'` maps element-wise: any projection that `f` preserves on the members of the
list is preserved list-wise -/
theorem mapM'_map_mem {γ : Type _} (f : α → Outcome β) (P : β → γ) (Q : α → γ) (l : List α) (r : List β)
    (hf : ∀ a ∈ l, ∀ b, f a = ok b → P b = Q a) (h : mapM' f l = ok r) : r.map P = l.map Q :=
  ((mapM'_forall₂ f l r h).map_eq fun a ha b _ e => (hf a ha b e).symm).symm

theorem mapM'_map (f : α → Outcome β) (P : β → γ) (Q : α → γ)
    (hf : ∀ a b, f a = ok b → P b = Q a) (l : List α) (r : List β) (h : mapM' f l = ok r) :
    r.map P = l.map Q :=
  mapM'_map_mem f P Q l r (fun a _ => hf a) h

/-- every output of a successful `mapM'` comes from an input -/
theorem mapM'_ok_mem {f : α → Outcome β} {l : List α} {r : List β} (h : mapM' f l = ok r) :
    ∀ b ∈ r, ∃ a ∈ l, f a = ok b := (mapM'_forall₂ f l r h).mem_right

theorem mapM'_ok_pred (f : α → Outcome β) (P : β → Prop) (hf : ∀ a b, f a = ok b → P b)
    (l : List α) (r : List β) (h : mapM' f l = ok r) : ∀ b ∈ r, P b := fun b hb =>
  let ⟨a, _, ha⟩ := mapM'_ok_mem h b hb; hf a b ha

theorem mapM'_congr (f g : α → Outcome β) (l : List α) (h : ∀ x ∈ l, f x = g x) :
    mapM' f l = mapM' g l := by
  induction l with
  | nil => rfl
  | cons x xs ih =>
    simp only [mapM']
    rw [h x List.mem_cons_self, ih fun y hy => h y (List.mem_cons_of_mem _ hy)]

theorem mapM'_map_left {ι : Type _} (f : α → Outcome β) (g : ι → α) (l : List ι) :
    mapM' f (l.map g) = mapM' (fun a => f (g a)) l := by
  induction l with
  | nil => rfl
  | cons a t ih => simp only [List.map_cons, mapM']; rw [ih]

theorem mapM'_pure (g : α → β) (l : List α) : mapM' (fun a => ok (g a)) l = ok (l.map g) := by
  induction l with
  | nil => rfl
  | cons a t ih => simp only [mapM', ih, List.map_cons]

theorem mapM'_cons (f : α → Outcome β) (a : α) (l : List α) :
    mapM' f (a :: l) = (f a).bind fun b => (mapM' f l).bind fun bs => ok (b :: bs) := by
  rw [mapM']; cases f a <;> cases mapM' f l <;> rfl

/-- A list traversal that the model writes out by recursion is `mapM'` of its step; for the model's
functions both equations hold by `rfl`. -/
theorem traverse_eq {f : α → Outcome β} {fs : List α → Outcome (List β)} (nil_eq : fs [] = ok [])
    (cons_eq : ∀ a as, fs (a :: as) = (f a).bind fun b => (fs as).bind fun bs => ok (b :: bs)) (l : List α) :
    fs l = mapM' f l := by
  induction l with
  | nil => exact nil_eq
  | cons a as ih => rw [cons_eq, ih, mapM'_cons]

end mapM

/-! ## traversals written out by recursion

The back-end models traverse a list by explicit recursion, with or without a printer state threaded
through.  One induction principle for each kind, stated for any function that satisfies the two
equations of such a traversal; for the model's functions both equations hold by `rfl`. -/

section traverse
variable {σ : Type}

theorem thread_ok_rec {f : α → σ → Outcome (β × σ)} {fs : List α → σ → Outcome (List β × σ)}
    {l : List α} {st : σ} {r : List β} {st' : σ} (h : fs l st = ok (r, st'))
    (nil_eq : ∀ st, fs [] st = ok ([], st))
    (cons_eq : ∀ a as st,
      fs (a :: as) st = (f a st).bind fun p => (fs as p.2).bind fun q => ok (p.1 :: q.1, q.2))
    {P : List α → List β → Prop} (nil : P [] [])
    (cons : ∀ a b as bs st st', f a st = ok (b, st') → P as bs → P (a :: as) (b :: bs)) : P l r := by
  induction l generalizing st r with
  | nil => rw [nil_eq] at h; cases h; exact nil
  | cons a as ih =>
    rw [cons_eq] at h
    obtain ⟨⟨b, st1⟩, hb, h⟩ := of_bind_ok h
    obtain ⟨⟨bs, st2⟩, hbs, h⟩ := of_bind_ok h
    cases h
    exact cons a b as bs st st1 hb (ih hbs)

theorem thread_forall₂ {f : α → σ → Outcome (β × σ)} {fs : List α → σ → Outcome (List β × σ)}
    {l : List α} {st : σ} {r : List β} {st' : σ} (h : fs l st = ok (r, st'))
    (nil_eq : ∀ st, fs [] st = ok ([], st))
    (cons_eq : ∀ a as st,
      fs (a :: as) st = (f a st).bind fun p => (fs as p.2).bind fun q => ok (p.1 :: q.1, q.2)) :
    Forall₂ (fun a b => ∃ st st', f a st = ok (b, st')) l r :=
  thread_ok_rec (P := Forall₂ _) h nil_eq cons_eq .nil fun _ _ _ _ st st' hb ih => .cons ⟨st, st', hb⟩ ih

/-- a projection of the result that one step determines from its input is determined list-wise -/
theorem thread_map {γ : Type} {f : α → σ → Outcome (β × σ)} {fs : List α → σ → Outcome (List β × σ)}
    (nil_eq : ∀ st, fs [] st = ok ([], st))
    (cons_eq : ∀ a as st, fs (a :: as) st = (f a st).bind fun p => (fs as p.2).bind fun q => ok (p.1 :: q.1, q.2))
    (P : β → γ) (Q : α → γ) (hf : ∀ a st b st', f a st = ok (b, st') → P b = Q a)
    {l : List α} {st st' : σ} {r : List β} (h : fs l st = ok (r, st')) : r.map P = l.map Q :=
  ((thread_forall₂ h nil_eq cons_eq).map_eq fun a _ b _ ⟨st, st', e⟩ => (hf a st b st' e).symm).symm

/-- the same for a traversal that threads a state and builds each result from the element and what
the call on it returned -/
theorem thread_mem {γ : Type} {F : List α → σ → Outcome (List γ × σ)} {f : α → σ → Outcome (β × σ)} {g : α → β → γ}
    (h0 : ∀ st, F [] st = ok ([], st))
    (h1 : ∀ a as st, F (a :: as) st = (f a st).bind fun p => (F as p.2).bind fun q => ok (g a p.1 :: q.1, q.2))
    {as st cs st'} (h : F as st = ok (cs, st')) : ∀ c ∈ cs, ∃ a ∈ as, ∃ b s s', f a s = ok (b, s') ∧ c = g a b :=
  thread_ok_rec (f := fun a st => (f a st).bind fun p => ok (g a p.1, p.2))
    (P := fun as cs => ∀ c ∈ cs, ∃ a ∈ as, ∃ b s s', f a s = ok (b, s') ∧ c = g a b) h h0
    (fun a as st => by rw [h1, bind_assoc]; rfl) (fun _ hc => nomatch hc)
    fun a c _ _ st _ hc ih => by
      obtain ⟨⟨b, s'⟩, hb, e⟩ := of_bind_ok hc
      obtain ⟨rfl, rfl⟩ := ok_pair_inj e
      exact List.forall_mem_cons.2 ⟨⟨a, List.mem_cons_self, b, st, _, hb, rfl⟩,
        fun y hy => let ⟨x, hx, r⟩ := ih y hy; ⟨x, List.mem_cons_of_mem a hx, r⟩⟩

/-- a step that returns `(g a, s)` for the `(a, s)` it was given.  The variable stands on the right: `subst` (an `rfl`
pattern) looks there first, and brings a left side that is a rendered text to weak head normal form before it
looks at the right. -/
theorem bind_ret_ok {x : Outcome (α × σ)} {g : α → β} {b : β} {s : σ} :
    (x.bind fun p => ok (g p.1, p.2)) = ok (b, s) ↔ ∃ a, x = ok (a, s) ∧ g a = b := by
  constructor
  · intro h
    obtain ⟨⟨a, s'⟩, hx, hf⟩ := of_bind_ok h
    obtain ⟨hb, hs⟩ := ok_pair_inj hf
    exact ⟨a, by rw [hx, ← hs], hb⟩
  · rintro ⟨a, hx, hb⟩
    rw [hx, ← hb]; rfl

/-- a step that returns `(g p, p.2)` hands on the state it was given -/
theorem of_bind_state {x : Outcome (α × σ)} {g : α × σ → β} {b : β} {s : σ}
    (h : (x.bind fun p => ok (g p, p.2)) = ok (b, s)) : ∃ a, x = ok (a, s) := by
  obtain ⟨⟨a, s'⟩, hx, hf⟩ := of_bind_ok h
  have hs : s' = s := congrArg Prod.snd (ok.inj hf)
  exact ⟨a, by rw [hx, hs]⟩

end traverse

def NP (o : Outcome α) : Prop := o.isPanic = false

@[simp] theorem np_ok (a : α) : NP (ok a) := rfl
@[simp] theorem np_pure {α} (a : α) : NP (pure a : Outcome α) := rfl
@[simp] theorem np_err (e) : NP (err e : Outcome α) := rfl

theorem np_bind (x : Outcome α) (f : α → Outcome β) (hx : NP x) (hf : ∀ a, NP (f a)) :
    NP (x.bind f) := by
  cases x with
  | ok a => exact hf a
  | err e => rfl
  | panic s => cases hx

theorem np_bind' (x : Outcome α) (f : α → Outcome β) (hx : NP x) (hf : ∀ a, NP (f a)) :
    NP (x >>= f) := np_bind x f hx hf

/-- `np_bind` where the continuation may use that its argument was returned -/
theorem np_bind_ok {x : Outcome α} {f : α → Outcome β} (hx : NP x) (hf : ∀ a, x = ok a → NP (f a)) :
    NP (x.bind f) := by
  cases x with
  | ok a => exact hf a rfl
  | err e => rfl
  | panic s => cases hx

theorem np_ite {α} (c : Prop) [Decidable c] (a b : Outcome α) (ha : NP a) (hb : NP b) :
    NP (if c then a else b) := by split <;> assumption

theorem mapM'_np {α : Type _} (f : α → Outcome β) (hf : ∀ a, NP (f a)) (l : List α) : NP (mapM' f l) := by
  induction l with
  | nil => rfl
  | cons a as ih =>
    have h1 := hf a
    simp only [mapM']
    cases ha : f a <;> cases hl : mapM' f as <;> simp_all [NP, isPanic]

end TsV.Outcome
