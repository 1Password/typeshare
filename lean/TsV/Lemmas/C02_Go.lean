import TsV.Lemmas.C02_Base
import TsV.Model.Lang.Go
import TsV.Lemmas.Lang.Go
/-!
# C02, Go: the string constants of the variants, and the json tags of the struct and of the two
anonymous structs inside `UnmarshalJSON` / `MarshalJSON` as a template
-/
namespace TsV.C02.Go
open TsV TsV.Str TsV.Lang TsV.Lang.Go TsV.C02

/-- what `write_enum` writes (the unit arm of the model builds its record inline) -/
inductive EnumDecl where
  | unit (anonymous : List GoStruct) (d : GoUnitEnum)
  | alg (d : GoAlgEnum)
deriving Repr, DecidableEq

def renderDecl : EnumDecl → Str
  | .unit anonymous d => anonymous.flatMap renderStruct ++ renderUnitEnum d
  | .alg d => renderAlgEnum d

/-- `write_enum` as facts -/
def enumFacts (U : UnicodeOps) (cfg : Cfg) (e : RustEnum) (customStructs : List Str) (st : Imports) :
    Outcome (EnumDecl × Imports) :=
  match e.keys with
  | none =>
    (anonStructs U cfg e (structVariants e) st).bind fun (anonymous, st) =>
    (acr U cfg e.id.original).bind fun name =>
    (unitConsts U cfg e.id.original e.variants).bind fun consts =>
      .ok (.unit anonymous { comments := e.comments, name, consts }, st)
  | some (tagKey, contentKey) =>
    (algEnumFacts U cfg e tagKey contentKey customStructs st).bind fun (d, st) => .ok (.alg d, st)

/-- **the facts render to exactly what `write_enum` writes** -/
theorem writeEnum_eq (U : UnicodeOps) (cfg : Cfg) (e : RustEnum) (customStructs : List Str) (st : Imports) :
    writeEnum U cfg e customStructs st =
      (enumFacts U cfg e customStructs st).bind fun (d, st) => .ok (renderDecl d, st) := by
  unfold writeEnum enumFacts
  cases e.keys with
  | none => simp only [Outcome.bind_assoc, Outcome.bind_ok, renderDecl]
  | some p => simp only [Outcome.bind_assoc, Outcome.bind_ok, renderDecl]

theorem writeEnum_inv {U : UnicodeOps} {cfg : Cfg} {e : RustEnum} {cs : List Str} {st st' : Imports} {text : Str}
    (h : writeEnum U cfg e cs st = .ok (text, st')) : ∃ d, enumFacts U cfg e cs st = .ok (d, st') ∧ renderDecl d = text := by
  obtain ⟨d, hd, rfl⟩ := Outcome.bind_ret_ok.1 (writeEnum_eq U cfg e cs st ▸ h)
  exact ⟨d, hd, rfl⟩

/-- a unit enum records its helper structs and a constant block, an algebraic enum its record -/
theorem enumFacts_inv {U : UnicodeOps} {cfg : Cfg} {e : RustEnum} {cs : List Str} {st st' : Imports} {d : EnumDecl}
    (h : enumFacts U cfg e cs st = .ok (d, st')) :
    (e.keys = none ∧ ∃ anonymous name consts, anonStructs U cfg e (structVariants e) st = .ok (anonymous, st') ∧
      acr U cfg e.id.original = .ok name ∧ unitConsts U cfg e.id.original e.variants = .ok consts ∧
      .unit anonymous { comments := e.comments, name, consts } = d) ∨
    ∃ tag content g, e.keys = some (tag, content) ∧ algEnumFacts U cfg e tag content cs st = .ok (g, st') ∧ .alg g = d := by
  unfold enumFacts at h
  cases hk : e.keys with
  | none =>
    rw [hk] at h
    obtain ⟨⟨anonymous, st1⟩, ha, h⟩ := Outcome.of_bind_ok h
    obtain ⟨name, hn, h⟩ := Outcome.of_bind_ok h
    obtain ⟨consts, hc, h⟩ := Outcome.of_bind_ok h
    obtain ⟨rfl, rfl⟩ := Outcome.ok_pair_inj h
    exact .inl ⟨rfl, anonymous, name, consts, ha, hn, hc, rfl⟩
  | some kc =>
    obtain ⟨tag, content⟩ := kc
    rw [hk] at h
    obtain ⟨⟨g, st1⟩, hg, h⟩ := Outcome.of_bind_ok h
    obtain ⟨rfl, rfl⟩ := Outcome.ok_pair_inj h
    exact .inr ⟨tag, content, g, rfl, hg, rfl⟩

/-! ## the codec as a template -/

def unmarshalSegs (e : GoAlgEnum) : List Seg :=
  [.lit (s%"func (" ++ e.short ++ s%" *" ++ e.name ++ s%") UnmarshalJSON(data []byte) error {\n" ++
     s%"\tvar enum struct {\n" ++
     s%"\t\tTag    " ++ e.keyType ++ s%"   `json:\""),
   .hole .tag .raw e.tagKey,
   .lit (s%"\"`\n" ++ s%"\t\tContent json.RawMessage `json:\""),
   .hole .content .raw e.contentKey,
   .lit (s%"\"`\n" ++
     s%"\t}\n" ++
     s%"\tif err := json.Unmarshal(data, &enum); err != nil {\n\t\treturn err\n\t}\n\n" ++
     s%"\t" ++ e.short ++ s%"." ++ e.tagField ++ s%" = enum.Tag\n" ++
     s%"\tswitch " ++ e.short ++ s%"." ++ e.tagField ++ s%" {\n" ++
     e.variants.flatMap (renderDecodeCase e) ++ s%"\n\t}\n" ++
     s%"\tif err := json.Unmarshal(enum.Content, &" ++ e.short ++ s%"." ++ e.contentField ++ s%"); err != nil {\n" ++
     s%"\t\treturn err\n\t}\n\n\treturn nil\n}\n")]

def marshalSegs (e : GoAlgEnum) : List Seg :=
  [.lit (s%"func (" ++ e.short ++ s%" " ++ e.name ++ s%") MarshalJSON() ([]byte, error) {\n" ++
     s%"    var enum struct {\n" ++
     s%"\t\tTag    " ++ e.keyType ++ s%"   `json:\""),
   .hole .tag .raw e.tagKey,
   .lit (s%"\"`\n" ++ s%"\t\tContent interface{} `json:\""),
   .hole .content .raw e.contentKey,
   .lit (s%",omitempty\"`\n" ++
     s%"    }\n" ++
     s%"    enum.Tag = " ++ e.short ++ s%"." ++ e.tagField ++ s%"\n" ++
     s%"    enum.Content = " ++ e.short ++ s%"." ++ e.contentField ++ s%"\n" ++
     s%"    return json.Marshal(enum)\n}\n")]

/-- the whole output for an algebraic enum; the only key holes are the json tag of the struct's tag
field (the content field is untagged: (un)marshalling goes through the two methods) and the four
tags inside the methods -/
def algSegs (e : GoAlgEnum) : List Seg :=
  [.lit (e.anonymous.flatMap renderStruct ++
     comments 0 e.comments ++
     s%"type " ++ e.keyType ++ s%" string\n" ++ s%"const (\n" ++
     (e.variants.flatMap fun v =>
       comments 1 v.comments ++ s%"\t" ++ v.constName ++ s%" " ++ e.keyType ++ s%" = " ++ debugStr v.wire ++ nl) ++
     s%")\n" ++
     s%"type " ++ e.name ++ s%" struct{ \n" ++
     s%"\t" ++ e.tagField ++ s%" " ++ e.keyType ++ s%" `json:"),
   .hole .tag .debug e.tagKey,
   .lit (s%"`\n" ++
     s%"\t" ++ e.contentField ++ s%" interface{}\n" ++
     s%"}\n" ++
     nl)] ++
  unmarshalSegs e ++ [.lit nl] ++ marshalSegs e ++
  [.lit (nl ++
     e.variants.flatMap (renderAccessor e) ++ nl ++
     e.variants.flatMap (renderConstructor e) ++ nl)]

theorem unmarshal_flat (e : GoAlgEnum) : flat (unmarshalSegs e) = renderUnmarshal e := by
  unfold unmarshalSegs renderUnmarshal
  simp only [flat_cons, flat_nil, Seg.text, Quote.render, List.append_nil]
  simp only [← List.append_assoc]

theorem marshal_flat (e : GoAlgEnum) : flat (marshalSegs e) = renderMarshal e := by
  unfold marshalSegs renderMarshal
  simp only [flat_cons, flat_nil, Seg.text, Quote.render, List.append_nil]
  simp only [← List.append_assoc]

/-- **the template denotes exactly the text the model (hence the generator) writes** -/
theorem alg_flat (e : GoAlgEnum) : flat (algSegs e) = renderAlgEnum e := by
  unfold algSegs renderAlgEnum
  rw [flat_append, flat_append, flat_append, flat_append, unmarshal_flat, marshal_flat]
  simp only [flat_cons, flat_nil, Seg.text, Quote.render, List.append_nil]
  simp only [← List.append_assoc]

/-- **the five key holes, in order of appearance** -/
theorem alg_holes (e : GoAlgEnum) :
    holesOf (algSegs e) =
      [(.tag, e.tagKey),                                   -- `json:"…"` on the struct's tag field
       (.tag, e.tagKey), (.content, e.contentKey),         -- the anonymous struct in `UnmarshalJSON`
       (.tag, e.tagKey), (.content, e.contentKey)] := rfl  -- the anonymous struct in `MarshalJSON`

/-- binding semantics: a typed string constant `Name Type = "wire"` is the case `Name`, serialised
as `wire` -/
def wire : EnumDecl → EnumWire
  | .unit _ d => { cases := d.consts.map fun c => ⟨some c.name, some c.wire⟩, holes := [] }
  | .alg d =>
    { cases := d.variants.map fun v => ⟨some v.constName, some v.wire⟩, holes := holesOf (algSegs d) }

theorem unitConsts_facts (U : UnicodeOps) (cfg : Cfg) (orig : Str) : ∀ (vs : List RustEnumVariant) (cs : List GoConst),
    unitConsts U cfg orig vs = .ok cs →
      cs.map (·.wire) = vs.map (·.id.renamed) ∧
      ∃ vns : List Str, (vs.map fun v => acr U cfg v.id.original) = vns.map Outcome.ok ∧
        ∀ en, acr U cfg orig = .ok en → cs.map (·.name) = vns.map (en ++ ·) := by
  intro vs
  induction vs with
  | nil => intro cs h; cases h; exact ⟨rfl, [], rfl, fun _ _ => rfl⟩
  | cons v vs ih =>
    intro cs h
    cases v with
    | unit id cmts =>
      simp only [unitConsts] at h
      obtain ⟨en, hen, h⟩ := Outcome.of_bind_ok h
      obtain ⟨vn, hvn, h⟩ := Outcome.of_bind_ok h
      obtain ⟨rest, hr, h⟩ := Outcome.of_bind_ok h
      cases h
      obtain ⟨i1, vns, i2, i3⟩ := ih rest hr
      refine ⟨?_, vn :: vns, ?_, ?_⟩
      · simp only [List.map_cons, i1]; rfl
      · show acr U cfg id.original :: _ = _
        rw [hvn, i2]; rfl
      intro en' hen'
      have : en' = en := by rw [hen] at hen'; cases hen'; rfl
      subst this
      simp [i3 en' hen]
    | tuple _ _ _ => cases h
    | anonymousStruct _ _ _ => cases h

theorem algVariant_facts (U : UnicodeOps) (cfg : Cfg) (e : RustEnum) (sn tk : Str) (cst : List Str)
    (v : RustEnumVariant) (st st' : Imports) (g : GoAlgVariant)
    (h : algVariant U cfg e sn tk cst v st = .ok (g, st')) :
    g.wire = v.id.renamed ∧ ∃ vn tp, acr U cfg v.id.original = .ok vn ∧ acr U cfg (Rename.toPascal U tk) = .ok tp ∧
      g.constName = sn ++ tp ++ s%"Variant" ++ vn := by
  obtain ⟨vn, tp, _, hvn, htp, rfl, _⟩ := algVariant_inv h
  exact ⟨rfl, vn, tp, hvn, htp, rfl⟩

/-- the constant names of the variants share the prefix that `acr (toPascal tagKey)` determines -/
theorem algVariants_facts (U : UnicodeOps) (cfg : Cfg) (e : RustEnum) (sn tk : Str) (cst : List Str)
    (vs : List RustEnumVariant) (st st' : Imports) (gs : List GoAlgVariant)
    (h : algVariants U cfg e sn tk cst vs st = .ok (gs, st')) :
    gs.map (·.wire) = vs.map (·.id.renamed) ∧
    ∃ vns : List Str, (vs.map fun v => acr U cfg v.id.original) = vns.map Outcome.ok ∧
      ∀ pre : Str, (∀ tp, acr U cfg (Rename.toPascal U tk) = .ok tp → pre = sn ++ tp ++ s%"Variant") →
        gs.map (·.constName) = vns.map (pre ++ ·) :=
  Outcome.thread_ok_rec
    (P := fun vs gs => gs.map (·.wire) = vs.map (·.id.renamed) ∧
      ∃ vns : List Str, (vs.map fun v => acr U cfg v.id.original) = vns.map Outcome.ok ∧
        ∀ pre : Str, (∀ tp, acr U cfg (Rename.toPascal U tk) = .ok tp → pre = sn ++ tp ++ s%"Variant") →
          gs.map (·.constName) = vns.map (pre ++ ·))
    h (fun _ => rfl) (fun _ _ _ => rfl) ⟨rfl, [], rfl, fun _ _ => rfl⟩
    fun v g vs gs st st' hg ⟨i1, vns, i2, i3⟩ => by
      obtain ⟨h1, vn, tp, hvn, htp, hcn⟩ := algVariant_facts U cfg e sn tk cst v st st' g hg
      refine ⟨by rw [List.map_cons, List.map_cons, h1, i1], vn :: vns,
        by rw [List.map_cons, List.map_cons, hvn, i2], fun pre hpre => ?_⟩
      rw [List.map_cons, List.map_cons, i3 pre hpre, hcn, hpre tp htp]

/-- the data of an output: wire names, and constant names as a common prefix in front of the
acronym-converted identifiers -/
theorem facts (U : UnicodeOps) (cfg : Cfg) (e : RustEnum) (customStructs : List Str) (st st' : Imports) (d : EnumDecl)
    (h : enumFacts U cfg e customStructs st = .ok (d, st')) :
    (wire d).Names e ∧ (wire d).Keys e ∧
    ∃ (vns : List Str) (pre : Str), (e.variants.map fun v => acr U cfg v.id.original) = vns.map Outcome.ok ∧
      (wire d).cases.filterMap (·.caseId) = vns.map (pre ++ ·) := by
  rcases enumFacts_inv h with ⟨hkeys, anonymous, name, consts, _, hname, hc, rfl⟩ | ⟨tag, content, g, hkeys, hg, rfl⟩
  · obtain ⟨h1, vns, h2, h3⟩ := unitConsts_facts U cfg e.id.original e.variants consts hc
    refine ⟨EnumWire.names_named consts _ (·.wire) [] h1, .of_none hkeys rfl, vns, name, h2, ?_⟩
    rw [← h3 name hname]
    exact EnumWire.caseIds_named consts (·.name) _
  · obtain ⟨_, st2, name, _, _, _, variants, _, _, _, _, _, hv, rfl⟩ := algEnumFacts_inv hg
    obtain ⟨h1, vns, h2, h3⟩ := algVariants_facts U cfg e name tag customStructs e.variants st2 st' variants hv
    refine ⟨EnumWire.names_named variants _ (·.wire) _ h1, .of_some hkeys ?_, vns,
      (match acr U cfg (Rename.toPascal U tag) with | .ok tp => name ++ tp ++ s%"Variant" | _ => []), h2, ?_⟩
    · intro x hx
      rw [wire, alg_holes] at hx
      simp only [List.mem_cons, List.not_mem_nil, or_false] at hx
      rcases hx with rfl | rfl | rfl | rfl | rfl <;> simp
    · rw [← h3 _ fun tp htp => by rw [htp]]
      exact EnumWire.caseIds_named variants (·.constName) _

/-- each variant has a constant of its own exactly when the acronym conversion keeps the variant
identifiers apart -/
theorem distinct_iff (U : UnicodeOps) (cfg : Cfg) (e : RustEnum) (customStructs : List Str) (st st' : Imports)
    (d : EnumDecl) (h : enumFacts U cfg e customStructs st = .ok (d, st')) :
    (wire d).Distinct ↔ (e.variants.map fun v => convertAcronyms U cfg.uppercaseAcronyms v.id.original).Nodup := by
  obtain ⟨_, _, vns, pre, h2, h3⟩ := facts U cfg e customStructs st st' d h
  show ((wire d).cases.filterMap (·.caseId)).Nodup ↔ (e.variants.map fun v => acr U cfg v.id.original).Nodup
  rw [h3, h2]
  exact (nodup_map_inj (fun a b hab => List.append_cancel_left hab) vns).trans
    (nodup_map_inj (fun a b hab => by cases hab; rfl) vns).symm

/-- **Go**: whatever `write_enum` emits for an in-scope enum whose variant identifiers stay distinct
under the configured acronym conversion is correct on the wire -/
theorem correct (U : UnicodeOps) (cfg : Cfg) (e : RustEnum) (customStructs : List Str) (st st' : Imports) (d : EnumDecl)
    (hk : (e.variants.map fun v => convertAcronyms U cfg.uppercaseAcronyms v.id.original).Nodup)
    (h : enumFacts U cfg e customStructs st = .ok (d, st')) : (wire d).Correct e :=
  have f := facts U cfg e customStructs st st' d h
  ⟨f.1, (distinct_iff U cfg e customStructs st st' d h).2 hk, f.2.1⟩

/-- … and conversely: two variants that the acronym conversion maps to one name share one constant -/
theorem collide (U : UnicodeOps) (cfg : Cfg) (e : RustEnum) (customStructs : List Str) (st st' : Imports) (d : EnumDecl)
    (hk : ¬ (e.variants.map fun v => convertAcronyms U cfg.uppercaseAcronyms v.id.original).Nodup)
    (h : enumFacts U cfg e customStructs st = .ok (d, st')) : ¬ (wire d).Distinct :=
  fun hd => hk ((distinct_iff U cfg e customStructs st st' d h).1 hd)

/-- without configured acronyms the conversion is the identity -/
theorem convertAcronyms_nil (U : UnicodeOps) (name : Str) : convertAcronyms U [] name = .ok name := rfl

end TsV.C02.Go
