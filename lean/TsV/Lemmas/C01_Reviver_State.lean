import TsV.Lemmas.Lang.TypeScript
import TsV.Lemmas.C01_Main
import TsV.Lemmas.C10_Scope
/-!
# C01, the reviver — what the TypeScript printer does to its state

* `resetsOf`: the resets `format_type` performs on a Rust type, as a pure function of the type and
  the type mappings (it mirrors the traversal of `formatType`: a mapped type is not descended into);
  `formatType_state`: the state after `formatType` is the state before with these resets applied.
* `Step` / `itemsSteps`: the printer's walk over the items of a file as a list of steps (a property
  line with its field, or a type formatted elsewhere: tuple payload, alias target, const type), the
  state threaded exactly as `writeItems` threads it (`writeItems_steps`, in `C01_Reviver_Tie`), and the events of each step
  (`stepEvents`).
* `Walk`: what is true of the empty walk, of one property line, of one formatted type, and is kept when
  walks follow each other, is true of `itemsSteps` (`itemsSteps_walk`); `itemsSteps_state` is one instance,
  `itemsSteps_stepOk` (in `C01_Reviver_Tie`) the other.
-/
namespace TsV.C01R
open TsV TsV.Lang TsV.Lang.TypeScript TsV.Outcome TsV.C12L

/-- without a mapping whose target is custom-translated nothing is ever reset -/
def NoCustomTarget (cfg : Cfg) : Prop := ∀ p ∈ cfg.typeMappings, hasCustom p.2 = false

instance (cfg : Cfg) : Decidable (NoCustomTarget cfg) := by unfold NoCustomTarget; infer_instance

theorem spResets_nil {cfg : Cfg} (H : NoCustomTarget cfg) (t : RustType) : spResets cfg t [] = [] := by
  unfold spResets
  split
  · rename_i m hm
    obtain ⟨p, hp, rfl⟩ := C10Lex.mapGet_mem hm
    simp [H p hp]
  · rfl

theorem resetsOfList_nil_of {cfg : Cfg} (ts : List RustType) (h : ∀ t ∈ ts, resetsOf cfg t = []) :
    resetsOfList cfg ts = [] := by
  induction ts with
  | nil => unfold resetsOfList; rfl
  | cons t ts ih =>
    unfold resetsOfList
    rw [h t List.mem_cons_self, ih fun t ht => h t (List.mem_cons_of_mem _ ht)]; rfl

theorem resetsOf_nil {cfg : Cfg} (H : NoCustomTarget cfg) (t : RustType) : resetsOf cfg t = [] := by
  induction t using rustType_induct with
  | simple id => unfold resetsOf; rfl
  | generic id ps ih =>
    unfold resetsOf
    split
    · rfl
    · exact resetsOfList_nil_of ps ih
  | vec r ih | slice r ih | array r n ih | option r ih => unfold resetsOf; rw [ih]; exact spResets_nil H _
  | hashMap k v ihk ihv => unfold resetsOf; rw [ihk, ihv]; exact spResets_nil H _
  | prim p => unfold resetsOf; exact spResets_nil H _

theorem resetsOfList_nil {cfg : Cfg} (H : NoCustomTarget cfg) : ∀ ts : List RustType, resetsOfList cfg ts = [] :=
  fun ts => resetsOfList_nil_of ts fun t _ => resetsOf_nil H t

/-- `format_type` resets the entries `resetsOf` computes and does nothing else to the state -/
theorem formatType_state (cfg : Cfg) (gens : List Str) (t : RustType) (st : CustomMap) (s : Str) (st' : CustomMap)
    (h : formatType cfg gens t st = .ok (s, st')) : st' = run st (resetEvents (resetsOf cfg t)) :=
  (formatType_threads cfg gens t).state h

theorem formatTypes_state (cfg : Cfg) (gens : List Str) : ∀ (ts : List RustType) (st : CustomMap) (ss : List Str)
      (st' : CustomMap), formatTypes cfg gens ts st = .ok (ss, st') → st' = run st (resetEvents (resetsOfList cfg ts)) :=
  fun ts _ _ _ h => (formatTypes_threads cfg gens ts).state h

/-- one step of the printer that can touch the state -/
inductive Step where
  | field (f : RustField) (tf : TsField)   -- `write_field`: a property line
  | ty (t : RustType)                      -- `format_type` elsewhere: tuple payload, alias target, const type

def stepEvents (cfg : Cfg) : Step → List Ev
  | .ty t => resetEvents (resetsOf cfg t)
  | .field f tf =>
    (match typeOverride f .typescript with
     | some _ => []
     | none => resetEvents (resetsOf cfg f.ty)) ++
    (if hasCustom tf.ty then [Ev.add tf.ty f.id.renamed] else [])

def eventsOf (cfg : Cfg) (steps : List Step) : List Ev := steps.flatMap (stepEvents cfg)

theorem eventsOf_append (cfg : Cfg) (a b : List Step) : eventsOf cfg (a ++ b) = eventsOf cfg a ++ eventsOf cfg b := by
  simp [eventsOf]

theorem fieldFacts_state (cfg : Cfg) (gens : List Str) (f : RustField) (st st' : CustomMap) (tf : TsField)
    (h : fieldFacts cfg gens f st = .ok (tf, st')) : st' = run st (stepEvents cfg (.field f tf)) := by
  obtain ⟨_, hty, -, -⟩ := fieldFacts_ok h
  rw [(fieldFacts_threads cfg gens f).state h, fieldEvents, C12L.TypeScript.fieldNeeds, fieldTy_eq hty, stepEvents]
  congr 2
  show List.map _ (if hasCustom tf.ty = true then [tf.ty] else []) = _
  split <;> rfl

/-- the property lines of a field list as steps (facts: `C01.TypeScript.fieldsFacts`) -/
def fieldSteps (fs : List RustField) (tfs : List TsField) : List Step :=
  (fs.zip tfs).map fun p => Step.field p.1 p.2

/-- the steps of the variants of a tagged union, the state threaded as `writeVariants` threads it -/
def variantsSteps (cfg : Cfg) (e : RustEnum) : List RustEnumVariant → CustomMap → Outcome (List Step × CustomMap)
  | [], st => .ok ([], st)
  | .unit _ _ :: vs, st => variantsSteps cfg e vs st
  | .tuple _ _ ty :: vs, st =>
    (formatType cfg e.genericTypes ty st).bind fun (_, st) =>
    (variantsSteps cfg e vs st).bind fun (rest, st) => .ok (Step.ty ty :: rest, st)
  | .anonymousStruct _ _ fs :: vs, st =>
    (C01.TypeScript.fieldsFacts cfg e.genericTypes fs st).bind fun (tfs, st) =>
    (variantsSteps cfg e vs st).bind fun (rest, st) => .ok (fieldSteps fs tfs ++ rest, st)

def itemSteps (cfg : Cfg) (it : RustItem) (st : CustomMap) : Outcome (List Step × CustomMap) :=
  match it with
  | .struct s =>
    (C01.TypeScript.fieldsFacts cfg s.genericTypes s.fields st).bind fun (tfs, st) => .ok (fieldSteps s.fields tfs, st)
  | .enum e =>
    match e.keys with
    | none => .ok ([], st)
    | some _ => variantsSteps cfg e e.variants st
  | .alias a => (formatType cfg a.genericTypes a.ty st).bind fun (_, st) => .ok ([Step.ty a.ty], st)
  | .const c => (formatType cfg [] c.ty st).bind fun (_, st) => .ok ([Step.ty c.ty], st)

def itemsSteps (cfg : Cfg) : List RustItem → CustomMap → Outcome (List Step × CustomMap)
  | [], st => .ok ([], st)
  | it :: its, st =>
    (itemSteps cfg it st).bind fun (a, st) =>
    (itemsSteps cfg its st).bind fun (b, st) => .ok (a ++ b, st)

/-! ## one induction over the walk

The walk over a file is made of property lines and formatted types, done one after the other.  A relation
between the state before, the steps and the state after that holds of these holds of every walk. -/

structure Walk (cfg : Cfg) (Q : CustomMap → List Step → CustomMap → Prop) : Prop where
  nil : ∀ st, Q st [] st
  append : ∀ {st st1 st2 a b}, Q st a st1 → Q st1 b st2 → Q st (a ++ b) st2
  field : ∀ {gens f st tf st'}, fieldFacts cfg gens f st = .ok (tf, st') → Q st [.field f tf] st'
  ty : ∀ {gens t st s st'}, formatType cfg gens t st = .ok (s, st') → Q st [.ty t] st'

section
variable {cfg : Cfg} {Q : CustomMap → List Step → CustomMap → Prop} (W : Walk cfg Q)
include W

theorem fieldsFacts_walk (gens : List Str) (fs : List RustField) (st st' : CustomMap) (tfs : List TsField)
    (h : C01.TypeScript.fieldsFacts cfg gens fs st = .ok (tfs, st')) : Q st (fieldSteps fs tfs) st' := by
  induction fs generalizing st tfs with
  | nil =>
    obtain ⟨rfl, rfl⟩ := ok_pair_inj h
    exact W.nil st
  | cons f fs ih =>
    unfold C01.TypeScript.fieldsFacts at h
    obtain ⟨tf, st1, h1, h⟩ := of_bind_pair_ok h
    obtain ⟨rest, st2, h2, h⟩ := of_bind_pair_ok h
    obtain ⟨rfl, rfl⟩ := ok_pair_inj h
    exact W.append (W.field h1) (ih st1 rest h2)

theorem variantsSteps_walk (e : RustEnum) (vs : List RustEnumVariant) (st st' : CustomMap)
    (steps : List Step) (h : variantsSteps cfg e vs st = .ok (steps, st')) : Q st steps st' := by
  induction vs generalizing st steps with
  | nil =>
    obtain ⟨rfl, rfl⟩ := ok_pair_inj h
    exact W.nil st
  | cons v vs ih =>
    cases v with
    | unit _ _ => exact ih st steps h
    | tuple _ _ ty =>
      unfold variantsSteps at h
      obtain ⟨s1, st1, h1, h⟩ := of_bind_pair_ok h
      obtain ⟨rest, st2, h2, h⟩ := of_bind_pair_ok h
      obtain ⟨rfl, rfl⟩ := ok_pair_inj h
      exact W.append (W.ty h1) (ih st1 rest h2)
    | anonymousStruct _ _ fs =>
      unfold variantsSteps at h
      obtain ⟨tfs, st1, h1, h⟩ := of_bind_pair_ok h
      obtain ⟨rest, st2, h2, h⟩ := of_bind_pair_ok h
      obtain ⟨rfl, rfl⟩ := ok_pair_inj h
      exact W.append (fieldsFacts_walk W e.genericTypes fs st st1 tfs h1) (ih st1 rest h2)

theorem itemSteps_walk (it : RustItem) (st st' : CustomMap) (steps : List Step)
    (h : itemSteps cfg it st = .ok (steps, st')) : Q st steps st' := by
  cases it with
  | struct s =>
    simp only [itemSteps] at h
    obtain ⟨tfs, st1, h1, h⟩ := of_bind_pair_ok h
    obtain ⟨rfl, rfl⟩ := ok_pair_inj h
    exact fieldsFacts_walk W s.genericTypes s.fields st st1 tfs h1
  | «enum» e =>
    simp only [itemSteps] at h
    split at h
    · simp only [Outcome.ok.injEq, Prod.mk.injEq] at h
      obtain ⟨rfl, rfl⟩ := h
      exact W.nil st
    · exact variantsSteps_walk W e e.variants st st' steps h
  | alias a =>
    simp only [itemSteps] at h
    obtain ⟨s1, st1, h1, h⟩ := of_bind_pair_ok h
    obtain ⟨rfl, rfl⟩ := ok_pair_inj h
    exact W.ty h1
  | const c =>
    simp only [itemSteps] at h
    obtain ⟨s1, st1, h1, h⟩ := of_bind_pair_ok h
    obtain ⟨rfl, rfl⟩ := ok_pair_inj h
    exact W.ty h1

theorem itemsSteps_walk (its : List RustItem) (st st' : CustomMap) (steps : List Step)
    (h : itemsSteps cfg its st = .ok (steps, st')) : Q st steps st' := by
  induction its generalizing st steps with
  | nil =>
    obtain ⟨rfl, rfl⟩ := ok_pair_inj h
    exact W.nil st
  | cons it its ih =>
    unfold itemsSteps at h
    obtain ⟨a, st1, h1, h⟩ := of_bind_pair_ok h
    obtain ⟨b, st2, h2, h⟩ := of_bind_pair_ok h
    obtain ⟨rfl, rfl⟩ := ok_pair_inj h
    exact W.append (itemSteps_walk W it st st1 a h1) (ih st1 b h2)

end

theorem eventsOf_singleton (cfg : Cfg) (s : Step) : eventsOf cfg [s] = stepEvents cfg s := by
  simp [eventsOf]

/-- the state after a walk is the state before with the events of its steps applied -/
theorem walk_state (cfg : Cfg) : Walk cfg fun st steps st' => st' = run st (eventsOf cfg steps) where
  nil _ := rfl
  append ha hb := by rw [eventsOf_append, run_append, ← ha]; exact hb
  field h := by rw [eventsOf_singleton]; exact fieldFacts_state cfg _ _ _ _ _ h
  ty h := by rw [eventsOf_singleton]; exact formatType_state cfg _ _ _ _ _ h

theorem itemsSteps_state (cfg : Cfg) (its : List RustItem) (st st' : CustomMap) (steps : List Step)
    (h : itemsSteps cfg its st = .ok (steps, st')) : st' = run st (eventsOf cfg steps) :=
  itemsSteps_walk (walk_state cfg) its st st' steps h

end TsV.C01R
