import TsV.Lemmas.C06_Multi_Jobs
import TsV.Lemmas.Outcome
/-!
# The stages of `Generate.run`, named once

`run` = parse all files; fold and reconcile; stop with the recorded errors if there are any; otherwise make one job
per crate and call the back end.  `run_eq` spells that with `ctxOf`, `runJobs` and `genAll`; `run_outputs` and
`run_parseErrors` are its two exits read backwards.  Every statement about a whole run starts from one of the three.
-/
namespace TsV.C03E
open TsV TsV.Generate

/-- the back-end call of `Generate.run` -/
def genAll (E : Ext) (lang : LangCfg) (mf : Bool)
    (jobs : List (Str × ParsedData × Option Pipeline.ScopedCrateTypes)) : Outcome (List (Str × Str)) :=
  match lang with
  | .typescript cfg => Lang.TypeScript.generateAll E cfg mf jobs
  | .kotlin cfg => Lang.Kotlin.generateAll E cfg mf jobs
  | .swift cfg => Lang.Swift.generateAll E cfg mf jobs
  | .scala cfg => Lang.Scala.generateAll E cfg mf jobs
  | .go cfg => Lang.Go.generateAll E cfg mf jobs
  | .python cfg => Lang.Python.generateAll E cfg mf jobs

end TsV.C03E

namespace TsV.C14H
abbrev Job := Str × ParsedData × Option Pipeline.ScopedCrateTypes
end TsV.C14H

namespace TsV.C14_Helpers
open TsV
/-- the jobs `Generate.run` hands to the back end -/
def runJobs (multiFile : Bool) (crates : List (Str × ParsedData)) : List C14H.Job :=
  let all := if multiFile then Pipeline.allTypes crates else []
  crates.map fun (c, d) =>
    (c, d, if multiFile then
        some (Pipeline.usedImports d all d.importTypes (Generate.firstOther all d.crateName))
      else none)
end TsV.C14_Helpers

namespace TsV.Run
open TsV TsV.Pipeline TsV.Generate TsV.Outcome TsV.C06M TsV.C03E

/-- the parse context of a run -/
abbrev ctxOf (lang : LangCfg) (multiFile : Bool) (targetOs : List Str) : ParseContext :=
  { ignoredTypes := ignoredTypes lang, multiFile, targetOs }

open TsV.C14_Helpers (runJobs)

theorem jobs_single (crates : List (Str × ParsedData)) : runJobs false crates = crates.map fun p => (p.1, p.2, none) := rfl

theorem mem_jobs {multiFile : Bool} {crates : List (Str × ParsedData)} {j : Job} (h : j ∈ runJobs multiFile crates) :
    (j.1, j.2.1) ∈ crates := by
  obtain ⟨⟨c, d⟩, hq, rfl⟩ := List.mem_map.1 h
  exact hq

variable (E : Ext) (lang : LangCfg) (multiFile : Bool) (targetOs : List Str)
  (pick : List ImportedType → Option ImportedType) (files : List SourceFile)

/-- what a run does once the files are parsed -/
def finish (arrivals : List ParsedData) : Outcome RunResult :=
  if !(allErrors (reconcile (collect arrivals))).isEmpty then
    .ok (.parseErrors (allErrors (reconcile (collect arrivals))))
  else (genAll E lang multiFile (runJobs multiFile (reconcile (collect arrivals)))).bind fun o => .ok (.outputs o)

theorem run_eq : run E lang multiFile targetOs pick files =
    (parseAll E (ctxOf lang multiFile targetOs) pick files).bind (finish E lang multiFile) := by
  cases lang <;> rfl

variable {E lang multiFile targetOs pick files}

theorem run_of_parse {arrivals : List ParsedData}
    (h : parseAll E (ctxOf lang multiFile targetOs) pick files = .ok arrivals) :
    run E lang multiFile targetOs pick files = finish E lang multiFile arrivals := by
  rw [run_eq, h]; rfl

/-- **a run that produced output**: the files parsed, no error was recorded, and the output is the back end's on
the job list -/
theorem run_outputs {outs : List (Str × Str)} (h : run E lang multiFile targetOs pick files = .ok (.outputs outs)) :
    ∃ arrivals, parseAll E (ctxOf lang multiFile targetOs) pick files = .ok arrivals ∧
      allErrors (reconcile (collect arrivals)) = [] ∧
      genAll E lang multiFile (runJobs multiFile (reconcile (collect arrivals))) = .ok outs := by
  rw [run_eq] at h
  obtain ⟨arrivals, ha, h⟩ := of_bind_ok h
  refine ⟨arrivals, ha, ?_⟩
  unfold finish at h
  by_cases he : (!(allErrors (reconcile (collect arrivals))).isEmpty) = true
  · rw [if_pos he] at h; cases h
  · rw [if_neg he] at h
    obtain ⟨o, ho, h⟩ := of_bind_ok h
    cases h
    exact ⟨by simpa using he, ho⟩

/-- **a run stopped by `check_parse_errors`**: the files parsed and the errors are those of the collected map, not
none -/
theorem run_parseErrors {errs : List (ErrKind × Str)}
    (h : run E lang multiFile targetOs pick files = .ok (.parseErrors errs)) :
    ∃ arrivals, parseAll E (ctxOf lang multiFile targetOs) pick files = .ok arrivals ∧
      errs = allErrors (reconcile (collect arrivals)) ∧ errs ≠ [] := by
  rw [run_eq] at h
  obtain ⟨arrivals, ha, h⟩ := of_bind_ok h
  refine ⟨arrivals, ha, ?_⟩
  unfold finish at h
  by_cases he : (!(allErrors (reconcile (collect arrivals))).isEmpty) = true
  · rw [if_pos he] at h
    cases h
    exact ⟨rfl, by simpa using he⟩
  · rw [if_neg he] at h
    obtain ⟨o, _, h⟩ := of_bind_ok h
    cases h

theorem finish_of_errors {arrivals : List ParsedData} (h : allErrors (reconcile (collect arrivals)) ≠ []) :
    finish E lang multiFile arrivals = .ok (.parseErrors (allErrors (reconcile (collect arrivals)))) := by
  unfold finish
  rw [if_pos (by simpa using h)]

theorem finish_of_clean {arrivals : List ParsedData} (h : allErrors (reconcile (collect arrivals)) = []) :
    finish E lang multiFile arrivals =
      (genAll E lang multiFile (runJobs multiFile (reconcile (collect arrivals)))).bind fun o => .ok (.outputs o) := by
  unfold finish
  rw [if_neg (by simp [h])]

end TsV.Run
