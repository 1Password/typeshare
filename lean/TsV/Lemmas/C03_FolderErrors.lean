import TsV.Lemmas.C06_Multi_Collect
/-!
# C03_FolderErrors — helper lemmas: the error lists along collect / reconcile / `check_parse_errors`

The run's error exit is modelled: `Pipeline.allErrors` (= `check_parse_errors`, the concatenation of
the crates' error lists in map order) and the `if !errs.isEmpty then .ok (.parseErrors errs)` of
`Generate.run`.  The merge is `Pipeline.addAssign` (`errors := a.errors ++ b.errors`).
-/
namespace TsV.C03_FolderErrors
open TsV TsV.Pipeline TsV.Collect TsV.C06M TsV.Generate

/-! ## partitioning a list by a key -/

theorem flatMap_filter_skip {α} (key : α → Str) (d : α) (t : List α) : ∀ ks : List Str, key d ∉ ks →
    (ks.flatMap fun c => (d :: t).filter fun x => key x == c) = ks.flatMap fun c => t.filter fun x => key x == c := by
  intro ks
  induction ks with
  | nil => exact fun _ => rfl
  | cons k ks ih =>
    intro h
    have hk : (key d == k) = false := by
      cases hb : key d == k with
      | false => rfl
      | true => exact absurd (List.mem_cons.2 (Or.inl (eq_of_beq hb))) h
    rw [List.flatMap_cons, List.flatMap_cons, List.filter_cons, hk, if_neg (by simp),
      ih (fun m => h (List.mem_cons_of_mem _ m))]

theorem flatMap_filter_cons {α} (key : α → Str) (d : α) (t : List α) : ∀ ks : List Str, ks.Nodup → key d ∈ ks →
    (ks.flatMap fun c => (d :: t).filter fun x => key x == c).Perm
      (d :: ks.flatMap fun c => t.filter fun x => key x == c) := by
  intro ks
  induction ks with
  | nil => exact fun _ h => by simp at h
  | cons k ks ih =>
    intro hn h
    obtain ⟨hk, hn'⟩ := List.nodup_cons.1 hn
    by_cases e : key d = k
    · subst e
      rw [List.flatMap_cons, List.flatMap_cons, List.filter_cons, beq_self_eq_true, if_pos rfl, List.cons_append,
        flatMap_filter_skip key d t ks hk]
    · have hb : (key d == k) = false := by simpa using e
      have hm : key d ∈ ks := by
        rcases List.mem_cons.1 h with h | h
        · exact absurd h e
        · exact h
      rw [List.flatMap_cons, List.flatMap_cons, List.filter_cons, hb, if_neg (by simp)]
      exact ((ih hn' hm).append_left _).trans List.perm_middle

/-- the classes of a partition by key, concatenated over a duplicate-free list of all the keys, are a
permutation of the list -/
theorem flatMap_filter_perm {α} (key : α → Str) : ∀ (a : List α) (ks : List Str), ks.Nodup → (∀ d ∈ a, key d ∈ ks) →
    (ks.flatMap fun c => a.filter fun x => key x == c).Perm a := by
  intro a
  induction a with
  | nil => intro ks _ _; simp
  | cons d t ih =>
    intro ks hn h
    exact (flatMap_filter_cons key d t ks hn (h d List.mem_cons_self)).trans
      ((ih ks hn fun x hx => h x (List.mem_cons_of_mem _ hx)).cons d)

/-! ## the error lists -/

/-- the errors of one crate's entry: its files' errors, concatenated in arrival order -/
theorem entry_errors (a : List ParsedData) {c : Str} {v : ParsedData} (h : (c, v) ∈ collect a) :
    v.errors = (arr a c).flatMap (·.errors) := by
  rw [(collect_entry a h).1, merged_errors]
  rfl

theorem allErrors_collect (a : List ParsedData) :
    allErrors (collect a) = ((collect a).map (·.1)).flatMap fun c => (arr a c).flatMap (·.errors) := by
  unfold allErrors
  rw [List.flatMap_map, List.flatMap_def, List.flatMap_def]
  exact congrArg List.flatten (List.map_congr_left fun p hp => entry_errors a (c := p.1) (v := p.2) hp)

theorem reconcile_errors (m : List (Str × ParsedData)) :
    (reconcile m).map (fun p => (p.1, p.2.errors)) = m.map fun p => (p.1, p.2.errors) := by
  unfold reconcile
  rw [List.map_map]
  apply List.map_congr_left
  intro p _
  rfl

theorem allErrors_nil_iff (m : List (Str × ParsedData)) : allErrors m = [] ↔ ∀ p ∈ m, p.2.errors = [] := by
  simp [allErrors, List.flatMap_eq_nil_iff]

theorem flatMap_ne_nil_iff {α β} {f : α → List β} {l : List α} : l.flatMap f ≠ [] ↔ ∃ x ∈ l, f x ≠ [] := by
  simp only [Ne, List.flatMap_eq_nil_iff, Classical.not_forall, exists_prop]

theorem nil_iff_of_perm {α} {l l' : List α} (h : l.Perm l') : l = [] ↔ l' = [] :=
  ⟨fun e => (e ▸ h.symm).eq_nil, fun e => (e ▸ h).eq_nil⟩

theorem allErrors_append (m m' : List (Str × ParsedData)) : allErrors (m ++ m') = allErrors m ++ allErrors m' := by
  simp [allErrors]

/-! ## `parser::parse` after the visit -/

/-- `reconcile_referenced_types` only rewrites the import list -/
theorem reconcileReferencedTypes_errors (U : UnicodeOps) (pick : List ImportedType → Option ImportedType)
    (d : ParsedData) : (Visitor.reconcileReferencedTypes U pick d).errors = d.errors := by
  unfold Visitor.reconcileReferencedTypes
  rfl

theorem reconcileReferencedTypes_crateName (U : UnicodeOps) (pick : List ImportedType → Option ImportedType)
    (d : ParsedData) : (Visitor.reconcileReferencedTypes U pick d).crateName = d.crateName := by
  unfold Visitor.reconcileReferencedTypes
  rfl

end TsV.C03_FolderErrors
