import TsV.Lemmas.C07_Backends_Base
import TsV.Lemmas.Rename
import TsV.Lemmas.RustTypes
/-!
# C07, generation side — Go

Panic sites of the Go model and how they are discharged:

* `index.rs:1020`, `go.rs:600` (`String::replace_range` in `convert_acronyms_to_uppercase`):
  unreachable when every configured acronym satisfies `acronymOk` — its Pascal-cased pattern is ASCII
  and the upper-cased pattern is ASCII of the same length.  Then every replacement keeps the *byte
  layout* (`lay`: the list of UTF-8 sizes of the characters) of the running result equal to that of
  the name the match offsets were computed in, so every offset is a character boundary
  (`convertAcronyms_ok`).
* `go.rs:333` (`format_type(..).unwrap()`): Go's `format_type` never fails (`formatType_ok`).
* `go.rs:301` (`unreachable!()` for a non-unit variant of a `RustEnum::Unit`): unreachable for enums
  that satisfy `enumUnitOk`.
* `topsort`: `generateOrder_total`.
-/
namespace TsV.C07BE.Go
open TsV TsV.Outcome TsV.Lang TsV.Lang.Go

/-- the byte layout of a string: the UTF-8 size of every character -/
def lay (s : Str) : List Nat := s.map Char.utf8Size

theorem foldl_size (s : Str) : ∀ k : Nat, s.foldl (fun n c => n + c.utf8Size) k = k + (lay s).sum := by
  induction s with
  | nil => intro k; simp [lay]
  | cons c t ih => intro k; simp only [List.foldl_cons, ih, lay, List.map_cons, List.sum_cons]; omega

theorem utf8Len_eq (s : Str) : utf8Len s = (lay s).sum := by
  simp [utf8Len, foldl_size]

theorem utf8Len_of_lay {a b : Str} (h : lay a = lay b) : utf8Len a = utf8Len b := by
  rw [utf8Len_eq, utf8Len_eq, h]

theorem utf8Len_nil : utf8Len [] = 0 := rfl

theorem utf8Len_cons (c : Char) (s : Str) : utf8Len (c :: s) = c.utf8Size + utf8Len s := by
  simp [utf8Len_eq, lay]

theorem utf8Len_append (a b : Str) : utf8Len (a ++ b) = utf8Len a + utf8Len b := by
  simp [utf8Len_eq, lay]

theorem lay_append (a b : Str) : lay (a ++ b) = lay a ++ lay b := by simp [lay]

theorem utf8Size_of_ascii {c : Char} (h : Str.isAscii c = true) : c.utf8Size = 1 := by
  have h' : c.val.toNat < 128 := by simpa [Str.isAscii] using h
  have : c.val ≤ UInt32.ofNatLT 127 (by decide) := by
    rw [UInt32.le_iff_toNat_le]; show c.val.toNat ≤ 127; omega
  simp only [Char.utf8Size]
  exact if_pos this

/-- an all-ASCII string -/
def asciiStr (s : Str) : Bool := s.all Str.isAscii

theorem lay_of_ascii {s : Str} (h : asciiStr s = true) : lay s = List.replicate s.length 1 := by
  induction s with
  | nil => rfl
  | cons c t ih =>
    have h' : Str.isAscii c = true ∧ asciiStr t = true := by simpa [asciiStr] using h
    simp only [lay, List.map_cons, List.length_cons, List.replicate_succ, utf8Size_of_ascii h'.1]
    exact congrArg _ (ih h'.2)

theorem utf8Len_of_ascii {s : Str} (h : asciiStr s = true) : utf8Len s = s.length := by
  rw [utf8Len_eq, lay_of_ascii h]; simp

theorem splitAtByte_zero (s : Str) : splitAtByte s 0 = some ([], s) := by
  cases s <;> rfl

/-- splitting at the byte length of a prefix succeeds and returns that prefix -/
theorem splitAtByte_append : ∀ (a b : Str), splitAtByte (a ++ b) (utf8Len a) = some (a, b) := by
  intro a b
  induction a with
  | nil => simp [utf8Len_nil, splitAtByte_zero]
  | cons c a ih =>
    have hpos := Char.utf8Size_pos c
    obtain ⟨n, hn⟩ : ∃ n, utf8Len (c :: a) = n + 1 := ⟨c.utf8Size + utf8Len a - 1, by
      rw [utf8Len_cons]; omega⟩
    rw [hn, List.cons_append]
    simp only [splitAtByte]
    rw [utf8Len_cons] at hn
    have hle : c.utf8Size ≤ n + 1 := by omega
    have hsub : n + 1 - c.utf8Size = utf8Len a := by omega
    rw [if_pos hle, hsub, ih]
    rfl

/-- `replace_range` on a range that is a whole run of characters -/
theorem replaceRange_ok (pre mid post rep : Str) :
    replaceRange (pre ++ mid ++ post) (utf8Len pre) (utf8Len pre + utf8Len mid) rep = .ok (pre ++ rep ++ post) := by
  unfold replaceRange
  have hlen : ¬ utf8Len (pre ++ mid ++ post) < utf8Len pre + utf8Len mid := by
    rw [utf8Len_append, utf8Len_append]; omega
  rw [if_neg hlen, List.append_assoc, splitAtByte_append]
  simp only
  have : utf8Len pre + utf8Len mid - utf8Len pre = utf8Len mid := by omega
  rw [this, splitAtByte_append]

/-- a string with the layout of `a ++ b` splits accordingly -/
theorem lay_split : ∀ (a b res : Str), lay res = lay (a ++ b) →
    ∃ a' b', res = a' ++ b' ∧ lay a' = lay a ∧ lay b' = lay b := by
  intro a b
  induction a with
  | nil => exact fun res h => ⟨[], res, rfl, rfl, by simpa using h⟩
  | cons c a ih =>
    intro res h
    cases res with
    | nil => simp [lay] at h
    | cons d r =>
      simp only [lay, List.cons_append, List.map_cons, List.cons.injEq] at h
      obtain ⟨a', b', hr, ha, hb⟩ := ih r h.2
      exact ⟨d :: a', b', by simp [hr], by simp [lay, h.1] at *; exact ha, hb⟩

theorem startsWith_split : ∀ (s p : Str), Str.startsWith s p = true → s = p ++ s.drop p.length := by
  intro s p
  induction p generalizing s with
  | nil => exact fun _ => rfl
  | cons b p ih =>
    intro h
    cases s with
    | nil => cases h
    | cons a s =>
      simp only [Str.startsWith, Bool.and_eq_true, beq_iff_eq] at h
      simp only [List.length_cons, List.drop_succ_cons, List.cons_append, h.1]
      exact congrArg _ (ih s h.2)

theorem mem_boundaries : ∀ (s : Str) (off i : Nat), i ∈ boundaries off s →
    ∃ pre post, s = pre ++ post ∧ i = off + utf8Len pre := by
  intro s
  induction s with
  | nil =>
    intro off i h
    simp only [boundaries, List.mem_singleton] at h
    exact ⟨[], [], rfl, by simp [h, utf8Len_nil]⟩
  | cons c t ih =>
    intro off i h
    simp only [boundaries, List.mem_cons] at h
    rcases h with rfl | h
    · exact ⟨[], c :: t, rfl, by simp [utf8Len_nil]⟩
    · obtain ⟨pre, post, ht, hi⟩ := ih _ i h
      exact ⟨c :: pre, post, by simp [ht], by rw [utf8Len_cons]; omega⟩

theorem mem_go (pat : Str) : ∀ (fuel off : Nat) (s : Str) (i : Nat), i ∈ matchIndices.go pat fuel off s →
    ∃ pre post, s = pre ++ pat ++ post ∧ i = off + utf8Len pre := by
  intro fuel
  induction fuel with
  | zero => intro off s i h; simp [matchIndices.go] at h
  | succ n ih =>
    intro off s i h
    cases s with
    | nil => simp [matchIndices.go] at h
    | cons c t =>
      simp only [matchIndices.go] at h
      split at h
      · rename_i hsw
        have hs := startsWith_split _ _ hsw
        simp only [List.mem_cons] at h
        rcases h with rfl | h
        · exact ⟨[], (c :: t).drop pat.length, by simpa using hs, by simp [utf8Len_nil]⟩
        · obtain ⟨pre, post, hd, hi⟩ := ih _ _ i h
          refine ⟨pat ++ pre, post, ?_, ?_⟩
          · rw [hs, hd]
            simp [List.append_assoc]
          · rw [utf8Len_append]; omega
      · obtain ⟨pre, post, hd, hi⟩ := ih _ _ i h
        exact ⟨c :: pre, post, by simp [hd], by rw [utf8Len_cons]; omega⟩

/-- every offset `match_indices` yields is the byte length of a prefix that is followed by the pattern -/
theorem mem_matchIndices (name pat : Str) (i : Nat) (h : i ∈ matchIndices name pat) :
    ∃ pre post, name = pre ++ pat ++ post ∧ i = utf8Len pre := by
  unfold matchIndices at h
  split at h
  · rename_i he
    have hp : pat = [] := List.isEmpty_iff.1 he
    obtain ⟨pre, post, hs, hi⟩ := mem_boundaries name 0 i h
    exact ⟨pre, post, by simp [hp, hs], by omega⟩
  · obtain ⟨pre, post, hs, hi⟩ := mem_go pat _ 0 name i h
    exact ⟨pre, post, hs, by omega⟩

/-- the condition on one `uppercase_acronyms` entry: its Pascal-cased pattern is ASCII and upper-cases
to an ASCII string of the same length (true of every ASCII entry under Rust's `to_uppercase`, see
`acronymOk_of_ascii`) -/
def acronymOk (U : UnicodeOps) (a : Str) : Bool :=
  let pat := Rename.toPascal U a
  asciiStr pat && asciiStr (U.upperStr pat) && (U.upperStr pat).length == pat.length

/-- the condition on the Go configuration -/
def cfgOk (U : UnicodeOps) (cfg : Cfg) : Bool := cfg.uppercaseAcronyms.all (acronymOk U)

theorem acronymOk_lay {U : UnicodeOps} {a : Str} (h : acronymOk U a = true) :
    asciiStr (Rename.toPascal U a) = true ∧ lay (U.upperStr (Rename.toPascal U a)) = lay (Rename.toPascal U a) := by
  simp only [acronymOk, Bool.and_eq_true, beq_iff_eq] at h
  exact ⟨h.1.1, by rw [lay_of_ascii h.1.1, lay_of_ascii h.1.2, h.2]⟩

/-- one replacement keeps the layout -/
theorem replace_step (name res pat rep pre post : Str) (hname : name = pre ++ pat ++ post)
    (hpat : asciiStr pat = true) (hrep : lay rep = lay pat) (hres : lay res = lay name) :
    ∃ r, replaceRange res (utf8Len pre) (utf8Len pre + pat.length) rep = .ok r ∧ lay r = lay name := by
  rw [hname, List.append_assoc] at hres
  obtain ⟨pre', rest', hr, hpre, hrest⟩ := lay_split pre (pat ++ post) res hres
  obtain ⟨mid', post', hr2, hmid, hpost⟩ := lay_split pat post rest' hrest
  have e1 : utf8Len pre = utf8Len pre' := (utf8Len_of_lay hpre).symm
  have e2 : pat.length = utf8Len mid' := by rw [utf8Len_of_lay hmid, utf8Len_of_ascii hpat]
  refine ⟨pre' ++ rep ++ post', ?_, ?_⟩
  · rw [hr, hr2, e1, e2, ← List.append_assoc]; exact replaceRange_ok _ _ _ _
  · rw [hname]; simp only [lay_append, hpre, hrep, hpost]

/-- the inner loop of `convert_acronyms_to_uppercase` keeps whatever one replacement at a match keeps -/
theorem foldlM_acronym_inv (U : UnicodeOps) (name pat rep : Str) {I : Str → Prop}
    (step : ∀ pre post res, name = pre ++ pat ++ post → I res →
      ∃ r, replaceRange res (utf8Len pre) (utf8Len pre + pat.length) rep = .ok r ∧ I r) :
    ∀ (is : List Nat), (∀ i ∈ is, ∃ pre post, name = pre ++ pat ++ post ∧ i = utf8Len pre) →
    ∀ res : Str, I res →
    ∃ r, is.foldlM (init := res) (fun res i =>
        if ((name[i + pat.length]?).map fun c => !U.isLower c).getD true then
          replaceRange res i (i + pat.length) rep
        else Outcome.ok res) = .ok r ∧ I r := by
  intro is
  induction is with
  | nil => exact fun _ res hres => ⟨res, rfl, hres⟩
  | cons i is ih =>
    intro his res hres
    obtain ⟨pre, post, hname, hi⟩ := his i List.mem_cons_self
    have htail := ih fun j hj => his j (List.mem_cons_of_mem _ hj)
    simp only [List.foldlM_cons]
    split
    · obtain ⟨r, hr, hI⟩ := step pre post res hname hres
      rw [hi, hr]
      exact htail r hI
    · exact htail res hres

/-- … and so does the outer loop over the acronyms -/
theorem convertAcronyms_inv (U : UnicodeOps) (name : Str) {I : Str → Prop} : ∀ (acronyms : List Str),
    (∀ a ∈ acronyms, ∀ pre post res, name = pre ++ Rename.toPascal U a ++ post → I res →
      ∃ r, replaceRange res (utf8Len pre) (utf8Len pre + (Rename.toPascal U a).length)
        (U.upperStr (Rename.toPascal U a)) = .ok r ∧ I r) →
    ∀ res : Str, I res → ∃ r, acronyms.foldlM (init := res) (applyAcronym U name) = .ok r ∧ I r := by
  intro acronyms
  induction acronyms with
  | nil => exact fun _ res hres => ⟨res, rfl, hres⟩
  | cons a as ih =>
    intro h res hres
    obtain ⟨r, hr, hI⟩ := foldlM_acronym_inv U name _ _ (h a List.mem_cons_self) _
      (fun i hi => mem_matchIndices name _ i hi) res hres
    simp only [List.foldlM_cons]
    rw [show applyAcronym U name res a = .ok r from hr]
    exact ih (fun b hb => h b (List.mem_cons_of_mem _ hb)) r hI

/-- **`convert_acronyms_to_uppercase` returns** (no `replace_range` panic) for every name when every
acronym is `acronymOk`; the result has the byte layout of the name -/
theorem convertAcronyms_ok (U : UnicodeOps) (name : Str) (acronyms : List Str)
    (h : acronyms.all (acronymOk U) = true) : ∀ res : Str, lay res = lay name →
    ∃ r, acronyms.foldlM (init := res) (applyAcronym U name) = .ok r ∧ lay r = lay name :=
  convertAcronyms_inv U name (I := fun r => lay r = lay name) acronyms fun a ha pre post res hname hres =>
    let ⟨hpat, hrep⟩ := acronymOk_lay (List.all_eq_true.1 h a ha)
    replace_step name res _ _ pre post hname hpat hrep hres

theorem acr_ok (U : UnicodeOps) (cfg : Cfg) (h : cfgOk U cfg = true) (name : Str) : IsOk (acr U cfg name) := by
  obtain ⟨r, hr, _⟩ := convertAcronyms_ok U name cfg.uppercaseAcronyms h name rfl
  exact ⟨r, hr⟩

theorem asciiUpper_ascii {c : Char} (h : Str.isAscii c = true) : Str.isAscii (Str.asciiUpper c) = true := by
  cases hl : Str.isAsciiLower c
  · rw [RenameLemmas.asciiUpper_of_notLower c hl]; exact h
  · have := RenameLemmas.lower_spec c hl
    exact decide_eq_true (by omega)

theorem asciiLower_ascii {c : Char} (h : Str.isAscii c = true) : Str.isAscii (Str.asciiLower c) = true := by
  cases hu : Str.isAsciiUpper c
  · rw [RenameLemmas.asciiLower_of_notUpper c hu]; exact h
  · have := RenameLemmas.upper_spec c hu
    exact decide_eq_true (by omega)

theorem pascalGo_ascii (tl : Bool) : ∀ (cap : Bool) (s : Str), asciiStr s = true →
    asciiStr (Rename.pascalGo tl cap s) = true := by
  intro cap s
  induction s generalizing cap with
  | nil => exact fun _ => rfl
  | cons ch rest ih =>
    intro h
    have h' : Str.isAscii ch = true ∧ asciiStr rest = true := by simpa [asciiStr] using h
    simp only [Rename.pascalGo]
    split
    · exact ih true h'.2
    · split
      · simp only [asciiStr, List.all_cons, Bool.and_eq_true]
        exact ⟨asciiUpper_ascii h'.1, ih false h'.2⟩
      · simp only [asciiStr, List.all_cons, Bool.and_eq_true]
        refine ⟨?_, ih false h'.2⟩
        split
        · exact asciiLower_ascii h'.1
        · exact h'.1

theorem upperStr_ascii {U : UnicodeOps} (hU : U.AsciiCorrect) : ∀ s : Str, asciiStr s = true →
    asciiStr (U.upperStr s) = true ∧ (U.upperStr s).length = s.length := by
  intro s
  induction s with
  | nil => exact fun _ => ⟨rfl, rfl⟩
  | cons c t ih =>
    intro h
    have h' : Str.isAscii c = true ∧ asciiStr t = true := by simpa [asciiStr] using h
    have hc : U.toUpper c = [Str.asciiUpper c] := hU.toUpper c (by simpa [Str.isAscii] using h'.1)
    obtain ⟨i1, i2⟩ := ih h'.2
    simp only [UnicodeOps.upperStr] at i1 i2 ⊢
    simp only [List.flatMap_cons, hc, List.singleton_append, asciiStr, List.all_cons, Bool.and_eq_true,
      List.length_cons]
    exact ⟨⟨asciiUpper_ascii h'.1, i1⟩, by omega⟩

/-- with Rust's case mapping on ASCII (`AsciiCorrect`), every ASCII `uppercase_acronyms` entry is fine -/
theorem acronymOk_of_ascii {U : UnicodeOps} (hU : U.AsciiCorrect) {a : Str} (h : asciiStr a = true) :
    acronymOk U a = true := by
  have hp : asciiStr (Rename.toPascal U a) = true := pascalGo_ascii _ _ _ h
  obtain ⟨h1, h2⟩ := upperStr_ascii hU _ hp
  simp [acronymOk, hp, h1, h2]

theorem cfgOk_of_ascii {U : UnicodeOps} (hU : U.AsciiCorrect) {cfg : Cfg}
    (h : cfg.uppercaseAcronyms.all asciiStr = true) : cfgOk U cfg = true := by
  rw [cfgOk, List.all_eq_true]
  intro a ha
  exact acronymOk_of_ascii hU (List.all_eq_true.1 h a ha)

theorem special_ok (cfg : Cfg) (t : RustType) (st : Imports) (k : Imports → Outcome (Str × Imports))
    (hk : ∀ st, IsOk (k st)) : IsOk (special cfg t st k) := by
  unfold special; split
  · exact isOk_ok _
  · exact hk _

theorem formatTypes_ok_of (cfg : Cfg) (ts : List RustType) : (∀ t ∈ ts, ∀ st, IsOk (formatType cfg t st)) →
    ∀ st, IsOk (formatTypes cfg ts st) := by
  induction ts with
  | nil => exact fun _ _ => isOk_ok _
  | cons t ts ih =>
    exact fun h st => isOk_bind (h t List.mem_cons_self st) fun ⟨_, _⟩ =>
      isOk_bind (ih (fun x hx => h x (List.mem_cons_of_mem _ hx)) _) fun ⟨_, _⟩ => isOk_ok _

/-- Go's `format_type` has no error arm (`GenericsForbiddenInGo` is never constructed) -/
theorem formatType_ok (cfg : Cfg) (t : RustType) : ∀ st, IsOk (formatType cfg t st) := by
  induction t using rustType_induct with
  | simple id => exact fun _ => isOk_ok _
  | generic id ps ih =>
    intro st
    simp only [formatType]; split
    · exact isOk_ok _
    · exact isOk_bind (formatTypes_ok_of cfg ps ih st) fun ⟨_, _⟩ => isOk_ok _
  | vec r ih | array r _ ih | slice r ih | option r ih =>
    exact fun _ => special_ok _ _ _ _ fun st => isOk_bind (ih st) fun ⟨_, _⟩ => isOk_ok _
  | hashMap k v ihk ihv =>
    exact fun _ => special_ok _ _ _ _ fun st => isOk_bind (ihk st) fun ⟨_, st⟩ =>
      isOk_bind (ihv st) fun ⟨_, _⟩ => isOk_ok _
  | prim p =>
    refine fun _ => special_ok _ _ _ _ fun st => ?_
    split <;> exact isOk_ok _

theorem formatTypes_ok (cfg : Cfg) : ∀ (ts : List RustType) (st : Imports), IsOk (formatTypes cfg ts st) :=
  fun ts => formatTypes_ok_of cfg ts fun t _ => formatType_ok cfg t

theorem formatType_np (cfg : Cfg) (t : RustType) (st : Imports) : NP (formatType cfg t st) :=
  (formatType_ok cfg t st).np

section
variable (U : UnicodeOps) (cfg : Cfg) (hc : cfgOk U cfg = true)
include hc

theorem acr_np (name : Str) : NP (acr U cfg name) := (acr_ok U cfg hc name).np

theorem fieldName_np (name : Str) : NP (fieldName U cfg name) := acr_np U cfg hc _

theorem anonName_np (e : RustEnum) (v : Str) : NP (anonName U cfg e v) := acr_np U cfg hc _

theorem fieldFacts_np (f : RustField) (st : Imports) : NP (fieldFacts U cfg f st) := by
  refine np_bind _ _ ?_ fun ⟨_, _⟩ => np_bind _ _ (acr_np U cfg hc _) fun _ =>
    np_bind _ _ (fieldName_np U cfg hc _) fun _ => np_ok _
  split
  · exact np_ok _
  · exact formatType_np cfg f.ty st

theorem fieldsFacts_np (fs : List RustField) : ∀ (st : Imports), NP (fieldsFacts U cfg fs st) :=
  thread_np (fieldsFacts U cfg) (fun _ => np_ok _) (fun _ _ _ => rfl) fun f _ => fieldFacts_np U cfg hc f

theorem structFacts_np (rs : RustStruct) (st : Imports) : NP (structFacts U cfg rs st) :=
  np_bind _ _ (acr_np U cfg hc _) fun _ => np_bind _ _ (fieldsFacts_np U cfg hc rs.fields st) fun ⟨_, _⟩ => np_ok _

theorem writeStruct_np (rs : RustStruct) (st : Imports) : NP (writeStruct U cfg rs st) :=
  np_bind _ _ (structFacts_np U cfg hc rs st) fun ⟨_, _⟩ => np_ok _

theorem aliasFacts_np (a : RustTypeAlias) (st : Imports) : NP (aliasFacts U cfg a st) :=
  np_bind _ _ (acr_np U cfg hc _) fun _ => np_bind _ _ (formatType_np cfg a.ty st) fun ⟨_, _⟩ => np_ok _

theorem writeAlias_np (a : RustTypeAlias) (st : Imports) : NP (writeAlias U cfg a st) :=
  np_bind _ _ (aliasFacts_np U cfg hc a st) fun ⟨_, _⟩ => np_ok _

/-- go.rs:301 (`unreachable!()`) needs a non-unit variant -/
theorem unitConsts_np (original : Str) : ∀ vs : List RustEnumVariant, vs.all Parser.variantIsUnit = true →
    NP (unitConsts U cfg original vs) := by
  intro vs
  induction vs with
  | nil => exact fun _ => np_ok _
  | cons v vs ih =>
    intro h
    cases v with
    | unit _ _ =>
      exact np_bind _ _ (acr_np U cfg hc _) fun _ => np_bind _ _ (acr_np U cfg hc _) fun _ =>
        np_bind _ _ (ih h) fun _ => np_ok _
    | tuple _ _ _ | anonymousStruct _ _ _ => cases h

theorem anonStructs_np (e : RustEnum) (ps : List (Id × List RustField)) :
    ∀ st : Imports, NP (anonStructs U cfg e ps st) := by
  induction ps with
  | nil => exact fun _ => np_ok _
  | cons p rest ih =>
    obtain ⟨_, _⟩ := p
    exact fun st => np_bind _ _ (anonName_np U cfg hc e _) fun _ =>
      np_bind _ _ (structFacts_np U cfg hc _ st) fun ⟨_, _⟩ => np_bind _ _ (ih _) fun ⟨_, _⟩ => np_ok _

/-- go.rs:333: the `unwrap()` of `format_type` cannot fire because `format_type` has no error arm -/
theorem algVariant_np (e : RustEnum) (structName tagKey : Str) (cs : List Str) (v : RustEnumVariant)
    (st : Imports) : NP (algVariant U cfg e structName tagKey cs v st) := by
  refine np_bind _ _ (acr_np U cfg hc _) fun _ => np_bind _ _ ?_ fun ⟨payload, _⟩ =>
    np_bind _ _ (acr_np U cfg hc _) fun _ => np_bind _ _ ?_ fun _ => np_ok _
  · cases v with
    | unit _ _ => exact np_ok _
    | anonymousStruct _ _ _ => exact np_bind _ _ (anonName_np U cfg hc e _) fun _ => np_ok _
    | tuple _ _ ty =>
      obtain ⟨r, hr⟩ := formatType_ok cfg ty st
      dsimp only
      rw [hr]
      exact np_ok _
  · cases payload with
    | none => exact np_ok _
    | some t => exact np_bind _ _ (acr_np U cfg hc _) fun _ => np_ok _

theorem algVariants_np (e : RustEnum) (structName tagKey : Str) (cs : List Str) (vs : List RustEnumVariant) :
    ∀ st : Imports, NP (algVariants U cfg e structName tagKey cs vs st) :=
  thread_np (algVariants U cfg e structName tagKey cs) (fun _ => np_ok _) (fun _ _ _ => rfl)
    fun v _ => algVariant_np U cfg hc e structName tagKey cs v

omit hc in
theorem shortName_np (original : Str) : NP (shortName U original) := by
  cases original <;> exact np_ok _

theorem algEnumFacts_np (e : RustEnum) (tagKey contentKey : Str) (cs : List Str) (st : Imports) :
    NP (algEnumFacts U cfg e tagKey contentKey cs st) :=
  np_bind _ _ (anonStructs_np U cfg hc e _ st) fun ⟨_, _⟩ => np_bind _ _ (acr_np U cfg hc _) fun _ =>
    np_bind _ _ (fieldName_np U cfg hc _) fun _ => np_bind _ _ (shortName_np U _) fun _ =>
      np_bind _ _ (acr_np U cfg hc _) fun _ =>
        np_bind _ _ (algVariants_np U cfg hc e _ tagKey cs e.variants _) fun ⟨_, _⟩ => np_ok _

theorem writeEnum_np (e : RustEnum) (cs : List Str) (st : Imports) (h : enumUnitOk e = true) :
    NP (writeEnum U cfg e cs st) := by
  unfold writeEnum
  unfold enumUnitOk at h
  split
  · rename_i hk
    rw [hk] at h
    exact np_bind _ _ (anonStructs_np U cfg hc e _ st) fun ⟨_, _⟩ => np_bind _ _ (acr_np U cfg hc _) fun _ =>
      np_bind _ _ (unitConsts_np U cfg hc _ e.variants h) fun _ => np_ok _
  · exact np_bind _ _ (algEnumFacts_np U cfg hc e _ _ cs st) fun ⟨_, _⟩ => np_ok _

omit hc in
theorem constFacts_np (c : RustConst) (st : Imports) : NP (constFacts U cfg c st) :=
  np_bind _ _ (formatType_np cfg c.ty st) fun ⟨_, _⟩ => np_ok _

omit hc in
theorem writeConst_np (c : RustConst) (st : Imports) : NP (writeConst U cfg c st) :=
  np_bind _ _ (constFacts_np U cfg c st) fun ⟨_, _⟩ => np_ok _

theorem writeItem_np (cs : List Str) (it : RustItem) (st : Imports) (h : itemUnitOk it = true) :
    NP (writeItem U cfg cs it st) := by
  cases it with
  | enum e => exact writeEnum_np U cfg hc e cs st h
  | struct s => exact writeStruct_np U cfg hc s st
  | alias a => exact writeAlias_np U cfg hc a st
  | const c => exact writeConst_np U cfg c st

theorem writeItems_np (cs : List Str) (its : List RustItem) : ∀ (st : Imports),
    (∀ it ∈ its, itemUnitOk it = true) → NP (writeItems U cfg cs its st) :=
  fun st h => thread_np (writeItems U cfg cs) (fun _ => np_ok _) (fun _ _ _ => rfl)
    (fun it hit st => writeItem_np U cfg hc cs it st (h it hit)) st

theorem generate_np (d : ParsedData) (st : Imports) (h : dataUnitOk d = true) : NP (generate U cfg d st) := by
  obtain ⟨out, ho, _⟩ := generateOrder_total d
  simp only [generate, ho]
  exact np_bind _ _ (writeItems_np U cfg hc _ out _ (order_unitOk h ho)) fun ⟨_, _⟩ => np_ok _

theorem generateFrom_np (jobs : List Job) : ∀ (st : Imports), jobsUnitOk jobs = true →
    NP (generateFrom U cfg jobs st) :=
  fun st h => thread_np (generateFrom U cfg) (fun _ => np_ok _) (fun _ _ _ => rfl)
    (fun p hp st => generate_np U cfg hc p.2.1 st (List.all_eq_true.1 h p hp)) st

end

theorem generateAll_np (E : Ext) (cfg : Cfg) (multi : Bool) (jobs : List Job) (hc : cfgOk E.U cfg = true)
    (h : jobsUnitOk jobs = true) : NP (generateAll E cfg multi jobs) :=
  generateFrom_np E.U cfg hc jobs [] h

end TsV.C07BE.Go
