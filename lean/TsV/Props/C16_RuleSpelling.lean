import TsV.Props.C16
/-!
# C16 — a rule is recognised by its exact spelling only

`Props/C16.lean` has `unknown_rule` (`Rule.ofStr r = none → renameAllToCase U s (some r) = .ok s`) and
`rename_by_rule` (typeshare's dispatch is serde's `RenameRule::from_str`).  This module adds *which* strings
are rules:

* `ruleName` / `ruleNames`: the eight spellings of `serde_derive/src/internals/case.rs` (trusted, compared with
  the vendored file by the C16 check).
* `ofStr_iff`: `Rule.ofStr s = some r ↔ r ≠ .none ∧ s = ruleName r` — byte equality with one of the eight
  names, nothing weaker (no case folding, no trimming, no separator normalisation), because `Rule.ofStr` is a
  lookup in the table (`ofStr_eq_lookup`); `ofStr_none_iff`: `Rule.ofStr s = none ↔ s ∉ ruleNames`.
* `C16_RuleSpelling : C16_RuleSpelling_full` — for every string that is not byte-equal to one of the eight
  names, `renameAllToCase U ident (some s) = .ok ident` for every identifier and every Unicode table; and for
  a name, the dispatch is that rule's (`rename_by_rule`).
* `near_misses_unknown`: a kernel-checked list of near-miss spellings (letter case, `-` for `_`, blanks,
  prefixes, the other family's separators, look-alike letters), none of which is a rule.

The string meant is the one `rename_all_to_case` receives, i.e. the attribute value *after* `literal_to_string`
has trimmed it: the spellings with blanks around a name are unknown to `Rule.ofStr`, but written in an
attribute they reach it trimmed (the recorded finding `rule-string-trimmed`, `Parser.exprToString`).
-/
namespace TsV.C16_RuleSpelling
open TsV TsV.Str TsV.Serde TsV.Rename

/-- serde's spelling of a rule (`RENAME_RULES` in `case.rs`); `Rule.none` has none -/
def ruleName : Rule → Str
  | .none => []
  | .lower => s%"lowercase"
  | .upper => s%"UPPERCASE"
  | .pascal => s%"PascalCase"
  | .camel => s%"camelCase"
  | .snake => s%"snake_case"
  | .screamingSnake => s%"SCREAMING_SNAKE_CASE"
  | .kebab => s%"kebab-case"
  | .screamingKebab => s%"SCREAMING-KEBAB-CASE"

def rules : List Rule := [.lower, .upper, .pascal, .camel, .snake, .screamingSnake, .kebab, .screamingKebab]
def ruleNames : List Str := rules.map ruleName

/-- the first rule of `l` whose name is `s` -/
def lookup (s : Str) : List Rule → Option Rule
  | [] => none
  | r :: l => if s = ruleName r then some r else lookup s l

/-- `RenameRule::from_str` walks the table of the eight names -/
theorem ofStr_eq_lookup (s : Str) : Rule.ofStr s = lookup s rules := rfl

theorem lookup_some {s : Str} {r : Rule} :
    ∀ {l : List Rule}, lookup s l = some r → r ∈ l ∧ s = ruleName r := by
  intro l h
  induction l with
  | nil => cases h
  | cons a l ih =>
    unfold lookup at h
    split at h
    · cases h; exact ⟨List.mem_cons_self .., ‹_›⟩
    · exact ⟨List.mem_cons_of_mem _ (ih h).1, (ih h).2⟩

theorem mem_rules (r : Rule) : r ∈ rules ↔ r ≠ .none := by
  cases r <;> decide +kernel

/-- each of the eight names denotes its rule (one evaluation of the whole table, not one per rule) -/
theorem ofStr_name (r : Rule) (h : r ≠ .none) : Rule.ofStr (ruleName r) = some r :=
  List.map_inj_left.1 (by decide +kernel : rules.map (fun r => Rule.ofStr (ruleName r)) = rules.map some)
    r ((mem_rules r).2 h)

/-- **exact spelling**: a string denotes the rule `r` iff it is byte-equal to `r`'s name -/
theorem ofStr_iff (s : Str) (r : Rule) : Rule.ofStr s = some r ↔ r ≠ .none ∧ s = ruleName r := by
  constructor
  · intro h
    rw [ofStr_eq_lookup] at h
    exact ⟨(mem_rules r).1 (lookup_some h).1, (lookup_some h).2⟩
  · rintro ⟨hn, rfl⟩
    exact ofStr_name r hn

/-- a string is no rule iff it is none of the eight names -/
theorem ofStr_none_iff (s : Str) : Rule.ofStr s = none ↔ s ∉ ruleNames := by
  constructor
  · intro h hm
    obtain ⟨r, hr, rfl⟩ := List.mem_map.1 hm
    rw [ofStr_name r ((mem_rules r).1 hr)] at h
    cases h
  · intro h
    cases ho : Rule.ofStr s with
    | none => rfl
    | some r =>
      obtain ⟨hr, rfl⟩ := (ofStr_iff s r).1 ho
      exact absurd (List.mem_map.2 ⟨r, (mem_rules r).2 hr, rfl⟩) h

/-- the names are pairwise different, so `ruleName` is injective on the eight rules -/
theorem ruleNames_nodup : ruleNames.Nodup := by decide +kernel

/-- **the statement**: outside the eight exact spellings `rename_all` renames nothing; on a spelling the
dispatch is that rule's -/
def C16_RuleSpelling_full : Prop :=
  ∀ (U : UnicodeOps) (ident s : Str),
    (s ∉ ruleNames → renameAllToCase U ident (some s) = .ok ident) ∧
    (∀ r ∈ rules, s = ruleName r → renameAllToCase U ident (some s) = C16.byRule U ident (some r))

/-- **C16_RuleSpelling.** -/
theorem C16_RuleSpelling : C16_RuleSpelling_full := by
  intro U ident s
  refine ⟨fun h => C16.unknown_rule U ident s ((ofStr_none_iff s).2 h), ?_⟩
  rintro r hr rfl
  rw [C16.rename_by_rule, ofStr_name r ((mem_rules r).1 hr)]

/-! ## near misses, kernel-checked -/

def nearMisses : List Str :=
  [s%"", s%" ", s%"lowerCase", s%"Lowercase", s%"LOWERCASE", s%"lower", s%"lowercase ", s%" lowercase",
   s%"lower_case", s%"lower-case",
   s%"uppercase", s%"UpperCase", s%"UPPER_CASE", s%"UPPER", s%"UPPERCASE\n",
   s%"pascalCase", s%"Pascalcase", s%"PASCALCASE", s%"Pascal_Case", s%"PascalCase\t", s%"UpperCamelCase",
   s%"CamelCase", s%"camelcase", s%"camel_case", s%"camel-case", s%"camelCASE", s%"lowerCamelCase",
   s%"snake-case", s%"snakeCase", s%"Snake_case", s%"SNAKE_CASE", s%"snake_Case", s%"snake case", s%"snake__case",
   s%"SCREAMING-SNAKE-CASE", s%"screaming_snake_case", s%"SCREAMING_SNAKE", s%"SCREAMINGSNAKECASE",
   s%"Screaming_Snake_Case", s%"SCREAMING_SNAKE-CASE",
   s%"kebab_case", s%"Kebab-case", s%"KEBAB-CASE", s%"kebabcase", s%"kebab–case", s%"kebab-Case",
   s%"SCREAMING_KEBAB_CASE", s%"screaming-kebab-case", s%"SCREAMING-KEBAB", s%"SCREAMING-KEBAB_CASE",
   s%"Train-Case", s%"сamelCase", s%"ｓnake_case", s%"\"camelCase\"", s%"camelCase,", s%"rename_all"]

theorem near_misses_unknown : ∀ s ∈ nearMisses, Rule.ofStr s = none := by decide +kernel

/-- hence they rename nothing, whatever the identifier -/
theorem near_misses_rename_nothing (U : UnicodeOps) (ident : Str) :
    ∀ s ∈ nearMisses, renameAllToCase U ident (some s) = .ok ident :=
  fun s hs => C16.unknown_rule U ident s (near_misses_unknown s hs)

/-! ## non-vacuity -/

example : nearMisses.length = 56 ∧ ∀ s ∈ nearMisses, s ∉ ruleNames := by
  refine ⟨by decide +kernel, fun s hs => (ofStr_none_iff s).1 (near_misses_unknown s hs)⟩
/-- the eight names are rules, and do rename -/
example : ruleNames.map Rule.ofStr = rules.map some := by decide +kernel
example : renameAllToCase .ascii s%"fooBar" (some s%"snake_case") = .ok s%"foo_bar" ∧
    renameAllToCase .ascii s%"fooBar" (some s%"snake-case") = .ok s%"fooBar" ∧
    renameAllToCase .ascii s%"fooBar" (some s%"Snake_case") = .ok s%"fooBar" := by decide +kernel

end TsV.C16_RuleSpelling
