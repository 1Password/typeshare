import TsV.Props.C11
import TsV.Lemmas.C11_Coverage
/-!
# C11, coverage half — the graph `get_dependencies` builds contains every reference

`Props/C11.lean` shows that `toposort_impl` orders any *acyclic graph* dependencies-first.  This file
connects that graph to the program: it states what "item `i` refers to item `j`" means (trusted
specification, §1) and proves about the model `Deps.depsItem` / `Deps.depsType` / `Deps.graph`:

* `seen_empty_after_item`, `seen_restored_type`, `seen_restored_item`, `quirk_harmless` — state
  restoration of the `seen` set (§3);
* `coverage : Coverage_full` — every reference is an edge of the graph (§4), unconditionally in the
  shape of the types (no acyclicity needed);
* `edge_sound`, `graph_acyclic` — every edge is a chain of references (§5);
* `graph_total` — `get_index(...).expect(..)` / `types.get(dep).unwrap()` never panic (§5);
* `C11_order : C11_order_full` — end to end on `Deps.topsort` (§6).

Model state: `get_dependencies_from_type` walks the arguments of `G<args>` unconditionally (since the
repair of the two classes "head is not an item" / "head already on the path"; both are regression
examples in §8).
-/
namespace TsV.C11
open TsV TsV.Deps TsV.Topsort

/-! ## 1. Trusted specification: the direct reference relation of a program -/

mutual
  /-- every `Simple` / `Generic` name occurring anywhere in a type (under `Vec`, arrays, slices,
  `Option`, both sides of `HashMap`, generic arguments at any depth) -/
  def refsType : RustType → List Str
    | .simple id => [id]
    | .generic id ps => id :: refsTypes ps
    | .vec t | .array t _ | .slice t | .option t => refsType t
    | .hashMap k v => refsType k ++ refsType v
    | .prim _ => []
  def refsTypes : List RustType → List Str
    | [] => []
    | t :: ts => refsType t ++ refsTypes ts
end

/-- the types an item mentions: all field types of a struct; tuple payloads and struct-variant field
types of an algebraic enum (a unit enum has none); the target of an alias; the type of a const -/
def itemTypes : RustItem → List RustType
  | .struct s => s.fields.map (·.ty)
  | .enum e =>
    match e.keys with
    | none => []
    | some _ => e.variants.flatMap fun v => match v with
      | .tuple _ _ ty => [ty]
      | .anonymousStruct _ _ fs => fs.map (·.ty)
      | .unit _ _ => []
  | .alias a => [a.ty]
  | .const c => [c.ty]

/-- the names an item refers to -/
def refsItem (it : RustItem) : List Str := (itemTypes it).flatMap refsType

def refersB (items : List RustItem) (i j : Nat) : Bool :=
  match items[i]?, items[j]? with
  | some a, some b => (refsItem a).contains b.originalName
  | _, _ => false

/-- item `i` mentions the original name of item `j` (`i = j` allowed: a self reference is a cycle) -/
def Refers (items : List RustItem) (i j : Nat) : Prop := refersB items i j = true

/-- a chain of at least one reference -/
inductive RefReach (items : List RustItem) : Nat → Nat → Prop
  | single {a b} : Refers items a b → RefReach items a b
  | step {a b c} : RefReach items a b → Refers items b c → RefReach items a c

/-- the reference relation of the program has no cycle (in particular no item mentions itself) -/
def AcyclicRefs (items : List RustItem) : Prop := ∀ a, ¬ RefReach items a a

/-! ## 2. Hypotheses of the theorems (all decidable, see the examples at the end) -/

mutual
  /-- nesting depth of a type -/
  def depth : RustType → Nat
    | .simple _ => 1
    | .prim _ => 1
    | .generic _ ps => depthList ps + 1
    | .vec t | .array t _ | .slice t | .option t => depth t + 1
    | .hashMap k v => max (depth k) (depth v) + 1
  def depthList : List RustType → Nat
    | [] => 0
    | t :: ts => max (depth t) (depthList ts)
end

/-- the model's recursion fuel (`fuelFor items = 4·n + 256`; the Rust code has none) exceeds the
nesting depth of every type of the program -/
def DepthOk (items : List RustItem) : Prop :=
  ∀ it ∈ items, ∀ t ∈ itemTypes it, depth t < fuelFor items

/-- the generic parameter names of an alias (`get_type_alias_dependencies` looks each of them up as
if it were a type of the program) -/
def itemGenerics : RustItem → List Str
  | .alias a => a.genericTypes
  | _ => []

/-- a generic parameter of an alias that happens to be spelled like an item of the program also
occurs in the alias target (always so in Rust source: an unused type parameter is error E0091) -/
def GenericsUsed (items : List RustItem) : Prop :=
  ∀ it ∈ items, ∀ g ∈ itemGenerics it, (lookup items g).isSome → g ∈ refsItem it

instance (items : List RustItem) : Decidable (NamesDistinct items) := by
  unfold NamesDistinct; infer_instance
instance (items : List RustItem) : Decidable (DepthOk items) := by
  unfold DepthOk; infer_instance
instance (items : List RustItem) : Decidable (GenericsUsed items) := by
  unfold GenericsUsed; infer_instance
instance (items : List RustItem) (i j : Nat) : Decidable (Refers items i j) := by
  unfold Refers; infer_instance

theorem itemTypes_eq (it : RustItem) : itemTypes it = typesOf it := by
  cases it <;> rfl
theorem itemGenerics_eq (it : RustItem) : itemGenerics it = gensOf it := by
  cases it <;> rfl

theorem mem_refsItem {it : RustItem} {x : Str} :
    x ∈ refsItem it ↔ ∃ t ∈ itemTypes it, x ∈ refsType t := by
  simp [refsItem, List.mem_flatMap]

theorem mem_refsTypes {ps : List RustType} {x : Str} :
    x ∈ refsTypes ps ↔ ∃ p ∈ ps, x ∈ refsType p := by
  induction ps with
  | nil => simp [refsTypes]
  | cons a t ih => simp [refsTypes, ih]

/-- a type refers to its head name and to what its parameters refer to -/
theorem mem_refsType {t : RustType} {x : Str} :
    x ∈ refsType t ↔ headName t = some x ∨ ∃ p ∈ t.parameters, x ∈ refsType p := by
  rw [← mem_refsTypes]
  cases t <;> simp [refsType, refsTypes, headName, RustType.parameters, eq_comm]

theorem depth_le_depthList {p : RustType} {ps : List RustType} (h : p ∈ ps) :
    depth p ≤ depthList ps := by
  induction ps with
  | nil => simp at h
  | cons a t ih =>
    simp only [depthList]
    rcases List.mem_cons.1 h with rfl | h'
    · exact Nat.le_max_left _ _
    · exact Nat.le_trans (ih h') (Nat.le_max_right _ _)

theorem depth_lt {p t : RustType} (h : p ∈ t.parameters) : depth p < depth t := by
  have h1 := depth_le_depthList h
  have h2 : depth t = depthList t.parameters + 1 := by
    cases t <;> simp [depth, depthList, RustType.parameters]
  omega

theorem depth_pos (t : RustType) : 1 ≤ depth t := by
  cases t <;> simp [depth]

theorem refers_iff {items : List RustItem} {i j : Nat} :
    Refers items i j ↔ ∃ a b, items[i]? = some a ∧ items[j]? = some b ∧ b.originalName ∈ refsItem a := by
  unfold Refers refersB
  constructor
  · intro h
    split at h
    · rename_i a b ha hb
      exact ⟨a, b, ha, hb, by simpa using h⟩
    · simp at h
  · rintro ⟨a, b, ha, hb, h⟩
    simp [ha, hb, h]

theorem RefReach.head {items : List RustItem} {a b c : Nat} (h1 : Refers items a b)
    (h2 : RefReach items b c) : RefReach items a c := by
  induction h2 with
  | single h => exact .step (.single h1) h
  | step _ h ih => exact .step ih h

theorem RefReach.trans {items : List RustItem} {a b c : Nat} (h1 : RefReach items a b)
    (h2 : RefReach items b c) : RefReach items a c := by
  induction h2 with
  | single h => exact .step h1 h
  | step _ h ih => exact .step ih h

/-- a decidable sufficient condition for `AcyclicRefs`: some rank strictly decreases along references -/
theorem acyclic_of_rank (items : List RustItem) (rank : Nat → Nat)
    (h : ((List.range items.length).all fun i => (List.range items.length).all fun j =>
      !refersB items i j || decide (rank j < rank i)) = true) : AcyclicRefs items := by
  have hstep : ∀ i j, Refers items i j → rank j < rank i := by
    intro i j hr
    obtain ⟨a, b, ha, hb, _⟩ := refers_iff.1 hr
    have hi : i < items.length := (List.getElem?_eq_some_iff.1 ha).1
    have hj : j < items.length := (List.getElem?_eq_some_iff.1 hb).1
    simp only [List.all_eq_true, List.mem_range] at h
    have := h i hi j hj
    unfold Refers at hr
    simpa [hr] using this
  have hreach : ∀ i j, RefReach items i j → rank j < rank i := by
    intro i j hr
    induction hr with
    | single h => exact hstep _ _ h
    | step _ h ih => exact Nat.lt_trans (hstep _ _ h) ih
  intro a ha
  exact Nat.lt_irrefl _ (hreach a a ha)

/-! ## 3. State restoration of `seen` (where the trailing `seen.remove(tp.id())` is shown harmless) -/

/-- **Unconditionally** — cycles and self references included — `seen` only ever loses elements
(it is a sublist of what it was), `res` only grows, and every pushed name resolves. -/
theorem seen_shrinks_res_grows (items : List RustItem) (fuel : Nat) (ds : DS) :
    (∀ it, Deps.Ext items ds (depsItem items fuel it ds)) ∧
      (∀ t, Deps.Ext items ds (depsType items fuel t ds)) :=
  ⟨fun it => depsItem_ext items fuel it ds, fun t => depsType_ext items fuel t ds⟩

/-- The traversal of an item that `topsort` starts on a fresh `HashSet` ends with an empty set. -/
theorem seen_empty_after_item (items : List RustItem) (fuel : Nat) (it : RustItem) :
    (depsItem items fuel it ⟨[], []⟩).seen = [] := depsItem_top_seen items fuel it

/-- `get_dependencies_from_type` hands `seen` back exactly as found when no name in `seen` occurs in
the type (`allIds`: ids at any depth, including `tp.id()` of containers and primitives). -/
theorem seen_restored_type (items : List RustItem) (fuel : Nat) (t : RustType) (ds : DS)
    (hn : ds.seen.Nodup) (h : ∀ y ∈ ds.seen, y ∉ t.allIds) :
    (depsType items fuel t ds).seen = ds.seen := depsType_seen_eq items fuel t ds hn h

/-- `get_dependencies` hands `seen` back exactly as found when neither a name in `seen` nor the item's
own name occurs in its types (and no generic parameter of the item is spelled like an item). -/
theorem seen_restored_item (items : List RustItem) (fuel : Nat) (it : RustItem) (ds : DS)
    (hn : ds.seen.Nodup) (hg : ∀ g ∈ itemGenerics it, lookup items g = none)
    (h : ∀ t ∈ itemTypes it, ∀ y ∈ t.allIds, y ∉ ds.seen ∧ y ≠ it.originalName) :
    (depsItem items fuel it ds).seen = ds.seen := by
  rw [itemGenerics_eq] at hg; rw [itemTypes_eq] at h
  exact depsItem_seen_eq items fuel it ds hn hg h

/-- ids of a type are its references or built-in ids (`Vec`, `[]`, `&[]`, `Option`, `HashMap`, and
the primitive names) -/
def builtinIds : List Str :=
  [s%"Vec", s%"[]", s%"&[]", s%"Option", s%"HashMap", s%"()", s%"f64", s%"f32", s%"OffsetDateTime",
   s%"String", s%"char", s%"bool", s%"i8", s%"i16", s%"i32", s%"i64", s%"u8", s%"u16", s%"u32",
   s%"u64", s%"isize", s%"usize", s%"U53", s%"I54"]

theorem prim_id_builtin (p : Prim) : p.id ∈ builtinIds := by
  cases p <;> decide

theorem id_head_or_builtin (t : RustType) : headName t = some t.id ∨ t.id ∈ builtinIds := by
  cases t with
  | simple id | generic id ps => exact .inl rfl
  | prim p => exact .inr (prim_id_builtin p)
  | vec _ | array _ _ | slice _ | option _ | hashMap _ _ =>
    right; simp only [RustType.id]; decide +kernel

theorem allIds_sub (t : RustType) : ∀ y ∈ t.allIds, y ∈ refsType t ∨ y ∈ builtinIds := by
  induction t using parameters_induct with | h t ih
  intro y hy
  rw [allIds_eq, List.mem_cons, mem_allIdsList_iff] at hy
  rw [mem_refsType]
  rcases hy with rfl | ⟨p, hp, hy⟩
  · exact (id_head_or_builtin t).imp_left Or.inl
  · exact (ih p hp y hy).imp_left fun h => Or.inr ⟨p, hp, h⟩

/-- **The quirk is harmless on acyclic programs**: while `topsort` walks item `i` of a program whose
reference relation is acyclic (here only: the item does not mention itself) and whose name is not a
built-in id, `seen` is exactly `[name]` after each of its types — the trailing
`seen.remove(tp.id())` never removes anything. -/
theorem quirk_harmless (items : List RustItem) (hac : AcyclicRefs items) (i : Nat) (it : RustItem)
    (hi : items[i]? = some it) (hb : it.originalName ∉ builtinIds) (fuel : Nat)
    (done rest : List RustType) (hsplit : itemTypes it = done ++ rest) :
    (typesFold items fuel done ⟨[], [it.originalName]⟩).seen = [it.originalName] := by
  apply typesFold_seen_eq items fuel done ⟨[], [it.originalName]⟩ (by simp)
  intro t ht y hy hy'
  simp only [List.mem_singleton] at hy
  subst hy
  rcases allIds_sub t _ hy' with h | h
  · apply hac i
    apply RefReach.single
    rw [refers_iff]
    exact ⟨it, it, hi, hi, mem_refsItem.2 ⟨t, by rw [hsplit]; simp [ht], h⟩⟩
  · exact hb h

/-! ## 4. Coverage: every reference is pushed -/

/-- what `depsType` with fuel `f` achieves (proof device): every name of the type that resolves and
is not in `seen` is pushed -/
def Covers (items : List RustItem) (f : Nat) : Prop :=
  ∀ (t : RustType) (ds : DS), depth t ≤ f → ∀ x ∈ refsType t, (lookup items x).isSome →
    x ∉ ds.seen → x ∈ (depsType items f t ds).res

theorem typesFold_covers (items : List RustItem) (f : Nat) (H : Covers items f) :
    ∀ (ts : List RustType) (ds : DS), (∀ t ∈ ts, depth t ≤ f) →
      ∀ t ∈ ts, ∀ x ∈ refsType t, (lookup items x).isSome → x ∉ ds.seen →
        x ∈ (typesFold items f ts ds).res := by
  intro ts
  induction ts with
  | nil => intro _ _ t ht; simp at ht
  | cons a ts ih =>
    intro ds hd t ht x hx hl hne
    simp only [typesFold, List.foldl_cons]
    rcases List.mem_cons.1 ht with rfl | ht'
    · have := H t ds (hd t (by simp)) x hx hl hne
      exact (typesFold_ext items f ts _).mono this
    · exact ih (depsType items f a ds) (fun t' h' => hd t' (by simp [h'])) t ht' x hx hl
        (fun hy => hne ((depsType_ext items f a ds).seen.subset hy))

theorem depsType_covers (items : List RustItem) (f : Nat) : Covers items f := by
  induction f with
  | zero => intro t _ h; have := depth_pos t; omega
  | succ f ih =>
    intro t ds hd x hx hl hne
    rw [depsType_succ, remove_res]
    rcases mem_refsType.1 hx with hh | ⟨p, hp, hxp⟩
    · exact (typesFold_ext items f _ _).mono ((mem_headPush_res items).2 (.inr ⟨hh, hl, hne⟩))
    · exact typesFold_covers items f ih _ _ (fun t' h' => by have := depth_lt h'; omega) p hp x hxp hl
        (by simpa using hne)

/-- coverage for one item walked from a fresh `HashSet` -/
theorem depsItem_covers (items : List RustItem) (f : Nat) (it : RustItem)
    (hd : ∀ t ∈ itemTypes it, depth t ≤ f)
    (x : Str) (hx : x ∈ refsItem it) (hl : (lookup items x).isSome) (hne : x ≠ it.originalName) :
    x ∈ (depsItem items (f+1) it ⟨[], []⟩).res := by
  obtain ⟨t, ht, hxt⟩ := mem_refsItem.1 hx
  rw [depsItem_top]
  apply (gensFold_ext items f _ _).mono
  rw [← itemTypes_eq]
  exact typesFold_covers items f (depsType_covers items f) (itemTypes it) _ hd t ht x hxt hl
    (by simp [hne])

theorem graph_length {items : List RustItem} {g : List (List Nat)} (hg : Deps.graph items = some g) :
    g.length = items.length := by
  unfold Deps.graph at hg; exact (mapM_forall₂ hg).length_eq.symm

theorem graph_row {items : List RustItem} {g : List (List Nat)} (hg : Deps.graph items = some g)
    {i : Nat} {it : RustItem} (hi : items[i]? = some it) :
    ∃ deps, g[i]? = some deps ∧
      (depsItem items (fuelFor items) it ⟨[], []⟩).res.mapM
        (fun dep => (lookup items dep).bind (getIndex items)) = some deps := by
  unfold Deps.graph at hg
  exact (mapM_forall₂ hg).get? i it hi

/-- the statement at full strength: every reference between two different items is an edge -/
def Coverage_full : Prop :=
  ∀ (items : List RustItem) (g : List (List Nat)), NamesDistinct items → DepthOk items →
    Deps.graph items = some g → ∀ i j, Refers items i j → i ≠ j → Edge g i j

/-- **Coverage.**  Every reference of item `i` to another item `j` — in a field, a tuple or struct
variant, an alias target or a const type, at any depth under `Vec`/`Option`/`HashMap`/arrays/slices/
generic arguments (whatever the head of the generic type is) — is an edge `i → j` of the graph handed
to `toposort_impl`.  No acyclicity is needed. -/
theorem coverage : Coverage_full := by
  intro items g hd hdepth hg i j hr hij
  obtain ⟨a, b, ha, hb, hx⟩ := refers_iff.1 hr
  have hamem : a ∈ items := List.mem_iff_getElem?.2 ⟨i, ha⟩
  obtain ⟨deps, hdeps, hmap⟩ := graph_row hg ha
  have hlb := lookup_of_distinct hd hb
  have hne : b.originalName ≠ a.originalName := fun h => hij (names_inj hd ha hb h.symm)
  have hfuel : fuelFor items = (4 * items.length + 255) + 1 := by simp [fuelFor]
  have hres : b.originalName ∈ (depsItem items (fuelFor items) a ⟨[], []⟩).res := by
    rw [hfuel]
    apply depsItem_covers items _ a
    · intro t ht; have := hdepth a hamem t ht; simp only [fuelFor] at this; omega
    · exact hx
    · simp [hlb]
    · exact hne
  obtain ⟨d, hdmem, hdval⟩ := (mapM_forall₂ hmap).mem_left _ hres
  simp only [hlb, Option.bind_some, getIndex_of_distinct hd hb, Option.some.injEq] at hdval
  subst hdval
  exact ⟨deps, hdeps, hdmem⟩

/-! ## 5. Soundness of edges, totality of the graph -/

/-- what the walk over a list of types pushes, given what each single walk pushes -/
theorem typesFold_sound_of (items : List RustItem) (f : Nat)
    (H : ∀ (t : RustType) (ds : DS) (x : Str), x ∈ (depsType items f t ds).res → x ∈ ds.res ∨ x ∈ refsType t)
    (ts : List RustType) (ds : DS) :
    ∀ x ∈ (typesFold items f ts ds).res, x ∈ ds.res ∨ ∃ t ∈ ts, x ∈ refsType t :=
  typesFold_invariant items f ts (fun b => ∀ x ∈ b.res, x ∈ ds.res ∨ ∃ t ∈ ts, x ∈ refsType t)
    (fun t ht b hb x hx => (H t b x hx).elim (hb x) fun h => Or.inr ⟨t, ht, h⟩) ds fun _ hx => Or.inl hx

theorem depsType_sound (items : List RustItem) (f : Nat) : ∀ (t : RustType) (ds : DS) (x : Str),
    x ∈ (depsType items f t ds).res → x ∈ ds.res ∨ x ∈ refsType t := by
  induction f with
  | zero => intro t ds x hx; rw [depsType_zero] at hx; exact Or.inl hx
  | succ f ih =>
    intro t ds x hx
    rw [depsType_succ, remove_res] at hx
    rw [mem_refsType]
    rcases typesFold_sound_of items f ih _ _ x hx with h | ⟨p, hp, h⟩
    · exact ((mem_headPush_res items).1 h).imp_right fun h' => Or.inl h'.1
    · exact Or.inr (Or.inr ⟨p, hp, h⟩)

theorem typesFold_sound (items : List RustItem) (f : Nat) : ∀ (ts : List RustType) (ds : DS) (x : Str),
    x ∈ (typesFold items f ts ds).res → x ∈ ds.res ∨ ∃ t ∈ ts, x ∈ refsType t :=
  fun ts ds => typesFold_sound_of items f (depsType_sound items f) ts ds

/-- every item called `x` is reachable from item `k` by references -/
def NameReach (items : List RustItem) (k : Nat) (x : Str) : Prop :=
  ∀ j b, items[j]? = some b → b.originalName = x → RefReach items k j

/-- everything `get_dependencies` pushes for item `k` names an item reachable from `k` -/
theorem depsItem_sound (items : List RustItem) (hgu : GenericsUsed items) (f : Nat) :
    ∀ (k : Nat) (it : RustItem) (ds : DS) (x : Str), items[k]? = some it →
      x ∈ (depsItem items f it ds).res → x ∈ ds.res ∨ NameReach items k x := by
  induction f with
  | zero => intro k it ds x _ hx; rw [depsItem_zero] at hx; exact Or.inl hx
  | succ f ih =>
    intro k it ds x hk hx
    by_cases hs : it.originalName ∈ ds.seen
    · rw [depsItem_of_seen items _ it ds hs] at hx; exact Or.inl hx
    · rw [depsItem_succ items f it ds hs, remove_res] at hx
      revert hx
      apply gensFold_invariant items f (gensOf it) (fun b => x ∈ b.res → x ∈ ds.res ∨ NameReach items k x)
      · -- the `generic_types` loop: a parameter that is spelled like item `k'` occurs in the target, so `k` refers to `k'`
        intro g hg thing hl b hb hx
        obtain ⟨k', hk'⟩ := List.mem_iff_getElem?.1 (lookup_mem hl)
        refine (ih k' thing b x hk' hx).elim hb fun h => Or.inr fun j c hj hc => ?_
        have hgin : g ∈ refsItem it := hgu it (List.mem_iff_getElem?.2 ⟨k, hk⟩) g
          (by rw [itemGenerics_eq]; exact hg) (by rw [hl]; rfl)
        exact RefReach.head (refers_iff.2 ⟨it, thing, hk, hk', by rw [lookup_name hl]; exact hgin⟩) (h j c hj hc)
      · -- the walk over the item's own types pushes direct references
        intro hx
        refine (typesFold_sound items f _ _ x hx).imp_right fun ⟨t, ht, hxt⟩ j b hj hb => ?_
        exact .single (refers_iff.2 ⟨it, b, hk, hj, by
          rw [hb]; exact mem_refsItem.2 ⟨t, by rw [itemTypes_eq]; exact ht, hxt⟩⟩)

/-- an edge `i → j` comes from a name that the walk of item `i` pushed and that item `j` bears -/
theorem edge_pushed {items : List RustItem} {g : List (List Nat)} (hg : Deps.graph items = some g) {i j : Nat}
    (he : Edge g i j) :
    ∃ it dep c, items[i]? = some it ∧ dep ∈ (depsItem items (fuelFor items) it ⟨[], []⟩).res ∧
      items[j]? = some c ∧ c.originalName = dep := by
  obtain ⟨deps, hdeps, hj⟩ := he
  have hi : i < items.length := by
    rw [← graph_length hg]; exact (List.getElem?_eq_some_iff.1 hdeps).1
  obtain ⟨deps', hdeps', hmap⟩ := graph_row hg (List.getElem?_eq_getElem hi)
  rw [hdeps] at hdeps'; cases hdeps'
  obtain ⟨dep, hdep, hval⟩ := (mapM_forall₂ hmap).mem_right j hj
  cases hl : lookup items dep with
  | none => simp [hl] at hval
  | some thing =>
    simp only [hl, Option.bind_some] at hval
    obtain ⟨c, hc, hcn⟩ := getIndex_spec hval
    exact ⟨items[i], dep, c, List.getElem?_eq_getElem hi, hdep, hc, by rw [hcn, lookup_name hl]⟩

/-- **Soundness of edges**: every edge of the graph is a chain of references. -/
theorem edge_sound (items : List RustItem) (g : List (List Nat)) (hgu : GenericsUsed items)
    (hg : Deps.graph items = some g) (i j : Nat) (he : Edge g i j) : RefReach items i j := by
  obtain ⟨it, dep, c, hi, hdep, hc, hcn⟩ := edge_pushed hg he
  rcases depsItem_sound items hgu _ i it ⟨[], []⟩ dep hi hdep with h | h
  · simp at h
  · exact h j c hc hcn

/-- so the graph is acyclic whenever the reference relation is -/
theorem graph_acyclic (items : List RustItem) (g : List (List Nat)) (hgu : GenericsUsed items)
    (hg : Deps.graph items = some g) (hac : AcyclicRefs items) : Acyclic g := by
  have : ∀ a b, Reach g a b → RefReach items a b := by
    intro a b h
    induction h with
    | single h => exact edge_sound items g hgu hg _ _ h
    | step _ h ih => exact ih.trans (edge_sound items g hgu hg _ _ h)
  intro a ha
  exact hac a (this a a ha)

/-- **No panic while building the graph**: every pushed name is a key of `types`
(`types.get(dep).unwrap()`) and its item is found by `get_index` (`expect("Unable to find thing…")`),
for every program. -/
theorem graph_total (items : List RustItem) : ∃ g, Deps.graph items = some g := by
  apply Option.isSome_iff_exists.1
  unfold Deps.graph
  apply mapM_isSome
  intro it _
  apply mapM_isSome
  intro dep hdep
  obtain ⟨new, hnew, hres⟩ := (depsItem_ext items (fuelFor items) it ⟨[], []⟩).res
  have : dep ∈ new := by rw [hnew] at hdep; simpa using hdep
  obtain ⟨thing, hth⟩ := Option.isSome_iff_exists.1 (hres dep this)
  simp only [hth, Option.bind_some]
  exact getIndex_isSome_of_mem (lookup_mem hth)

/-! ## 6. End to end -/

/-- the ordering statement for one program: `topsort` returns the items rearranged so that whenever
the item at position `pa` mentions the name of the item at position `pb`, `pb` comes first -/
def Ordered (items : List RustItem) : Prop :=
  ∃ out, Deps.topsort items = some out ∧ out.Perm items ∧
    ∀ (pa pb : Nat) (a b : RustItem), out[pa]? = some a → out[pb]? = some b →
      b.originalName ∈ refsItem a → pb < pa

/-- the statement at full strength -/
def C11_order_full : Prop :=
  ∀ items : List RustItem, NamesDistinct items → DepthOk items → GenericsUsed items →
    AcyclicRefs items → Ordered items

theorem before_pos {order : List Nat} (hn : order.Nodup) {i j pa pb : Nat}
    (hb : Before order j i) (hpa : order[pa]? = some i) (hpb : order[pb]? = some j) : pb < pa := by
  obtain ⟨pre, post, hsplit, hj⟩ := hb
  obtain ⟨hpa', hpa''⟩ := List.getElem?_eq_some_iff.1 hpa
  obtain ⟨hpb', hpb''⟩ := List.getElem?_eq_some_iff.1 hpb
  have h1 : order[pre.length]? = some i := by
    rw [hsplit, List.getElem?_append_right (Nat.le_refl _)]; simp
  obtain ⟨h1', h1''⟩ := List.getElem?_eq_some_iff.1 h1
  have e1 : pa = pre.length := (List.getElem_inj hn).mp (by rw [hpa'', h1''])
  obtain ⟨q, hq⟩ := List.mem_iff_getElem?.1 hj
  have hqlt : q < pre.length := (List.getElem?_eq_some_iff.1 hq).1
  have h2 : order[q]? = some j := by
    rw [hsplit, List.getElem?_append_left hqlt]; exact hq
  obtain ⟨h2', h2''⟩ := List.getElem?_eq_some_iff.1 h2
  have e2 : pb = q := (List.getElem_inj hn).mp (by rw [hpb'', h2''])
  omega

/-- **C11, end to end.**  For a program with pairwise distinct original names, types nested less
deeply than the model's fuel, alias parameters that are used, and an acyclic reference relation,
`topsort` returns a permutation of the items in which every definition comes after every definition
it refers to. -/
theorem C11_order : C11_order_full := by
  intro items hd hdepth hgu hac
  obtain ⟨g, hg⟩ := graph_total items
  have hwf := graph_wf items g hg
  have hacg := graph_acyclic items g hgu hg hac
  obtain ⟨out, order, htop, hperm, hlen, hget, hbefore⟩ := topsort_items items g hg hwf hacg
  obtain ⟨out', htop', hperm'⟩ := topsort_perm items g hg hwf
  rw [htop] at htop'; cases htop'
  refine ⟨out, htop, hperm', ?_⟩
  intro pa pb a b hpa hpb hx
  have hnd : order.Nodup := (hperm.nodup_iff).2 List.nodup_range
  -- the indices of `a` and `b` in `items`
  have ha := hget pa; rw [hpa] at ha
  have hb := hget pb; rw [hpb] at hb
  cases hoa : order[pa]? with
  | none => simp [hoa] at ha
  | some ia =>
    cases hob : order[pb]? with
    | none => simp [hob] at hb
    | some ib =>
      simp only [hoa, Option.bind_some] at ha
      simp only [hob, Option.bind_some] at hb
      have hr : Refers items ia ib := refers_iff.2 ⟨a, b, ha.symm, hb.symm, hx⟩
      have hne : ia ≠ ib := by
        intro h; subst h; exact hac ia (.single hr)
      have hedge := coverage items g hd hdepth hg ia ib hr hne
      have hia : ia < items.length := (List.getElem?_eq_some_iff.1 ha.symm).1
      exact before_pos hnd (hbefore ia ib hia hedge) hoa hob

/-! ## 7. The fuel is immaterial

`DepthOk` only speaks about the model's recursion fuel: once the fuel exceeds the nesting depth of a
type the result does not depend on it. -/

theorem depsType_fuel (items : List RustItem) (f : Nat) : ∀ (f' : Nat) (t : RustType) (ds : DS),
    depth t ≤ f → depth t ≤ f' → depsType items f t ds = depsType items f' t ds := by
  induction f with
  | zero => intro f' t ds h; have := depth_pos t; omega
  | succ f ih =>
    intro f' t ds h h'
    cases f' with
    | zero => have := depth_pos t; omega
    | succ f' =>
      rw [depsType_succ, depsType_succ]
      congr 1
      apply foldl_congr_mem
      intro p hp b
      have := depth_lt hp
      exact ih f' p b (by omega) (by omega)

/-- for an item none of whose generic parameters is spelled like an item, any two fuels above the
depth of its types give the same result (with such parameters the recursion additionally descends
along the chain of shadowed aliases; not covered here) -/
theorem depsItem_fuel (items : List RustItem) (f f' : Nat) (it : RustItem) (ds : DS)
    (hg : ∀ g ∈ itemGenerics it, lookup items g = none)
    (h : ∀ t ∈ itemTypes it, depth t ≤ f ∧ depth t ≤ f') :
    depsItem items (f+1) it ds = depsItem items (f'+1) it ds := by
  rw [itemGenerics_eq] at hg; rw [itemTypes_eq] at h
  by_cases hs : it.originalName ∈ ds.seen
  · rw [depsItem_of_seen items _ it ds hs, depsItem_of_seen items _ it ds hs]
  · rw [depsItem_succ items f it ds hs, depsItem_succ items f' it ds hs,
      gensFold_of_none items f _ _ hg, gensFold_of_none items f' _ _ hg]
    congr 1
    apply foldl_congr_mem
    intro t ht b
    exact depsType_fuel items f f' t b (h t ht).1 (h t ht).2

/-! ## 8. Non-vacuity, regression examples, and kernel-checked witnesses for the hypotheses -/

namespace Ex
def mkId (n : Str) : Id := ⟨n, n, false⟩
def fld (n : Str) (t : RustType) : RustField :=
  { id := mkId n, ty := t, comments := [], hasDefault := false, decorators := [] }
def strct (n : Str) (fs : List RustField) : RustItem :=
  .struct { id := mkId n, genericTypes := [], fields := fs, comments := [], decorators := {},
            isRedacted := false }
def alias (n : Str) (gs : List Str) (t : RustType) : RustItem :=
  .alias { id := mkId n, genericTypes := gs, ty := t, comments := [], decorators := {},
           isRedacted := false }
def enm (n : Str) (vs : List RustEnumVariant) : RustItem :=
  .enum { keys := some (s%"type", s%"content"), id := mkId n, genericTypes := [], comments := [],
          variants := vs, decorators := {}, isRecursive := false, isRedacted := false }
def names (r : Option (List RustItem)) : Option (List Str) := r.map (·.map RustItem.originalName)

/-- `struct A { b: B, cs: Vec<C>, m: HashMap<String, Option<W<C>>> }`,
`enum B { V(C), S { x: [C; 2] } }` (tag/content), `struct W<T> { t: T }`, `struct C { n: u32 }` -/
def prog : List RustItem :=
  [ strct (s%"A") [fld (s%"b") (.simple (s%"B")), fld (s%"cs") (.vec (.simple (s%"C"))),
      fld (s%"m") (.hashMap (.prim .string) (.option (.generic (s%"W") [.simple (s%"C")])))],
    enm (s%"B") [.tuple (mkId (s%"V")) [] (.simple (s%"C")),
      .anonymousStruct (mkId (s%"S")) [] [fld (s%"x") (.array (.simple (s%"C")) 2)]],
    strct (s%"W") [fld (s%"t") (.simple (s%"T"))],
    strct (s%"C") [fld (s%"n") (.prim .u32)] ]

/-- `struct A { x: Foo<Foo<Bar>> }`, `struct Foo<T> { t: T }`, `struct Bar {}` -/
def nested : List RustItem :=
  [ strct (s%"A") [fld (s%"x") (.generic (s%"Foo") [.generic (s%"Foo") [.simple (s%"Bar")]])],
    strct (s%"Foo") [fld (s%"t") (.simple (s%"T"))],
    strct (s%"Bar") [] ]

/-- `struct A { x: Ext<Bar> }` (`Ext` is not an item of the list), `struct Bar {}` -/
def unknownHead : List RustItem :=
  [ strct (s%"A") [fld (s%"x") (.generic (s%"Ext") [.simple (s%"Bar")])],
    strct (s%"Bar") [] ]

/-- `struct A { a: A, a2: A, b: B }`, `struct B {}` -/
def selfTwice : List RustItem :=
  [ strct (s%"A") [fld (s%"a") (.simple (s%"A")), fld (s%"a2") (.simple (s%"A")),
      fld (s%"b") (.simple (s%"B"))],
    strct (s%"B") [] ]

/-- `type A<T> = u32`, `struct X { a: A, y: Y }`, `struct T { x: X }`, `struct Y {}` -/
def shadow : List RustItem :=
  [ alias (s%"A") [s%"T"] (.prim .u32),
    strct (s%"X") [fld (s%"a") (.simple (s%"A")), fld (s%"y") (.simple (s%"Y"))],
    strct (s%"T") [fld (s%"x") (.simple (s%"X"))],
    strct (s%"Y") [] ]
end Ex
open Ex

theorem topsort_eq {items : List RustItem} {g : List (List Nat)} {order : List Nat}
    (hg : Deps.graph items = some g) (ho : toposort g = some order) :
    Deps.topsort items = sortByIndices items order := by
  simp [Deps.topsort, hg, ho]

/-! ### a program that meets every hypothesis of `C11_order` -/
example : NamesDistinct prog := by decide +kernel
example : DepthOk prog := by decide +kernel
example : GenericsUsed prog := by decide +kernel
example : AcyclicRefs prog := acyclic_of_rank prog (fun i => 4 - i) (by decide +kernel)
example : Refers prog 0 1 ∧ Refers prog 0 2 ∧ Refers prog 0 3 ∧ Refers prog 1 3 := by decide +kernel
example : Ordered prog :=
  C11_order prog (by decide +kernel) (by decide +kernel) (by decide +kernel)
    (acyclic_of_rank prog (fun i => 4 - i) (by decide +kernel))
theorem graph_prog : Deps.graph prog = some [[1, 3, 2, 3], [3, 3], [], []] := by decide +kernel
/-- the graph (with the duplicate edges the traversal produces) and the emitted order -/
example : Deps.graph prog = some [[1, 3, 2, 3], [3, 3], [], []] := graph_prog
example : names (Deps.topsort prog) = some [s%"C", s%"B", s%"W", s%"A"] := by
  have ho : toposort [[1, 3, 2, 3], [3, 3], [], []] = some [3, 1, 2, 0] := by
    rw [toposort_eq_innerFuel]
    decide +kernel
  rw [topsort_eq graph_prog ho]
  decide +kernel
/-- state restoration is not vacuous: while `A` is walked, `seen` is `[A]` after each field -/
example : ∀ it, prog[0]? = some it →
    (typesFold prog 300 (itemTypes it) ⟨[], [it.originalName]⟩).seen = [it.originalName] := by
  intro it h
  refine quirk_harmless prog (acyclic_of_rank prog (fun i => 4 - i) (by decide +kernel)) 0 it h ?_ 300
    (itemTypes it) [] (by simp)
  simp only [prog, List.getElem?_cons_zero, Option.some.injEq] at h
  subst h; decide +kernel

/-! ### regression examples: generic arguments are followed whatever the head is
(before the repair of `get_dependencies_from_type` both programs were emitted with `A` before `Bar`:
the arguments were only walked when the head was an item *and* newly inserted into `seen`) -/

/-- `G<G<T1>>`: the head `Foo` is an item and occurs again on the path (it is pushed twice, a harmless
duplicate edge); `Bar` is a dependency of `A` -/
example : NamesDistinct nested ∧ DepthOk nested ∧ GenericsUsed nested ∧ Refers nested 0 2 := by
  decide +kernel
example : AcyclicRefs nested := acyclic_of_rank nested (fun i => 3 - i) (by decide +kernel)
theorem graph_nested : Deps.graph nested = some [[1, 1, 2], [], []] := by decide +kernel
example : Deps.graph nested = some [[1, 1, 2], [], []] := graph_nested
example : Ordered nested :=
  C11_order nested (by decide +kernel) (by decide +kernel) (by decide +kernel)
    (acyclic_of_rank nested (fun i => 3 - i) (by decide +kernel))
example : names (Deps.topsort nested) = some [s%"Foo", s%"Bar", s%"A"] := by
  have ho : toposort [[1, 1, 2], [], []] = some [1, 2, 0] := by
    rw [toposort_eq_innerFuel]
    decide +kernel
  rw [topsort_eq graph_nested ho]
  decide +kernel

/-- `Unknown<T1>`: the head `Ext` is not an item of the list; `Bar` is a dependency of `A` -/
example : NamesDistinct unknownHead ∧ DepthOk unknownHead ∧ GenericsUsed unknownHead ∧
    Refers unknownHead 0 1 := by decide +kernel
theorem graph_unknownHead : Deps.graph unknownHead = some [[1], []] := by decide +kernel
example : Deps.graph unknownHead = some [[1], []] := graph_unknownHead
example : Ordered unknownHead :=
  C11_order unknownHead (by decide +kernel) (by decide +kernel) (by decide +kernel)
    (acyclic_of_rank unknownHead (fun i => 2 - i) (by decide +kernel))
example : names (Deps.topsort unknownHead) = some [s%"Bar", s%"A"] := by
  have ho : toposort [[1], []] = some [1, 0] := by
    rw [toposort_eq_innerFuel]
    decide +kernel
  rw [topsort_eq graph_unknownHead ho]
  decide +kernel

/-! ### acyclicity is needed, and this is where the trailing `seen.remove(tp.id())` bites:
the first `a: A` is skipped (`A` is in `seen`) but the trailing `remove` then deletes `A` from `seen`,
the second `a2: A` is pushed, the graph gets the self loop `0 → 0`, `toposort_impl` treats it as a
cycle and abandons the rest of the adjacency list — `A` is emitted before `B`. -/
example : NamesDistinct selfTwice ∧ DepthOk selfTwice ∧ GenericsUsed selfTwice ∧
    Refers selfTwice 0 1 ∧ Refers selfTwice 0 0 := by decide +kernel
example : ¬ AcyclicRefs selfTwice := fun h => h 0 (.single (by decide +kernel))
theorem graph_selfTwice : Deps.graph selfTwice = some [[0, 1], []] := by decide +kernel
example : Deps.graph selfTwice = some [[0, 1], []] := graph_selfTwice
example : names (Deps.topsort selfTwice) = some [s%"A", s%"B"] := by
  have ho : toposort [[0, 1], []] = some [0, 1] := by
    rw [toposort_eq_innerFuel]
    decide +kernel
  rw [topsort_eq graph_selfTwice ho]
  decide +kernel
/-- coverage itself does not need acyclicity: the edge `0 → 1` is there -/
example : Edge [[0, 1], []] 0 1 := ⟨[0, 1], rfl, by simp⟩

/-! ### `GenericsUsed` is needed (only for alias parameters that Rust itself rejects as unused):
the parameter `T` of `type A<T> = u32` is looked up as the *struct* `T`, whose field type `X` becomes
a dependency of `A`; with the genuine reference `X → A` the graph has the cycle `A → X → A` although
the reference relation is acyclic, and `X` is emitted before the `Y` it uses. -/
example : NamesDistinct shadow ∧ DepthOk shadow ∧ ¬ GenericsUsed shadow := by decide +kernel
example : AcyclicRefs shadow :=
  acyclic_of_rank shadow (fun i => match i with | 0 => 0 | 1 => 2 | 2 => 3 | _ => 1) (by decide +kernel)
example : Refers shadow 1 3 := by decide +kernel
theorem graph_shadow : Deps.graph shadow = some [[1], [0, 3], [1], []] := by decide +kernel
example : Deps.graph shadow = some [[1], [0, 3], [1], []] := graph_shadow
example : names (Deps.topsort shadow) = some [s%"X", s%"A", s%"T", s%"Y"] := by
  have ho : toposort [[1], [0, 3], [1], []] = some [1, 0, 2, 3] := by
    rw [toposort_eq_innerFuel]
    decide +kernel
  rw [topsort_eq graph_shadow ho]
  decide +kernel

end TsV.C11
