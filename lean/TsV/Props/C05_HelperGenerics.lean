import TsV.Lemmas.C05_HelperGenerics
import TsV.Props.C09_HelperParams
/-!
# C05_HelperGenerics — the helper struct of a struct variant: its generic parameters and the arguments
every reference passes are one list, in one order

C05: "generic arguments and generic parameters are preserved in order".  For a struct variant
`V { f₁: t₁, … }` of a tagged enum `E<A, B, …>` five back ends write a helper struct `EVInner` whose
parameter list is *computed* (`Lang.anonymousStruct`: the enum's parameters some field mentions), and
Kotlin, Swift and Scala compute the same expression a second time where the enum's case refers to the
helper.  `Props/C09_HelperParams.lean` states which parameters are in the list; this module states the
**order** and that **declaration and use carry the same list**:

* `helper_order_sorted`, `helper_order_exact` — the list is sorted by (index of the first field that
  mentions the parameter, position in the enum's own list) and is the only list with these members that
  is; so: *first-mention order by field, declaration order within one field* — neither the enum's
  declaration order (`not_declaration_order`) nor the textual order inside one field
  (`not_textual_order_within_a_field`).
* `kotlin_sites`, `swift_sites`, `scala_sites` — record level: the list of (helper name, parameter
  clause) pairs the helper declarations of an enum declare is, entry by entry and in order, the list
  of (helper name, argument clause) pairs its cases apply — both are `sites`, built from `helperGens`.
* `kotlin_text`, `swift_text`, `scala_text` — text level: the block written for the enum contains, for
  every struct variant, the declaration head `<keyword><name><params>` and the use `<name><args>` with
  that one clause (Swift declares `<T: Codable, U: Codable>` and applies `<T, U>`: the same names in
  the same order, `swift_clause_names`).
* `go_python_bare` — Go and Python declare the same list (`type EVInner[U any, T any] struct`,
  `class EVInner(BaseModel, Generic[U, T])`) but refer to the helper by its bare name, without
  arguments; the enum's own type carries no parameter list in either (`go_python_text`).
* `C05_HelperGenerics : C05_HelperGenerics_full`.

Nothing is false on the model.  Trusted binding semantics: `Kt.declares`, `Kt.applies`, `Sw.declares`,
`Sw.applies`, `Sc.declares`, `Sc.applies` (Lemmas/C05_HelperGenerics.lean; each a projection).
-/
namespace TsV.C05_HelperGenerics
open TsV TsV.Lang TsV.C09 TsV.C09_HelperParams

/-! ## 1. the order -/

/-- **the helper's parameter list is sorted by (first field that mentions the parameter, position in
the enum's list)** -/
theorem helper_order_sorted (e : RustEnum) (n v : Str) (fs : List RustField) :
    (anonymousStruct e n v fs).genericTypes.Pairwise (Before e fs) :=
  helperGens_sorted e fs

/-- **exact characterisation**: it is the one list with the members `C09_HelperParams.helper_params_exact`
gives that is sorted this way -/
theorem helper_order_exact (e : RustEnum) (n v : Str) (fs : List RustField) (L : List Str) :
    L = (anonymousStruct e n v fs).genericTypes ↔
      L.Pairwise (Before e fs) ∧ ∀ g, g ∈ L ↔ g ∈ e.genericTypes ∧ ∃ f ∈ fs, Mentions f.ty g := by
  constructor
  · rintro rfl
    exact ⟨helper_order_sorted e n v fs, helper_params_exact e n v fs⟩
  · rintro ⟨hs, hm⟩
    exact helperGens_unique e fs L hs fun g => (hm g).trans (helper_params_exact e n v fs g).symm

/-- read as positions: of two parameters of the helper, the one whose first mentioning field comes
first stands first; if one field is the first to mention both, the enum's order decides -/
theorem helper_order_positions (e : RustEnum) (n v : Str) (fs : List RustField) (g g' : Str)
    (hg : g ∈ (anonymousStruct e n v fs).genericTypes) (hg' : g' ∈ (anonymousStruct e n v fs).genericTypes) (hne : g ≠ g') :
    (anonymousStruct e n v fs).genericTypes.idxOf g < (anonymousStruct e n v fs).genericTypes.idxOf g' ↔ Before e fs g g' := by
  rw [anonymousStruct_generics] at *
  exact pairwise_idxOf_lt (before_asymm e fs) (helperGens_sorted e fs) hg hg' hne

/-! ## 2. declaration and use carry one list: the fact records -/

/-- **Kotlin**: the declarations of a tagged enum are the helper classes and then the sealed class;
the (name, `<…>`) pairs the helpers declare are, in order, the (name, `<…>`) pairs the cases of the
sealed class apply, and both are `Kt.sites` (`helperGens` of each struct variant) -/
theorem kotlin_sites (c : Kotlin.Cfg) (e : RustEnum) (kc : Str × Str) (hk : e.keys = some kc) (ds : List Kotlin.KtDecl)
    (h : Kotlin.enumFacts c e = .ok ds) :
    ∃ inners cases, ds = inners ++ [.sealedClass e.comments (c.pfx ++ e.id.renamed) (genericSuffix e.genericTypes) cases] ∧
      inners.map Kt.declares = cases.filterMap Kt.applies ∧
      inners.map Kt.declares = (structVariants e).map fun p =>
        (c.pfx ++ e.id.renamed ++ p.1.original ++ s%"Inner",
         genericSuffix (anonymousStruct e (e.id.renamed ++ p.1.original ++ s%"Inner") p.1.original p.2).genericTypes) := by
  obtain ⟨inners, cases, hds, h1, h2⟩ := Kt.enumFacts_sites c e kc hk ds h
  have h1 : inners.map Kt.declares = Kt.sites c.pfx e := by
    have := congrArg (List.map Prod.snd) h1
    rwa [List.map_map, List.map_map] at this
  exact ⟨inners, cases, hds, h1.trans h2.symm, h1⟩

/-- **Swift**: each helper struct's name followed by `<` its declared parameter *names* `>` is, in
order, the associated-value type of the case of its struct variant -/
theorem swift_sites (U : UnicodeOps) (c : Swift.Cfg) (e : RustEnum) (kc : Str × Str) (hk : e.keys = some kc)
    (st st' : Swift.St) (ss : List Swift.SwiftStruct) (d : Swift.SwiftEnum)
    (h : Swift.enumFacts U c e st = .ok (ss, d, st')) :
    ss.map (fun s => (Sw.declares s).1 ++ genericSuffix (Sw.declares s).2) =
      (e.variants.zip d.cases).filterMap (fun q => Sw.applies q.1 q.2) ∧
    ss.map Sw.declares = (structVariants e).map fun p =>
      (c.pfx ++ Swift.anonymousStructName e p.1.original,
       (anonymousStruct e (Swift.anonymousStructName e p.1.original) p.1.original p.2).genericTypes) := by
  obtain ⟨h1, h2, _⟩ := Sw.enumFacts_sites U c e kc hk st st' ss d h
  have h3 : ss.map Sw.declares = (structVariants e).map fun p =>
      (c.pfx ++ Swift.anonymousStructName e p.1.original, helperGens e p.2) := by
    have := congrArg (List.map fun q : Str × List Swift.GenericParam => (q.1, q.2.map (·.name))) h1
    show ss.map (fun s => (s.name, s.generics.map (·.name))) = _
    simpa [swift_genericParams_names, Function.comp_def] using this
  refine ⟨?_, h3⟩
  rw [h2]
  have := congrArg (List.map fun q : Str × List Str => q.1 ++ genericSuffix q.2) h3
  simpa [Function.comp_def] using this

/-- the clause a Swift declaration prints lists the declared names in the order of the record, each
followed by its constraints -/
theorem swift_clause_names (ps : List Swift.GenericParam) :
    Swift.renderGenericClause ps =
      if ps.isEmpty then [] else
        s%"<" ++ Str.intercalate s%", " (ps.map fun p => p.name ++ s%": " ++ Str.intercalate s%" & " p.constraints) ++ s%">" := rfl

/-- **Scala**: each helper class's name followed by `[` its declared parameters `]` is, in order,
the parameter type of the case class of its struct variant -/
theorem scala_sites (c : Scala.Cfg) (e : RustEnum) (kc : Str × Str) (hk : e.keys = some kc) (d : Scala.ScEnum)
    (h : Scala.enumFacts c e = .ok d) :
    d.inner.map (fun x => (Sc.declares x).1 ++ Scala.genericSq (Sc.declares x).2) =
      (e.variants.zip d.cases).filterMap (fun q => Sc.applies q.1 q.2) ∧
    d.inner.map Sc.declares = (structVariants e).map fun p =>
      (e.id.renamed ++ p.1.original ++ s%"Inner",
       (anonymousStruct e (e.id.renamed ++ p.1.original ++ s%"Inner") p.1.original p.2).genericTypes) := by
  obtain ⟨h1, h2, _⟩ := Sc.enumFacts_sites c e kc hk d h
  refine ⟨?_, h1⟩
  rw [h2]
  have := congrArg (List.map fun q : Str × List Str => q.1 ++ Scala.genericSq q.2) h1
  simpa [Function.comp_def] using this

/-! ## 3. … and the text -/

/-- **Kotlin, text**: the block of a tagged enum contains, for every struct variant, the helper's
declaration head `data class <name><G>` (`object <name>` for a variant without fields, `G` empty) and
the use `: <name><G>)` — `G = genericSuffix` of the helper's list at both sites -/
theorem kotlin_text (c : Kotlin.Cfg) (e : RustEnum) (kc : Str × Str) (hk : e.keys = some kc) (b : Str)
    (h : C03E.Kt.writeItem c (.enum e) = .ok b) (id : Id) (fs : List RustField) (hp : (id, fs) ∈ structVariants e) :
    let N := c.pfx ++ e.id.renamed ++ id.original ++ s%"Inner"
    let G := genericSuffix (anonymousStruct e (e.id.renamed ++ id.original ++ s%"Inner") id.original fs).genericTypes
    ((if fs.isEmpty then s%"object " else s%"data class ") ++ N ++ G) <:+: b ∧ (s%": " ++ N ++ G ++ s%")") <:+: b :=
  Kt.block_sites c e kc hk b h (id, fs) hp

/-- **Swift, text**: `public struct <name><T: …, U: …>: ` and `(<name><T, U>)` -/
theorem swift_text (U : UnicodeOps) (c : Swift.Cfg) (e : RustEnum) (kc : Str × Str) (hk : e.keys = some kc)
    (st st' : Swift.St) (b : Str) (h : Swift.writeItem U c (.enum e) st = .ok (b, st')) (id : Id) (fs : List RustField)
    (hp : (id, fs) ∈ structVariants e) :
    let N := c.pfx ++ Swift.anonymousStructName e id.original
    let L := (anonymousStruct e (Swift.anonymousStructName e id.original) id.original fs).genericTypes
    (s%"public struct " ++ N ++ Swift.renderGenericClause (Swift.genericParams U c e.decorators L) ++ s%": ") <:+: b ∧
    (s%"(" ++ (N ++ genericSuffix L) ++ s%")\n") <:+: b ∧
    (Swift.genericParams U c e.decorators L).map (·.name) = L :=
  ⟨(Sw.block_sites U c e kc hk st st' b h (id, fs) hp).1, (Sw.block_sites U c e kc hk st st' b h (id, fs) hp).2,
   swift_genericParams_names U c _ _⟩

/-- **Scala, text**: `case class <name>[T, U]` (`class <name>` for a variant without fields) and
`: <name>[T, U])` -/
theorem scala_text (c : Scala.Cfg) (e : RustEnum) (kc : Str × Str) (hk : e.keys = some kc) (b : Str)
    (h : C03E.Sc.writeItem c (.enum e) = .ok b) (id : Id) (fs : List RustField) (hp : (id, fs) ∈ structVariants e) :
    let N := e.id.renamed ++ id.original ++ s%"Inner"
    let G := Scala.genericSq (anonymousStruct e (e.id.renamed ++ id.original ++ s%"Inner") id.original fs).genericTypes
    ((if fs.isEmpty then s%"class " else s%"case class ") ++ N ++ G) <:+: b ∧ (s%": " ++ (N ++ G) ++ s%")") <:+: b :=
  Sc.block_sites c e kc hk b h (id, fs) hp

/-! ## 4. Go and Python -/

/-- **Go and Python declare the same list and refer to the helper by its bare name**: the helper
structs / classes carry `helperGens` as their parameter list (`[U any, T any]`, `Generic[U, T]`), the
variant's payload type is the helper's name and nothing else -/
theorem go_python_bare (e : RustEnum) :
    (∀ (U : UnicodeOps) (c : Go.Cfg) (tag content : Str) (cs : List Str) (st st' : Go.Imports) (d : Go.GoAlgEnum),
      Go.algEnumFacts U c e tag content cs st = .ok (d, st') →
      d.anonymous.map (·.generics) = (structVariants e).map fun p =>
        (anonymousStruct e [] p.1.original p.2).genericTypes) ∧
    (∀ (U : UnicodeOps) (c : Go.Cfg), c.uppercaseAcronyms = [] → ∀ (sn tag : Str) (cs : List Str) (id : Id)
      (cm : List Str) (fs : List RustField) (st st' : Go.Imports) (g : Go.GoAlgVariant),
      Go.algVariant U c e sn tag cs (.anonymousStruct id cm fs) st = .ok (g, st') →
      g.payload = some ⟨e.id.original ++ id.original ++ innerSuffix, true⟩) ∧
    (∀ (E : Ext) (c : Python.Cfg) (tag content : Str) (st st' : Python.St) (d : Python.PyUnion),
      Python.unionFacts E c e tag content st = .ok (d, st') →
      d.inner.map (·.generics) = (structVariants e).map fun p =>
        (anonymousStruct e [] p.1.original p.2).genericTypes) ∧
    (∀ (E : Ext) (c : Python.Cfg) (tag content : Str) (id : Id) (cm : List Str) (fs : List RustField)
      (st st' : Python.St) (v : Python.PyVariant),
      Python.variantFacts E c e tag content (.anonymousStruct id cm fs) st = .ok (v, st') →
      v.contentType = some (Python.innerName e id.original)) :=
  ⟨fun U c tag content cs st st' d h => helper_declares_go U c e tag content cs st st' d h,
   fun U c hc sn tag cs id cm fs st st' g h => go_python_use_site_bare.1 U c hc e sn tag cs id cm fs st st' g h,
   fun E c tag content st st' d h => helper_declares_python E c e tag content st st' d h,
   fun E c tag content id cm fs st st' v h => go_python_use_site_bare.2 E c e tag content id cm fs st st' v h⟩

/-- the text of the two declaration forms and of the two use sites: Go `type <name>[U any, T any] struct {`
and `\tvar res <name>` / `() *<name>` (no bracket after the name); Python
`class <name>(BaseModel, Generic[U, T]):` and `    <content key>: <name>` -/
theorem go_python_text :
    (∀ d : Go.GoStruct, d.generics ≠ [] →
      (s%"type " ++ d.name ++ s%"[" ++ Str.intercalate s%", " (d.generics.map (· ++ s%" any")) ++ s%"]" ++ s%" struct {\n")
        <:+: Go.renderStruct d) ∧
    (∀ (e : Go.GoAlgEnum) (v : Go.GoAlgVariant) (p : Go.GoPayload), v.payload = some p → p.byPointer = true →
      (s%"() *" ++ p.ty ++ s%" {\n") <:+: Go.renderAccessor e v ∧ (s%"(content *" ++ p.ty ++ s%") ") <:+: Go.renderConstructor e v) ∧
    (∀ c : Python.PyClass, c.generics ≠ [] →
      (s%"class " ++ c.name ++ s%"(BaseModel, Generic[" ++ Str.intercalate s%", " c.generics ++ s%"]):\n")
        <:+: Python.renderClass c) ∧
    (∀ (v : Python.PyVariant) (t : Str), v.contentType = some t →
      (s%"    " ++ v.contentKey ++ s%": " ++ t ++ s%"\n\n") <:+: Python.renderVariant v) := by
  refine ⟨?_, ?_, ?_, ?_⟩
  · intro d hd
    have : d.generics.isEmpty = false := by rwa [List.isEmpty_eq_false_iff]
    have clause (X I : Str) : X ++ s%"[" ++ I ++ s%"]" = X ++ (s%"[" ++ I ++ s%"]") := by
      simp only [List.append_assoc]
    simp only [Go.renderStruct, this, Bool.false_eq_true, if_false, clause]
    exact infix_append_right (infix_append_right (infix_head _ _ _ _ _) _) _
  · intro e v p hp hb
    constructor
    · have split : s%"() *" = s%"() " ++ s%"*" := rfl
      rw [split]
      simp only [Go.renderAccessor, hp, hb, if_true]
      iterate 10 apply infix_append_right
      exact infix_head _ _ _ _ _
    · have split : s%"(content *" = s%"(content " ++ s%"*" := rfl
      rw [split]
      simp only [Go.renderConstructor, hp, hb, if_true]
      iterate 16 apply infix_append_right
      exact infix_head _ _ _ _ _
  · intro c hc
    have : c.generics.isEmpty = false := by rwa [List.isEmpty_eq_false_iff]
    have bases (X I : Str) : X ++ s%"(BaseModel, Generic[" ++ I ++ s%"]):\n" =
        X ++ s%"(" ++ (s%"BaseModel, Generic[" ++ I ++ s%"]") ++ s%"):\n" := by
      simp [List.append_assoc]
    simp only [Python.renderClass, this, Bool.false_eq_true, if_false, bases]
    iterate 5 apply infix_append_right
    exact List.infix_refl _
  · intro v t ht
    have split : s%"\n\n" = nl ++ nl := rfl
    rw [split, ← List.append_assoc]
    simp only [Python.renderVariant, ht]
    exact (suffix_snoc (List.suffix_append _ _) _).isInfix

/-! ## the statement at full strength -/

/-- **C05_HelperGenerics**: for every tagged enum — whatever its parameter list, whatever order the
fields of its struct variants mention the parameters in — (1) the helper's parameter list is the
mentioned parameters sorted by (first mentioning field, enum position), and only that list is;
(2) Kotlin, Swift, Scala: the helper declarations' (name, parameter list) are, in order, the
(name, argument list) of the cases' references, both equal to the `helperGens` lists; (3) the text of
the enum's block contains both sites with that clause; (4) Go and Python declare the same lists and
refer to the helper bare. -/
def C05_HelperGenerics_full : Prop :=
  ∀ (e : RustEnum) (kc : Str × Str), e.keys = some kc →
    (∀ (n v : Str) (fs : List RustField) (L : List Str), L = (anonymousStruct e n v fs).genericTypes ↔
      L.Pairwise (Before e fs) ∧ ∀ g, g ∈ L ↔ g ∈ e.genericTypes ∧ ∃ f ∈ fs, Mentions f.ty g) ∧
    (∀ (c : Kotlin.Cfg) (ds : List Kotlin.KtDecl), Kotlin.enumFacts c e = .ok ds →
      ∃ inners cases, ds = inners ++ [.sealedClass e.comments (c.pfx ++ e.id.renamed) (genericSuffix e.genericTypes) cases] ∧
        inners.map Kt.declares = cases.filterMap Kt.applies ∧
        inners.map Kt.declares = (structVariants e).map fun p =>
          (c.pfx ++ e.id.renamed ++ p.1.original ++ s%"Inner",
           genericSuffix (anonymousStruct e (e.id.renamed ++ p.1.original ++ s%"Inner") p.1.original p.2).genericTypes)) ∧
    (∀ (U : UnicodeOps) (c : Swift.Cfg) (st st' : Swift.St) (ss : List Swift.SwiftStruct) (d : Swift.SwiftEnum),
      Swift.enumFacts U c e st = .ok (ss, d, st') →
      ss.map (fun s => (Sw.declares s).1 ++ genericSuffix (Sw.declares s).2) =
        (e.variants.zip d.cases).filterMap (fun q => Sw.applies q.1 q.2) ∧
      ss.map Sw.declares = (structVariants e).map fun p =>
        (c.pfx ++ Swift.anonymousStructName e p.1.original,
         (anonymousStruct e (Swift.anonymousStructName e p.1.original) p.1.original p.2).genericTypes)) ∧
    (∀ (c : Scala.Cfg) (d : Scala.ScEnum), Scala.enumFacts c e = .ok d →
      d.inner.map (fun x => (Sc.declares x).1 ++ Scala.genericSq (Sc.declares x).2) =
        (e.variants.zip d.cases).filterMap (fun q => Sc.applies q.1 q.2) ∧
      d.inner.map Sc.declares = (structVariants e).map fun p =>
        (e.id.renamed ++ p.1.original ++ s%"Inner",
         (anonymousStruct e (e.id.renamed ++ p.1.original ++ s%"Inner") p.1.original p.2).genericTypes)) ∧
    (∀ (id : Id) (fs : List RustField), (id, fs) ∈ structVariants e →
      (∀ (c : Kotlin.Cfg) (b : Str), C03E.Kt.writeItem c (.enum e) = .ok b →
        ((if fs.isEmpty then s%"object " else s%"data class ") ++ (c.pfx ++ e.id.renamed ++ id.original ++ s%"Inner") ++
          genericSuffix (helperGens e fs)) <:+: b ∧
        (s%": " ++ (c.pfx ++ e.id.renamed ++ id.original ++ s%"Inner") ++ genericSuffix (helperGens e fs) ++ s%")") <:+: b) ∧
      (∀ (U : UnicodeOps) (c : Swift.Cfg) (st st' : Swift.St) (b : Str), Swift.writeItem U c (.enum e) st = .ok (b, st') →
        (s%"public struct " ++ (c.pfx ++ Swift.anonymousStructName e id.original) ++
          Swift.renderGenericClause (Swift.genericParams U c e.decorators (helperGens e fs)) ++ s%": ") <:+: b ∧
        (s%"(" ++ (c.pfx ++ Swift.anonymousStructName e id.original ++ genericSuffix (helperGens e fs)) ++ s%")\n") <:+: b) ∧
      (∀ (c : Scala.Cfg) (b : Str), C03E.Sc.writeItem c (.enum e) = .ok b →
        ((if fs.isEmpty then s%"class " else s%"case class ") ++ (e.id.renamed ++ id.original ++ s%"Inner") ++
          Scala.genericSq (helperGens e fs)) <:+: b ∧
        (s%": " ++ (e.id.renamed ++ id.original ++ s%"Inner" ++ Scala.genericSq (helperGens e fs)) ++ s%")") <:+: b)) ∧
    (∀ (U : UnicodeOps) (c : Go.Cfg) (tag content : Str) (cs : List Str) (st st' : Go.Imports) (d : Go.GoAlgEnum),
      Go.algEnumFacts U c e tag content cs st = .ok (d, st') →
      d.anonymous.map (·.generics) = (structVariants e).map fun p => helperGens e p.2) ∧
    (∀ (E : Ext) (c : Python.Cfg) (tag content : Str) (st st' : Python.St) (d : Python.PyUnion),
      Python.unionFacts E c e tag content st = .ok (d, st') →
      d.inner.map (·.generics) = (structVariants e).map fun p => helperGens e p.2)

theorem C05_HelperGenerics : C05_HelperGenerics_full := by
  intro e kc hk
  refine ⟨fun n v fs L => helper_order_exact e n v fs L, fun c ds h => kotlin_sites c e kc hk ds h,
    fun U c st st' ss d h => swift_sites U c e kc hk st st' ss d h, fun c d h => scala_sites c e kc hk d h,
    fun id fs hp => ⟨fun c b h => Kt.block_sites c e kc hk b h (id, fs) hp,
      fun U c st st' b h => Sw.block_sites U c e kc hk st st' b h (id, fs) hp,
      fun c b h => Sc.block_sites c e kc hk b h (id, fs) hp⟩,
    fun U c tag content cs st st' d h => helper_declares_go U c e tag content cs st st' d h,
    fun E c tag content st st' d h => helper_declares_python E c e tag content st st' d h⟩

/-! ## non-vacuity (the witness of `C09_HelperParams`: `enum Gn<T, U, W>` with
`Va { g: T, m: HashMap<String, Vec<U>>, k: Wrap<Option<[T; 3]>>, s: &[U], p: u8 }`, `Vb { w: HashMap<W, u8> }`,
`Vc { p: u8 }`, `Vd { x: U, y: T }`, `Ve { h: T<u8> }`, `Vf(T)`) -/

/-- first-mention order is not the enum's declaration order: `Vd { x: U, y: T }` of `Gn<T, U, W>` -/
theorem not_declaration_order :
    (anonymousStruct wGn3 [] [] wVd).genericTypes = [fU, fT] ∧ wGn3.genericTypes.filter (fun g => g == fU || g == fT) = [fT, fU] := by
  decide +kernel

/-- … and within one field it is the enum's order, not the order in which the field's type writes
them: `V { m: HashMap<U, T> }` of `E<T, U>` gives `[T, U]` -/
theorem not_textual_order_within_a_field :
    (anonymousStruct { wGn3 with genericTypes := [fT, fU] } [] [] [fld s%"m" (.hashMap (.simple fU) (.simple fT))]).genericTypes =
      [fT, fU] := by decide +kernel

/-- the keys of `Before` on the witness: `U` is first mentioned by field 0, `T` by field 1 -/
example : firstMention wVd fU = 0 ∧ firstMention wVd fT = 1 ∧ Before wGn3 wVd fU fT ∧ ¬ Before wGn3 wVd fT fU := by
  decide +kernel

/-- the hypothesis `(id, fs) ∈ structVariants e` of the text theorems on the witness -/
example : (mkId s%"Vd" none, wVd) ∈ structVariants wGn3 := by simp [structVariants, wGn3]

/-- `kotlin_sites` / `kotlin_text` on the witness (prefix `OP`): hypotheses met, and the two sites -/
theorem kotlin_example :
    wGn3.keys = some (s%"t", s%"c") ∧
    ((Kotlin.enumFacts { pfx := s%"OP" } wGn3).bind fun ds =>
      .ok (ds.dropLast.map Kt.declares, ds.getLast?.map fun d => match d with
        | .sealedClass _ _ _ cases => cases.filterMap Kt.applies | _ => [])) =
      .ok ([(s%"OPGnVaInner", s%"<T, U>"), (s%"OPGnVbInner", s%"<W>"), (s%"OPGnVcInner", s%""), (s%"OPGnVdInner", s%"<U, T>"),
            (s%"OPGnVeInner", s%"<T>")],
           some [(s%"OPGnVaInner", s%"<T, U>"), (s%"OPGnVbInner", s%"<W>"), (s%"OPGnVcInner", s%""), (s%"OPGnVdInner", s%"<U, T>"),
            (s%"OPGnVeInner", s%"<T>")]) ∧
    (C03E.Kt.writeItem { pfx := s%"OP" } (.enum wGn3)).isOk = true := by
  decide +kernel

theorem swift_example :
    ((Swift.enumFacts .ascii { pfx := s%"OP" } wGn3 false).bind fun (ss, d, _) =>
      .ok (ss.map (fun s => (Sw.declares s).1 ++ genericSuffix (Sw.declares s).2),
           (wGn3.variants.zip d.cases).filterMap (fun q => Sw.applies q.1 q.2))) =
      .ok ([s%"OPGnVaInner<T, U>", s%"OPGnVbInner<W>", s%"OPGnVcInner", s%"OPGnVdInner<U, T>", s%"OPGnVeInner<T>"],
           [s%"OPGnVaInner<T, U>", s%"OPGnVbInner<W>", s%"OPGnVcInner", s%"OPGnVdInner<U, T>", s%"OPGnVeInner<T>"]) ∧
    Swift.renderGenericClause (Swift.genericParams .ascii { pfx := s%"OP" } wGn3.decorators [fU, fT]) =
      s%"<U: Codable, T: Codable>" ∧
    (Swift.writeItem .ascii { pfx := s%"OP" } (.enum wGn3) false).isOk = true := by
  decide +kernel

theorem scala_example :
    ((Scala.enumFacts { package := s%"com.example" } wGn3).bind fun d =>
      .ok (d.inner.map (fun x => (Sc.declares x).1 ++ Scala.genericSq (Sc.declares x).2),
           (wGn3.variants.zip d.cases).filterMap (fun q => Sc.applies q.1 q.2))) =
      .ok ([s%"GnVaInner[T, U]", s%"GnVbInner[W]", s%"GnVcInner", s%"GnVdInner[U, T]", s%"GnVeInner[T]"],
           [s%"GnVaInner[T, U]", s%"GnVbInner[W]", s%"GnVcInner", s%"GnVdInner[U, T]", s%"GnVeInner[T]"]) ∧
    (C03E.Sc.writeItem { package := s%"com.example" } (.enum wGn3)).isOk = true := by
  decide +kernel

/-- Go and Python on the witness: the declaration carries `[U, T]`, the use site the bare name -/
theorem go_python_example :
    ((Go.algEnumFacts .ascii { package := s%"proto" } wGn3 s%"t" s%"c" [] []).bind fun (d, _) =>
      .ok (d.anonymous.map (fun s => (s.name, s.generics)), d.variants.filterMap (·.payload))) =
      .ok ([(s%"GnVaInner", [fT, fU]), (s%"GnVbInner", [fW]), (s%"GnVcInner", []), (s%"GnVdInner", [fU, fT]), (s%"GnVeInner", [fT])],
           [⟨s%"GnVaInner", true⟩, ⟨s%"GnVbInner", true⟩, ⟨s%"GnVcInner", true⟩, ⟨s%"GnVdInner", true⟩, ⟨s%"GnVeInner", true⟩,
            ⟨s%"T", false⟩]) ∧
    ((Python.unionFacts E0 {} wGn2 s%"t" s%"c" {}).bind fun (d, _) =>
      .ok (d.inner.map (fun s => (s.name, s.generics)), d.variants.filterMap (·.contentType))) =
      .ok ([(s%"GnVaInner", [fT, fU]), (s%"GnVcInner", []), (s%"GnVdInner", [fU, fT]), (s%"GnVeInner", [fT])],
           [s%"GnVaInner", s%"GnVcInner", s%"GnVdInner", s%"GnVeInner", s%"T"]) := by
  decide +kernel

end TsV.C05_HelperGenerics
