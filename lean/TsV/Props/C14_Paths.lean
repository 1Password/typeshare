import TsV.Props.C14_Imports
import TsV.Lemmas.Rename
/-!
# C14, import clause — qualified paths written inside types

`TsV.Props.C14_Imports` proves completeness of the import clause for references that a `use c::…;` tree brings
into scope, and leaves out **qualified paths written inside types**: `other_crate::T`, also inside generic
arguments (`crate::Wrap<other_crate::T>`, `Vec<other::T>`), references, arrays, slices and tuples.  The visitor
records those through `visit_path` (`Visitor.importOfPath` on every `syn::Path`, model: `Visitor.typePaths`,
`Visitor.addPaths`).  This file closes that gap.

1. `C14P.qualifiedRefs` (trusted specification, `Lemmas/C14_Paths_Spec.lean`): every `(first qualifier, last
   segment)` of a path with a non-empty qualifier list occurring anywhere in a type; `itemQualifiedRefs`,
   `fileQualifiedRefs` (annotated, accepted items), `fileQualifiedRefsAll` (all declaring items).
2. `visit_path_complete`: such a `(c, T)` is in the file's `import_types` as `⟨c, T⟩` — **at any nesting depth,
   in particular inside the generic arguments of a path that is itself qualified** — when `c` passes
   `accept_crate` and is not `crate`/`self`/`super`, `T` passes `accept_type`, `T` has no type mapping, `c ≠ T`.
   For `crate`/`self`/`super` the model resolves to the current crate: `visit_path_selfish`; both in one:
   `visit_path_resolved`.  The visitor does this for *every* struct / enum / alias / const item, annotated or
   not (`visit_path_complete_any`).
   **The model leaves no position of a `SynType` uncollected**: `visit_imports_exact` is an exact
   characterisation of `import_types` (imports of `use` trees + `importOfPath` of every visited path) and
   `visit_path_sound` is the converse of (2) for type paths.  What *is* outside: (a) single-file mode
   (`visit_path_single_file`: nothing is recorded), (b) a file whose `#![cfg(target_os)]` is rejected (hypothesis
   `isEmpty d = false`), (c) `c = T`, which `extract_root_and_types` rejects (`crate_candidate != type_candidate`) —
   impossible when no character is both upper- and lower-case (`crate_ne_type`), witness for a degenerate
   `UnicodeOps`: `witness_same_name`; (d) paths inside the type forms the abstract AST collapses to
   `SynType.other` (fn pointers, raw pointers, parenthesised types, `impl`/`dyn`, macros, never) and generic
   arguments of non-final segments: `qualifiedRefs` is `[]` there by definition, the model has no such paths.
3. `file_import_path`, **`import_complete_path`** (instances of `file_import_of_mem` / `import_complete_of_mem`,
   which ask for "`⟨c, T⟩ ∈ import_types` of the visit" only): a type named only by a qualified path is
   imported from its crate in the job list; with `import_line_typescript` / `import_line_kotlin` the import line
   is in the generated text (examples at the end).
4. Non-vacuity: `struct S { q: crate::Wrap<beta::Inner> }` in crate `gamma` (`Wrap` local, `Inner` in `beta`)
   and `struct Holder { t: alpha::Target }` (the latter down to the Kotlin / TypeScript text).
5. The statement at full strength for qualified paths (`C14_paths_full` over `PathRef`), which is **false** on the
   model (`C14_paths_not_full`, witness `witness_path_serde_rename`: `alpha::Target` with
   `#[serde(rename = "Renamed")] struct Target` — the visit records `⟨alpha, Target⟩`, `used_imports` then looks
   the Rust name up among `alpha`'s output names; the same known class `Known_serde_rename` as for `use`), and
   `C14_paths_partial`: it holds for every reference in `C14.inScope` with `B ≠ T` outside that class.

Still `href : T ∈ allReferences …` is a hypothesis (as in `import_complete`): whether the generated item really
mentions `T` depends on `RustType::try_from` (`Vec<u8, b::T>` drops the second argument, `String<b::T>` all of
them) and on `serialized_as` / `skip`; `referenced_of_struct_field` etc. discharge it for a parsed item.
Not covered here either: `use {a::X, b::Y};` trees without a leading path segment.
-/
namespace TsV.C14
open TsV TsV.Syn TsV.Pipeline TsV.Visitor TsV.C06M TsV.C14I TsV.C14P

/-! ## 2. `visit_path` is complete on types -/

/-- **every qualified path of every declaring item, crate aliases resolved.**  In multi-file mode, for a visited
file (`isEmpty d = false`): a qualified reference `(c, T)` occurring anywhere in a type of a struct / enum /
alias / const item of the file (any module depth, annotated or not) is in `import_types` under the crate
`resolveBase cn c` — `c` itself, or the current crate for `crate` / `self` / `super` -/
theorem visit_path_resolved (E : Ext) (ctx : ParseContext) (hmf : ctx.multiFile = true) (cn fn fp : Str)
    (f : File) (d : ParsedData) (hv : visitFile E ctx cn fn fp f = .ok d) (hne : isEmpty d = false)
    (it : Item) (hit : it ∈ declItemsList f.items) (ty : SynType) (hty : ty ∈ itemTypes it)
    (c T : Str) (hq : (c, T) ∈ qualifiedRefs ty) (hc : acceptCrate E.U c = true)
    (hT : acceptType E.U T = true) (hmap : T ∉ ctx.ignoredTypes) (hcT : c ≠ T) :
    ⟨resolveBase cn c, T⟩ ∈ d.importTypes := by
  obtain ⟨qs, hp⟩ := qualifiedRefs_paths c T ty hq
  rw [visitFile_imports E ctx hmf cn fn fp f d hv hne]
  exact Or.inl ⟨_, file_declItem_path f it hit ty hty _ hp,
    importOfPath_qualified_some E ctx cn c qs T hc hT hmap hcT⟩

/-- the same for all declaring items of the file at once -/
theorem visit_path_complete_any (E : Ext) (ctx : ParseContext) (hmf : ctx.multiFile = true) (cn fn fp : Str)
    (f : File) (d : ParsedData) (hv : visitFile E ctx cn fn fp f = .ok d) (hne : isEmpty d = false)
    (c T : Str) (hq : (c, T) ∈ fileQualifiedRefsAll f) (hc : CrateInScope E.U c = true)
    (hT : acceptType E.U T = true) (hmap : T ∉ ctx.ignoredTypes) (hcT : c ≠ T) :
    ⟨c, T⟩ ∈ d.importTypes := by
  simp only [fileQualifiedRefsAll, itemQualifiedRefs, List.mem_flatMap] at hq
  obtain ⟨it, hit, ty, hty, hq⟩ := hq
  simp only [CrateInScope, Bool.and_eq_true, Bool.not_eq_true'] at hc
  have := visit_path_resolved E ctx hmf cn fn fp f d hv hne it hit ty hty c T hq hc.1 hT hmap hcT
  simpa [resolveBase, hc.2] using this

/-- the qualified references of the annotated, accepted items are among those of all declaring items -/
theorem fileQualifiedRefs_sub (ctx : ParseContext) (f : File) (x : Str × Str)
    (h : x ∈ fileQualifiedRefs ctx f) : x ∈ fileQualifiedRefsAll f := by
  simp only [fileQualifiedRefs, List.mem_flatMap] at h
  obtain ⟨it, hit, hx⟩ := h
  simp only [fileQualifiedRefsAll, List.mem_flatMap]
  exact ⟨it, annotatedList_sub_decl ctx it f.items hit, hx⟩

/-- **`visit_path_complete`.**  If `(c, T)` is a qualified reference of a type of an annotated, accepted item
of the file — at any nesting depth: `c::T`, `Vec<c::T>`, `crate::Wrap<c::T>`, `&[(u8, c::T); 4]` … —, `c`
passes `accept_crate` and is not `crate`/`self`/`super`, `T` passes `accept_type` and has no type mapping, and
`c ≠ T`, then `⟨c, T⟩` is in the `import_types` of the visit -/
theorem visit_path_complete (E : Ext) (ctx : ParseContext) (hmf : ctx.multiFile = true) (cn fn fp : Str)
    (f : File) (d : ParsedData) (hv : visitFile E ctx cn fn fp f = .ok d) (hne : isEmpty d = false)
    (c T : Str) (hq : (c, T) ∈ fileQualifiedRefs ctx f) (hc : CrateInScope E.U c = true)
    (hT : acceptType E.U T = true) (hmap : T ∉ ctx.ignoredTypes) (hcT : c ≠ T) :
    ⟨c, T⟩ ∈ d.importTypes :=
  visit_path_complete_any E ctx hmf cn fn fp f d hv hne c T (fileQualifiedRefs_sub ctx f _ hq) hc hT hmap hcT

/-- **`crate::T` / `self::T` / `super::T`**: what the model does for those — they pass `accept_crate` (lower-case,
not in the list of well-known crates) and are recorded under the *current* crate's name.  (`reconcile_referenced_
types` later drops the entry when the file itself defines `T`; `used_imports` ignores imports of the own crate.) -/
theorem visit_path_selfish (E : Ext) (ctx : ParseContext) (hmf : ctx.multiFile = true) (cn fn fp : Str)
    (f : File) (d : ParsedData) (hv : visitFile E ctx cn fn fp f = .ok d) (hne : isEmpty d = false)
    (c T : Str) (hq : (c, T) ∈ fileQualifiedRefsAll f) (hself : isSelfish c = true)
    (hlow : acceptCrate E.U c = true)
    (hT : acceptType E.U T = true) (hmap : T ∉ ctx.ignoredTypes) (hcT : c ≠ T) :
    ⟨cn, T⟩ ∈ d.importTypes := by
  simp only [fileQualifiedRefsAll, itemQualifiedRefs, List.mem_flatMap] at hq
  obtain ⟨it, hit, ty, hty, hq⟩ := hq
  have := visit_path_resolved E ctx hmf cn fn fp f d hv hne it hit ty hty c T hq hlow hT hmap hcT
  simpa [resolveBase, hself] using this

/-- `crate`, `self`, `super` pass `accept_crate` whenever the case table is right on ASCII -/
theorem acceptCrate_selfish (U : UnicodeOps) (hU : U.AsciiCorrect) (c : Str) (h : isSelfish c = true) :
    acceptCrate U c = true := by
  simp only [isSelfish, Bool.or_eq_true, beq_iff_eq] at h
  rcases h with (rfl | rfl) | rfl <;>
    (simp only [acceptCrate, Bool.and_eq_true, Bool.not_eq_true']
     refine ⟨by decide, ?_⟩
     rw [hU.lower _ (by decide)]; decide)

/-- the side condition `c ≠ T` holds whenever no character is both upper- and lower-case (true of Rust's
`char::is_uppercase` / `is_lowercase`: the Unicode properties `Uppercase` and `Lowercase` are disjoint) -/
def CaseDisjoint (U : UnicodeOps) : Prop := ∀ ch : Char, ¬ (U.isUpper ch = true ∧ U.isLower ch = true)

theorem crate_ne_type (U : UnicodeOps) (hU : CaseDisjoint U) (c T : Str) (hc : acceptCrate U c = true)
    (hT : acceptType U T = true) : c ≠ T := by
  rintro rfl
  cases c with
  | nil => simp [acceptCrate] at hc
  | cons ch r =>
    simp only [acceptCrate, acceptType, Bool.and_eq_true] at hc hT
    exact hU ch ⟨hT.1, hc.2⟩

theorem caseDisjoint_ascii : CaseDisjoint UnicodeOps.ascii := by
  rintro ch ⟨hu, hl⟩
  have hn : Str.isAsciiLower ch = false := RenameLemmas.upper_notLower ch hu
  exact Bool.false_ne_true (hn.symm.trans hl)

/-- `visit_path_complete` with the side condition discharged -/
theorem visit_path_complete' (E : Ext) (hU : CaseDisjoint E.U) (ctx : ParseContext) (hmf : ctx.multiFile = true)
    (cn fn fp : Str) (f : File) (d : ParsedData) (hv : visitFile E ctx cn fn fp f = .ok d)
    (hne : isEmpty d = false) (c T : Str) (hq : (c, T) ∈ fileQualifiedRefs ctx f)
    (hc : CrateInScope E.U c = true) (hT : acceptType E.U T = true) (hmap : T ∉ ctx.ignoredTypes) :
    ⟨c, T⟩ ∈ d.importTypes := by
  have hc' := hc
  simp only [CrateInScope, Bool.and_eq_true] at hc'
  exact visit_path_complete E ctx hmf cn fn fp f d hv hne c T hq hc hT hmap (crate_ne_type E.U hU c T hc'.1 hT)

/-! ### nothing else: exact membership, and the converse for type paths -/

/-- **exact characterisation of a visit's `import_types`** (multi-file mode, visited file): the imports of the
`use` trees (`C14I.useImports`) and `importOfPath` of every visited path (`C14P.fileVisitedPaths`: attribute
paths, the paths of all field / alias / const types at any depth, the paths `Item.other` mentions) -/
theorem visit_imports_exact (E : Ext) (ctx : ParseContext) (hmf : ctx.multiFile = true) (cn fn fp : Str)
    (f : File) (d : ParsedData) (hv : visitFile E ctx cn fn fp f = .ok d) (hne : isEmpty d = false)
    (i : ImportedType) :
    i ∈ d.importTypes ↔
      (∃ p ∈ fileVisitedPaths f, importOfPath E ctx cn p = some i) ∨
      (∃ t ∈ useTreesList f.items, i ∈ useImports E ctx cn t) :=
  visitFile_imports E ctx hmf cn fn fp f d hv hne i

/-- **converse of `visit_path_resolved`**: an import that a path of a type `ty` produces is `⟨resolveBase cn c, T⟩`
for a qualified reference `(c, T)` of `ty` that meets all four conditions (so the conditions of
`visit_path_complete` are exactly the ones under which a type path is recorded) -/
theorem visit_path_sound (E : Ext) (ctx : ParseContext) (cn : Str) (ty : SynType) (p : List Str)
    (hp : p ∈ typePaths ty) (i : ImportedType) (h : importOfPath E ctx cn p = some i) :
    ∃ c T, (c, T) ∈ qualifiedRefs ty ∧ i = ⟨resolveBase cn c, T⟩ ∧ acceptCrate E.U c = true ∧
      acceptType E.U T = true ∧ T ∉ ctx.ignoredTypes ∧ c ≠ T := by
  rcases typePaths_refs p ty hp with ⟨T, rfl⟩ | ⟨c, qs, T, rfl, hq⟩
  · rw [importOfPath_single] at h; simp at h
  · exact ⟨c, T, hq, importOfPath_qualified_inv E ctx cn c qs T i h⟩

/-- outside (a): in single-file mode `visit_path` (and `visit_item_use`) return at once — the visit records no
import at all -/
theorem visit_path_single_file (E : Ext) (ctx : ParseContext) (hsf : ctx.multiFile = false) (cn fn fp : Str)
    (f : File) (d : ParsedData) (hv : visitFile E ctx cn fn fp f = .ok d) : d.importTypes = [] := by
  have h := Visit.visitFile_view (Visit.blind_id hsf) E cn fn fp f
  rw [hv] at h
  exact collectAll_imports fp _ _ d h.symm

/-! ## 3. through `parser::parse`, `reconcile` and the job list -/

/-- **through `parser::parse`** for a qualified path: `T`, written as `c::…::T` somewhere in a type of an
annotated, accepted item, referenced by a generated item (`all_references`), not defined in the file and not
imported under another crate, is in the arrival's `import_types` with base crate `c` -/
theorem file_import_path (E : Ext) (ctx : ParseContext) (hmf : ctx.multiFile = true)
    (pick : List ImportedType → Option ImportedType) (hpick : ValidPick pick) (cn fn fp : Str)
    (f : File) (d : ParsedData) (hm : f.marker = true) (hv : visitFile E ctx cn fn fp f = .ok d)
    (c T : Str) (hq : (c, T) ∈ fileQualifiedRefs ctx f) (hc : CrateInScope E.U c = true) (hcT : c ≠ T)
    (hmap : T ∉ ctx.ignoredTypes) (href : T ∈ allReferences E.U d) (hloc : T ∉ d.typeNames)
    (huniq : ∀ j ∈ d.importTypes, j.typeName = T → j.baseCrate = c) :
    ∃ a, parseFile E ctx pick cn fn fp f = .ok (some a) ∧ a.crateName = cn ∧ a.typeNames = d.typeNames ∧
      ⟨c, T⟩ ∈ a.importTypes :=
  file_import_of_mem E ctx hmf pick hpick cn fn fp f d hm hv c T
    (visit_path_complete E ctx hmf cn fn fp f d hv (isEmpty_false_of_ref E.U d T href) c T hq hc
      ((mem_allReferences E.U d T).1 href).1 hmap hcT) href hloc huniq

/-- **C14, import clause, completeness (qualified path in a type).**  In a multi-file run whose files parse: a
file `f` of crate `A` with an annotated, accepted item in one of whose types the path `B::…::T` is written — at
any depth: as a field type, inside the generic arguments of another (possibly itself qualified) path, behind a
reference, in an array, slice or tuple (`fileQualifiedRefs`) —; `B ≠ A` a crate name `accept_crate` accepts (not
`crate`/`self`/`super`), `B ≠ T`; `T` without a type mapping, referenced by a generated item of `f`
(`all_references`), not defined in `f`, no import of another crate in `f` with the same name; and a file `g` of
crate `B` whose result defines a type with output name `T`.  No `use` item is needed.  Then crate `A` has a
job, and its scoped imports — what the TypeScript / Kotlin back end prints as the import clause
(`import_line_typescript`, `import_line_kotlin`) — list `T` under `B`. -/
theorem import_complete_path (E : Ext) (lang : Generate.LangCfg) (targetOs : List Str)
    (pick : List ImportedType → Option ImportedType) (hpick : ValidPick pick)
    (files : List Generate.SourceFile) (arrivals : List ParsedData)
    (hparse : Generate.parseAll E (runCtx lang targetOs) pick files = .ok arrivals)
    (f : Generate.SourceFile) (hf : f ∈ files) (hm : f.file.marker = true) (dA : ParsedData)
    (hv : visitFile E (runCtx lang targetOs) f.crateName f.fileName f.path f.file = .ok dA)
    (B T : Str) (hq : (B, T) ∈ fileQualifiedRefs (runCtx lang targetOs) f.file)
    (hB : CrateInScope E.U B = true) (hBT : B ≠ T)
    (hmap : T ∉ Generate.ignoredTypes lang)
    (href : T ∈ allReferences E.U dA) (hloc : T ∉ dA.typeNames)
    (huniq : ∀ j ∈ dA.importTypes, j.typeName = T → j.baseCrate = B)
    (hne : B ≠ f.crateName)
    (g : Generate.SourceFile) (hg : g ∈ files) (hgB : g.crateName = B) (dB : ParsedData)
    (hgp : parseFile E (runCtx lang targetOs) pick g.crateName g.fileName g.path g.file = .ok (some dB))
    (hdef : T ∈ dB.typeNames) :
    ImportedInJob arrivals f.crateName B T :=
  import_complete_of_mem E lang targetOs pick hpick files arrivals hparse f hf hm dA hv B T
    (visit_path_complete E (runCtx lang targetOs) rfl _ _ _ _ dA hv (isEmpty_false_of_ref E.U dA T href) B T hq hB
      ((mem_allReferences E.U dA T).1 href).1 hmap hBT)
    href hloc huniq hne g hg hgB dB hgp hdef

/-- the counterpart for a named `use` item: `import_complete` -/
example (E : Ext) (lang : Generate.LangCfg) (targetOs : List Str)
    (pick : List ImportedType → Option ImportedType) (hpick : ValidPick pick)
    (files : List Generate.SourceFile) (arrivals : List ParsedData)
    (hparse : Generate.parseAll E (runCtx lang targetOs) pick files = .ok arrivals)
    (f : Generate.SourceFile) (hf : f ∈ files) (hm : f.file.marker = true) (dA : ParsedData)
    (hv : visitFile E (runCtx lang targetOs) f.crateName f.fileName f.path f.file = .ok dA)
    (B T : Str) (huse : FileImportsNamed f.file B T = true) (hB : CrateInScope E.U B = true)
    (hmap : T ∉ Generate.ignoredTypes lang)
    (href : T ∈ allReferences E.U dA) (hloc : T ∉ dA.typeNames)
    (huniq : ∀ j ∈ dA.importTypes, j.typeName = T → j.baseCrate = B)
    (hne : B ≠ f.crateName)
    (g : Generate.SourceFile) (hg : g ∈ files) (hgB : g.crateName = B) (dB : ParsedData)
    (hgp : parseFile E (runCtx lang targetOs) pick g.crateName g.fileName g.path g.file = .ok (some dB))
    (hdef : T ∈ dB.typeNames) :
    ImportedInJob arrivals f.crateName B T :=
  import_complete E lang targetOs pick hpick files arrivals hparse f hf hm dA hv B T huse hB hmap href hloc huniq hne
    g hg hgB dB hgp hdef

/-! ## 4. non-vacuity -/

/-- `q: crate::Wrap<beta::Inner>` -/
def tyWrapInner : SynType := .path [s%"crate"] s%"Wrap" [.path [s%"beta"] s%"Inner" []]

/-- the specification on types: nested, behind a reference, in arrays / slices / tuples, inside `Vec<…>`;
unqualified names and `SynType.other` contribute nothing -/
example : qualifiedRefs tyWrapInner = [(s%"crate", s%"Wrap"), (s%"beta", s%"Inner")] := by decide +kernel
example : qualifiedRefs (.path [] s%"Vec" [.path [s%"other", s%"m"] s%"T" []]) = [(s%"other", s%"T")] := by
  decide +kernel
example : qualifiedRefs (.reference (.array (.tuple [.path [] s%"u8" [], .slice (.path [s%"a"] s%"X" []),
    .path [s%"b"] s%"Y" [.path [s%"c"] s%"Z" []], .other]) (some 4))) =
    [(s%"a", s%"X"), (s%"b", s%"Y"), (s%"c", s%"Z")] := by decide +kernel

/-- crate `beta`: `#[typeshare] struct Inner { x: u8 }` -/
def qSrcBeta : Generate.SourceFile :=
  mkSrc s%"beta" [.struct [tsAttr] s%"Inner" [] (.named [fld s%"x" s%"u8"])]

/-- crate `gamma`: `#[typeshare] struct Wrap<T> { v: T }  #[typeshare] struct S { q: crate::Wrap<beta::Inner> }`
— no `use` item at all -/
def qSrcGamma : Generate.SourceFile :=
  mkSrc s%"gamma" [.struct [tsAttr] s%"Wrap" [.type s%"T"] (.named [fld s%"v" s%"T"]),
    .struct [tsAttr] s%"S" [] (.named [⟨[], some s%"q", tyWrapInner⟩])]

/-- crate `delta`: `#[typeshare] struct Holder { t: alpha::Target }` — the plain case, no `use` item -/
def qSrcDelta : Generate.SourceFile :=
  mkSrc s%"delta" [.struct [tsAttr] s%"Holder" [] (.named [⟨[], some s%"t", .path [s%"alpha"] s%"Target" []⟩])]

example : (useTreesList qSrcGamma.file.items).length = 0 ∧ (useTreesList qSrcDelta.file.items).length = 0 := by
  decide +kernel

example : fileQualifiedRefs (runCtx wLang []) qSrcGamma.file = [(s%"crate", s%"Wrap"), (s%"beta", s%"Inner")] := by
  decide +kernel
example : fileQualifiedRefs (runCtx wLang []) qSrcDelta.file = [(s%"alpha", s%"Target")] := by decide +kernel

theorem q_parse_gamma : Generate.parseAll wE (runCtx wLang []) wPick [qSrcBeta, qSrcGamma] =
    .ok (arrivalsOf [qSrcBeta, qSrcGamma]) := eq_ok_getOk (by decide +kernel)
theorem q_visit_gamma :
    visitFile wE (runCtx wLang []) qSrcGamma.crateName qSrcGamma.fileName qSrcGamma.path qSrcGamma.file =
      .ok (visitOf qSrcGamma) := eq_ok_getOk (by decide +kernel)
theorem q_visit_beta :
    visitFile wE (runCtx wLang []) qSrcBeta.crateName qSrcBeta.fileName qSrcBeta.path qSrcBeta.file =
      .ok (visitOf qSrcBeta) := eq_ok_getOk (by decide +kernel)

/-- what the visit of `gamma` records: `crate::Wrap` under the current crate, `beta::Inner` under `beta` … -/
example : (visitOf qSrcGamma).importTypes = [⟨s%"gamma", s%"Wrap"⟩, ⟨s%"beta", s%"Inner"⟩] := by decide +kernel

/-- … as `visit_path_complete'` says for the nested `beta::Inner` (its hypotheses are met) … -/
example : (⟨s%"beta", s%"Inner"⟩ : ImportedType) ∈ (visitOf qSrcGamma).importTypes :=
  visit_path_complete' wE caseDisjoint_ascii (runCtx wLang []) rfl _ _ _ _ _ q_visit_gamma (by decide +kernel)
    s%"beta" s%"Inner" (by decide +kernel) (by decide +kernel) (by decide +kernel) (by decide +kernel)

/-- … and `visit_path_selfish` for `crate::Wrap` -/
example : (⟨s%"gamma", s%"Wrap"⟩ : ImportedType) ∈ (visitOf qSrcGamma).importTypes :=
  visit_path_selfish wE (runCtx wLang []) rfl _ _ _ _ _ q_visit_gamma (by decide +kernel)
    s%"crate" s%"Wrap" (by decide +kernel) (by decide +kernel)
    (acceptCrate_selfish _ UnicodeOps.ascii_correct _ (by decide +kernel)) (by decide +kernel) (by decide +kernel)
    (by decide +kernel)

/-- **`struct S { q: crate::Wrap<beta::Inner> }` in crate `gamma`: `Inner` is imported from `beta`** — by
`import_complete_path`, all of whose hypotheses hold -/
theorem q_nested_imported : ImportedInJob (arrivalsOf [qSrcBeta, qSrcGamma]) s%"gamma" s%"beta" s%"Inner" :=
  import_complete_path wE wLang [] wPick validPick_head _ _ q_parse_gamma qSrcGamma (by simp) rfl _ q_visit_gamma
    s%"beta" s%"Inner" (by decide +kernel) (by decide +kernel) (by decide +kernel) (by decide +kernel)
    (by decide +kernel) (by decide +kernel) (by decide +kernel) (by decide +kernel)
    qSrcBeta (by simp) rfl _
    (parseFile_of_visit wE (runCtx wLang []) rfl wPick _ _ _ _ _ rfl q_visit_beta (by decide +kernel))
    (by decide +kernel)

/-- the conclusion is what the model computes: `gamma` imports exactly `Inner` from `beta` (`Wrap` is local) -/
example : importsOf (arrivalsOf [qSrcBeta, qSrcGamma]) =
    [(s%"beta", some []), (s%"gamma", some [(s%"beta", [s%"Inner"])])] := by decide +kernel

/-! ### the plain case `alpha::Target`, down to the generated text -/

theorem q_parse_delta : Generate.parseAll wE (runCtx wLang []) wPick [srcAlpha, qSrcDelta] =
    .ok (arrivalsOf [srcAlpha, qSrcDelta]) := eq_ok_getOk (by decide +kernel)
theorem q_visit_delta :
    visitFile wE (runCtx wLang []) qSrcDelta.crateName qSrcDelta.fileName qSrcDelta.path qSrcDelta.file =
      .ok (visitOf qSrcDelta) := eq_ok_getOk (by decide +kernel)

/-- `import_complete_path` for any language without type mappings for `Target` (here stated for the two with an
import clause in the examples below) -/
theorem q_plain_imported (lang : Generate.LangCfg) (hl : Generate.ignoredTypes lang = [])
    (hparse : Generate.parseAll wE (runCtx lang []) wPick [srcAlpha, qSrcDelta] =
      .ok (arrivalsOf [srcAlpha, qSrcDelta])) :
    ImportedInJob (arrivalsOf [srcAlpha, qSrcDelta]) s%"delta" s%"alpha" s%"Target" := by
  have hctx : runCtx lang [] = runCtx wLang [] := by unfold runCtx; rw [hl]; rfl
  refine import_complete_path wE lang [] wPick validPick_head _ _ hparse qSrcDelta (by simp) rfl (visitOf qSrcDelta)
    (by rw [hctx]; exact q_visit_delta)
    s%"alpha" s%"Target" (by rw [hctx]; decide +kernel) (by decide +kernel) (by decide +kernel)
    (by rw [hl]; simp) (by decide +kernel) (by decide +kernel) (by decide +kernel) (by decide +kernel)
    srcAlpha (by simp) rfl (reconcileReferencedTypes wE.U wPick (visitOf srcAlpha)) ?_ (by decide +kernel)
  rw [hctx]
  exact parseFile_of_visit wE (runCtx wLang []) rfl wPick _ _ _ _ _ rfl plain_visit_alpha (by decide +kernel)

example : ImportedInJob (arrivalsOf [srcAlpha, qSrcDelta]) s%"delta" s%"alpha" s%"Target" :=
  q_plain_imported wLang rfl q_parse_delta

example : importsOf (arrivalsOf [srcAlpha, qSrcDelta]) =
    [(s%"alpha", some []), (s%"delta", some [(s%"alpha", [s%"Target"])])] := by decide +kernel

theorem q_kt_parse : Generate.parseAll wE (runCtx (.kotlin wKt) []) wPick [srcAlpha, qSrcDelta] =
    .ok (arrivalsOf [srcAlpha, qSrcDelta]) := q_parse_delta

/-- the Kotlin run on `[alpha, delta]` succeeds and writes these two files -/
theorem q_kt_run : isOutputs (Generate.run wE (.kotlin wKt) true [] wPick [srcAlpha, qSrcDelta]) = true ∧
    outsOf (Generate.run wE (.kotlin wKt) true [] wPick [srcAlpha, qSrcDelta]) =
    [(s%"alpha", s%"package com.example.alpha\n\nimport kotlinx.serialization.Serializable\nimport kotlinx.serialization.SerialName\n\n\n@Serializable\ndata class Target (\n\tval x: UByte\n)\n\n"),
     (s%"delta", s%"package com.example.delta\n\nimport kotlinx.serialization.Serializable\nimport kotlinx.serialization.SerialName\n\nimport com.example.alpha.Target\n\n@Serializable\ndata class Holder (\n\tval t: Target\n)\n\n")] := by
  rw [RunEval.run_eq]
  exact outputs_of_outsOf (List.cons_ne_nil _ _) (by decide +kernel)

/-- the TypeScript run succeeds and writes these two files -/
theorem q_ts_run : isOutputs (Generate.run wE wLang true [] wPick [srcAlpha, qSrcDelta]) = true ∧
    outsOf (Generate.run wE wLang true [] wPick [srcAlpha, qSrcDelta]) =
    [(s%"alpha", s%"\nexport interface Target {\n\tx: number;\n}\n\n"),
     (s%"delta", s%"import { Target } from \"./alpha\";\n\nexport interface Holder {\n\tt: Target;\n}\n\n")] := by
  rw [RunEval.run_eq]
  exact outputs_of_outsOf (List.cons_ne_nil _ _) (by decide +kernel)

/-- `import_complete_path` + `import_line_kotlin`: `delta`'s Kotlin file contains `import com.example.alpha.Target` -/
example : ∃ text, (s%"delta", text) ∈ outsOf (Generate.run wE (.kotlin wKt) true [] wPick [srcAlpha, qSrcDelta]) ∧
    s%"import com.example.alpha.Target\n" <:+: text :=
  import_line_kotlin wE wKt [] wPick [srcAlpha, qSrcDelta] _ _ q_kt_parse (eq_outputs q_kt_run.1)
    s%"delta" s%"alpha" s%"Target" (q_plain_imported (.kotlin wKt) rfl q_kt_parse)

/-- `import_complete_path` + `import_line_typescript`: `delta`'s file contains `import { …, Target, … } from "./alpha";` -/
example : ∃ text, (s%"delta", text) ∈ outsOf (Generate.run wE wLang true [] wPick [srcAlpha, qSrcDelta]) ∧
    ∃ tys, s%"Target" ∈ tys ∧ tsImportLine s%"alpha" tys <:+: text :=
  import_line_typescript wE {} [] wPick [srcAlpha, qSrcDelta] _ _ q_parse_delta (eq_outputs q_ts_run.1)
    s%"delta" s%"alpha" s%"Target" (q_plain_imported wLang rfl q_parse_delta)

/-! ### the side condition `c ≠ T` -/

/-- a degenerate case table in which every character is both upper- and lower-case -/
def wBothU : UnicodeOps := { UnicodeOps.ascii with isUpper := fun _ => true, isLower := fun _ => true }
def wBothE : Ext := { U := wBothU, parseType := fun _ => none }
/-- `#[typeshare] struct S { q: x::x }` -/
def qSrcSame : Generate.SourceFile :=
  mkSrc s%"gamma" [.struct [tsAttr] s%"S" [] (.named [⟨[], some s%"q", .path [s%"x"] s%"x" []⟩])]

/-- **why `c ≠ T` is a hypothesis**: `extract_root_and_types` rejects a path whose first and last segment are
equal.  With a case table that is not `CaseDisjoint` all other hypotheses of `visit_path_complete` can hold for
`x::x`, and nothing is recorded.  (Not reachable with Rust's `char::is_uppercase`/`is_lowercase`.) -/
theorem witness_same_name :
    (s%"x", s%"x") ∈ fileQualifiedRefs (runCtx wLang []) qSrcSame.file ∧
    CrateInScope wBothE.U s%"x" = true ∧ acceptType wBothE.U s%"x" = true ∧
    s%"x" ∉ (runCtx wLang []).ignoredTypes ∧
    ∃ d, visitFile wBothE (runCtx wLang []) qSrcSame.crateName qSrcSame.fileName qSrcSame.path qSrcSame.file = .ok d ∧
      isEmpty d = false ∧ d.importTypes = [] := by
  refine ⟨by decide +kernel, by decide +kernel, by decide +kernel, by decide +kernel, _,
    eq_ok_getOk (o := visitFile wBothE (runCtx wLang []) qSrcSame.crateName qSrcSame.fileName qSrcSame.path
      qSrcSame.file) (by decide +kernel), by decide +kernel, by decide +kernel⟩

/-! ### why "referenced" stays a hypothesis -/

/-- a qualified path can be written (and is recorded by `visit_path`) in a position `RustType::try_from` drops:
the second argument of `Vec`, any argument of `String`.  Then no generated item mentions `X`,
`reconcile_referenced_types` removes the import again, and rightly nothing is imported. -/
example : qualifiedRefs (.path [] s%"Vec" [.path [] s%"u8" [], .path [s%"b"] s%"X" []]) = [(s%"b", s%"X")] ∧
    (getOk (RustTypes.tryFrom (.path [] s%"Vec" [.path [] s%"u8" [], .path [s%"b"] s%"X" []]))).allIds =
      [s%"Vec", s%"u8"] ∧
    (getOk (RustTypes.tryFrom (.path [] s%"String" [.path [s%"b"] s%"X" []]))).allIds = [s%"String"] := by
  decide +kernel

/-! ## 5. the statement at full strength for qualified paths, the known class, and what holds outside it -/

/-- a generated item of file `f` (crate `A`) names, by the qualified path `B::…::T` written in one of the types of
an annotated, accepted item, the typeshared type `tid` that file `g` of another crate `B` declares under the Rust
name `T` -/
structure PathRef (E : Ext) (ctx : ParseContext) (files : List Generate.SourceFile)
    (f g : Generate.SourceFile) (dA dB : ParsedData) (T : Str) (tid : Id) : Prop where
  fIn : f ∈ files
  gIn : g ∈ files
  fMarker : f.file.marker = true
  gMarker : g.file.marker = true
  fVisit : visitFile E ctx f.crateName f.fileName f.path f.file = .ok dA
  gVisit : visitFile E ctx g.crateName g.fileName g.path g.file = .ok dB
  otherCrate : g.crateName ≠ f.crateName
  written : (g.crateName, T) ∈ fileQualifiedRefs ctx f.file
  referenced : T ∈ allReferences E.U dA
  declared : tid ∈ typeIds dB
  declaredAs : tid.original = T

/-- **C14, import clause, qualified paths, at full strength**: every such reference yields an import of the
type's *output* name from `B` in the job of `A` -/
def C14_paths_full : Prop :=
  ∀ (E : Ext) (lang : Generate.LangCfg) (targetOs : List Str) (pick : List ImportedType → Option ImportedType)
    (files : List Generate.SourceFile) (arrivals : List ParsedData),
    ValidPick pick → Generate.parseAll E (runCtx lang targetOs) pick files = .ok arrivals →
    ∀ (f g : Generate.SourceFile) (dA dB : ParsedData) (T : Str) (tid : Id),
      PathRef E (runCtx lang targetOs) files f g dA dB T tid →
      ImportedInJob arrivals f.crateName g.crateName tid.renamed

/-- **partial**: the full statement holds for every qualified-path reference in scope (`C14.inScope`: the crate
name passes `accept_crate` and is not `crate`/`self`/`super`; neither `T` nor `*` has a type mapping; the file
does not itself emit a type named `T`; no import of the file carries `T` with another base crate), with
`B ≠ T`, outside the known class `Known_serde_rename` (the type's output name differs from its Rust name and no
`use B::*;` rescues it — the same defect as for `use B::T;`: `used_imports` looks the *Rust* name up among the
crate's *output* names) -/
theorem C14_paths_partial (E : Ext) (lang : Generate.LangCfg) (targetOs : List Str)
    (pick : List ImportedType → Option ImportedType) (hpick : ValidPick pick)
    (files : List Generate.SourceFile) (arrivals : List ParsedData)
    (hparse : Generate.parseAll E (runCtx lang targetOs) pick files = .ok arrivals)
    (f g : Generate.SourceFile) (dA dB : ParsedData) (T : Str) (tid : Id)
    (h : PathRef E (runCtx lang targetOs) files f g dA dB T tid)
    (hs : inScope E lang dA g.crateName T = true) (hBT : g.crateName ≠ T)
    (k : Known_serde_rename f.file g.crateName tid = false) :
    ImportedInJob arrivals f.crateName g.crateName tid.renamed := by
  obtain ⟨hcrate, hmap, _⟩ := (inScope_iff E lang dA g.crateName T).1 hs
  exact imported_of_recorded E lang targetOs pick hpick files arrivals hparse f g dA dB T tid h.fIn h.gIn
    h.fMarker h.gMarker h.fVisit h.gVisit h.otherCrate h.referenced h.declared hs k fun _ =>
    ⟨h.declaredAs, visit_path_complete E (runCtx lang targetOs) rfl _ _ _ _ dA h.fVisit
      (isEmpty_false_of_ref E.U dA T h.referenced) g.crateName T h.written hcrate
      ((mem_allReferences E.U dA T).1 h.referenced).1 hmap hBT⟩

/-- a `PathRef` between the two files of the run `[g, f]`, from one check the kernel can evaluate -/
theorem pathRef_of_eval (f g : Generate.SourceFile) (T : Str) (tid : Id)
    (h : ((visitFile wE (runCtx wLang []) f.crateName f.fileName f.path f.file).isOk &&
      (visitFile wE (runCtx wLang []) g.crateName g.fileName g.path g.file).isOk &&
      f.file.marker && g.file.marker && g.crateName != f.crateName &&
      (fileQualifiedRefs (runCtx wLang []) f.file).contains (g.crateName, T) &&
      (allReferences wE.U (visitOf f)).contains T && (typeIds (visitOf g)).contains tid &&
      tid.original == T) = true) :
    PathRef wE (runCtx wLang []) [g, f] f g (visitOf f) (visitOf g) T tid := by
  simp only [Bool.and_eq_true, bne_iff_ne, ne_eq, beq_iff_eq, List.contains_iff_mem] at h
  obtain ⟨⟨⟨⟨⟨⟨⟨⟨hf, hg⟩, hfm⟩, hgm⟩, hne⟩, hw⟩, href⟩, hdecl⟩, horig⟩ := h
  exact ⟨by simp, by simp, hfm, hgm, eq_ok_getOk hf, eq_ok_getOk hg, hne, hw, href, hdecl, horig⟩

/-! ### in scope: `alpha::Target` through `C14_paths_partial` -/

theorem q_plain_pathRef : PathRef wE (runCtx wLang []) [srcAlpha, qSrcDelta] qSrcDelta srcAlpha
    (visitOf qSrcDelta) (visitOf srcAlpha) s%"Target" ⟨s%"Target", s%"Target", false⟩ :=
  pathRef_of_eval _ _ _ _ (by decide +kernel)

example : ImportedInJob (arrivalsOf [srcAlpha, qSrcDelta]) s%"delta" s%"alpha" s%"Target" :=
  C14_paths_partial wE wLang [] wPick validPick_head _ _ q_parse_delta _ _ _ _ _ _ q_plain_pathRef
    (by decide +kernel) (by decide +kernel) (by decide +kernel)

/-- … and the nested `crate::Wrap<beta::Inner>` -/
theorem q_nested_pathRef : PathRef wE (runCtx wLang []) [qSrcBeta, qSrcGamma] qSrcGamma qSrcBeta
    (visitOf qSrcGamma) (visitOf qSrcBeta) s%"Inner" ⟨s%"Inner", s%"Inner", false⟩ :=
  pathRef_of_eval _ _ _ _ (by decide +kernel)

example : ImportedInJob (arrivalsOf [qSrcBeta, qSrcGamma]) s%"gamma" s%"beta" s%"Inner" :=
  C14_paths_partial wE wLang [] wPick validPick_head _ _ q_parse_gamma _ _ _ _ _ _ q_nested_pathRef
    (by decide +kernel) (by decide +kernel) (by decide +kernel)

/-! ### the known class: `#[serde(rename = "Renamed")] struct Target`, named as `alpha::Target` -/

theorem q_ren_parse : Generate.parseAll wE (runCtx wLang []) wPick [srcAlphaRenamed, qSrcDelta] =
    .ok (arrivalsOf [srcAlphaRenamed, qSrcDelta]) := eq_ok_getOk (by decide +kernel)

theorem q_ren_pathRef : PathRef wE (runCtx wLang []) [srcAlphaRenamed, qSrcDelta] qSrcDelta srcAlphaRenamed
    (visitOf qSrcDelta) (visitOf srcAlphaRenamed) s%"Target" ⟨s%"Target", s%"Renamed", true⟩ :=
  pathRef_of_eval _ _ _ _ (by decide +kernel)

theorem q_ren_imports : importsOf (arrivalsOf [srcAlphaRenamed, qSrcDelta]) =
    [(s%"alpha", some []), (s%"delta", some [])] := by decide +kernel

/-- the visit *does* record `⟨alpha, Target⟩` (so `visit_path_complete` is not what fails) … -/
example : (visitOf qSrcDelta).importTypes = [⟨s%"alpha", s%"Target"⟩] := by decide +kernel

/-- … **completeness fails on a serde-renamed type named by a qualified path**: everything is in scope, the
reference is in the known class, and nothing is imported into `delta` -/
theorem witness_path_serde_rename :
    PathRef wE (runCtx wLang []) [srcAlphaRenamed, qSrcDelta] qSrcDelta srcAlphaRenamed
      (visitOf qSrcDelta) (visitOf srcAlphaRenamed) s%"Target" ⟨s%"Target", s%"Renamed", true⟩ ∧
    inScope wE wLang (visitOf qSrcDelta) s%"alpha" s%"Target" = true ∧
    Known_serde_rename qSrcDelta.file s%"alpha" ⟨s%"Target", s%"Renamed", true⟩ = true ∧
    ¬ ImportedInJob (arrivalsOf [srcAlphaRenamed, qSrcDelta]) s%"delta" s%"alpha" s%"Renamed" := by
  refine ⟨q_ren_pathRef, by decide +kernel, by decide +kernel, ?_⟩
  apply not_imported_of_importsOf
  rw [q_ren_imports]
  decide +kernel

/-- **the statement at full strength is false on the model** -/
theorem C14_paths_not_full : ¬ C14_paths_full := by
  intro h
  exact witness_path_serde_rename.2.2.2
    (h wE wLang [] wPick _ _ validPick_head q_ren_parse _ _ _ _ _ _ q_ren_pathRef)

end TsV.C14
