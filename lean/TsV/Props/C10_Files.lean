import TsV.Props.C10
import TsV.Lemmas.C10_Files_TypeScript
import TsV.Lemmas.C10_Files_Swift
import TsV.Lemmas.C10_Files_Go
import TsV.Lemmas.C10_Files_GoAcr
import TsV.Lemmas.C10_Files_Python
import TsV.Lemmas.RunEval
import TsV.Lemmas.C11_Modules
/-!
# C10, continued — whole output files are lexically closed, for all six back ends  (PARTIAL)

`TsV.Props.C10` proves lexical closure (`wellBracketed`) declaration by declaration, and file by file
for Kotlin and Scala.  This file lifts everything to the **files of a run** (`generateAll`):

* `C10_typescript_files`, `C10_swift_files`, `C10_go_files`: header (version comment), import lines
  (TypeScript, multi-file), the `ReviverFunc` / `ReplacerFunc` helpers of TypeScript's `end_file`,
  Swift's `CodableVoid` tail and `Codable.swift`, Go's `package` line and import block, and all
  declarations in between; the printer state threaded through the items and through the crates
  carries an invariant (`TS.StOk`, `GoF.StOk`) because it is printed (Date reviver keys, import paths).
* `C10_go_enum`: Go enums **from the parsed enum** (unit and algebraic), not only from fact records.
* `C10_go_acronyms`, `C10_variant_closed`, `C10_go_item`: Go with a non-empty `uppercase_acronyms` (every
  acronym an identifier fragment): the acronym pass returns a *variant* of its argument, variants of
  closed texts are closed, hence every Go declaration and file is closed with any such acronym list.
* `C10_python_item`, `C10_python_files`: Python, w.r.t. the Python automaton `C10LexPy`: structs, unit
  enums, algebraic enums, aliases, constants; every docstring is a closed literal **for every doc
  text** (`python_docstring_closed`); the whole file with its import / `TypeVar` header and the custom
  (de)serialiser functions.
* `C10_kotlin_files`, `C10_scala_files`: the file theorems of `TsV.Props.C10` lifted to `generateAll`.
* `C10_lexical_partial`: the combined statement — for every language, every file `generateAll` writes
  is `lexOk`, provided the configuration is in scope (`CfgIn`), the external functions are
  (`ExtIn`), and every job / item is (`JobIn`, `ItemIn`).  `CfgIn`, `JobIn`, `ItemIn` are decidable
  (the examples at the end check them with `decide +kernel`); `ExtIn` is two universally quantified
  assumptions on the external Unicode / snake-case functions.

Not proved here: the declaration *grammar* (only checked, see `TsV.Props.C10`).
-/
namespace TsV.C10
open TsV TsV.Lang TsV.C10Lex TsV.Generate TsV.C10Spec TsV.C10Files

abbrev Job := Str × ParsedData × Option Pipeline.ScopedCrateTypes

/-! ## the scope predicates of the combined statement -/

/-- what the comment syntax of a language tolerates in doc text: TypeScript anything but `*/` (and
since the C15 repair that too: the hypothesis is kept for uniformity), the line-comment languages
anything but a line break (Python: only the `#` comments of a union need it, docstrings need nothing) -/
def DocsIn : TsV.Lang → List Str → Prop
  | .typescript => fun cs => Known_DocTerminator cs = false
  | _ => fun cs => Known_DocLineBreak cs = false

instance (L : TsV.Lang) (cs : List Str) : Decidable (DocsIn L cs) := by
  cases L <;> unfold DocsIn <;> infer_instance

/-- the lexer at declaration level (TypeScript declarations are checked with `<`/`>` as brackets) -/
def declLex : TsV.Lang → LexCfg
  | .typescript => C10TypeScript.T
  | .python => Py.P0
  | l => lexCfg l

/-- one parsed item is in scope for a back end: names over `[A-Za-z0-9_-]`, identifiers where the back
end derives identifiers, type trees over such names, balanced type overrides, harmless doc text; for
Swift also: the decorator / generic-constraint lists computed for the item consist of balanced strings -/
def ItemIn (E : Ext) (lang : LangCfg) (it : RustItem) : Prop :=
  ItemScope (langOf lang) (declLex (langOf lang)) (DocsIn (langOf lang)) it ∧
  (match lang with
   | .swift cfg => Sw.itemDecorWb E.U cfg it = true
   | _ => True)

instance (E : Ext) (lang : LangCfg) (it : RustItem) : Decidable (ItemIn E lang it) := by
  unfold ItemIn
  cases lang <;> infer_instance

/-- the Scala package name is a dotted identifier fragment (with or without a dot: since the `fix:`
commit 653aee1 a name without a dot is its own innermost package) -/
def scalaPackageOk (cfg : Scala.Cfg) : Prop := Dotted cfg.package

instance (cfg : Scala.Cfg) : Decidable (scalaPackageOk cfg) := by
  unfold scalaPackageOk; infer_instance

def versionOk (v : Option Str) : Prop := ∀ x, v = some x → Dotted x
instance (v : Option Str) : Decidable (versionOk v) := by unfold versionOk; infer_instance

/-- the configuration is in scope: balanced type mappings, identifier-fragment prefixes, dotted
version / package texts, balanced default decorators (Swift), acronyms that are identifier fragments (Go) -/
def CfgIn : LangCfg → Prop
  | .typescript cfg => (∀ p ∈ cfg.typeMappings, wellBracketed C10TypeScript.T p.2 = true) ∧ versionOk cfg.versionHeader
  | .kotlin cfg => KeyStr cfg.pfx ∧ (∀ p ∈ cfg.typeMappings, wellBracketed C10Kotlin.K p.2 = true) ∧
      versionOk cfg.versionHeader ∧ Dotted cfg.package
  | .swift cfg => KeyStr cfg.pfx ∧ (∀ p ∈ cfg.typeMappings, wellBracketed C10Swift.W p.2 = true) ∧ Sw.FileOk cfg
  | .scala cfg => (∀ p ∈ cfg.typeMappings, wellBracketed C10Scala.S p.2 = true) ∧ versionOk cfg.versionHeader ∧
      scalaPackageOk cfg
  | .go cfg => (∀ a ∈ cfg.uppercaseAcronyms, IdentStr a) ∧ (∀ p ∈ cfg.typeMappings, wellBracketed C10Go.G p.2 = true) ∧
      GoF.FileOk cfg
  | .python cfg => Py.CfgOk cfg ∧ versionOk cfg.versionHeader

instance (lang : LangCfg) : Decidable (CfgIn lang) := by
  cases lang <;> unfold CfgIn <;> infer_instance

def importsOk (imports : Option Pipeline.ScopedCrateTypes) : Prop :=
  ∀ i, imports = some i → ∀ p ∈ i, Dotted p.1 ∧ ∀ t ∈ p.2, Dotted t
instance (i : Option Pipeline.ScopedCrateTypes) : Decidable (importsOk i) := by unfold importsOk; infer_instance

/-- what reaches the text from a job besides its items: crate name (Kotlin's `package` line) and
the import lists (TypeScript, Kotlin) -/
def JobIn : LangCfg → Job → Prop
  | .typescript _, j => importsOk j.2.2
  | .kotlin _, j => Dotted j.2.1.crateName ∧ importsOk j.2.2
  | _, _ => True

instance (lang : LangCfg) (j : Job) : Decidable (JobIn lang j) := by
  cases lang <;> unfold JobIn <;> infer_instance

/-- the assumptions on the external functions: Rust's case mapping restricted to ASCII is the ASCII
case mapping (TypeScript / Python constant names, Go receiver names, Python member names), and
`convert_case`'s snake-casing keeps names over `[A-Za-z0-9_-]` in that alphabet (Python) -/
def ExtIn (E : Ext) : LangCfg → Prop
  | .typescript _ | .go _ => E.U.AsciiCorrect
  | .python _ => E.U.AsciiCorrect ∧ Py.SnakeOk E
  | _ => True

/-- **TypeScript, all files of a run** -/
theorem C10_typescript_files (E : Ext) (hU : E.U.AsciiCorrect) (cfg : TypeScript.Cfg) (hc : CfgIn (.typescript cfg))
    (multi : Bool) (jobs : List Job)
    (hj : ∀ j ∈ jobs, JobIn (.typescript cfg) j ∧ ∀ it ∈ C12L.itemsOf j.2.1, ItemIn E (.typescript cfg) it)
    (outs : List (Str × Str)) (h : TypeScript.generateAll E cfg multi jobs = .ok outs) :
    ∀ o ∈ outs, lexOk .typescript o.2 = true := by
  intro o ho
  have hjobs : TS.JobsOk cfg jobs := by
    intro j hjm
    obtain ⟨h1, h2⟩ := hj j hjm
    refine ⟨⟨hc.2, h1⟩, fun it hit => ?_⟩
    have := (h2 it hit).1
    have e : (fun cs => Known_DocTerminator cs = false) = C10TypeScript.DocsOk := by
      funext cs; exact propext (docsOk_typescript cs).symm
    simp only [langOf, declLex, DocsIn] at this
    rw [e] at this
    exact this
  exact (TS.generateFrom_nb E.U hU hc.1 jobs [] TS.stOk_nil hjobs outs h o ho).wb

/-- **Swift, all files of a run** (`Codable.swift` included) -/
theorem C10_swift_files (E : Ext) (cfg : Swift.Cfg) (hc : CfgIn (.swift cfg)) (multi : Bool) (jobs : List Job)
    (hj : ∀ j ∈ jobs, ∀ it ∈ C12L.itemsOf j.2.1, ItemIn E (.swift cfg) it)
    (outs : List (Str × Str)) (h : Swift.generateAll E cfg multi jobs = .ok outs) :
    ∀ o ∈ outs, lexOk .swift o.2 = true := by
  intro o ho
  have hjobs : Sw.JobsOk E.U cfg jobs := by
    intro j hjm it hit
    obtain ⟨h1, h2⟩ := hj j hjm it hit
    refine ⟨?_, h2⟩
    simp only [langOf, declLex, DocsIn, lexCfg] at h1
    rw [docs_lineBreak C10Swift.DocsOk (fun _ => Iff.rfl)] at h1
    exact h1
  exact (Sw.generateAll_nb E ⟨hc.1, hc.2.1⟩ hc.2.2 multi jobs hjobs outs h o ho).wb

/-- **Go enums from the parsed enum** (unit and algebraic; with `uppercase_acronyms = []`) -/
theorem C10_go_enum (U : UnicodeOps) (hU : U.AsciiCorrect) (cfg : Go.Cfg) (H : C10Go.CfgOk cfg) (e : RustEnum)
    (hs : EnumScope .go C10Go.G (fun cs => Known_DocLineBreak cs = false) e) (customStructs : List Str)
    (st : Go.Imports) (text : Str) (st' : Go.Imports) (h : Go.writeEnum U cfg e customStructs st = .ok (text, st')) :
    wellBracketed C10Go.G text = true := by
  rw [docs_lineBreak C10Go.DocsOk (fun _ => Iff.rfl)] at hs
  exact (GoAcr.writeEnum_nb (H.conf U) hU e hs customStructs st text st' h).wb

/-- **the acronym pass returns a variant of its argument**: same length, and at every position the
same character, or an identifier character where the argument has an identifier character — when the
acronyms are identifier fragments and the Unicode parameter is ASCII-correct -/
theorem C10_go_acronyms (U : UnicodeOps) (hU : U.AsciiCorrect) (cfg : Go.Cfg)
    (hA : ∀ a ∈ cfg.uppercaseAcronyms, IdentStr a) (name r : Str) (h : Go.acr U cfg name = .ok r) :
    GoAcr.VarStr r name := GoAcr.acr_var U hU hA name r h

/-- … and a variant of a lexically closed text is lexically closed (identifier characters are inert in
every lexer state) -/
theorem C10_variant_closed (lx : LexCfg) (x y : Str) (h : GoAcr.VarStr x y) (hy : wellBracketed lx y = true) :
    wellBracketed lx x = true := (GoAcr.nb_var h (nb_of_wb hy)).wb

/-- **Go, every item kind, with an acronym list**: structs, aliases, constants, unit and algebraic
enums (from the parsed item) -/
theorem C10_go_item (U : UnicodeOps) (hU : U.AsciiCorrect) (cfg : Go.Cfg) (H : GoAcr.CfgOk' cfg) (it : RustItem)
    (hs : ItemScope .go C10Go.G (fun cs => Known_DocLineBreak cs = false) it) (customStructs : List Str)
    (st : Go.Imports) (text : Str) (st' : Go.Imports) (h : Go.writeItem U cfg customStructs it st = .ok (text, st')) :
    wellBracketed C10Go.G text = true := by
  rw [docs_lineBreak C10Go.DocsOk (fun _ => Iff.rfl)] at hs
  exact (GoAcr.writeItem_nb (H.conf U hU) hU customStructs it hs st text st' h).wb

/-- **Go, all files of a run** (any acronym list of identifier fragments) -/
theorem C10_go_files (E : Ext) (hU : E.U.AsciiCorrect) (cfg : Go.Cfg) (hc : CfgIn (.go cfg)) (multi : Bool)
    (jobs : List Job) (hj : ∀ j ∈ jobs, ∀ it ∈ C12L.itemsOf j.2.1, ItemIn E (.go cfg) it)
    (outs : List (Str × Str)) (h : Go.generateAll E cfg multi jobs = .ok outs) :
    ∀ o ∈ outs, lexOk .go o.2 = true := by
  intro o ho
  have hjobs : GoF.JobsOk jobs := by
    intro j hjm it hit
    have h1 := (hj j hjm it hit).1
    simp only [langOf, declLex, DocsIn, lexCfg] at h1
    rw [docs_lineBreak C10Go.DocsOk (fun _ => Iff.rfl)] at h1
    exact h1
  exact (GoF.generateFrom_nb' E.U hU (GoAcr.CfgOk'.conf E.U hU ⟨hc.1, hc.2.1⟩) hc.2.2 jobs [] GoF.stOk_nil hjobs outs h o ho).wb

/-- **every docstring the Python back end writes is a closed `"""` literal, whatever the doc
text** (backslashes doubled, `"""` escaped: C15's `py_escape_ok` carried to the lexer) -/
theorem python_docstring_closed (indent : Nat) (cs : List Str) :
    C10LexPy.wellBracketedPy (Python.docstring indent cs) = true := (Py.docstring_nbp indent cs).wb

/-- **Python, every item kind**: the text written for a struct (`class …(BaseModel)`), a unit enum
(`class …(str, Enum)`), an algebraic enum (inner classes, the `…Types` enumeration, the variant classes,
the `Union[…]` alias), a type alias, a constant is closed for the Python automaton -/
theorem C10_python_item (E : Ext) (hU : E.U.AsciiCorrect) (hS : Py.SnakeOk E) (cfg : Python.Cfg) (H : Py.CfgOk cfg)
    (it : RustItem) (hs : ItemScope .python Py.P0 (fun cs => Known_DocLineBreak cs = false) it)
    (st : Python.St) (text : Str) (st' : Python.St) (h : Python.writeItem E cfg it st = .ok (text, st')) :
    C10LexPy.wellBracketedPy text = true := by
  rw [docs_lineBreak Py.DocsOk (fun _ => Iff.rfl)] at hs
  exact (Py.writeItem_ok E hU hS H it hs st text st' h).wb

/-- **Python, all files of a run** -/
theorem C10_python_files (E : Ext) (hU : E.U.AsciiCorrect) (hS : Py.SnakeOk E) (cfg : Python.Cfg)
    (hc : CfgIn (.python cfg)) (multi : Bool) (jobs : List Job)
    (hj : ∀ j ∈ jobs, ∀ it ∈ C12L.itemsOf j.2.1, ItemIn E (.python cfg) it)
    (outs : List (Str × Str)) (h : Python.generateAll E cfg multi jobs = .ok outs) :
    ∀ o ∈ outs, lexOk .python o.2 = true := by
  intro o ho
  have hjobs : Py.JobsOk jobs := by
    intro j hjm it hit
    have h1 := (hj j hjm it hit).1
    simp only [langOf, declLex, DocsIn] at h1
    rw [docs_lineBreak Py.DocsOk (fun _ => Iff.rfl)] at h1
    exact h1
  exact (Py.generateFrom_ok E hU hS hc.1 hc.2 jobs {} Py.stOk_empty hjobs outs h o ho).wb

/-! ## Kotlin and Scala: the file theorems of `TsV.Props.C10`, for all files of a run -/

theorem kotlin_generateFrom (cfg : Kotlin.Cfg) (hc : CfgIn (.kotlin cfg)) (E : Ext) (jobs : List Job)
    (hj : ∀ j ∈ jobs, JobIn (.kotlin cfg) j ∧ ∀ it ∈ C12L.itemsOf j.2.1, ItemIn E (.kotlin cfg) it)
    (outs : List (Str × Str)) (h : Kotlin.generateFrom cfg jobs = .ok outs) :
    ∀ o ∈ outs, wellBracketed C10Kotlin.K o.2 = true := by
  intro o ho
  obtain ⟨⟨crate, d, imps⟩, hjm, -, hg⟩ := (C11M.kotlin_mods E cfg jobs outs h).mem_out o ho
  obtain ⟨⟨hcr, himp⟩, hit⟩ := hj _ hjm
  refine C10_kotlin_file cfg ⟨hc.1, hc.2.1⟩ d imps ⟨hc.2.2.1, hc.2.2.2, hcr, himp⟩ ?_ o.2 hg
  intro items hitems it hmem
  have h1 := (hit it (mem_of_generateOrder hitems hmem)).1
  simp only [langOf, declLex, DocsIn, lexCfg] at h1
  rw [docs_lineBreak C10Kotlin.DocsOk (fun _ => Iff.rfl)] at h1
  exact h1

/-- **Kotlin, all files of a run** -/
theorem C10_kotlin_files (E : Ext) (cfg : Kotlin.Cfg) (hc : CfgIn (.kotlin cfg)) (multi : Bool) (jobs : List Job)
    (hj : ∀ j ∈ jobs, JobIn (.kotlin cfg) j ∧ ∀ it ∈ C12L.itemsOf j.2.1, ItemIn E (.kotlin cfg) it)
    (outs : List (Str × Str)) (h : Kotlin.generateAll E cfg multi jobs = .ok outs) :
    ∀ o ∈ outs, lexOk .kotlin o.2 = true :=
  kotlin_generateFrom cfg hc E jobs hj outs h

theorem scala_generateFrom (cfg : Scala.Cfg) (hc : CfgIn (.scala cfg)) (E : Ext) (jobs : List Job)
    (hj : ∀ j ∈ jobs, ∀ it ∈ C12L.itemsOf j.2.1, ItemIn E (.scala cfg) it)
    (outs : List (Str × Str)) (h : Scala.generateFrom cfg jobs = .ok outs) :
    ∀ o ∈ outs, wellBracketed C10Scala.S o.2 = true := by
  intro o ho
  obtain ⟨⟨crate, d, imps⟩, hjm, -, hg⟩ := (C11M.scala_mods E cfg jobs outs h).mem_out o ho
  have hit : ∀ it ∈ C12L.itemsOf d, ItemScope .scala C10Scala.S C10Scala.DocsOk it := by
    intro it hmem
    have h1 := (hj _ hjm it hmem).1
    simp only [langOf, declLex, DocsIn, lexCfg] at h1
    rw [docs_lineBreak C10Scala.DocsOk (fun _ => Iff.rfl)] at h1
    exact h1
  have hd : C10Scala.DataOk d :=
    ⟨fun s hs => hit (.struct s) (by simp [C12L.itemsOf, hs]), fun e he => hit (.enum e) (by simp [C12L.itemsOf, he]),
     fun a ha => hit (.alias a) (by simp [C12L.itemsOf, ha])⟩
  exact C10_scala_file cfg hc.1 d hd hc.2.1 hc.2.2 o.2 hg

/-- **Scala, all files of a run** -/
theorem C10_scala_files (E : Ext) (cfg : Scala.Cfg) (hc : CfgIn (.scala cfg)) (multi : Bool) (jobs : List Job)
    (hj : ∀ j ∈ jobs, ∀ it ∈ C12L.itemsOf j.2.1, ItemIn E (.scala cfg) it)
    (outs : List (Str × Str)) (h : Scala.generateAll E cfg multi jobs = .ok outs) :
    ∀ o ∈ outs, lexOk .scala o.2 = true :=
  scala_generateFrom cfg hc E jobs hj outs h

/-- **C10, lexical layer, partial**: for every language, every file of a run is lexically closed —
provided the configuration, the external functions, the jobs and every item of every job are in scope. -/
theorem C10_lexical_partial (E : Ext) (lang : LangCfg) (multi : Bool) (jobs : List Job)
    (hE : ExtIn E lang) (hc : CfgIn lang)
    (hj : ∀ j ∈ jobs, JobIn lang j ∧ ∀ it ∈ C12L.itemsOf j.2.1, ItemIn E lang it)
    (outs : List (Str × Str)) (h : generateAll E multi jobs lang = .ok outs) :
    ∀ o ∈ outs, lexOk (langOf lang) o.2 = true := by
  cases lang with
  | typescript cfg => exact C10_typescript_files E hE cfg hc multi jobs hj outs h
  | kotlin cfg => exact C10_kotlin_files E cfg hc multi jobs hj outs h
  | swift cfg => exact C10_swift_files E cfg hc multi jobs (fun j hjm => (hj j hjm).2) outs h
  | scala cfg => exact C10_scala_files E cfg hc multi jobs (fun j hjm => (hj j hjm).2) outs h
  | go cfg => exact C10_go_files E hE cfg hc multi jobs (fun j hjm => (hj j hjm).2) outs h
  | python cfg => exact C10_python_files E hE.1 hE.2 cfg hc multi jobs (fun j hjm => (hj j hjm).2) outs h

/-! ## non-vacuity: a two-item program per language that meets every hypothesis, and for which the run succeeds -/

def item2 : RustStruct :=
  { exStruct with comments := [s%" an item /* ("], fields := [{ exField with comments := [s%" the \"id\" (raw) {"] }] }

def dateField : RustField :=
  { id := ⟨s%"created_at", s%"createdAt", true⟩, ty := .prim .dateTime, comments := [s%" when \"\"\" \\"], hasDefault := true,
    decorators := [] }

/-- with a `DateTime` field: TypeScript writes the `ReviverFunc` / `ReplacerFunc` footer, Go imports
`time`, Python writes the datetime (de)serialisers -/
def item2d : RustStruct := { item2 with fields := item2.fields ++ [dateField] }

/-- a two-item program: `struct Item<T>` and the tagged `enum Shape<T>` -/
def data2 : ParsedData := { structs := [item2], enums := [exEnum], crateName := s%"my_crate", multiFile := true }
def data2d : ParsedData := { data2 with structs := [item2d] }

theorem order2 : Pipeline.generateOrder data2 = some [.struct item2, .enum exEnum] :=
  topsort_pair _ _ (by decide +kernel)
theorem order2d : Pipeline.generateOrder data2d = some [.struct item2d, .enum exEnum] :=
  topsort_pair _ _ (by decide +kernel)

theorem snakeOk_ascii : Py.SnakeOk asciiExt := fun _ h => h

/-! ### TypeScript (multi-file: import lines; `Date`: the reviver / replacer footer) -/

def tsCfg : TypeScript.Cfg :=
  { typeMappings := [(s%"Foo", s%"Record<string, [number, string]>")], versionHeader := some s%"1.13.2" }
def tsJob : Job := (s%"my_crate", data2d, some [(s%"other_crate", [s%"Bar", s%"Foo"])])

example : ExtIn asciiExt (.typescript tsCfg) := UnicodeOps.ascii_correct
example : CfgIn (.typescript tsCfg) := by decide +kernel
example : JobIn (.typescript tsCfg) tsJob ∧ ∀ it ∈ C12L.itemsOf tsJob.2.1, ItemIn asciiExt (.typescript tsCfg) it := by
  decide +kernel
example : (generateAll asciiExt true [tsJob] (.typescript tsCfg)).isOk = true := by
  simp only [generateAll, TypeScript.generateAll, RunEval.TypeScript.generateFrom_eq]
  decide +kernel

/-! ### Kotlin -/

def ktCfg : Kotlin.Cfg :=
  { pfx := s%"OP", typeMappings := [(s%"Foo", s%"Map<String, List<Int>>")], package := s%"com.example",
    versionHeader := some s%"1.13.2" }
def ktJob : Job := (s%"my_crate", data2, some [(s%"other_crate", [s%"Bar"])])

example : CfgIn (.kotlin ktCfg) := by decide +kernel
example : JobIn (.kotlin ktCfg) ktJob ∧ ∀ it ∈ C12L.itemsOf ktJob.2.1, ItemIn asciiExt (.kotlin ktCfg) it := by
  decide +kernel
example : (generateAll asciiExt true [ktJob] (.kotlin ktCfg)).isOk = true := by
  simp only [generateAll, Kotlin.generateAll, RunEval.Kotlin.generateFrom_eq]
  decide +kernel

/-! ### Swift (single file: the `CodableVoid` tail is not triggered here; multi-file run below) -/

def swCfg : Swift.Cfg :=
  { pfx := s%"OP", versionHeader := some s%"1.13.2", defaultDecorators := [s%"Sendable"],
    codablevoidConstraints := [s%"Equatable"] }
def swJob : Job := (s%"my_crate", data2, none)

example : CfgIn (.swift swCfg) := by decide +kernel
example : ∀ it ∈ C12L.itemsOf swJob.2.1, ItemIn asciiExt (.swift swCfg) it := by decide +kernel
example : (generateAll asciiExt false [swJob] (.swift swCfg)).isOk = true := by
  simp only [generateAll, Swift.generateAll, RunEval.Swift.generateFrom_eq]
  decide +kernel

/-! ### Scala -/

def scCfg : Scala.Cfg :=
  { package := s%"com.example", typeMappings := [(s%"Foo", s%"Map[String, Vector[Int]]")], versionHeader := some s%"1.13.2" }

example : CfgIn (.scala scCfg) := by decide +kernel
example : ∀ it ∈ C12L.itemsOf data2, ItemIn asciiExt (.scala scCfg) it := by decide +kernel
example : (generateAll asciiExt false [(s%"my_crate", data2, none)] (.scala scCfg)).isOk = true := by decide +kernel
/-- a package name without a dot is in scope too (the repaired finding `scala-package-without-dot`) -/
example : CfgIn (.scala { scCfg with package := s%"pkg" }) ∧
    (generateAll asciiExt false [(s%"my_crate", data2, none)] (.scala { scCfg with package := s%"pkg" })).isOk = true := by
  decide +kernel

/-! ### Go (`DateTime`: the import block lists `encoding/json` and `time`) -/

def goCfg : Go.Cfg :=
  { package := s%"proto", typeMappings := [(s%"Foo", s%"map[string][]int")], versionHeader := some s%"1.13.2",
    uppercaseAcronyms := [s%"id", s%"url"] }
def goJob : Job := (s%"my_crate", data2d, none)

example : ExtIn asciiExt (.go goCfg) := UnicodeOps.ascii_correct
example : CfgIn (.go goCfg) := by decide +kernel
example : ∀ it ∈ C12L.itemsOf goJob.2.1, ItemIn asciiExt (.go goCfg) it := by decide +kernel
example : (generateAll asciiExt false [goJob] (.go goCfg)).isOk = true := by
  simp only [generateAll, Go.generateAll, RunEval.Go.generateFrom_eq]
  decide +kernel

/-! ### Python (`DateTime`: the `Annotated[…]` field and the custom functions; doc text with `"""` and a backslash) -/

def pyCfg : Python.Cfg := { typeMappings := [(s%"Foo", s%"Dict[str, List[int]]")], versionHeader := some s%"1.13.2" }
def pyJob : Job := (s%"my_crate", data2d, none)

example : ExtIn asciiExt (.python pyCfg) := ⟨UnicodeOps.ascii_correct, snakeOk_ascii⟩
example : CfgIn (.python pyCfg) := by decide +kernel
example : ∀ it ∈ C12L.itemsOf pyJob.2.1, ItemIn asciiExt (.python pyCfg) it := by decide +kernel
example : (generateAll asciiExt false [pyJob] (.python pyCfg)).isOk = true := by
  simp only [generateAll, Python.generateAll, RunEval.Python.generateFrom_eq]
  decide +kernel

/-! ### Swift, multi-file, with a unit type: `Codable.swift` is written and covered -/

def voidAlias : RustTypeAlias :=
  { id := ⟨s%"Nothing", s%"Nothing", false⟩, genericTypes := [], ty := .prim .unit, comments := [s%" Rust's ()"],
    decorators := {}, isRedacted := false }
def dataVoid : ParsedData := { aliases := [voidAlias], structs := [item2], crateName := s%"my_crate", multiFile := true }
def swJobVoid : Job := (s%"my_crate", dataVoid, some [])

theorem orderVoid : Pipeline.generateOrder dataVoid = some [.alias voidAlias, .struct item2] :=
  topsort_pair _ _ (by decide +kernel)

example : ∀ it ∈ C12L.itemsOf swJobVoid.2.1, ItemIn asciiExt (.swift swCfg) it := by decide +kernel
example : (generateAll asciiExt true [swJobVoid] (.swift swCfg)).bind (fun o => .ok (o.map (·.1))) =
    .ok [s%"my_crate", s%"<post>/Codable.swift"] := by
  simp only [generateAll, Swift.generateAll, RunEval.Swift.generateFrom_eq]
  decide +kernel

/-! ### the item-level theorems: Go enums (unit and algebraic, with acronyms), Python items, the acronym pass -/

def unitEnum2 : RustEnum :=
  { keys := none, id := ⟨s%"UserRole", s%"user-role", true⟩, genericTypes := [], comments := [s%" roles"],
    variants := [.unit ⟨s%"ApiAdmin", s%"api-admin", true⟩ [s%" all rights"], .unit ⟨s%"Guest", s%"Guest", false⟩ []],
    decorators := {}, isRecursive := false, isRedacted := false }

example : C10Go.CfgOk { package := s%"proto" } := ⟨rfl, by decide⟩
example : EnumScope .go C10Go.G (fun cs => Known_DocLineBreak cs = false) unitEnum2 := by decide +kernel
example : (Go.writeEnum UnicodeOps.ascii { package := s%"proto" } unitEnum2 [] []).isOk = true := by decide +kernel

example : GoAcr.CfgOk' goCfg := by decide +kernel
example : ItemScope .go C10Go.G (fun cs => Known_DocLineBreak cs = false) (.enum unitEnum2) := by decide +kernel
example : ItemScope .go C10Go.G (fun cs => Known_DocLineBreak cs = false) (.enum exEnum) := by decide +kernel
/-- `ApiAdmin` with the acronym `api`: the constant is `UserRoleAPIAdmin` -/
example : (Go.writeEnum UnicodeOps.ascii { goCfg with uppercaseAcronyms := [s%"api"] } unitEnum2 [] []).bind
    (fun r => .ok r.1) =
    .ok s%"//  roles\ntype UserRole string\nconst (\n\t//  all rights\n\tUserRoleAPIAdmin UserRole = \"api-admin\"\n\tUserRoleGuest UserRole = \"Guest\"\n)\n" := by
  decide +kernel
example : Go.acr UnicodeOps.ascii goCfg s%"UserIdOfUrl" = .ok s%"UserIDOfURL" := by decide +kernel
example : GoAcr.VarStr s%"map[UserID]URL" s%"map[UserId]Url" :=
  C10_go_acronyms UnicodeOps.ascii UnicodeOps.ascii_correct goCfg (by decide) _ _ (by decide +kernel)

example : Py.CfgOk pyCfg := by decide +kernel
example : ItemScope .python Py.P0 (fun cs => Known_DocLineBreak cs = false) (.enum exEnum) := by decide +kernel
example : ItemScope .python Py.P0 (fun cs => Known_DocLineBreak cs = false) (.enum unitEnum2) := by decide +kernel
example : ItemScope .python Py.P0 (fun cs => Known_DocLineBreak cs = false) (.struct item2d) := by decide +kernel
example : (Python.writeItem asciiExt pyCfg (.enum unitEnum2) {}).isOk = true := by decide +kernel
/-- a doc line that tries to close the docstring and ends in a backslash -/
example : Python.docstring 1 [s%"\"\"\" ) \\"] = s%"    \"\"\"\n    \\\"\\\"\\\" ) \\\\\n    \"\"\"\n" := by decide +kernel

end TsV.C10
