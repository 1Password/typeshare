import TsV.Lemmas.TargetOs
import TsV.Model.Visitor
/-!
# C13 — `--target-os` filtering follows the documented accept/reject rule

`names` is the plain reading of the documentation: the `target_os = "…"` leaves of a cfg expression,
each marked with whether it sits inside a `not(…)`.  `C13` says that the stack-machine
implementation (`accept`, the model of `accept_target_os`) decides exactly the documented rule.
-/
namespace TsV.C13
open TsV.Syn TsV.TargetOs

mutual
  /-- `(insideNot, os)` for every `target_os = "os"` leaf -/
  def names : Bool → Meta → List (Bool × Str)
    | _, .path _ => []
    | inNot, .nameValue segs v =>
      match v with
      | some (.str s) => if segs = [s%"target_os"] then [(inNot, s)] else []
      | _ => []
    | inNot, .list segs _ args => namesList (inNot || segs == [s%"not"]) args
  def namesList : Bool → List Meta → List (Bool × Str)
    | _, [] => []
    | inNot, m :: ms => names inNot m ++ namesList inNot ms
end

/-- all cfg predicates of an attribute list -/
def allNames (attrs : List Attr) : List (Bool × Str) :=
  (attrs.flatMap cfgItems).flatMap (names false)

/-- OS names inside a `not(…)` -/
def N (attrs : List Attr) : List Str := ((allNames attrs).filter (·.1)).map (·.2)
/-- OS names outside every `not(…)` -/
def P (attrs : List Attr) : List Str := ((allNames attrs).filter (!·.1)).map (·.2)

/-- the documented rule -/
def rule (attrs : List Attr) (T : List Str) : Bool :=
  T.isEmpty ||
    ((N attrs).all (fun o => !T.contains o) && ((P attrs).isEmpty || (P attrs).any (fun o => T.contains o)))

def wfAttrs (attrs : List Attr) : Bool := (attrs.flatMap cfgItems).all WF

/-! ### relating `collect` to `names` -/

def tag (sc : Scope) : Bool := sc != .accept

theorem tag_scopeOf_list (sc : Scope) (segs : List Str) (p : Bool) (args : List Meta) :
    tag (scopeOf sc (.list segs p args)) = (tag sc || segs == [s%"not"]) := by
  unfold scopeOf
  simp only [Meta.isIdent, Meta.segs, kNot]
  by_cases h : segs = [s%"not"]
  · subst h; cases sc <;> simp [tag]
  · have h' : (segs == [s%"not"]) = false := by simpa using h
    simp [h']

mutual
  theorem collect_names : ∀ (sc : Scope) (m : Meta),
      (collect sc m).map (fun p => (tag p.1, p.2)) = names (tag sc) m
    | sc, .path _ => by simp [collect, names]
    | sc, .nameValue segs v => by
      simp only [collect, names, leaf]
      cases v with
      | none => simp
      | some l =>
        cases l with
        | str s =>
          simp only [kTargetOs]
          by_cases h : segs = [s%"target_os"]
          · subst h
            have : scopeOf sc (Meta.nameValue [s%"target_os"] (some (Lit.str s))) = sc := by
              simp [scopeOf, Meta.isIdent, Meta.segs, kNot]
            simp [this]
          · have h' : (segs == [s%"target_os"]) = false := by simpa using h
            simp [h, h']
        | int _ _ => simp
        | other => simp
    | sc, .list segs p args => by
      simp only [collect, names]
      rw [collectList_names, tag_scopeOf_list]
  theorem collectList_names : ∀ (sc : Scope) (ms : List Meta),
      (collectList sc ms).map (fun p => (tag p.1, p.2)) = namesList (tag sc) ms
    | sc, [] => by simp [collectList, namesList]
    | sc, m :: ms => by
      simp only [collectList, namesList, List.map_append]
      rw [collect_names, collectList_names]
end

/-! ### the yielded list -/

theorem yielded_spec (items : List Meta) (hwf : items.all WF = true) :
    ∀ acc0, ∃ ys, items.foldl yieldStep (some acc0) = some ys ∧
      ys.Perm (acc0 ++ items.flatMap (collect .accept)) := by
  induction items with
  | nil => intro acc0; exact ⟨acc0, by simp, by simp⟩
  | cons m ms ih =>
    intro acc0
    simp only [List.all_cons, Bool.and_eq_true] at hwf
    obtain ⟨r, hr⟩ := Option.isSome_iff_exists.mp (drainTop_isSome m)
    have hperm : r.Perm ([] ++ specOf [(.accept, m)]) := by
      unfold drainTop at hr
      exact drain_perm _ _ _ _ (by simp [stackWF, hwf.1]) hr
    simp only [specOf, List.flatMap_cons, List.flatMap_nil, List.append_nil, List.nil_append] at hperm
    obtain ⟨ys, hys, hp⟩ := ih hwf.2 (acc0 ++ r)
    refine ⟨ys, ?_, ?_⟩
    · simp only [List.foldl_cons, yieldStep, hr]; exact hys
    · refine hp.trans ?_
      simp only [List.flatMap_cons, List.append_assoc]
      exact (List.Perm.append_left acc0 (List.Perm.append_right _ hperm))

theorem any_perm {α} {l₁ l₂ : List α} (h : l₁.Perm l₂) (p : α → Bool) : l₁.any p = l₂.any p := by
  rw [Bool.eq_iff_iff]; simp only [List.any_eq_true]
  constructor <;> rintro ⟨x, hx, hp⟩
  · exact ⟨x, h.subset hx, hp⟩
  · exact ⟨x, h.symm.subset hx, hp⟩

theorem cross_any {A B T : List Str} (h : A.Perm B) :
    (T.any fun t => A.any fun r => t == r) = B.any fun o => T.contains o := by
  rw [Bool.eq_iff_iff]
  simp only [List.any_eq_true, List.contains_iff_mem]
  constructor
  · rintro ⟨t, ht, r, hr, htr⟩
    have : t = r := eq_of_beq htr
    subst this; exact ⟨t, h.subset hr, ht⟩
  · rintro ⟨o, ho, hoT⟩; exact ⟨o, hoT, o, h.symm.subset ho, beq_self_eq_true o⟩

theorem cross_any' {A B T : List Str} (h : A.Perm B) :
    (T.any fun t => A.any fun a => a == t) = B.any fun o => T.contains o := by
  rw [← cross_any h]
  congr 1; funext t; congr 1; funext a
  exact Bool.beq_comm

theorem names_flatMap (items : List Meta) :
    items.flatMap (names false) = (items.flatMap (collect .accept)).map fun p => (tag p.1, p.2) := by
  induction items with
  | nil => simp
  | cons m ms ih =>
    simp only [List.flatMap_cons, List.map_append, ih]
    rw [collect_names]; simp [tag]

theorem spec_accepted (attrs : List Attr) :
    (((attrs.flatMap cfgItems).flatMap (collect .accept)).filter fun p => p.1 == Scope.accept).map (·.2)
      = P attrs := by
  unfold P allNames
  rw [names_flatMap, List.filter_map, List.map_map]
  congr 1
  apply List.filter_congr
  intro p _
  obtain ⟨sc, o⟩ := p
  cases sc <;> rfl

theorem spec_rejected (attrs : List Attr) :
    (((attrs.flatMap cfgItems).flatMap (collect .accept)).filter fun p => p.1 != Scope.accept).map (·.2)
      = N attrs := by
  unfold N allNames
  rw [names_flatMap, List.filter_map, List.map_map]
  congr 1

/-- **C13.** For every attribute list whose cfg expressions are built from `any/all/not`, name-values
and bare words (at any depth), and every target list, `accept_target_os` decides the documented
rule: nothing is filtered for an empty list; otherwise no OS named under a `not` may be a target
and, if any OS is named outside `not`, one of those must be a target. -/
theorem C13 (attrs : List Attr) (T : List Str) (hwf : wfAttrs attrs = true) :
    accept attrs T = some (rule attrs T) := by
  unfold accept rule
  by_cases hT : T.isEmpty
  · simp [hT]
  · simp only [hT, Bool.false_eq_true, if_false, Bool.false_or]
    obtain ⟨ys, hys, hp⟩ := yielded_spec (attrs.flatMap cfgItems) hwf []
    simp only [yielded, hys]
    simp only [List.nil_append] at hp
    have hacc : ((ys.filter fun p => p.1 == Scope.accept).map (·.2)).Perm (P attrs) := by
      rw [← spec_accepted]
      exact (hp.filter _).map _
    have hrej : ((ys.filter fun p => p.1 != Scope.accept).map (·.2)).Perm (N attrs) := by
      rw [← spec_rejected]
      exact (hp.filter _).map _
    simp only [Option.some.injEq]
    rw [cross_any hrej, cross_any' hacc, hacc.isEmpty_eq, List.not_any_eq_all_not]

/-! ### corollaries named in the property -/

/-- without `--target-os` nothing is filtered -/
theorem no_targets (attrs : List Attr) : accept attrs [] = some true := by simp [accept]

/-- an item without any `target_os` predicate is always kept; in particular predicates other than
`target_os` (features, bare words, …) never exclude anything -/
theorem no_target_os_kept (attrs : List Attr) (T : List Str) (hwf : wfAttrs attrs = true)
    (h : allNames attrs = []) : accept attrs T = some true := by
  rw [C13 attrs T hwf]; simp [rule, N, P, h]

/-- the decision in the property's own words -/
theorem C13_iff (attrs : List Attr) (T : List Str) (hwf : wfAttrs attrs = true) (hT : T ≠ []) :
    accept attrs T = some true ↔
      ((∀ o ∈ N attrs, o ∉ T) ∧ (P attrs = [] ∨ ∃ o ∈ P attrs, o ∈ T)) := by
  rw [C13 attrs T hwf]
  have : T.isEmpty = false := by cases T <;> simp_all
  simp [rule, this, List.isEmpty_iff]

/-! ### non-vacuity: `cfg(all(feature = "f", not(target_os = "ios")))` against `[ios, android]` -/
def exAttr : Attr := ⟨.list [s%"cfg"] true
  [.list [s%"all"] true
    [.nameValue [s%"feature"] (some (.str s%"f")),
     .list [s%"not"] true [.nameValue [s%"target_os"] (some (.str s%"ios"))]]]⟩

example : wfAttrs [exAttr] = true := by decide +kernel
example : accept [exAttr] [s%"ios", s%"android"] = some false := by decide +kernel
example : accept [exAttr] [s%"android"] = some true := by decide +kernel
example : N [exAttr] = [s%"ios"] ∧ P [exAttr] = [] := by decide +kernel

/-! ### the same decision at every attachment level -/

/-- **file level** (inner attributes `#![cfg(..)]`): a rejected file contributes nothing -/
theorem file_level (E : Ext) (ctx : ParseContext) (pick) (c fn p : Str) (f : File)
    (h : accept f.attrs ctx.targetOs = some false) :
    Visitor.parseFile E ctx pick c fn p f = .ok none := by
  unfold Visitor.parseFile Visitor.visitFile
  by_cases hm : f.marker = true
  · simp [hm, h, Visitor.isEmpty]
  · simp [hm]

/-- **item level** (struct / enum / type alias / const): an annotated item is parsed iff its own
attributes are accepted -/
theorem item_level (ctx : ParseContext) (attrs : List Attr) :
    Visitor.accepted ctx attrs =
      (Parser.hasTypeshareAnnotation attrs && (accept attrs ctx.targetOs == some true)) := by
  rw [accept_beq, beq_true]
  rfl

/-- **variant, field and struct-variant-field level**: a member is dropped iff it carries a skip
marker or its own attributes are rejected -/
theorem member_level (attrs : List Attr) (T : List Str) :
    Parser.isSkipped attrs T = (Parser.skipMarked attrs || (accept attrs T == some false)) := by
  rw [accept_beq, beq_false]
  rfl

end TsV.C13
