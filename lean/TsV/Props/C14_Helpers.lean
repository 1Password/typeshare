import TsV.Lemmas.C14_Helpers
import TsV.Lemmas.RunEval
/-!
# C14, folder output of Swift — the helper `CodableVoid` is defined once, in `Codable.swift`,
exactly when single-file mode would define it

`Swift::post_generation` writes `Codable.swift` (model: the output `<post>/Codable.swift`) iff the
flag `should_emit_codable_void` is set after the last crate; the flag accumulates over the crates
of the run (`runUses`: some module's items make the printer format `()`, `C12L.Swift.used`).

* `C14_Helpers_folder`: in folder output the result is the crate modules, in job order, each
  `begin_file` + the item blocks and *nothing from `end_file`*, followed by
  `("<post>/Codable.swift", writeCodable cfg)` iff some module of the run mentions `CodableVoid`
  (`C14_Helpers_iff` as a membership statement).
* `C14_Helpers_single`: single-file output ends with `writeCodable cfg` iff its module mentions it.
* `C14_Helpers_same` (`C14_Helpers_full`): for a single-file run and a folder run whose modules hold
  the same items, the condition is the same and the helper text is the same `writeCodable cfg` —
  the two modes define the same helper.
* `C14_Helpers_run`: the statements apply to `Generate.run … (.swift cfg)`.
-/
namespace TsV.C14_Helpers
open TsV TsV.Lang TsV.Lang.Swift TsV.C14H TsV.C12L TsV.C12L.Swift

/-- the key under which the model reports what `post_generation` writes -/
def helperPath : Str := s%"<post>/Codable.swift"

/-- what `post_generation` contributes -/
def helperFiles (cfg : Cfg) (uses : Bool) : List (Str × Str) :=
  if uses then [(helperPath, writeCodable cfg)] else []

theorem mem_helperFiles (cfg : Cfg) (uses : Bool) (p : Str × Str) :
    p ∈ helperFiles cfg uses ↔ uses = true ∧ p = (helperPath, writeCodable cfg) := by
  cases uses <;> simp [helperFiles]

/-- **folder output**: crate modules without any `end_file` text, then the helper file iff used -/
theorem C14_Helpers_folder (E : Ext) (cfg : Cfg) (jobs : List Job) (res : List (Str × Str))
    (h : generateAll E cfg true jobs = .ok res) :
    ∃ outs, res = outs ++ helperFiles cfg (runUses cfg jobs) ∧
      outs.map (·.1) = jobs.map (·.1) ∧
      ∀ p ∈ jobs.zip outs, p.2.1 = p.1.1 ∧
        ∃ body, IsBody E.U cfg p.1.2.1 body ∧ p.2.2 = beginFile cfg ++ body := by
  unfold generateAll at h
  obtain ⟨outs, st, h1, h2⟩ := Outcome.of_bind_pair_ok h
  simp only [Outcome.ok.injEq] at h2
  obtain ⟨hst, hm⟩ := generateFrom_modules E.U cfg true jobs false outs st h1
  refine ⟨outs, ?_, hm.names, hm.folder⟩
  rw [← h2, hst]
  simp [postGeneration, helperFiles, helperPath]

/-- the helper file is there iff some module mentions `CodableVoid` (crate names are directory names,
never `<post>/…`), and it is always the same text -/
theorem C14_Helpers_iff (E : Ext) (cfg : Cfg) (jobs : List Job) (res : List (Str × Str))
    (h : generateAll E cfg true jobs = .ok res) (hn : ∀ j ∈ jobs, j.1 ≠ helperPath) :
    ((helperPath, writeCodable cfg) ∈ res ↔ runUses cfg jobs = true) ∧
    ∀ p ∈ res, p.1 = helperPath → p.2 = writeCodable cfg := by
  obtain ⟨outs, rfl, hnames, _⟩ := C14_Helpers_folder E cfg jobs res h
  have hout : ∀ p ∈ outs, p.1 ≠ helperPath := by
    intro p hp he
    have : p.1 ∈ jobs.map (·.1) := by rw [← hnames]; exact List.mem_map_of_mem hp
    obtain ⟨j, hj, hje⟩ := List.mem_map.1 this
    exact hn j hj (hje.trans he)
  constructor
  · rw [List.mem_append, mem_helperFiles]
    exact ⟨fun h => h.elim (fun hm => absurd rfl (hout _ hm)) And.left, fun hu => Or.inr ⟨hu, rfl⟩⟩
  · intro p hp he
    rcases List.mem_append.1 hp with hp | hp
    · exact absurd he (hout _ hp)
    · rw [((mem_helperFiles cfg _ p).1 hp).2]

/-- **single-file output**: the file ends with the helper iff its module mentions `CodableVoid` -/
theorem C14_Helpers_single (E : Ext) (cfg : Cfg) (c : Str) (d : ParsedData)
    (imps : Option Pipeline.ScopedCrateTypes) (res : List (Str × Str))
    (h : generateAll E cfg false [(c, d, imps)] = .ok res) :
    ∃ body, IsBody E.U cfg d body ∧
      res = [(c, beginFile cfg ++ body ++ (if used cfg d then writeCodable cfg else []))] := by
  unfold generateAll at h
  obtain ⟨outs, st, h1, h2⟩ := Outcome.of_bind_pair_ok h
  simp only [Outcome.ok.injEq] at h2
  obtain ⟨_, hm⟩ := generateFrom_modules E.U cfg false [(c, d, imps)] false outs st h1
  cases hm with
  | @cons _ _ _ _ _ outs' body hb hrest =>
    cases hrest
    refine ⟨body, hb, ?_⟩
    rw [← h2]
    simp [postGeneration, endFile]

/-- the statement at full strength: any folder run, any single-file run whose one module holds the
items of the folder run's modules (in any order) -/
def C14_Helpers_full : Prop :=
  ∀ (E : Ext) (cfg : Cfg) (jobs : List Job) (c : Str) (d : ParsedData) (imps : Option Pipeline.ScopedCrateTypes)
    (resM res1 : List (Str × Str)),
    generateAll E cfg true jobs = .ok resM → generateAll E cfg false [(c, d, imps)] = .ok res1 →
    (itemsOf d).Perm (jobs.flatMap fun j => itemsOf j.2.1) →
    ∃ (uses : Bool) (outs : List (Str × Str)) (body : Str),
      uses = runUses cfg jobs ∧ uses = used cfg d ∧
      resM = outs ++ (if uses then [(helperPath, writeCodable cfg)] else []) ∧
      res1 = [(c, beginFile cfg ++ body ++ (if uses then writeCodable cfg else []))] ∧
      outs.map (·.1) = jobs.map (·.1) ∧
      ∀ p ∈ jobs.zip outs, ∃ b, IsBody E.U cfg p.1.2.1 b ∧ p.2.2 = beginFile cfg ++ b

/-- **C14_Helpers**: the two modes define the same helper, under the same condition -/
theorem C14_Helpers_same : C14_Helpers_full := by
  intro E cfg jobs c d imps resM res1 hM h1 hperm
  obtain ⟨outs, hres, hn, hz⟩ := C14_Helpers_folder E cfg jobs resM hM
  obtain ⟨body, _, hr1⟩ := C14_Helpers_single E cfg c d imps res1 h1
  refine ⟨runUses cfg jobs, outs, body, rfl, (used_eq_runUses cfg d jobs hperm).symm, hres, ?_, hn,
    fun p hp => (hz p hp).2⟩
  rw [hr1, used_eq_runUses cfg d jobs hperm]

/-- the text of the helper declares `CodableVoid` -/
theorem helper_defines (cfg : Cfg) : s%"public struct CodableVoid: " <:+: writeCodable cfg :=
  writeCodable_defines cfg

/-! ## the whole run -/

/-- a successful Swift run is `generateAll` on the reconciled crates -/
theorem C14_Helpers_run (E : Ext) (cfg : Cfg) (multiFile : Bool) (targetOs : List Str)
    (pick : List ImportedType → Option ImportedType) (files : List Generate.SourceFile) (res : List (Str × Str))
    (h : Generate.run E (.swift cfg) multiFile targetOs pick files = .ok (.outputs res)) :
    ∃ arrivals, Generate.parseAll E { ignoredTypes := [], multiFile, targetOs } pick files = .ok arrivals ∧
      generateAll E cfg multiFile (runJobs multiFile (Pipeline.reconcile (Pipeline.collect arrivals))) = .ok res :=
  let ⟨arrivals, ha, _, hg⟩ := Run.run_outputs h
  ⟨arrivals, ha, hg⟩

/-- folder output of a whole run -/
theorem C14_Helpers_run_folder (E : Ext) (cfg : Cfg) (targetOs : List Str)
    (pick : List ImportedType → Option ImportedType) (files : List Generate.SourceFile) (res : List (Str × Str))
    (h : Generate.run E (.swift cfg) true targetOs pick files = .ok (.outputs res)) :
    ∃ arrivals outs, Generate.parseAll E { ignoredTypes := [], multiFile := true, targetOs } pick files = .ok arrivals ∧
      res = outs ++ helperFiles cfg (runUses cfg (runJobs true (Pipeline.reconcile (Pipeline.collect arrivals)))) ∧
      outs.map (·.1) = (Pipeline.collect arrivals).map (·.1) := by
  obtain ⟨arrivals, ha, hg⟩ := C14_Helpers_run E cfg true targetOs pick files res h
  obtain ⟨outs, hres, hn, _⟩ := C14_Helpers_folder E cfg _ res hg
  refine ⟨arrivals, outs, ha, hres, ?_⟩
  rw [hn]
  simp [runJobs, Pipeline.reconcile, List.map_map, Function.comp_def]

/-! ## non-vacuity, kernel-checked -/

def mkField (name : Str) (ty : RustType) : RustField :=
  { id := ⟨name, name, false⟩, ty, comments := [], hasDefault := false, decorators := [] }

def mkStruct (name : Str) (fields : List RustField) : RustStruct :=
  { id := ⟨name, name, false⟩, genericTypes := [], fields, comments := [], decorators := {}, isRedacted := false }

/-- crate `a`: `struct A { u: () }`; crate `b`: `struct B { n: u8 }` -/
def crateA : ParsedData := { structs := [mkStruct s%"A" [mkField s%"u" (.prim .unit)]], crateName := s%"a" }
def crateB : ParsedData := { structs := [mkStruct s%"B" [mkField s%"n" (.prim .u8)]], crateName := s%"b" }
def both : ParsedData := { structs := [mkStruct s%"A" [mkField s%"u" (.prim .unit)], mkStruct s%"B" [mkField s%"n" (.prim .u8)]] }

def cfg0 : Cfg := { codablevoidConstraints := [s%"Sendable"] }

/-- only the first crate uses `()`, only the second, neither: the flag accumulates -/
example : runUses cfg0 [(s%"a", crateA, some []), (s%"b", crateB, some [])] = true := by decide +kernel
example : runUses cfg0 [(s%"b", crateB, some []), (s%"a", crateA, some [])] = true := by decide +kernel
example : runUses cfg0 [(s%"b", crateB, some [])] = false := by decide +kernel
example : used cfg0 crateA = true ∧ used cfg0 crateB = false ∧ used cfg0 both = true := by decide +kernel
/-- the hypothesis of `C14_Helpers_same` on the items -/
example : (itemsOf both).Perm (([(s%"a", crateA, some []), (s%"b", crateB, some [])] : List Job).flatMap fun j => itemsOf j.2.1) := by
  simp [itemsOf, both, crateA, crateB]
example : helperFiles cfg0 true =
    [(s%"<post>/Codable.swift", s%"\n/// () isn't codable, so we use this instead to represent Rust's unit type\npublic struct CodableVoid: Codable, Sendable {}\n")] := by
  decide +kernel

def E0 : Ext := { U := .ascii, parseType := fun _ => none }

/-- the helper file is written although only crate `a` mentions `CodableVoid`, and the module of
crate `a` does not define it (`struct A` has a `CodableVoid` property; the definition is only in
`Codable.swift`) -/
theorem ex_folder : ∃ res, generateAll E0 cfg0 true [(s%"a", crateA, some []), (s%"b", crateB, some [])] = .ok res ∧
    res = [(s%"a", s%"import Foundation\n\npublic struct A: Codable {\n\tpublic let u: CodableVoid\n\n\tpublic init(u: CodableVoid) {\n\t\tself.u = u\n\t}\n}\n"),
           (s%"b", s%"import Foundation\n\npublic struct B: Codable {\n\tpublic let n: UInt8\n\n\tpublic init(n: UInt8) {\n\t\tself.n = n\n\t}\n}\n"),
           (helperPath, writeCodable cfg0)] := by
  refine ⟨_, ?_, rfl⟩
  rw [generateAll, RunEval.Swift.generateFrom_eq]
  decide +kernel

end TsV.C14_Helpers
