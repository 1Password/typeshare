import TsV.Model.Files
import TsV.Model.Generate
import TsV.Lemmas.CollectMulti
import TsV.Lemmas.MinByKey
import TsV.Lemmas.C14_Imports_Used
/-!
# C14 — multi-file mode partitions types by crate and imports cross-crate references

Partial.  Proved: the crate a source file belongs to is the directory above its last `src`
component (dashes as underscores); the collector's map has exactly one entry per crate that has
arrivals, holding exactly the items of that crate's files (so each type is written to exactly one
file, the file of its crate); the import clause is *sound* — every import names a type that the
imported crate defines, never the current crate itself, one import line per crate, names sorted
and duplicate-free.  Not proved (and false on the tree under /repo, see the known findings):
completeness of the import clause for serde-renamed types, glob imports and `use … as …`.
-/
namespace TsV.C14
open TsV TsV.Pipeline TsV.Collect TsV.Files

/-! ### (i) crate of a path -/

/-- for a path `…/<crate>/src/<below…>` whose part below `src` contains no further `src` -/
theorem findCrateName_spec (above : List Str) (crate : Str) (below : List Str)
    (h : ∀ c ∈ below, c ≠ s%"src") :
    findCrateName (above ++ [crate, s%"src"] ++ below) = some (Str.replaceChar crate '-' ['_']) := by
  unfold findCrateName
  have hdrop : ((above ++ [crate, s%"src"] ++ below).reverse.dropWhile (· != s%"src")) =
      s%"src" :: crate :: above.reverse := by
    simp only [List.reverse_append, List.reverse_cons, List.reverse_nil, List.nil_append,
      List.singleton_append, List.append_assoc]
    rw [List.dropWhile_append_of_pos]
    · simp
    · intro c hc
      have := h c (by simpa using hc)
      simpa using this
  rw [hdrop]

/-- a file that is not under any `src` directory belongs to no crate (it is skipped in multi-file mode) -/
theorem findCrateName_none (components : List Str) (h : ∀ c ∈ components, c ≠ s%"src") :
    findCrateName components = none := by
  unfold findCrateName
  have hd := List.dropWhile_append_of_pos (p := (· != s%"src")) (l₁ := components.reverse) (l₂ := [])
    fun c hc => by simpa using h c (by simpa using hc)
  rw [List.append_nil] at hd
  rw [hd]
  rfl

/-! ### (ii) partition -/

/-- the entry of crate `c` is the merge of the arrivals of crate `c` -/
theorem entry_eq_merged (a : List ParsedData) (c : Str) (e : ParsedData) (h : lookup (collect a) c = some e) :
    e = merged {} (a.filter fun d => d.crateName == c) := by
  rw [collect_lookup] at h
  split at h
  · simp at h
  · exact (Option.some.inj h).symm

/-- **each type lands in exactly the file of its crate**: the structs of the entry for crate `c`
are those of the arrivals of crate `c`, in arrival order, and of no other arrival -/
theorem partition_structs (a : List ParsedData) (c : Str) (e : ParsedData)
    (h : lookup (collect a) c = some e) :
    e.structs = (a.filter fun d => d.crateName == c).flatMap (·.structs) := by
  rw [entry_eq_merged a c e h, merged_structs]
  simp

theorem partition_enums (a : List ParsedData) (c : Str) (e : ParsedData)
    (h : lookup (collect a) c = some e) :
    e.enums = (a.filter fun d => d.crateName == c).flatMap (·.enums) := by
  rw [entry_eq_merged a c e h, merged_enums]
  simp

theorem partition_aliases (a : List ParsedData) (c : Str) (e : ParsedData)
    (h : lookup (collect a) c = some e) :
    e.aliases = (a.filter fun d => d.crateName == c).flatMap (·.aliases) := by
  rw [entry_eq_merged a c e h, merged_aliases]
  simp

theorem partition_consts (a : List ParsedData) (c : Str) (e : ParsedData)
    (h : lookup (collect a) c = some e) :
    e.consts = (a.filter fun d => d.crateName == c).flatMap (·.consts) := by
  rw [entry_eq_merged a c e h, merged_consts]
  simp

/-- a crate has an entry (an output file) iff some file of it contributed -/
theorem entry_iff (a : List ParsedData) (c : Str) :
    (lookup (collect a) c).isSome ↔ ∃ d ∈ a, d.crateName = c := by
  rw [collect_lookup, ← C06M.arr_ne_nil_iff, C06M.arr]
  split
  · rename_i hnil
    simp [hnil]
  · rename_i hne
    simpa using hne

/-- the crate keys of the map are strictly increasing: no crate is written twice -/
theorem one_file_per_crate (a : List ParsedData) : Sorted (collect a) := collect_sorted a

/-! ### (iii) the import clause is sound -/

/-- what is known about the crate map handed to `used_imports` -/
def Defines (all : List (Str × List Str)) (c t : Str) : Prop := ∃ names, (c, names) ∈ all ∧ t ∈ names

/-- **soundness of the import clause**: every imported (crate, type) pair is a type the imported
crate defines, and the current crate is never imported from — provided the fallback oracle
`firstOther` (the "first other crate defining the name" of the Rust code) only answers with such
crates, which `Generate.firstOther` does (`firstOther_sound`). -/
theorem usedImports_sound (d : ParsedData) (all : List (Str × List Str)) (imports : List ImportedType)
    (firstOther : Str → Option Str)
    (hfo : ∀ n c, firstOther n = some c → c ≠ d.crateName ∧ Defines all c n) :
    ∀ c t, (∃ tys, (c, tys) ∈ usedImports d all imports firstOther ∧ t ∈ tys) →
      c ≠ d.crateName ∧ Defines all c t := by
  intro c t h
  -- the result holds nothing but the contributions of the imports of other crates
  obtain ⟨i, _, hne, x, hx, rfl, ht⟩ := (C14I.usedImports_smem_iff d all imports firstOther c t).1 h
  rcases C14I.contrib_inv all firstOther i x hx t ht with ⟨hc, _, ns, hm, hn⟩ | ⟨hf, rfl⟩
  · rw [hc]
    exact ⟨hne, ns, hm, hn⟩
  · exact hfo _ _ hf

/-- the fallback oracle of the pipeline only names other crates that define the type -/
theorem firstOther_sound (all : List (Str × List Str)) (current n c : Str)
    (h : Generate.firstOther all current n = some c) : c ≠ current ∧ Defines all c n :=
  C14I.firstOther_spec all current n c h

/-! ### non-vacuity -/
example : findCrateName [s%"home", s%"op-proxy", s%"src", s%"android.rs"] = some s%"op_proxy" := by decide +kernel
example : outputFileName .ascii .swift s%"my_crate" = s%"MyCrate.swift" := by decide +kernel
example : outputFileName .ascii .kotlin s%"my_crate" = s%"my_crate.kt" := by decide +kernel

end TsV.C14
