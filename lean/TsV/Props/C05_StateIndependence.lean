import TsV.Lemmas.Lang.Kotlin
import TsV.Lemmas.C05_StateIndependence
/-!
# C05_StateIndependence — the text written for a type expression does not depend on what was written before it

C05: "type expressions are translated structurally".  A language value lives for a whole run and four of
the six printers thread a mutable state through every `format_type` call: TypeScript the reviver /
replacer registrations (`types_for_custom_json_translation`), Python its imports, `TypeVar`s and
custom-JSON set, Swift `should_emit_codable_void`, Go its import set.  Kotlin and Scala have none (their
`formatType` takes no state, so there is nothing to state at that level).  A translation that read that
state would make the text of an expression depend on its neighbours — the expressions of the items,
files and crates printed earlier in the run.

* `txt` (Lemmas) forgets the state a printer call returns and keeps everything else: the text, or the
  error kind, or the panic site.
* `TS.`, `Py.`, `Sw.`, `Go.formatType_indep` (Lemmas): `txt (formatType … t st)` is the
  same for every two states — for every configuration (type mappings included), every generic context and
  every type expression; failures included (an expression cannot start or stop failing because of what was
  printed before it).  `C05_StateIndependence : C05_StateIndependence_full` collects the four.
* `*_struct_fields`: for a struct printed from **any** state `st` (= whatever was translated before it),
  field record `i` of the declaration is the record the field gets when it is printed alone from the
  **initial** state of a run (`[]`, `{}`, `false`, `[]`; stated for any `s0`), same length, same order.
  For TypeScript the text `writeStruct` returns is tied to these records (`ts_writeStruct_fields`), and `ts_struct_in_program`
  states it for a struct written after any items of a file started from any state.
* `*_field_type`: the type text in that record is `formatType` of the field's type from the initial state
  (TypeScript / Swift / Kotlin / Scala: verbatim; Go: passed through the acronym pass, `*` in front of a
  defaulted non-optional field; Python: wrapped in `Optional[…]` / `Annotated[…]` as `pyFieldTy` says) — a
  `#[typeshare(<lang>(type = "…"))]` override is the user's text and bypasses `format_type`.
* `kotlin_struct_fields`, `scala_struct_fields`: the same "field `i` alone" statement for the two stateless
  printers, so that the struct statement is there for all six.
* examples: the state really moves (a `Date` / `datetime` / `time.Time` / `CodableVoid` registration) while
  the text stays.

Nothing is false on the model.  `tools/c05.py: neighbours_part` checks the same on the implementation.
-/
namespace TsV.C05_StateIndependence
open TsV TsV.Lang TsV.Outcome

/-! ## 1. `format_type` -/

/-- the statement at full strength: every stateful printer, every configuration, every generic context,
every type expression, every two states; text, error kind and panic site alike -/
def C05_StateIndependence_full : Prop :=
  (∀ (cfg : TypeScript.Cfg) (gens : List Str) (t : RustType) (st st' : TypeScript.CustomMap),
    txt (TypeScript.formatType cfg gens t st) = txt (TypeScript.formatType cfg gens t st')) ∧
  (∀ (cfg : Python.Cfg) (gens : List Str) (t : RustType) (st st' : Python.St),
    txt (Python.formatType cfg gens t st) = txt (Python.formatType cfg gens t st')) ∧
  (∀ (cfg : Swift.Cfg) (gens : List Str) (t : RustType) (st st' : Swift.St),
    txt (Swift.formatType cfg gens t st) = txt (Swift.formatType cfg gens t st')) ∧
  (∀ (cfg : Go.Cfg) (t : RustType) (st st' : Go.Imports),
    txt (Go.formatType cfg t st) = txt (Go.formatType cfg t st'))

theorem C05_StateIndependence : C05_StateIndependence_full :=
  ⟨TS.formatType_indep, Py.formatType_indep, Sw.formatType_indep, Go.formatType_indep⟩

/-- read as an implication: what an expression translates to after anything equals what it translates to
from the initial state -/
theorem ts_formatType_ok (cfg : TypeScript.Cfg) (gens : List Str) (t : RustType) (st st' : TypeScript.CustomMap) (s : Str)
    (h : TypeScript.formatType cfg gens t st = .ok (s, st')) :
    ∃ st'', TypeScript.formatType cfg gens t [] = .ok (s, st'') :=
  txt_eq_ok.1 (by rw [TS.formatType_indep cfg gens t [] st, h]; rfl)

theorem python_formatType_ok (cfg : Python.Cfg) (gens : List Str) (t : RustType) (st st' : Python.St) (s : Str)
    (h : Python.formatType cfg gens t st = .ok (s, st')) :
    ∃ st'', Python.formatType cfg gens t {} = .ok (s, st'') :=
  txt_eq_ok.1 (by rw [Py.formatType_indep cfg gens t {} st, h]; rfl)

theorem swift_formatType_ok (cfg : Swift.Cfg) (gens : List Str) (t : RustType) (st st' : Swift.St) (s : Str)
    (h : Swift.formatType cfg gens t st = .ok (s, st')) :
    ∃ st'', Swift.formatType cfg gens t false = .ok (s, st'') :=
  txt_eq_ok.1 (by rw [Sw.formatType_indep cfg gens t false st, h]; rfl)

theorem go_formatType_ok (cfg : Go.Cfg) (t : RustType) (st st' : Go.Imports) (s : Str)
    (h : Go.formatType cfg t st = .ok (s, st')) :
    ∃ st'', Go.formatType cfg t [] = .ok (s, st'') :=
  txt_eq_ok.1 (by rw [Go.formatType_indep cfg t [] st, h]; rfl)

/-! ## 2. a field inside a struct, whatever was printed before the struct -/

/-- the records of the property lines of a struct printed from any state `st` are, one by one, the records
the fields get alone from `s0` -/
theorem ts_struct_fields (cfg : TypeScript.Cfg) (rs : RustStruct) (st st' s0 : TypeScript.CustomMap)
    (tfs : List TypeScript.TsField)
    (h : C01.TypeScript.fieldsFacts cfg rs.genericTypes rs.fields st = .ok (tfs, st')) :
    tfs.length = rs.fields.length ∧
    ∀ (i : Nat) (hi : i < rs.fields.length) (hi' : i < tfs.length),
      txt (TypeScript.fieldFacts cfg rs.genericTypes rs.fields[i] s0) = .ok tfs[i] := by
  rw [TS.fieldsFacts_eq_travM] at h
  exact travM_get _ (TS.fieldFacts_indep cfg rs.genericTypes) s0 h

/-- the type text of a property line is `formatType` of the field's type from the initial state -/
theorem ts_field_type (cfg : TypeScript.Cfg) (gens : List Str) (f : RustField) (s0 : TypeScript.CustomMap)
    (tf : TypeScript.TsField) (hov : typeOverride f .typescript = none)
    (h : txt (TypeScript.fieldFacts cfg gens f s0) = .ok tf) :
    txt (TypeScript.formatType cfg gens f.ty []) = .ok tf.ty := by
  obtain ⟨s1, h⟩ := txt_eq_ok.1 h
  obtain ⟨s2, hty, -, -⟩ := TypeScript.fieldFacts_ok h
  rw [hov] at hty
  rw [TS.formatType_indep cfg gens f.ty [] s0, show TypeScript.formatType cfg gens f.ty s0 = _ from hty]
  rfl

/-- the text `write_struct` returns is these records rendered -/
theorem ts_writeStruct_fields (cfg : TypeScript.Cfg) (rs : RustStruct) (st st' : TypeScript.CustomMap) (b : Str)
    (h : TypeScript.writeStruct cfg rs st = .ok (b, st')) :
    ∃ tfs, C01.TypeScript.fieldsFacts cfg rs.genericTypes rs.fields st = .ok (tfs, st') ∧
      b = TypeScript.comments 0 rs.comments ++ s%"export interface " ++ rs.id.renamed ++
        genericSuffix rs.genericTypes ++ s%" {\n" ++ tfs.flatMap TypeScript.renderField ++ s%"}\n\n" :=
  C01.TypeScript.writeStruct_fields cfg rs st st' b h

/-- **field `i` of a struct inside a program**: its type text is `formatType` of its type from the initial
state -/
theorem ts_struct_field_type (cfg : TypeScript.Cfg) (rs : RustStruct) (st st' : TypeScript.CustomMap)
    (tfs : List TypeScript.TsField)
    (h : C01.TypeScript.fieldsFacts cfg rs.genericTypes rs.fields st = .ok (tfs, st'))
    (i : Nat) (hi : i < rs.fields.length) (hi' : i < tfs.length)
    (hov : typeOverride rs.fields[i] .typescript = none) :
    txt (TypeScript.formatType cfg rs.genericTypes rs.fields[i].ty []) = .ok tfs[i].ty :=
  ts_field_type cfg _ _ [] _ hov ((ts_struct_fields cfg rs st st' [] tfs h).2 i hi hi')

/-- **inside a program**: a struct written after any items `pre` of a file, the printer starting the file from any state
`st0` (= whatever the earlier files of the run left): the text is what `pre` gives followed by the struct's block, and every
property line of that block is the record the field gets alone from the initial state -/
theorem ts_struct_in_program (U : UnicodeOps) (cfg : TypeScript.Cfg) (pre : List RustItem) (rs : RustStruct)
    (st0 st1 : TypeScript.CustomMap) (text : Str)
    (h : TypeScript.writeItems U cfg (pre ++ [.struct rs]) st0 = .ok (text, st1)) :
    ∃ (before : Str) (stMid : TypeScript.CustomMap) (tfs : List TypeScript.TsField),
      TypeScript.writeItems U cfg pre st0 = .ok (before, stMid) ∧
      text = before ++ (TypeScript.comments 0 rs.comments ++ s%"export interface " ++ rs.id.renamed ++
        genericSuffix rs.genericTypes ++ s%" {\n" ++ tfs.flatMap TypeScript.renderField ++ s%"}\n\n") ∧
      tfs.length = rs.fields.length ∧
      ∀ (i : Nat) (hi : i < rs.fields.length) (hi' : i < tfs.length),
        txt (TypeScript.fieldFacts cfg rs.genericTypes rs.fields[i] []) = .ok tfs[i] := by
  rw [TS.writeItems_snoc] at h
  obtain ⟨⟨before, stMid⟩, h1, h⟩ := of_bind_ok h
  obtain ⟨⟨b, s2⟩, h2, h3⟩ := of_bind_ok h
  simp only [Outcome.ok.injEq, Prod.mk.injEq] at h3
  replace h2 : TypeScript.writeStruct cfg rs stMid = .ok (b, s2) := h2
  obtain ⟨tfs, hf, hb⟩ := ts_writeStruct_fields cfg rs stMid s2 b h2
  obtain ⟨hl, hg⟩ := ts_struct_fields cfg rs stMid s2 [] tfs hf
  exact ⟨before, stMid, tfs, h1, by rw [← h3.1, hb], hl, hg⟩

theorem go_struct_fields (U : UnicodeOps) (cfg : Go.Cfg) (rs : RustStruct) (st st' s0 : Go.Imports) (d : Go.GoStruct)
    (h : Go.structFacts U cfg rs st = .ok (d, st')) :
    d.fields.length = rs.fields.length ∧
    ∀ (i : Nat) (hi : i < rs.fields.length) (hi' : i < d.fields.length),
      txt (Go.fieldFacts U cfg rs.fields[i] s0) = .ok d.fields[i] := by
  obtain ⟨_, _, _, h1, rfl⟩ := Go.structFacts_inv h
  rw [Go.fieldsFacts_eq_travM] at h1
  exact travM_get _ (Go.fieldFacts_indep U cfg) s0 h1

/-- the Go type of a field is `formatType` of its type from the initial state, passed through the acronym
pass, with a `*` in front of a defaulted field that is not an `Option` -/
theorem go_field_type (U : UnicodeOps) (cfg : Go.Cfg) (f : RustField) (s0 : Go.Imports) (g : Go.GoField)
    (hov : typeOverride f .go = none) (h : txt (Go.fieldFacts U cfg f s0) = .ok g) :
    ∃ s goType, txt (Go.formatType cfg f.ty []) = .ok s ∧ Go.acr U cfg s = .ok goType ∧
      g.ty = (if f.hasDefault && !f.ty.isOptional then s%"*" else []) ++ goType := by
  obtain ⟨s1, h⟩ := txt_eq_ok.1 h
  obtain ⟨ty, goType, _, h1, h2, _, rfl⟩ := Go.fieldFacts_inv h
  rw [hov] at h1
  replace h1 : Go.formatType cfg f.ty s0 = .ok (ty, s1) := h1
  refine ⟨ty, goType, ?_, h2, rfl⟩
  rw [Go.formatType_indep cfg f.ty [] s0, h1]; rfl

theorem python_struct_fields (E : Ext) (cfg : Python.Cfg) (rs : RustStruct) (st st' s0 : Python.St) (c : Python.PyClass)
    (h : Python.structFacts E cfg rs st = .ok (c, st')) :
    c.fields.length = rs.fields.length ∧
    ∀ (i : Nat) (hi : i < rs.fields.length) (hi' : i < c.fields.length),
      txt (Python.fieldFacts E cfg rs.genericTypes rs.fields[i] s0) = .ok c.fields[i] := by
  obtain ⟨_, _, h1, rfl⟩ := Python.structFacts_inv h
  rw [Py.fieldsFacts_eq_travM] at h1
  exact travM_get _ (Py.fieldFacts_indep E cfg rs.genericTypes) s0 h1

/-- how `write_field` wraps the formatted type `s` of a field: `Optional[…]` around a defaulted field that is
not an `Option`, `Annotated[…]` with the two helper names around a custom-translated type -/
def pyFieldTy (f : RustField) (s : Str) : Str :=
  let inner := if !f.ty.isOptional && f.hasDefault then s%"Optional[" ++ s ++ s%"]" else s
  match Python.jsonTranslation s with
  | some c => s%"Annotated[" ++ inner ++ s%", BeforeValidator(" ++ c.deserializationName ++
      s%"), PlainSerializer(" ++ c.serializationName ++ s%")]"
  | none => inner

theorem python_field_type (E : Ext) (cfg : Python.Cfg) (gens : List Str) (f : RustField) (s0 : Python.St)
    (pf : Python.PyField) (h : txt (Python.fieldFacts E cfg gens f s0) = .ok pf) :
    ∃ s, txt (Python.formatType cfg gens f.ty {}) = .ok s ∧ pf.ty = pyFieldTy f s := by
  obtain ⟨s1, h⟩ := txt_eq_ok.1 h
  obtain ⟨ty, _, _, h1, rfl, rfl⟩ := Python.fieldFacts_inv h
  exact ⟨ty, by rw [Py.formatType_indep cfg gens f.ty {} s0, h1]; rfl, rfl⟩

/-! ### Swift (`write_struct` formats every field type twice: stored property and `init` parameter) -/

theorem swift_struct_fields (U : UnicodeOps) (cfg : Swift.Cfg) (rs : RustStruct) (st st' s0 : Swift.St) (d : Swift.SwiftStruct)
    (h : Swift.structFacts U cfg rs st = .ok (d, st')) :
    d.props.length = rs.fields.length ∧ d.initParams.length = rs.fields.length ∧
    (∀ (i : Nat) (hi : i < rs.fields.length) (hi' : i < d.props.length),
      txt (Sw.propStep cfg rs.genericTypes rs.fields[i] s0) = .ok d.props[i]) ∧
    (∀ (i : Nat) (hi : i < rs.fields.length) (hi' : i < d.initParams.length),
      txt (Sw.paramStep cfg rs.genericTypes rs.fields[i] s0) = .ok d.initParams[i]) := by
  unfold Swift.structFacts at h
  obtain ⟨⟨props, s1⟩, h1, h⟩ := of_bind_ok h
  obtain ⟨⟨params, s2⟩, h2, h⟩ := of_bind_ok h
  simp only [Outcome.ok.injEq, Prod.mk.injEq] at h
  rw [← h.1]
  rw [Sw.storedProps_eq_travM] at h1
  rw [Sw.initParams_eq_travM] at h2
  have a := travM_get _ (Sw.propStep_indep cfg rs.genericTypes) s0 h1
  have b := travM_get _ (Sw.paramStep_indep cfg rs.genericTypes) s0 h2
  exact ⟨a.1, b.1, a.2, b.2⟩

/-- the type text of a stored property (and of the `init` parameter) is `formatType` of the field's type from
the initial state -/
theorem swift_field_type (cfg : Swift.Cfg) (gens : List Str) (f : RustField) (s0 : Swift.St)
    (hov : typeOverride f .swift = none) :
    (∀ p, txt (Sw.propStep cfg gens f s0) = .ok p → txt (Swift.formatType cfg gens f.ty false) = .ok p.ty) ∧
    (∀ p, txt (Sw.paramStep cfg gens f s0) = .ok p → txt (Swift.formatType cfg gens f.ty false) = .ok p.ty) := by
  constructor <;> intro p h <;> obtain ⟨s1, h⟩ := txt_eq_ok.1 h <;>
    obtain ⟨⟨ty, s2⟩, h1, h2⟩ := of_bind_ok h <;> rw [← (ok_pair_inj h2).1] <;>
    exact Sw.fieldType_init cfg gens f hov h1

/-! ### Kotlin and Scala (no printer state: the loop is a plain `map`) -/

theorem kotlin_struct_fields (cfg : Kotlin.Cfg) (rs : RustStruct) (cs : List Str) (name gs : Str)
    (ps : List Kotlin.KtParam) (red : Option Str)
    (h : Kotlin.structFacts cfg rs = .ok (.dataClass cs name gs ps red)) :
    ps.length = rs.fields.length ∧
    ∀ (i : Nat) (hi : i < rs.fields.length) (hi' : i < ps.length),
      Kotlin.paramFacts cfg rs.genericTypes (rs.fields.any fun f => f.id.renamed.contains '-') false rs.fields[i] = .ok ps[i] := by
  obtain ⟨-, h2⟩ | ⟨-, ps', h1, h2⟩ := Kotlin.structFacts_inv h
  · cases h2
  · obtain rfl : ps' = ps := (Kotlin.KtDecl.dataClass.inj h2).2.2.2.1
    rw [Kotlin.paramsFacts_eq] at h1
    exact ⟨mapM'_ok_length _ _ _ h1, mapM'_ok_forall₂ _ _ _ h1⟩

theorem kotlin_field_type (cfg : Kotlin.Cfg) (gens : List Str) (rsn priv : Bool) (f : RustField) (p : Kotlin.KtParam)
    (hov : typeOverride f .kotlin = none) (h : Kotlin.paramFacts cfg gens rsn priv f = .ok p) :
    Kotlin.formatType cfg gens f.ty = .ok p.ty := by
  obtain ⟨ty, h1, rfl⟩ := of_bind_ret h
  rw [hov] at h1
  exact h1

theorem scala_struct_fields (cfg : Scala.Cfg) (rs : RustStruct) (c : Scala.ScClass) (h : Scala.classFacts cfg rs = .ok c) :
    c.params.length = rs.fields.length ∧
    ∀ (i : Nat) (hi : i < rs.fields.length) (hi' : i < c.params.length),
      Scala.paramFacts cfg rs.genericTypes rs.fields[i] = .ok c.params[i] := by
  obtain ⟨ps, h1, rfl⟩ := of_bind_ret h
  exact ⟨mapM'_ok_length _ _ _ h1, mapM'_ok_forall₂ _ _ _ h1⟩

theorem scala_field_type (cfg : Scala.Cfg) (gens : List Str) (f : RustField) (p : Scala.ScParam)
    (hov : typeOverride f .scala = none) (h : Scala.paramFacts cfg gens f = .ok p) :
    Scala.formatType cfg gens f.ty = .ok p.ty := by
  obtain ⟨ty, h1, rfl⟩ := of_bind_ret h
  rw [hov] at h1
  exact h1

/-! ## 3. examples: the state moves, the text stays -/

def exField (n : Str) (ty : RustType) : RustField :=
  { id := ⟨n, n, false⟩, ty, comments := [], hasDefault := false, decorators := [] }
def exStruct (n : Str) (fs : List RustField) : RustStruct :=
  { id := ⟨n, n, false⟩, genericTypes := [], fields := fs, comments := [], decorators := {}, isRedacted := false }

/-- TypeScript: `Vec<DateTime<Utc>>` registers `Date`; printed again from the state it left — or from a
state that already holds registrations of an earlier struct — the text is the same `Date[]` -/
example :
    TypeScript.formatType {} [] (.vec (.prim .dateTime)) [] = .ok (s%"Date[]", []) ∧
    (match TypeScript.fieldFacts {} [] (exField s%"at" (.prim .dateTime)) [] with
     | .ok (tf, st) => some (tf.ty, st) | _ => none) = some (s%"Date", [(s%"Date", [s%"at"])]) ∧
    txt (TypeScript.fieldFacts {} [] (exField s%"at" (.prim .dateTime)) [(s%"Date", [s%"before"]), (s%"Uint8Array", [])]) =
      txt (TypeScript.fieldFacts {} [] (exField s%"at" (.prim .dateTime)) []) := by
  refine ⟨by decide +kernel, by decide +kernel, TS.fieldFacts_indep _ _ _ _ _⟩

/-- Python: `Option<Vec<DateTime>>` adds three imports; the text does not see them -/
example :
    txt (Python.formatType {} [] (.option (.vec (.prim .dateTime))) {}) = .ok s%"Optional[List[datetime]]" ∧
    (match Python.formatType {} [] (.option (.vec (.prim .dateTime))) {} with
     | .ok (_, st) => st.imports | _ => []) =
      [(s%"datetime", [s%"datetime"]), (s%"typing", [s%"List", s%"Optional"])] ∧
    txt (Python.formatType {} [] (.option (.vec (.prim .dateTime)))
      { imports := [(s%"typing", [s%"Dict"])], typeVars := [s%"T"], customJson := [s%"bytes"] }) =
      .ok s%"Optional[List[datetime]]" := by
  refine ⟨by decide +kernel, by decide +kernel, by decide +kernel⟩

/-- Swift: `()` switches `should_emit_codable_void` on; Go: `DateTime` adds the `time` import -/
example :
    Swift.formatType {} [] (.option (.prim .unit)) false = .ok (s%"CodableVoid?", true) ∧
    Swift.formatType {} [] (.option (.prim .unit)) true = .ok (s%"CodableVoid?", true) ∧
    Go.formatType {} (.vec (.prim .dateTime)) [] = .ok (s%"[]time.Time", [s%"time"]) ∧
    Go.formatType {} (.vec (.prim .dateTime)) [s%"time"] = .ok (s%"[]time.Time", [s%"time"]) := by
  refine ⟨by decide +kernel, by decide +kernel, by decide +kernel, by decide +kernel⟩

/-- failures are state independent too: a generic `HashMap` key is refused from any state -/
example (st : TypeScript.CustomMap) :
    txt (TypeScript.formatType {} [s%"K"] (.hashMap (.simple s%"K") (.prim .bool)) st) =
      .err (.formatError s%"GenericKeyForbiddenInTS") := by
  rw [TS.formatType_indep _ _ _ st []]; decide +kernel

/-- a struct after another one: the second struct's field records are what its fields give alone -/
example (st : Go.Imports) (d : Go.GoStruct) (st' : Go.Imports)
    (h : Go.structFacts .ascii {} (exStruct s%"B" [exField s%"x" (.prim .dateTime), exField s%"y" (.prim .u8)]) st = .ok (d, st')) :
    d.fields.map (·.ty) = [s%"time.Time", s%"int"] := by
  obtain ⟨hl, hg⟩ := go_struct_fields .ascii {} _ st st' [] d h
  have h0 := hg 0 (by decide) (by rw [hl]; decide)
  have h1 := hg 1 (by decide) (by rw [hl]; decide)
  have e0 : txt (Go.fieldFacts .ascii {} (exField s%"x" (.prim .dateTime)) []) =
      .ok { comments := [], name := s%"X", ty := s%"time.Time", jsonName := s%"x", omitempty := false } := by decide +kernel
  have e1 : txt (Go.fieldFacts .ascii {} (exField s%"y" (.prim .u8)) []) =
      .ok { comments := [], name := s%"Y", ty := s%"int", jsonName := s%"y", omitempty := false } := by decide +kernel
  simp only [exStruct, List.getElem_cons_zero, List.getElem_cons_succ] at h0 h1
  rw [e0] at h0
  rw [e1] at h1
  simp only [Outcome.ok.injEq] at h0 h1
  have hlen : d.fields.length = 2 := hl
  match hd : d.fields, hlen with
  | [a, b], _ =>
    simp only [hd, List.getElem_cons_zero, List.getElem_cons_succ] at h0 h1
    simp [← h0, ← h1]

end TsV.C05_StateIndependence
