import TsV.Lemmas.C12_Modules
import TsV.Props.C12
import TsV.Props.C14_Helpers
/-!
# C12_Modules — "every helper name is defined or imported", module by module of a folder run

In a folder run (`generateAll … jobs`, one module per crate) one printer value writes all modules,
and Python, Go, TypeScript and Swift never reset their printer state between two crates.  The
theorems of `Props/C12.lean` are stated per file *for an arbitrary start state*; this module lifts
them to every module of a run and adds what an arbitrary start state cannot give:

* `scala_modules` — Scala keeps no state: the text of a module is `Scala.generate` of that crate's
  data alone, and a module whose formatted types mention `UByte` / `UShort` / `UInt` / `ULong`
  contains the alias block itself (whatever the modules before it contained).
* `swift_modules` — the crate modules of a folder run never define `CodableVoid`; `Codable.swift`
  does, and it is written iff some module of the run mentions it (`C14_Helpers`), so every module
  that mentions it finds it.
* `python_modules` — every module of a run is `header(st) ++ functions(st) ++ body` for a state `st`
  that provides every import, `TypeVar` and (de)serialiser function the module's items use
  (`C12L.Python.used`), **and the header is closed in itself**: if it declares any
  `X = TypeVar("X")` — for this module's generics or leaked from an earlier module — it imports
  `TypeVar` (`Py.Inv`, an invariant of the run, false for an arbitrary start state:
  `arbitrary_state_not_closed`).  `python_modules_text` spells the three clauses out on the text.
* `python_leak_only_adds` — the state only grows from module to module: what leaks makes a later
  module *carry* imports, type variables and functions it does not use (outside C12:
  provided-but-unused), never lack one (`python_leak_example`).
* `go_modules`, `typescript_modules` — the lifts of `C12_go` / `C12_typescript`;
  `kotlin_modules` — no state; the known class `kotlin-empty-package` is per module.
* `C12_Modules : C12_Modules_full`.

Nothing is false on the model: no leaked state makes a module lack a helper it uses.
-/
namespace TsV.C12_Modules
open TsV TsV.Lang TsV.C12L

/-- every module of a Scala run is generated from its own crate's data alone, and contains the
alias block whenever one of its formatted types prints an unsigned alias name -/
def Scala_modules_full : Prop :=
  ∀ (E : Ext) (cfg : Scala.Cfg) (multi : Bool) (jobs : List Job) (res : List (Str × Str)),
    Scala.generateAll E cfg multi jobs = .ok res →
    res.map (·.1) = jobs.map (·.1) ∧
    ∀ p ∈ jobs.zip res, Scala.generate cfg p.1.2.1 = .ok p.2.2 ∧
      (C12L.Scala.used cfg p.1.2.1 = true → Scala.unsignedAliases <:+: p.2.2)

theorem scala_modules : Scala_modules_full := by
  intro E cfg multi jobs res h
  obtain ⟨hn, hall⟩ := Sc.generateFrom_each cfg jobs res h
  refine ⟨hn, fun p hp => ⟨hall p hp, fun hu => ?_⟩⟩
  have hg := hall p hp
  unfold Scala.generate at hg
  obtain ⟨f, hf, hr⟩ := (Outcome.bind_ok_iff _ _ _).1 hg
  simp only [Outcome.ok.injEq] at hr
  rw [← hr]
  exact (C12.C12_scala_text cfg _ f hf hu).2

/-- "mentions": a formatted type for which `unsignedIn` holds prints one of the four names -/
theorem scala_mentions (cfg : Scala.Cfg) (gens : List Str) (t : RustType) (s : Str)
    (h : Scala.formatType cfg gens t = .ok s) (hu : C12L.Scala.unsignedIn cfg t = true) :
    ∃ n ∈ C12L.Scala.aliasNames, n <:+: s := C12L.Scala.formatType_mentions cfg gens t s h hu

/-- folder output: no crate module defines `CodableVoid`, `Codable.swift` does and is written iff
some module mentions it — so each module that mentions it finds it there -/
theorem swift_modules (E : Ext) (cfg : Swift.Cfg) (jobs : List Job) (res : List (Str × Str))
    (h : Swift.generateAll E cfg true jobs = .ok res) (hn : ∀ j ∈ jobs, j.1 ≠ C14_Helpers.helperPath) :
    ∃ outs, res = outs ++ C14_Helpers.helperFiles cfg (C14H.runUses cfg jobs) ∧ outs.map (·.1) = jobs.map (·.1) ∧
      (∀ p ∈ jobs.zip outs, p.2.1 = p.1.1 ∧
        (∃ body, C14H.IsBody E.U cfg p.1.2.1 body ∧ p.2.2 = Swift.beginFile cfg ++ body) ∧
        (C12L.Swift.used cfg p.1.2.1 = true → (C14_Helpers.helperPath, Swift.writeCodable cfg) ∈ res)) ∧
      ((C14_Helpers.helperPath, Swift.writeCodable cfg) ∈ res ↔ ∃ j ∈ jobs, C12L.Swift.used cfg j.2.1 = true) ∧
      s%"public struct CodableVoid: " <:+: Swift.writeCodable cfg := by
  obtain ⟨outs, hres, hnames, hz⟩ := C14_Helpers.C14_Helpers_folder E cfg jobs res h
  have hiff := (C14_Helpers.C14_Helpers_iff E cfg jobs res h hn).1
  have hru : C14H.runUses cfg jobs = true ↔ ∃ j ∈ jobs, C12L.Swift.used cfg j.2.1 = true :=
    List.any_eq_true
  refine ⟨outs, hres, hnames, ?_, hiff.trans hru, C14_Helpers.helper_defines cfg⟩
  intro p hp
  refine ⟨(hz p hp).1, (hz p hp).2, fun hu => hiff.2 (hru.2 ⟨p.1, (List.of_mem_zip hp).1, hu⟩)⟩

/-- what it means for the module written for `d` to be closed: it is header, function block and body
for one printer state `st`; `st` provides every name the items of `d` use on typeshare's account;
and if the header declares a type variable at all, it imports `TypeVar` -/
def PyModuleClosed (E : Ext) (cfg : Python.Cfg) (d : ParsedData) (text : Str) : Prop :=
  ∃ (st : Python.St) (body : Str),
    text = Python.beginFile cfg ++ Python.writeAllImports st ++ Python.writeCustomFns st ++ body ∧
    (∀ n ∈ C12L.Python.used E cfg d st, C12L.Python.Provides st n) ∧
    (st.typeVars ≠ [] → C12L.Python.Provides st C12L.Python.impTypeVar)

def Python_modules_full : Prop :=
  ∀ (E : Ext) (cfg : Python.Cfg) (multi : Bool) (jobs : List Job) (res : List (Str × Str)),
    Python.generateAll E cfg multi jobs = .ok res →
    res.map (·.1) = jobs.map (·.1) ∧ ∀ p ∈ jobs.zip res, PyModuleClosed E cfg p.1.2.1 p.2.2

/-- **every module of a Python run is closed**, whatever the modules before it left in the printer -/
theorem python_modules : Python_modules_full := by
  intro E cfg multi jobs res h
  obtain ⟨hn, hall⟩ := Py.generateFrom_each E cfg jobs {} res h Py.inv_empty
  refine ⟨hn, fun p hp => ?_⟩
  obtain ⟨stIn, st, hi, _, hg⟩ := hall p hp
  obtain ⟨_, hused, body, hb⟩ := C12L.Python.generate_spec E cfg _ stIn _ st hg
  exact ⟨st, body, hb, hused, Py.generate_inv E cfg _ stIn _ st hg hi⟩

/-- the three clauses of the property text, on the text of a closed module:
* every `X = TypeVar("X")` line of the header comes with a `from typing import …TypeVar…` line;
* a module with a generic struct imports `Generic` and `TypeVar` and declares the struct's parameters;
* the (de)serialiser functions a field of the module names are defined in the module -/
theorem python_modules_text (E : Ext) (cfg : Python.Cfg) (d : ParsedData) (text : Str) (h : PyModuleClosed E cfg d text) :
    ∃ (st : Python.St) (body : Str),
      text = Python.beginFile cfg ++ Python.writeAllImports st ++ Python.writeCustomFns st ++ body ∧
      (∀ x ∈ st.typeVars, (x ++ s%" = TypeVar(\"" ++ x ++ s%"\")") <:+: Python.writeAllImports st ∧
        ∃ ids, s%"TypeVar" ∈ ids ∧
          (s%"from typing import " ++ Str.intercalate s%", " ids) <:+: Python.writeAllImports st) ∧
      (∀ s ∈ d.structs, s.genericTypes ≠ [] →
        (∃ ids, s%"Generic" ∈ ids ∧ (s%"from typing import " ++ Str.intercalate s%", " ids) <:+: Python.writeAllImports st) ∧
        (∃ ids, s%"TypeVar" ∈ ids ∧ (s%"from typing import " ++ Str.intercalate s%", " ids) <:+: Python.writeAllImports st) ∧
        ∀ g ∈ s.genericTypes, (g ++ s%" = TypeVar(\"" ++ g ++ s%"\")") <:+: Python.writeAllImports st) ∧
      (∀ s ∈ d.structs, ∀ f ∈ s.fields, ∀ t c, C12L.Python.customTy cfg s.genericTypes f = some t →
        Python.jsonTranslation t = some c →
        c.serializationContent <:+: Python.writeCustomFns st ∧ c.deserializationContent <:+: Python.writeCustomFns st) := by
  obtain ⟨st, body, hb, hused, hinv⟩ := h
  have hstruct : ∀ s ∈ d.structs, ∀ n ∈ C12L.Python.structSafe E cfg s, C12L.Python.Provides st n := by
    intro s hs n hn
    apply hused
    simp only [C12L.Python.used, C12L.Python.safe, List.mem_append, List.mem_flatMap]
    exact .inl ⟨.struct s, by simp [itemsOf, hs], hn⟩
  refine ⟨st, body, hb, ?_, ?_, ?_⟩
  · intro x hx
    have hne : st.typeVars ≠ [] := fun h0 => by rw [h0] at hx; cases hx
    refine ⟨C12L.Python.writeAllImports_typeVar st x hx, ?_⟩
    obtain ⟨ids, hi, hl⟩ := C12L.Python.writeAllImports_import st _ _ (hinv hne)
    exact ⟨ids, hi, hl⟩
  · intro s hs hg
    obtain ⟨hG, hT⟩ := C12L.Python.generic_mem_structSafe E cfg s hg
    obtain ⟨ids1, hi1, hl1⟩ := C12L.Python.writeAllImports_import st _ _ (hstruct s hs _ hG)
    obtain ⟨ids2, hi2, hl2⟩ := C12L.Python.writeAllImports_import st _ _ (hstruct s hs _ hT)
    refine ⟨⟨ids1, hi1, hl1⟩, ⟨ids2, hi2, hl2⟩, fun g hgm => ?_⟩
    exact C12L.Python.writeAllImports_typeVar st g
      (hstruct s hs (.typeVar g) (C12L.Python.typeVar_mem_structSafe E cfg s hgm))
  · intro s hs f hf t c hct hc
    have hn : C12L.Python.Need.fns t ∈ C12L.Python.fieldSafe E cfg s.genericTypes f := by
      unfold C12L.Python.fieldSafe
      rw [hct]
      exact List.mem_append_right _ (List.mem_cons_of_mem _ (List.mem_cons_of_mem _ (List.mem_cons_of_mem _
        List.mem_cons_self)))
    exact C12L.Python.writeCustomFns_defines st t c
      (hstruct s hs _ (C12L.Python.field_mem_structSafe E cfg s hf hn)) hc

/-- **leaked state only adds**: the printer states `sts` the modules of a run are written from
(module k: `header(sts[k]) ++ functions(sts[k]) ++ body`) grow — whatever an earlier module's header
and function block provide, every later one's provide too -/
theorem python_leak_only_adds (E : Ext) (cfg : Python.Cfg) (multi : Bool) (jobs : List Job) (res : List (Str × Str))
    (h : Python.generateAll E cfg multi jobs = .ok res) :
    ∃ sts : List Python.St, sts.length = jobs.length ∧
      sts.Pairwise (fun a b => ∀ n, C12L.Python.Provides a n → C12L.Python.Provides b n) ∧
      ∀ p ∈ (jobs.zip res).zip sts, ∃ body,
        p.1.2.2 = Python.beginFile cfg ++ Python.writeAllImports p.2 ++ Python.writeCustomFns p.2 ++ body := by
  obtain ⟨sts, hl, hp, _, hz⟩ := Py.generateFrom_grows E cfg jobs {} res h
  exact ⟨sts, hl, hp, hz⟩

/-- why the invariant is needed: for an *arbitrary* start state (what `C12.Python_full` quantifies
over) the header is not closed — a state with a type variable and no imports, and a module without
generics: everything the items use is provided, yet `T = TypeVar("T")` is written without the import.
No run reaches such a state (`python_modules`). -/
theorem arbitrary_state_not_closed :
    let st0 : Python.St := { typeVars := [s%"T"] }
    st0.typeVars ≠ [] ∧ ¬ C12L.Python.Provides st0 C12L.Python.impTypeVar ∧ ¬ Py.Inv st0 ∧ Py.Inv {} := by
  decide +kernel

/-- every module of a Go run lists in its import block every package its text refers to -/
theorem go_modules (E : Ext) (cfg : Go.Cfg) (multi : Bool) (jobs : List Job) (res : List (Str × Str))
    (h : Go.generateAll E cfg multi jobs = .ok res) :
    res.map (·.1) = jobs.map (·.1) ∧
    ∀ p ∈ jobs.zip res, ∃ (st : Go.Imports) (body : Str),
      p.2.2 = Go.beginFile cfg ++ Go.renderImports st ++ body ∧ ∀ q ∈ C12L.Go.used cfg p.1.2.1, q ∈ st := by
  obtain ⟨hn, hall⟩ := Go.generateFrom_each E.U cfg jobs [] res h
  refine ⟨hn, fun p hp => ?_⟩
  obtain ⟨stIn, st, hg⟩ := hall p hp
  obtain ⟨⟨body, hb⟩, hu⟩ := C12.C12_go E.U cfg _ stIn _ st hg
  exact ⟨st, body, hb, hu⟩

/-- every module of a TypeScript run ends with the reviver / replacer footer, which has a clause for
every custom-translated type a field of the module is printed with -/
theorem typescript_modules (E : Ext) (cfg : TypeScript.Cfg) (multi : Bool) (jobs : List Job) (res : List (Str × Str))
    (h : TypeScript.generateAll E cfg multi jobs = .ok res) :
    res.map (·.1) = jobs.map (·.1) ∧
    ∀ p ∈ jobs.zip res, ∃ (st : TypeScript.CustomMap) (pre : Str),
      p.2.2 = pre ++ TypeScript.endFile st ∧
      ∀ t ∈ C12L.TypeScript.used cfg p.1.2.1, C12L.TypeScript.clauseFor st t ∈ C12L.TypeScript.clauses st := by
  obtain ⟨hn, hall⟩ := TS.generateFrom_each E.U cfg jobs [] res h
  refine ⟨hn, fun p hp => ?_⟩
  obtain ⟨stIn, st, hg⟩ := hall p hp
  obtain ⟨⟨pre, hb⟩, hu⟩ := C12.C12_typescript E.U cfg _ _ stIn _ st hg
  exact ⟨st, pre, hb, fun t ht => (hu t ht).1⟩

/-- Kotlin keeps no state: a module is `Kotlin.generate` of its crate's data and imports; with a
package configured it ends its header with the two serialization imports (without one: the known
class `kotlin-empty-package`, per module as per file) -/
theorem kotlin_modules (E : Ext) (cfg : Kotlin.Cfg) (multi : Bool) (jobs : List Job) (res : List (Str × Str))
    (h : Kotlin.generateAll E cfg multi jobs = .ok res) :
    res.map (·.1) = jobs.map (·.1) ∧
    ∀ p ∈ jobs.zip res, Kotlin.generate cfg p.1.2.1 p.1.2.2 = .ok p.2.2 ∧
      (cfg.package.isEmpty = false → C12L.Kotlin.importLines <:+ Kotlin.beginFile cfg p.1.2.1) := by
  obtain ⟨hn, hall⟩ := Kt.generateFrom_each cfg jobs res h
  exact ⟨hn, fun p hp => ⟨hall p hp, fun hpk => C12L.Kotlin.beginFile_imports cfg _ hpk⟩⟩

/-! ## the statement at full strength -/

/-- **C12_Modules**: in every folder run of every back end with helpers of its own, every module
defines or imports what it uses (Swift: finds it in `Codable.swift`), whatever printer state the
modules before it left behind -/
def C12_Modules_full : Prop :=
  Scala_modules_full ∧ Python_modules_full ∧
  (∀ (E : Ext) (cfg : Swift.Cfg) (jobs : List Job) (res : List (Str × Str)),
    Swift.generateAll E cfg true jobs = .ok res → (∀ j ∈ jobs, j.1 ≠ C14_Helpers.helperPath) →
    ∀ j ∈ jobs, C12L.Swift.used cfg j.2.1 = true → (C14_Helpers.helperPath, Swift.writeCodable cfg) ∈ res) ∧
  (∀ (E : Ext) (cfg : Go.Cfg) (multi : Bool) (jobs : List Job) (res : List (Str × Str)),
    Go.generateAll E cfg multi jobs = .ok res →
    ∀ p ∈ jobs.zip res, ∃ (st : Go.Imports) (body : Str),
      p.2.2 = Go.beginFile cfg ++ Go.renderImports st ++ body ∧ ∀ q ∈ C12L.Go.used cfg p.1.2.1, q ∈ st) ∧
  (∀ (E : Ext) (cfg : TypeScript.Cfg) (multi : Bool) (jobs : List Job) (res : List (Str × Str)),
    TypeScript.generateAll E cfg multi jobs = .ok res →
    ∀ p ∈ jobs.zip res, ∃ (st : TypeScript.CustomMap) (pre : Str),
      p.2.2 = pre ++ TypeScript.endFile st ∧
      ∀ t ∈ C12L.TypeScript.used cfg p.1.2.1, C12L.TypeScript.clauseFor st t ∈ C12L.TypeScript.clauses st)

theorem C12_Modules : C12_Modules_full := by
  refine ⟨scala_modules, python_modules, ?_, fun E cfg multi jobs res h => (go_modules E cfg multi jobs res h).2,
    fun E cfg multi jobs res h => (typescript_modules E cfg multi jobs res h).2⟩
  intro E cfg jobs res h hn j hj hu
  obtain ⟨_, _, _, _, hiff, _⟩ := swift_modules E cfg jobs res h hn
  exact hiff.2 ⟨j, hj, hu⟩

/-! ## non-vacuity, kernel-checked -/

open C12 in
/-- crate `a`: `struct G<T> { t: T, d: OffsetDateTime }`; crate `b`: `struct P { n: u8 }` -/
def pyItemA : RustItem :=
  .struct (mkStruct s%"G" [mkField s%"t" (.simple s%"T"), mkField s%"d" (.prim .dateTime)] [s%"T"])
open C12 in
def pyItemB : RustItem := .struct (mkStruct s%"P" [mkField s%"n" (.prim .u8)])
open C12 in
def pyA : ParsedData :=
  { structs := [mkStruct s%"G" [mkField s%"t" (.simple s%"T"), mkField s%"d" (.prim .dateTime)] [s%"T"]], crateName := s%"a" }
open C12 in
def pyB : ParsedData := { structs := [mkStruct s%"P" [mkField s%"n" (.prim .u8)]], crateName := s%"b" }

/-- the printer states the two modules of the run `a`, `b` are written from -/
def pyStates : Option (Python.St × Python.St) :=
  match Python.writeItems C12.exE {} [pyItemA] {} with
  | .ok (_, st1) =>
    (match Python.writeItems C12.exE {} [pyItemB] (Python.addDatetimeImport st1) with
     | .ok (_, st2) => some (Python.addDatetimeImport st1, Python.addDatetimeImport st2)
     | _ => none)
  | _ => none

/-- the hypothesis of `python_modules` / `python_leak_only_adds` is met: the run succeeds, with
exactly these two states -/
theorem python_run_example : ∃ res s1 s2 bodyA bodyB, pyStates = some (s1, s2) ∧
    Python.generateAll C12.exE {} true [(s%"a", pyA, some []), (s%"b", pyB, some [])] = .ok res ∧
    res = [(s%"a", Python.beginFile {} ++ Python.writeAllImports s1 ++ Python.writeCustomFns s1 ++ bodyA),
           (s%"b", Python.beginFile {} ++ Python.writeAllImports s2 ++ Python.writeCustomFns s2 ++ bodyB)] := by
  have hoA : Pipeline.generateOrder pyA = some [pyItemA] := topsort_single _ (by decide +kernel)
  have hoB : Pipeline.generateOrder pyB = some [pyItemB] := topsort_single _ (by decide +kernel)
  have hok : pyStates.isSome = true := by decide +kernel
  unfold pyStates at hok ⊢
  cases hA : Python.writeItems C12.exE {} [pyItemA] {} with
  | ok r =>
    obtain ⟨bodyA, st1⟩ := r
    rw [hA] at hok
    simp only at hok ⊢
    cases hB : Python.writeItems C12.exE {} [pyItemB] (Python.addDatetimeImport st1) with
    | ok r2 =>
      obtain ⟨bodyB, st2⟩ := r2
      refine ⟨_, _, _, bodyA, bodyB, rfl, ?_, rfl⟩
      simp [Python.generateAll, Python.generateFrom, Python.generate, hoA, hoB, hA, hB]
    | err e => rw [hB] at hok; simp at hok
    | panic e => rw [hB] at hok; simp at hok
  | err e => rw [hA] at hok; simp at hok
  | panic e => rw [hA] at hok; simp at hok

/-- **what leaks**: module `b` (`struct P { n: u8 }`, which uses `BaseModel` and nothing else of its
own) is written from a state that still declares `T`, imports `Generic`, `TypeVar`, `Annotated`, … and
holds the `datetime` functions of module `a` — all provided, none missing: its header is
`from datetime import datetime / from pydantic import BaseModel, BeforeValidator, PlainSerializer /
from typing import Annotated, Generic, TypeVar / T = TypeVar("T")` (same bytes from the real
generator) -/
theorem python_leak_example :
    pyStates.map (fun p => (p.1.typeVars, p.2.typeVars, p.2.customJson)) = some ([s%"T"], [s%"T"], [s%"datetime"]) ∧
    pyStates.map (fun p => p.2.imports) =
      some [(s%"datetime", [s%"datetime"]), (s%"pydantic", [s%"BaseModel", s%"BeforeValidator", s%"PlainSerializer"]),
            (s%"typing", [s%"Annotated", s%"Generic", s%"TypeVar"])] ∧
    pyStates.map (fun p => (C12L.Python.used C12.exE {} pyB p.2, decide (Py.Inv p.2))) =
      some ([C12L.Python.impBaseModel, C12L.Python.impDatetime], true) := by
  decide +kernel

/-- Scala: three crates, the first two print an unsigned alias name (`UByte`, `Vector[UShort]`) and
each carries the alias block, the third does not and has none -/
theorem scala_run_example :
    Scala.generateAll C12.exE C12.scalaCfg true
      [(s%"a", { structs := [C12.mkStruct s%"A" [C12.mkField s%"a" (.prim .u8)]], crateName := s%"a" }, some []),
       (s%"b", { structs := [C12.mkStruct s%"B" [C12.mkField s%"n" (.vec (.prim .u16))]], crateName := s%"b" }, some []),
       (s%"c", { structs := [C12.mkStruct s%"C" [C12.mkField s%"s" (.prim .string)]], crateName := s%"c" }, some [])] =
      .ok [(s%"a", s%"package com\n\npackage object example {\n\ntype UByte = Byte\ntype UShort = Short\ntype UInt = Int\ntype ULong = Int\n\n}\npackage example {\n\ncase class A (\n\ta: UByte\n)\n\n}\n"),
           (s%"b", s%"package com\n\npackage object example {\n\ntype UByte = Byte\ntype UShort = Short\ntype UInt = Int\ntype ULong = Int\n\n}\npackage example {\n\ncase class B (\n\tn: Vector[UShort]\n)\n\n}\n"),
           (s%"c", s%"package com\n\npackage example {\n\ncase class C (\n\ts: String\n)\n\n}\n")] := by
  decide +kernel

/-- Swift: the folder run of `C14_Helpers.ex_folder` (crate `a` mentions `CodableVoid`, crate `b` does
not) meets the hypotheses of `swift_modules` -/
example : (∃ res, Swift.generateAll C14_Helpers.E0 C14_Helpers.cfg0 true
      [(s%"a", C14_Helpers.crateA, some []), (s%"b", C14_Helpers.crateB, some [])] = .ok res) ∧
    (∀ j ∈ ([(s%"a", C14_Helpers.crateA, some []), (s%"b", C14_Helpers.crateB, some [])] : List Job),
      j.1 ≠ C14_Helpers.helperPath) := by
  refine ⟨?_, ?_⟩
  · obtain ⟨res, h, _⟩ := C14_Helpers.ex_folder
    exact ⟨res, h⟩
  · intro j hj
    simp only [List.mem_cons, List.not_mem_nil, or_false] at hj
    rcases hj with rfl | rfl <;> decide

end TsV.C12_Modules
