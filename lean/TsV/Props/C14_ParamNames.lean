import TsV.Lemmas.C14_ParamNames
/-!
# C14_ParamNames — the references a file keeps do not depend on the names of generic parameters

C14: "every cross-module reference is imported".  In folder mode `reconcile_referenced_types`
(`Visitor.reconcileReferencedTypes`) keeps, of the imports a file's `use` items and paths yield, those
whose name some generated item *references* (`all_references`) and the file does not define.  Names are
only names: an item may call one of its generic parameters like a type another item imports
(`struct Wrapper<Foo> { v: Foo }` next to `struct User { f: Foo }` with `use alpha::Foo;`).  The
reference set must not be pruned by binder names of *other* items.

* `references_ignore_binder_lists`: the reference set — and the imports kept — are a function of the
  *types mentioned*; the items' generic parameter lists are not read at all;
* `needed_by_other_item_kept`: if an item mentions the imported type `T` (a field whose type contains
  `T`), `T` is not defined in the file and is imported from one crate, the import is kept — whatever the
  other items of the file are and however their generic parameters are called;
* `rename_keeps_other_references`, `rename_keeps_other_imports`: renaming a generic parameter `P` of one
  struct to any name `Q` — in its binder list and its field types, in particular to the name of an
  imported type, and (the same lemma again) back — leaves every reference to a name other than `P` in
  place, and with it the import kept for that name.
* `C14_ParamNames : C14_ParamNames_full`.  Nothing is false on the model.
-/
namespace TsV.C14_ParamNames
open TsV TsV.Visitor TsV.C06M TsV.C14I

/-! ## 1. binder lists are not read -/

/-- the same items with other generic parameter lists -/
def withGenerics (g : List Str → List Str) (d : ParsedData) : ParsedData :=
  { d with structs := d.structs.map fun s => { s with genericTypes := g s.genericTypes },
           enums := d.enums.map fun e => { e with genericTypes := g e.genericTypes },
           aliases := d.aliases.map fun a => { a with genericTypes := g a.genericTypes } }

/-- **the reference set and the imports kept do not read the binder lists** -/
theorem references_ignore_binder_lists (U : UnicodeOps) (pick : List ImportedType → Option ImportedType)
    (g : List Str → List Str) (d : ParsedData) :
    allReferences U (withGenerics g d) = allReferences U d ∧
    (reconcileReferencedTypes U pick (withGenerics g d)).importTypes = (reconcileReferencedTypes U pick d).importTypes := by
  have h : allReferences U (withGenerics g d) = allReferences U d := by
    simp [allReferences, withGenerics, List.flatMap_map, List.map_map, Function.comp_def]
  refine ⟨h, ?_⟩
  simp only [reconcileReferencedTypes, h]
  rfl

/-! ## 2. an import another item needs is kept -/

/-- **the import needed by one item is kept, whatever the other items and their binders are** -/
theorem needed_by_other_item_kept (U : UnicodeOps) (pick : List ImportedType → Option ImportedType) (hp : ValidPick pick)
    (d : ParsedData) (s : RustStruct) (fl : RustField) (c T : Str) (hs : s ∈ d.structs) (hf : fl ∈ s.fields)
    (hT : T ∈ fl.ty.allIds) (hacc : acceptType U T = true) (hloc : T ∉ d.typeNames)
    (himp : ⟨c, T⟩ ∈ d.importTypes) (huniq : ∀ j ∈ d.importTypes, j.typeName = T → j.baseCrate = c) :
    ⟨c, T⟩ ∈ (reconcileReferencedTypes U pick d).importTypes :=
  reconcile_keeps_named U pick hp d c T himp (ref_of_struct_field U d s fl T hs hf hT hacc) hloc huniq

/-! ## 3. renaming a parameter -/

/-- the data with the struct `B` (at one position of the list) replaced by `B` with its parameter renamed -/
def renamedIn (p q : Str) (pre post : List RustStruct) (B : RustStruct) (d : ParsedData) : ParsedData :=
  { d with structs := pre ++ renameStruct p q B :: post }

/-- **renaming `P` to `Q` in one struct keeps every reference to another name** -/
theorem rename_keeps_other_references (U : UnicodeOps) (p q : Str) (pre post : List RustStruct) (B : RustStruct)
    (d : ParsedData) (hd : d.structs = pre ++ B :: post) (x : Str) (hx : x ≠ p) (h : x ∈ allReferences U d) :
    x ∈ allReferences U (renamedIn p q pre post B d) := by
  rw [mem_allReferences] at h ⊢
  obtain ⟨hacc, ty, hty, hxt⟩ := h
  refine ⟨hacc, ?_⟩
  simp only [refTypes, hd, List.mem_append, List.flatMap_append, List.flatMap_cons] at hty
  simp only [refTypes, renamedIn, List.mem_append, List.flatMap_append, List.flatMap_cons]
  rcases hty with ((((h1 | h2 | h3) | h4) | h5) | h6)
  · exact ⟨ty, .inl (.inl (.inl (.inl h1))), hxt⟩
  · obtain ⟨fl, hfl, rfl⟩ := List.mem_map.1 h2
    refine ⟨subst p q fl.ty, .inl (.inl (.inl (.inr (.inl ?_)))), mem_allIds_subst p q x hx _ hxt⟩
    simp only [renameStruct, List.map_map]
    exact List.mem_map.2 ⟨fl, hfl, rfl⟩
  · exact ⟨ty, .inl (.inl (.inl (.inr (.inr h3)))), hxt⟩
  · exact ⟨ty, .inl (.inl (.inr h4)), hxt⟩
  · exact ⟨ty, .inl (.inr h5), hxt⟩
  · exact ⟨ty, .inr h6, hxt⟩

/-- **… and the import kept for it** (the renaming touches neither the imports nor the type names) -/
theorem rename_keeps_other_imports (U : UnicodeOps) (pick : List ImportedType → Option ImportedType) (hp : ValidPick pick)
    (p q : Str) (pre post : List RustStruct) (B : RustStruct) (d : ParsedData) (hd : d.structs = pre ++ B :: post)
    (i : ImportedType) (hi : i ∈ (reconcileReferencedTypes U pick d).importTypes) (hne : i.typeName ≠ p) :
    i ∈ (reconcileReferencedTypes U pick (renamedIn p q pre post B d)).importTypes := by
  rw [mem_reconcile_imports] at hi ⊢
  rcases hi with ⟨name, href, hloc, hpk⟩ | hw
  · have hname : name ≠ p := fun e => hne ((picked_spec hp hpk).2.1.trans e)
    exact .inl ⟨name, rename_keeps_other_references U p q pre post B d hd name hname href, hloc, hpk⟩
  · exact .inr hw

/-! ## the statement at full strength -/

def C14_ParamNames_full : Prop :=
  ∀ (U : UnicodeOps) (pick : List ImportedType → Option ImportedType), ValidPick pick → ∀ d : ParsedData,
    (∀ g : List Str → List Str, allReferences U (withGenerics g d) = allReferences U d ∧
      (reconcileReferencedTypes U pick (withGenerics g d)).importTypes = (reconcileReferencedTypes U pick d).importTypes) ∧
    (∀ (s : RustStruct) (fl : RustField) (c T : Str), s ∈ d.structs → fl ∈ s.fields → T ∈ fl.ty.allIds →
      acceptType U T = true → T ∉ d.typeNames → ⟨c, T⟩ ∈ d.importTypes →
      (∀ j ∈ d.importTypes, j.typeName = T → j.baseCrate = c) →
      ⟨c, T⟩ ∈ (reconcileReferencedTypes U pick d).importTypes) ∧
    (∀ (p q : Str) (pre post : List RustStruct) (B : RustStruct), d.structs = pre ++ B :: post →
      (∀ x, x ≠ p → x ∈ allReferences U d → x ∈ allReferences U (renamedIn p q pre post B d)) ∧
      (∀ i ∈ (reconcileReferencedTypes U pick d).importTypes, i.typeName ≠ p →
        i ∈ (reconcileReferencedTypes U pick (renamedIn p q pre post B d)).importTypes))

theorem C14_ParamNames : C14_ParamNames_full := fun U pick hp d =>
  ⟨fun g => references_ignore_binder_lists U pick g d,
   fun s fl c T hs hf hT hacc hloc himp hu => needed_by_other_item_kept U pick hp d s fl c T hs hf hT hacc hloc himp hu,
   fun p q pre post B hd =>
     ⟨fun x hx h => rename_keeps_other_references U p q pre post B d hd x hx h,
      fun i hi hne => rename_keeps_other_imports U pick hp p q pre post B d hd i hi hne⟩⟩

/-! ## non-vacuity: `use alpha::Foo; struct Wrapper<P> { v: P }  struct User { f: Foo }` and the same with
`P` renamed to `Foo` -/

def mkField (n : Str) (ty : RustType) : RustField := { id := ⟨n, n, false⟩, ty, comments := [], hasDefault := false, decorators := [] }
def wWrapper : RustStruct :=
  { id := ⟨s%"Wrapper", s%"Wrapper", false⟩, genericTypes := [s%"P"], fields := [mkField s%"v" (.simple s%"P")], comments := [],
    decorators := {}, isRedacted := false }
def wUser : RustStruct :=
  { id := ⟨s%"User", s%"User", false⟩, genericTypes := [], fields := [mkField s%"f" (.vec (.simple s%"Foo"))], comments := [],
    decorators := {}, isRedacted := false }
def wData : ParsedData :=
  { structs := [wWrapper, wUser], typeNames := [s%"Wrapper", s%"User"], importTypes := [⟨s%"alpha", s%"Foo"⟩, ⟨s%"alpha", s%"Unused"⟩],
    crateName := s%"beta", multiFile := true }

/-- before, after renaming `P` to `Foo` (binder `[Foo]`, field `v: Foo`), and back: the import of `Foo`
that `User` needs is kept, the unused one is dropped -/
theorem rename_example :
    (reconcileReferencedTypes .ascii List.head? wData).importTypes = [⟨s%"alpha", s%"Foo"⟩] ∧
    (reconcileReferencedTypes .ascii List.head? (renamedIn s%"P" s%"Foo" [] [wUser] wWrapper wData)).importTypes =
      [⟨s%"alpha", s%"Foo"⟩] ∧
    (renameStruct s%"P" s%"Foo" wWrapper).genericTypes = [s%"Foo"] ∧
    ((renameStruct s%"P" s%"Foo" wWrapper).fields.map (·.ty.id)) = [s%"Foo"] ∧
    (renameStruct s%"Foo" s%"P" (renameStruct s%"P" s%"Foo" wWrapper)).genericTypes = [s%"P"] ∧
    wData.structs = [] ++ wWrapper :: [wUser] :=
  ⟨by decide +kernel, by decide +kernel, by decide +kernel, by decide +kernel, by decide +kernel, rfl⟩

/-- the hypotheses of `needed_by_other_item_kept` on the witness -/
example : wUser ∈ wData.structs ∧ s%"Foo" ∈ (mkField s%"f" (.vec (.simple s%"Foo"))).ty.allIds ∧
    acceptType .ascii s%"Foo" = true ∧ s%"Foo" ∉ wData.typeNames ∧ (⟨s%"alpha", s%"Foo"⟩ : ImportedType) ∈ wData.importTypes :=
  ⟨by simp [wData], by decide +kernel, by decide +kernel, by decide +kernel, by decide +kernel⟩

end TsV.C14_ParamNames
