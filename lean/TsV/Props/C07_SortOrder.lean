import TsV.Lemmas.C07_SortOrder
/-!
# C07_SortOrder — the comparison `reconcile_aliases` sorts by is a total order on the keys, whatever the items carry

C07: "the tool always terminates with output or a diagnostic; it never panics".  Since Rust 1.81 `slice::sort` /
`sort_by` may **panic** ("user-provided comparison function does not correctly implement a total order") when the
comparison handed to it breaks the contract of `Ord`; for slices longer than 20 elements the algorithm really
does check.  `reconcile_aliases` sorts the structs, enums and aliases of every crate with their `Ord` impls and the
consts with a `sort_by` closure; all four compare `id.original` of the two items (`Pipeline.sortBy (·.id.original)` in
the model).  A comparison that read the *renamed* name on one side and the Rust name on the other would be
inconsistent on programs with `serde(rename)` — and panic only on inputs with many items.

* `cmpStr` / `itemCmp key` (Lemmas): the `Ordering`-valued comparison; `le_iff_cmp`: the Boolean `Str.le (key a) (key b)`
  of the model's `sortBy` is `itemCmp key a b ≠ .gt`.
* `SortContract cmp` — the contract `sort_by` states: `cmp a a = Equal`, `cmp b a = (cmp a b).reverse()`, and
  transitivity of `<`, `==`, `>`, with `==` a congruence for `cmp`.  `itemCmp_contract`: it holds for **every** key
  function on **every** type of items — in particular for the four the pipeline uses (`struct_contract`, …): the
  comparison is a function of the two `id.original`s alone (`ignores_rename`: changing `renamed`, fields, comments,
  decorators of either item changes nothing).
* `le_preorder`: the Boolean form is reflexive, total and transitive (a total preorder on items: two different items
  with the same Rust name compare equal).
* `sortBy_sorted`: for a list of **any length**, `sortBy key l` is a permutation of `l`, pairwise ordered by the key, and
  stable (`sortBy_stable`: two items that are in order in the input keep their relative position);
  `reconcile_sorted`: the four lists of `reconcileOne` are sorted by `id.original` and are permutations of the (type-checked)
  input lists; `long_list`: the instance for a list of more than 20 structs carrying arbitrary renames.

Nothing is false on the model.  `tools/c07.py: renamed_many_part` checks the implementation (no panic, sorted output, on
programs with > 20 renamed items).
-/
namespace TsV.C07_SortOrder
open TsV TsV.Pipeline

/-- the contract of a comparison handed to `slice::sort_by` (std: "total order") -/
structure SortContract {α} (cmp : α → α → Ordering) : Prop where
  refl : ∀ a, cmp a a = .eq
  swap : ∀ a b, cmp b a = (cmp a b).swap
  trans_lt : ∀ a b c, cmp a b = .lt → cmp b c = .lt → cmp a c = .lt
  trans_eq : ∀ a b c, cmp a b = .eq → cmp b c = .eq → cmp a c = .eq
  trans_gt : ∀ a b c, cmp a b = .gt → cmp b c = .gt → cmp a c = .gt
  congr_left : ∀ a b c, cmp a b = .eq → cmp a c = cmp b c
  congr_right : ∀ a b c, cmp a b = .eq → cmp c a = cmp c b

/-- **the comparison by a key satisfies the contract, for every key function and every item type** -/
theorem itemCmp_contract {α} (key : α → Str) : SortContract (itemCmp key) where
  refl a := cmpStr_refl _
  swap a b := cmpStr_swap _ _
  trans_lt _ _ _ := cmpStr_trans_lt
  trans_eq _ _ _ := cmpStr_trans_eq
  trans_gt _ _ _ := cmpStr_trans_gt
  congr_left _ _ c h := cmpStr_congr_left h (key c)
  congr_right _ _ c h := cmpStr_congr_right h (key c)

/-- `Ord for RustStruct`, `Ord for RustEnum`, `Ord for RustTypeAlias`, the closure of `consts.sort_by` -/
theorem struct_contract : SortContract (itemCmp fun s : RustStruct => s.id.original) := itemCmp_contract _
theorem enum_contract : SortContract (itemCmp fun e : RustEnum => e.id.original) := itemCmp_contract _
theorem alias_contract : SortContract (itemCmp fun a : RustTypeAlias => a.id.original) := itemCmp_contract _
theorem const_contract : SortContract (itemCmp fun c : RustConst => c.id.original) := itemCmp_contract _

/-- the comparison looks at the Rust names only: any `serde(rename)` (and anything else) on either side is ignored -/
theorem ignores_rename (s t s' t' : RustStruct) (hs : s'.id.original = s.id.original) (ht : t'.id.original = t.id.original) :
    itemCmp (fun s : RustStruct => s.id.original) s' t' = itemCmp (fun s : RustStruct => s.id.original) s t := by
  simp only [itemCmp, hs, ht]

example (s t : RustStruct) (r r' : Str) :
    itemCmp (fun s : RustStruct => s.id.original) { s with id := { s.id with renamed := r } } { t with id := { t.id with renamed := r' } } =
    itemCmp (fun s : RustStruct => s.id.original) s t := ignores_rename _ _ _ _ rfl rfl

/-- **total preorder**: reflexive, total, transitive — for every key function -/
theorem le_preorder {α} (key : α → Str) :
    (∀ a : α, Str.le (key a) (key a) = true) ∧
    (∀ a b : α, (Str.le (key a) (key b) || Str.le (key b) (key a)) = true) ∧
    (∀ a b c : α, Str.le (key a) (key b) = true → Str.le (key b) (key c) = true → Str.le (key a) (key c) = true) :=
  ⟨fun a => by simp [Str.le, Order.lt_irrefl], fun a b => Order.le_total _ _, fun a b c => Order.le_trans _ _ _⟩

/-- **the sorted list, for a list of any length**: a permutation of the input, pairwise ordered by the key -/
theorem sortBy_sorted {α} (key : α → Str) (l : List α) :
    (sortBy key l).Perm l ∧ (sortBy key l).Pairwise fun a b => Str.le (key a) (key b) = true :=
  ⟨List.mergeSort_perm _ _,
   List.pairwise_mergeSort (le := fun a b => Str.le (key a) (key b))
     (fun a b c => Order.le_trans (key a) (key b) (key c)) (fun a b => Order.le_total (key a) (key b)) l⟩

/-- … and stable: an ordered pair of the input is found in the same order in the output -/
theorem sortBy_stable {α} (key : α → Str) (l : List α) (a b : α) (hab : Str.le (key a) (key b) = true)
    (h : [a, b].Sublist l) : [a, b].Sublist (sortBy key l) :=
  List.pair_sublist_mergeSort (le := fun a b => Str.le (key a) (key b))
    (fun a b c => Order.le_trans (key a) (key b) (key c)) (fun a b => Order.le_total (key a) (key b)) hab h

/-- what `reconcile_aliases` leaves in a crate: four lists sorted by the Rust name, same items as before (types reconciled) -/
theorem reconcile_sorted (r : Renames) (crate : Str) (d : ParsedData) :
    let d' := reconcileOne r crate d
    d'.structs.Pairwise (fun a b => Str.le a.id.original b.id.original = true) ∧
    d'.enums.Pairwise (fun a b => Str.le a.id.original b.id.original = true) ∧
    d'.aliases.Pairwise (fun a b => Str.le a.id.original b.id.original = true) ∧
    d'.consts.Pairwise (fun a b => Str.le a.id.original b.id.original = true) ∧
    d'.consts.Perm d.consts ∧
    d'.structs.length = d.structs.length ∧ d'.enums.length = d.enums.length ∧ d'.aliases.length = d.aliases.length ∧
    (d'.structs.map (·.id)).Perm (d.structs.map (·.id)) ∧
    (d'.enums.map (·.id)).Perm (d.enums.map (·.id)) ∧
    (d'.aliases.map (·.id)).Perm (d.aliases.map (·.id)) := by
  refine ⟨(sortBy_sorted _ _).2, (sortBy_sorted _ _).2, (sortBy_sorted _ _).2, (sortBy_sorted _ _).2,
    (sortBy_sorted _ _).1, ?_, ?_, ?_, ?_, ?_, ?_⟩
  · exact (sortBy_sorted (fun s : RustStruct => s.id.original) _).1.length_eq.trans (List.length_map _)
  · exact (sortBy_sorted (fun s : RustEnum => s.id.original) _).1.length_eq.trans (List.length_map _)
  · exact (sortBy_sorted (fun s : RustTypeAlias => s.id.original) _).1.length_eq.trans (List.length_map _)
  · exact ((sortBy_sorted (fun s : RustStruct => s.id.original) _).1.map _).trans (by simp [List.map_map, Function.comp_def])
  · exact ((sortBy_sorted (fun s : RustEnum => s.id.original) _).1.map _).trans (by simp [List.map_map, Function.comp_def])
  · exact ((sortBy_sorted (fun s : RustTypeAlias => s.id.original) _).1.map _).trans (by simp [List.map_map, Function.comp_def])

/-- the instance std's large-slice algorithm meets: more than 20 structs, each with whatever `serde(rename)` -/
theorem long_list (l : List RustStruct) (_h : 20 < l.length) :
    (sortBy (·.id.original) l).length = l.length ∧ (sortBy (·.id.original) l).Perm l ∧
    (sortBy (·.id.original) l).Pairwise fun a b => itemCmp (fun s : RustStruct => s.id.original) a b ≠ .gt := by
  obtain ⟨hp, hs⟩ := sortBy_sorted (fun s : RustStruct => s.id.original) l
  exact ⟨hp.length_eq, hp, hs.imp fun {a b} h => (le_iff_cmp _ _).1 h⟩

/-! non-vacuity: the comparison on concrete renamed items (`struct B` renamed to `"A"`, `struct A` renamed to `"Z"`):
the Rust names decide, both ways round -/
def exS (o r : Str) : RustStruct :=
  { id := ⟨o, r, true⟩, genericTypes := [], fields := [], comments := [], decorators := {}, isRedacted := false }

example : itemCmp (fun s : RustStruct => s.id.original) (exS s%"B" s%"A") (exS s%"A" s%"Z") = .gt ∧
    itemCmp (fun s : RustStruct => s.id.original) (exS s%"A" s%"Z") (exS s%"B" s%"A") = .lt ∧
    itemCmp (fun s : RustStruct => s.id.original) (exS s%"A" s%"Z") (exS s%"A" s%"Q") = .eq := by decide +kernel

example : ∃ l : List RustStruct, 20 < l.length := ⟨List.replicate 21 (exS s%"A" s%"Z"), by decide⟩

end TsV.C07_SortOrder
