import TsV.Lemmas.C07_Backends_Run
import TsV.Lemmas.C07_Backends_Eval
/-!
# C07, generation side — the whole in-process pipeline never panics

`Props/C07.lean` proves that the parser side (`parser::parse` and everything below it) never takes a
`panic` branch.  This file extends the statement to the rest of one run (`Generate.run`): the
collector fold, `reconcile_aliases`, the ordering pass (`topsort`), `used_imports` and the six back
ends (`generateAll`).

Panic sites of the generation-side model (every `.panic` in `Model/Lang/*.lean`) and their status:

| site | where | discharged by |
|---|---|---|
| `topsort` (5 back ends; Scala does not sort) | `generate` | `topsort_never_panics` (C11: `graph_total`, `graph_wf`, `topsort_perm`) — unconditional |
| `typescript.rs:137` | `TypeScript.formatType` on `u64/i64/usize/isize` | unreachable on jobs without 64-bit primitives (`jobsNo64`); the parser never produces one (`tryFrom_no64`) |
| `python.rs:368` | `Python.unitMembers` on a non-unit variant of a `RustEnum::Unit` | unreachable on jobs with `jobsUnitOk`; the parser guarantees it (`parseEnum_wf`) |
| `go.rs:301` | `Go.unitConsts`, same `unreachable!()` | same |
| `go.rs:333` | `Go.algVariant`: `format_type(..).unwrap()` | Go's `format_type` has no error arm (`go_formatType_total`) — unconditional |
| `index.rs:1020`, `go.rs:600` | `Go.replaceRange` in `convert_acronyms_to_uppercase` | unreachable when the configuration satisfies `Go.cfgOk` (`go_acronyms_total`); **reachable otherwise** (`go_acronym_witness`, known finding `go-nonascii-acronym`) |

So the full statement `Run_full` fails only through the last row: `run_not_full`, `run_never_panics`.
-/
namespace TsV.C07_Backends
open TsV TsV.Syn TsV.Outcome TsV.C07BE

/-- **the ordering pass never panics and loses nothing**: `topsort` returns a permutation of the
items for every item list (`types.get(dep).unwrap()`, `get_index(..).expect(..)`, `graph[d]`,
`indices[i]`, `data.swap` are all in range; the fuel suffices) -/
theorem topsort_never_panics (items : List RustItem) :
    ∃ out, Deps.topsort items = some out ∧ out.Perm items := topsort_total items

/-- Go's `format_type` always returns (so the `unwrap()` at go.rs:333 cannot fire) -/
theorem go_formatType_total (cfg : Lang.Go.Cfg) (t : RustType) (st : Lang.Go.Imports) :
    ∃ r, Lang.Go.formatType cfg t st = .ok r := Go.formatType_ok cfg t st

/-- `convert_acronyms_to_uppercase` returns for **every** name under `Go.cfgOk` -/
theorem go_acronyms_total (U : UnicodeOps) (cfg : Lang.Go.Cfg) (h : Go.cfgOk U cfg = true) (name : Str) :
    ∃ r, Lang.Go.convertAcronyms U cfg.uppercaseAcronyms name = .ok r := Go.acr_ok U cfg h name

/-- with Rust's case mapping on ASCII, `Go.cfgOk` holds as soon as every `uppercase_acronyms` entry is ASCII -/
theorem go_cfgOk_of_ascii (U : UnicodeOps) (hU : U.AsciiCorrect) (cfg : Lang.Go.Cfg)
    (h : cfg.uppercaseAcronyms.all Go.asciiStr = true) : Go.cfgOk U cfg = true := Go.cfgOk_of_ascii hU h

/-- Kotlin, Scala, Swift: no hypothesis at all -/
theorem kotlin_never_panics (E : Ext) (cfg : Lang.Kotlin.Cfg) (multi : Bool) (jobs : List Job) :
    NP (Lang.Kotlin.generateAll E cfg multi jobs) := Kotlin.generateAll_np E cfg multi jobs
theorem scala_never_panics (E : Ext) (cfg : Lang.Scala.Cfg) (multi : Bool) (jobs : List Job) :
    NP (Lang.Scala.generateAll E cfg multi jobs) := Scala.generateAll_np E cfg multi jobs
theorem swift_never_panics (E : Ext) (cfg : Lang.Swift.Cfg) (multi : Bool) (jobs : List Job) :
    NP (Lang.Swift.generateAll E cfg multi jobs) := Swift.generateAll_np E cfg multi jobs

def TypeScript_full : Prop :=
  ∀ (E : Ext) (cfg : Lang.TypeScript.Cfg) (multi : Bool) (jobs : List Job),
    NP (Lang.TypeScript.generateAll E cfg multi jobs)

def exE : Ext := { U := .ascii, parseType := fun _ => none }
def mkId (n : Str) : Id := ⟨n, n, false⟩

/-- a job no parser run can produce: `struct A { x: u64 }` with the `u64` kept -/
def data64 : ParsedData :=
  { structs := [{ id := mkId s%"A", genericTypes := [], comments := [], decorators := {}, isRedacted := false,
                  fields := [{ id := mkId s%"x", ty := .prim .u64, comments := [], hasDefault := false,
                               decorators := [] }] }] }
def job64 : Job := (s%"c", data64, none)

/-- `panic!("64 bit types not allowed in Typeshare")` -/
theorem typescript_witness :
    Lang.TypeScript.generateAll exE {} false [job64] = .panic s%"typescript.rs:137" := by
  rw [Lang.TypeScript.generateAll, RunEval.TypeScript.generateFrom_eq]
  decide +kernel

theorem TypeScript_not_full : ¬ TypeScript_full :=
  fun h => np_absurd (h exE {} false [job64]) typescript_witness

/-- TypeScript never panics on jobs whose types contain no 64-bit primitive -/
theorem TypeScript_partial (E : Ext) (cfg : Lang.TypeScript.Cfg) (multi : Bool) (jobs : List Job)
    (h : jobsNo64 jobs = true) : NP (Lang.TypeScript.generateAll E cfg multi jobs) :=
  TypeScript.generateAll_np E cfg multi jobs h

def Python_full : Prop :=
  ∀ (E : Ext) (cfg : Lang.Python.Cfg) (multi : Bool) (jobs : List Job),
    NP (Lang.Python.generateAll E cfg multi jobs)

/-- a job no parser run can produce: a `RustEnum::Unit` holding a tuple variant -/
def dataBadUnit : ParsedData :=
  { enums := [{ keys := none, id := mkId s%"E", genericTypes := [], comments := [], decorators := {},
                isRecursive := false, isRedacted := false,
                variants := [.tuple (mkId s%"V") [] (.prim .u32)] }] }
def jobBadUnit : Job := (s%"c", dataBadUnit, none)

/-- the `unreachable!()` of `write_enum` -/
theorem python_witness : Lang.Python.generateAll exE {} false [jobBadUnit] = .panic s%"python.rs:368" := by
  rw [Lang.Python.generateAll, RunEval.Python.generateFrom_eq]
  decide +kernel

theorem Python_not_full : ¬ Python_full :=
  fun h => np_absurd (h exE {} false [jobBadUnit]) python_witness

/-- Python never panics on jobs whose unit enums hold unit variants only -/
theorem Python_partial (E : Ext) (cfg : Lang.Python.Cfg) (multi : Bool) (jobs : List Job)
    (h : jobsUnitOk jobs = true) : NP (Lang.Python.generateAll E cfg multi jobs) :=
  Python.generateAll_np E cfg multi jobs h

def Go_full : Prop :=
  ∀ (E : Ext) (cfg : Lang.Go.Cfg) (multi : Bool) (jobs : List Job),
    NP (Lang.Go.generateAll E cfg multi jobs)

/-- the open finding `go-nonascii-acronym`: `uppercase_acronyms = ["ü"]` and a type named `ü` -/
def goCfgBad : Lang.Go.Cfg := { package := s%"p", uppercaseAcronyms := [s%"ü"] }
def dataUmlaut : ParsedData :=
  { structs := [{ id := mkId s%"ü", genericTypes := [], comments := [], decorators := {},
                  isRedacted := false, fields := [] }] }
def jobUmlaut : Job := (s%"c", dataUmlaut, none)

/-- the job is well formed — the panic is the configuration's -/
example : jobsNo64 [jobUmlaut] = true ∧ jobsUnitOk [jobUmlaut] = true := by decide +kernel

/-- `replace_range(0..1)` inside the two-byte `ü`: `is_char_boundary` assertion, go.rs:600 -/
theorem go_acronym_witness :
    Lang.Go.generateAll exE goCfgBad false [jobUmlaut] = .panic s%"go.rs:600" := by
  rw [Lang.Go.generateAll, RunEval.Go.generateFrom_eq]
  decide +kernel

theorem Go_not_full : ¬ Go_full :=
  fun h => np_absurd (h exE goCfgBad false [jobUmlaut]) go_acronym_witness

/-- neither hypothesis of `Go_partial` can be dropped: the acronym condition (above, on a well-formed
job) and the unit-enum condition (here, with no acronyms configured at all) -/
theorem go_unit_witness : Lang.Go.generateAll exE {} false [jobBadUnit] = .panic s%"go.rs:301" := by
  rw [Lang.Go.generateAll, RunEval.Go.generateFrom_eq]
  decide +kernel

/-- Go never panics when the acronyms are `cfgOk` and unit enums hold unit variants only -/
theorem Go_partial (E : Ext) (cfg : Lang.Go.Cfg) (multi : Bool) (jobs : List Job)
    (hc : Go.cfgOk E.U cfg = true) (h : jobsUnitOk jobs = true) :
    NP (Lang.Go.generateAll E cfg multi jobs) := Go.generateAll_np E cfg multi jobs hc h

/-- what the parser and the glue hand to the back ends is well formed (so the `jobsNo64` /
`jobsUnitOk` hypotheses above are met in every run) -/
theorem crates_well_formed (E : Ext) (ctx : ParseContext) (pick : List ImportedType → Option ImportedType)
    (files : List Generate.SourceFile) (arrivals : List ParsedData)
    (h : Generate.parseAll E ctx pick files = .ok arrivals) :
    ∀ p ∈ Pipeline.reconcile (Pipeline.collect arrivals), dataNo64 p.2 = true ∧ dataUnitOk p.2 = true :=
  fun p hp => ⟨(crates_wf E ctx pick files arrivals h p hp).no64, (crates_wf E ctx pick files arrivals h p hp).unitOk⟩

/-- **C07 for the in-process pipeline at full strength**: no input, configuration or language makes
`generate_types` panic -/
def Run_full : Prop :=
  ∀ (E : Ext) (lang : Generate.LangCfg) (multi : Bool) (targetOs : List Str)
    (pick : List ImportedType → Option ImportedType) (files : List Generate.SourceFile),
    NP (Generate.run E lang multi targetOs pick files)

def tsAttr : Attr := ⟨.path [s%"typeshare"]⟩

/-- `#[typeshare] struct ü;` -/
def fileUmlaut : Generate.SourceFile :=
  { crateName := s%"c", fileName := s%"a.rs", path := s%"a.rs",
    file := { attrs := [], marker := true, items := [.struct [tsAttr] s%"ü" [] .unit] } }

/-- the same finding end to end, from source text to panic -/
theorem run_go_witness :
    (Generate.run exE (.go goCfgBad) false [] (fun l => l.head?) [fileUmlaut]).isPanic = true := by
  rw [RunEval.run_eq]
  decide +kernel

theorem run_not_full : ¬ Run_full :=
  fun h => Bool.noConfusion ((h exE (.go goCfgBad) false [] (fun l => l.head?) [fileUmlaut]).symm.trans run_go_witness)

/-- the narrow, decidable class of configurations outside the theorem: the target is Go and some
`uppercase_acronyms` entry is not `acronymOk` -/
def Known_goAcronym (E : Ext) (lang : Generate.LangCfg) : Prop := GoOk E lang = false

instance (E : Ext) (lang : Generate.LangCfg) : Decidable (Known_goAcronym E lang) := by
  unfold Known_goAcronym; infer_instance

/-- **the whole pipeline never panics** — for every set of source files `syn` accepts, single- or
multi-file mode, every `--target-os` list, every hash-order choice `pick`, all six languages and every
configuration, except a Go configuration with a non-`acronymOk` acronym -/
theorem run_never_panics (E : Ext) (lang : Generate.LangCfg) (multi : Bool) (targetOs : List Str)
    (pick : List ImportedType → Option ImportedType) (files : List Generate.SourceFile)
    (hgo : GoOk E lang = true) : NP (Generate.run E lang multi targetOs pick files) :=
  run_np E lang multi targetOs pick files hgo

theorem Run_partial (E : Ext) (lang : Generate.LangCfg) (multi : Bool) (targetOs : List Str)
    (pick : List ImportedType → Option ImportedType) (files : List Generate.SourceFile)
    (hk : ¬ Known_goAcronym E lang) : NP (Generate.run E lang multi targetOs pick files) :=
  run_never_panics E lang multi targetOs pick files (eq_true_of_ne_false hk)

/-- for the five other languages there is no hypothesis -/
theorem run_never_panics_nonGo (E : Ext) (lang : Generate.LangCfg) (multi : Bool) (targetOs : List Str)
    (pick : List ImportedType → Option ImportedType) (files : List Generate.SourceFile)
    (h : ∀ cfg, lang ≠ .go cfg) : NP (Generate.run E lang multi targetOs pick files) := by
  apply run_never_panics
  cases lang with
  | go cfg => exact absurd rfl (h cfg)
  | _ => rfl

/-- for Go with Rust's case mapping on ASCII: ASCII acronyms suffice -/
theorem run_never_panics_go_ascii (E : Ext) (hU : E.U.AsciiCorrect) (cfg : Lang.Go.Cfg)
    (hc : cfg.uppercaseAcronyms.all Go.asciiStr = true) (multi : Bool) (targetOs : List Str)
    (pick : List ImportedType → Option ImportedType) (files : List Generate.SourceFile) :
    NP (Generate.run E (.go cfg) multi targetOs pick files) :=
  run_never_panics E (.go cfg) multi targetOs pick files (Go.cfgOk_of_ascii hU hc)

def goCfgGood : Lang.Go.Cfg := { package := s%"p", uppercaseAcronyms := [s%"id", s%"url", s%"API"] }

/-- the hypothesis is met by an ordinary configuration -/
example : GoOk exE (.go goCfgGood) = true := by decide +kernel
example : goCfgGood.uppercaseAcronyms.all Go.asciiStr = true := by decide +kernel
example : Known_goAcronym exE (.go goCfgBad) := by decide +kernel

def serdeTC : Attr :=
  ⟨.list [s%"serde"] true [.nameValue [s%"tag"] (some (.str s%"t")), .nameValue [s%"content"] (some (.str s%"c"))]⟩
def src (items : List Item) : Generate.SourceFile :=
  { crateName := s%"c", fileName := s%"a.rs", path := s%"a.rs", file := { attrs := [], marker := true, items } }

/-- `struct UserId { id: u32, tags: Vec<String> }` -/
def fileStruct : Generate.SourceFile :=
  src [.struct [tsAttr] s%"UserId" [] (.named [⟨[], some s%"id", .path [] s%"u32" []⟩,
         ⟨[], some s%"tags", .path [] s%"Vec" [.path [] s%"String" []]⟩])]
/-- `enum Color { Red, Green }` -/
def fileUnitEnum : Generate.SourceFile :=
  src [.enum [tsAttr] s%"Color" [] [⟨[], s%"Red", .unit⟩, ⟨[], s%"Green", .unit⟩]]
/-- `#[serde(tag = "t", content = "c")] enum Shape { Dot, Circle(f32), Rect { w: u32 } }` -/
def fileAlgEnum : Generate.SourceFile :=
  src [.enum [tsAttr, serdeTC] s%"Shape" []
         [⟨[], s%"Dot", .unit⟩, ⟨[], s%"Circle", .unnamed [⟨[], none, .path [] s%"f32" []⟩]⟩,
          ⟨[], s%"Rect", .named [⟨[], some s%"w", .path [] s%"u32" []⟩]⟩]]

/-- the theorem is not about runs that fail anyway: whole Go runs that succeed — through the acronym
pass (`UserID`, `ID`), the `unreachable!()` of unit enums and the `unwrap()` of tuple variants -/
example : (match Generate.run exE (.go goCfgGood) false [] (fun l => l.head?) [fileStruct] with
    | .ok (.outputs [(_, text)]) => text == s%"package p\n\nimport \"encoding/json\"\n\ntype UserID struct {\n\tID uint32 `json:\"id\"`\n\tTags []string `json:\"tags\"`\n}\n"
    | _ => false) = true := by
  rw [RunEval.run_eq]
  decide +kernel
example : (Generate.run exE (.go goCfgGood) false [] (fun l => l.head?) [fileUnitEnum]).isOk = true := by
  rw [RunEval.run_eq]
  decide +kernel
example : (Generate.run exE (.go goCfgGood) true [] (fun l => l.head?) [fileAlgEnum]).isOk = true := by
  rw [RunEval.run_eq]
  decide +kernel

/-- what the parser hands on for the three files, as jobs for the other back ends -/
def jobOf (f : Generate.SourceFile) : Job :=
  match getOk (Generate.parseAll exE {} (fun l => l.head?) [f]) with
  | [d] => (s%"c", d, none)
  | _ => default

/-- …and they succeed in the five other languages -/
theorem order_struct : Pipeline.generateOrder (jobOf fileStruct).2.1 = some (itemsOf (jobOf fileStruct).2.1) :=
  generateOrder_trivial (by decide +kernel)
theorem order_alg : Pipeline.generateOrder (jobOf fileAlgEnum).2.1 = some (itemsOf (jobOf fileAlgEnum).2.1) :=
  generateOrder_trivial (by decide +kernel)
example : (Lang.TypeScript.generateAll exE {} false [(s%"c", (jobOf fileAlgEnum).2.1, none)]).isOk = true := by
  rw [Lang.TypeScript.generateAll, RunEval.TypeScript.generateFrom_eq]
  decide +kernel
example : (Lang.Python.generateAll exE {} false [(s%"c", (jobOf fileAlgEnum).2.1, none)]).isOk = true := by
  rw [Lang.Python.generateAll, RunEval.Python.generateFrom_eq]
  decide +kernel
example : (Lang.Kotlin.generateAll exE { package := s%"p" } false [(s%"c", (jobOf fileAlgEnum).2.1, none)]).isOk = true := by
  rw [Lang.Kotlin.generateAll, RunEval.Kotlin.generateFrom_eq]
  decide +kernel
example : (Lang.Swift.generateAll exE {} false [(s%"c", (jobOf fileStruct).2.1, none)]).isOk = true := by
  rw [Lang.Swift.generateAll, RunEval.Swift.generateFrom_eq]
  decide +kernel
example : (Lang.Scala.generateAll exE { package := s%"p" } false [jobOf fileAlgEnum]).isOk = true := by
  decide +kernel

/-- the acronym pass really runs in the Go example -/
example : Lang.Go.convertAcronyms .ascii goCfgGood.uppercaseAcronyms s%"UserId" = .ok s%"UserID" := by
  decide +kernel

/-- a `u64` field is a parse *error* (reported by `check_parse_errors`), never the TypeScript panic -/
def file64 : Generate.SourceFile :=
  src [.struct [tsAttr] s%"A" [] (.named [⟨[], some s%"x", .path [] s%"u64" []⟩])]
example : (match Generate.run exE (.go goCfgGood) false [] (fun l => l.head?) [file64] with
    | .ok (.parseErrors [(e, _)]) => e == .unsupportedType
    | _ => false) = true := by
  rw [RunEval.run_eq]
  decide +kernel
example : ((getOk (Generate.parseAll exE {} (fun l => l.head?) [file64])).map fun d =>
    (d.structs.length, d.errors.map (·.1))) = [(0, [.unsupportedType])] := by decide +kernel

/-- the well-formedness predicates on a non-trivial job -/
def jobOk : Job :=
  (s%"c", { structs := [{ id := mkId s%"A", genericTypes := [s%"T"], comments := [], decorators := {}, isRedacted := false,
                          fields := [{ id := mkId s%"x", ty := .vec (.option (.prim .u32)), comments := [],
                                       hasDefault := false, decorators := [] },
                                     { id := mkId s%"m", ty := .hashMap (.prim .string) (.generic s%"B" [.simple s%"T"]),
                                       comments := [], hasDefault := true, decorators := [] }] }],
            enums := [{ keys := none, id := mkId s%"E", genericTypes := [], comments := [], decorators := {},
                        isRecursive := false, isRedacted := false,
                        variants := [.unit (mkId s%"V") [], .unit (mkId s%"W") []] },
                      { keys := some (s%"t", s%"c"), id := mkId s%"F", genericTypes := [], comments := [],
                        decorators := {}, isRecursive := false, isRedacted := false,
                        variants := [.unit (mkId s%"V") [], .tuple (mkId s%"W") [] (.prim .i54)] }] }, none)
example : jobsNo64 [jobOk] = true ∧ jobsUnitOk [jobOk] = true := by decide +kernel
example : jobsNo64 [job64] = false := by decide +kernel
example : jobsUnitOk [jobBadUnit] = false := by decide +kernel

end TsV.C07_Backends
