import TsV.Lemmas.C06_Multi_Parse
import TsV.Props.C06
/-!
# C06 in multi-file mode — several crates, imports, hash orders

"Output is a deterministic function of the inputs, not of scheduling or hashing."  In multi-file mode the
schedule / hash dependent ingredients of a run are

1. the order in which the parallel walker delivers the per-file results to the collector (`arrivals`),
2. the iteration order of every `HashSet<ImportedType>` (`import_types`: in each file, in the merged per-crate
   data where `resolve_renamed` and `used_imports` iterate over it) and `HashSet<String>` (`type_names`),
3. the iteration order of the `HashMap` `all_types` (only the re-export fallback of `used_imports` depends on
   it: `Generate.firstOther`),
4. the element `HashSet::find` returns in `reconcile_referenced_types` (`pick`).

The theorems below show that the job list handed to the back ends — and hence the output of all six back
ends — does not depend on 1–4, provided
* `WFm`: per crate one output file name / mode, type names and const names unique within each crate
  (as in single-file `C06_arrival_order`).
Nothing is assumed about the imports.  Until the `fix:` commit "resolve a type name imported from several crates the
same way in every run" the three look-ups `find_type` (4), `resolve_renamed` (2) and the re-export fallback of
`used_imports` (3) took the *first* match in hash order, and a type name reachable from two crates made the output
depend on it.  Since that commit each look-up takes the candidate whose crate name is smallest (`Pipeline.minByKey`,
`Visitor.minCrate`); the inputs that showed the dependence are regression examples below (both hash orders give the
same jobs), and `C06_multi_not_full` shows the one class that is left: two types of the same name in one crate keep
their arrival order.

Hash orders are modelled by quantifying over *representatives*: `MapEq m m'` says that `m'` is the collected map
`m` with every item vector and every hash set in another order; every theorem holds for all representatives.
-/
namespace TsV.C06
open TsV TsV.Pipeline TsV.Collect TsV.C06M TsV.C03E

/-! ## hypotheses on the arrivals -/

def typeKeys (l : List ParsedData) : List Str :=
  (l.flatMap (·.structs)).map (·.id.original) ++ (l.flatMap (·.enums)).map (·.id.original) ++
    (l.flatMap (·.aliases)).map (·.id.original)

def constKeys (l : List ParsedData) : List Str := (l.flatMap (·.consts)).map (·.id.original)

/-- per crate: one file name and mode; no two types share an original name; no two consts do -/
structure WFm (a : List ParsedData) : Prop where
  uniform : UniformPerCrate a
  types : ∀ d ∈ a, (typeKeys (arr a d.crateName)).Nodup
  consts : ∀ d ∈ a, (constKeys (arr a d.crateName)).Nodup

theorem mapWF_collect {a : List ParsedData} (h : WFm a) : MapWF (collect a) :=
  mapWF_collect_of a h.types h.consts

/-! ## 1. arrival order, several crates -/

/-- **the collector**: permuted arrivals give the same crates in the same (sorted) order and, per crate,
permutation-equal item lists, equal hash sets and equal meta data -/
theorem C06_multi_collect (a b : List ParsedData) (hp : a.Perm b) (hu : UniformPerCrate a) :
    MapEq (collect a) (collect b) :=
  collect_mapEq_of a b (partRel_of_perm a b hp hu)

/-- the same for the hash order *inside* every arrival (`import_types`, `type_names` of a file) -/
theorem C06_multi_collect_file_hash_order (a a' : List ParsedData) (h : Rel₂ FileEq a a')
    (hu : UniformPerCrate a) : MapEq (collect a) (collect a') :=
  collect_mapEq_of a a' (partRel_of_fileEq a a' h hu)

/-- **C06, arrival order, several crates.**  For permuted arrivals the reconciled crates agree on everything
`generate_types` reads (`view`: crate key, sorted structs / enums / aliases / consts, file name, mode), on the
crate name, on `import_types` and `type_names` *as sets*, and on the recorded errors up to order. -/
theorem C06_multi_arrival_order (a b : List ParsedData) (hp : a.Perm b) (hw : WFm a) :
    (reconcile (collect a)).map view = (reconcile (collect b)).map view ∧
    Rel₂ (fun p q : Str × ParsedData => p.2.crateName = q.2.crateName ∧
        (∀ i, i ∈ p.2.importTypes ↔ i ∈ q.2.importTypes) ∧ (∀ t, t ∈ p.2.typeNames ↔ t ∈ q.2.typeNames) ∧
        p.2.errors.Perm q.2.errors)
      (reconcile (collect a)) (reconcile (collect b)) := by
  have h := reconcile_mapEq (C06_multi_collect a b hp hw.uniform) (mapWF_collect hw)
  exact ⟨h.map_eq fun _ _ _ _ hr => view_congr hr,
    rel₂_iff.2 (h.imp fun _ _ hr => ⟨hr.crateName, hr.imports, hr.typeNames, hr.errors⟩)⟩

/-- **hash order of `import_types` in `resolve_renamed`**: every permutation of the import list resolves every
identifier alike (whatever is imported: the renaming crate with the smallest name decides) -/
theorem C06_resolve_import_order (crate : Str) (r : Renames) (imports₁ imports₂ : List ImportedType)
    (hp : imports₁.Perm imports₂) (id : Str) :
    resolveRenamed crate r imports₁ id = resolveRenamed crate r imports₂ id :=
  MinByKey.resolve_perm crate r imports₁ imports₂ id hp

/-- what it resolves to: if some import of `id` comes from a crate that renames it, the new name given by the
smallest such crate (by `Str.le`, Rust's `String: Ord`) -/
theorem C06_resolve_smallest_crate (crate : Str) (r : Renames) (imports : List ImportedType) (id n : Str)
    (h : resolveRenamed crate r imports id = some n) :
    (∃ c, (⟨c, id⟩ : ImportedType) ∈ imports ∧ renameOf r id c = some n ∧
      ∀ c' n', (⟨c', id⟩ : ImportedType) ∈ imports → renameOf r id c' = some n' → Str.le c c' = true) ∨
    ((∀ c' n', (⟨c', id⟩ : ImportedType) ∈ imports → renameOf r id c' ≠ some n') ∧ renameOf r id crate = some n) := by
  rw [MinByKey.resolveRenamed_eq] at h
  split at h
  · exact absurd h (by simp)
  · cases hm : minByKey (MinByKey.renCands r imports id) with
    | some m =>
      rw [hm] at h
      simp only [Option.some.injEq] at h
      have h1 := MinByKey.mem_renCands.1 (MinByKey.minByKey_mem hm)
      refine Or.inl ⟨m.1, h1.1, h ▸ h1.2, fun c' n' hc hr => ?_⟩
      exact MinByKey.minByKey_le hm (c', n') (MinByKey.mem_renCands.2 ⟨hc, hr⟩ : (c', n') ∈ _)
    | none =>
      rw [hm] at h
      refine Or.inr ⟨fun c' n' hc hr => ?_, h⟩
      have : (c', n') ∈ MinByKey.renCands r imports id := MinByKey.mem_renCands.2 ⟨hc, hr⟩
      rw [MinByKey.minByKey_eq_none.1 hm] at this
      simp at this

/-- the same for the whole of `reconcile`: any representative `m'` of the collected map (item vectors and hash
sets in any order) reconciles to the same views -/
theorem C06_multi_reconcile_hash_order (a : List ParsedData) (hw : WFm a)
    (m' : List (Str × ParsedData)) (h : MapEq (collect a) m') :
    (reconcile (collect a)).map view = (reconcile m').map view :=
  (reconcile_mapEq h (mapWF_collect hw)).map_eq fun _ _ _ _ hr => view_congr hr

/-! ## 2. hash order of the import fold in `used_imports` -/

/-- **`used_imports` does not depend on the iteration order of `import_types`** (no hypothesis needed: the
result is a sorted map of sorted sets and the fold computes a union) -/
theorem C06_usedImports_import_order (d : ParsedData) (all : List (Str × List Str))
    (imports₁ imports₂ : List ImportedType) (fo : Str → Option Str) (hp : imports₁.Perm imports₂) :
    usedImports d all imports₁ fo = usedImports d all imports₂ fo :=
  usedImports_perm d all imports₁ imports₂ fo hp

theorem C06_usedImports_sorted (d : ParsedData) (all : List (Str × List Str)) (imports : List ImportedType)
    (fo : Str → Option Str) : WFS (usedImports d all imports fo) := usedImports_wfs d all imports fo

/-- … nor on the fallback choice `firstOther` when no import takes the fallback, nor on the order of the
name sets in `all_types` -/
theorem C06_usedImports_firstOther (d : ParsedData) (all all' : List (Str × List Str))
    (imports : List ImportedType) (fo fo' : Str → Option Str) (ha : AllRel all all')
    (hnf : ∀ i ∈ imports, i.baseCrate ≠ d.crateName → takesFallback all i = true →
      fo i.typeName = fo' i.typeName) :
    usedImports d all imports fo = usedImports d all' imports fo' :=
  usedImports_congr d d rfl all all' imports imports fo fo' (fun _ => Iff.rfl)
    fun i hi hne => contrib_congr all all' fo fo' i ha (hnf i hi hne)

/-- **hash order of `all_types`**: the fallback finds the same crate in every iteration order, however many
crates define the name -/
theorem C06_firstOther_hash_order (all all' : List (Str × List Str)) (cur name : Str) (hp : all.Perm all') :
    Generate.firstOther all cur name = Generate.firstOther all' cur name :=
  MinByKey.firstOther_perm all all' cur name hp

/-- which one: a crate other than the current one that defines the name, and the smallest such crate -/
theorem C06_firstOther_smallest_crate (all : List (Str × List Str)) (cur name c : Str)
    (h : Generate.firstOther all cur name = some c) :
    (∃ ns, (c, ns) ∈ all ∧ c ≠ cur ∧ name ∈ ns) ∧
      ∀ c' ns, (c', ns) ∈ all → c' ≠ cur → name ∈ ns → Str.le c c' = true :=
  MinByKey.firstOther_spec h

/-- hence `used_imports` as a whole: any two iteration orders of `import_types`, and of `all_types` where it is
iterated (the fallback; `all_types.get(crate)` is a keyed look-up) -/
theorem C06_usedImports_hash_order (d : ParsedData) (all all' : List (Str × List Str))
    (imports₁ imports₂ : List ImportedType) (hi : imports₁.Perm imports₂) (hp : all.Perm all') :
    usedImports d all imports₁ (Generate.firstOther all d.crateName) =
      usedImports d all imports₂ (Generate.firstOther all' d.crateName) := by
  rw [usedImports_perm d all imports₁ imports₂ _ hi]
  have : Generate.firstOther all d.crateName = Generate.firstOther all' d.crateName :=
    funext fun n => MinByKey.firstOther_perm all all' d.crateName n hp
  rw [this]

/-! ## 3. the job list of a multi-file run -/

/-- arrivals that differ by the arrival order *and* by the hash order inside every file -/
def ArrEq (a b : List ParsedData) : Prop := ∃ a', Rel₂ FileEq a a' ∧ a'.Perm b

theorem uniform_of_fileEq {a a' : List ParsedData} (h : Rel₂ FileEq a a') (hu : UniformPerCrate a) :
    UniformPerCrate a' := by
  intro d hd d' hd' hc
  obtain ⟨x, hx, hxd⟩ := (rel₂_iff.1 h).mem_right d hd
  obtain ⟨y, hy, hyd⟩ := (rel₂_iff.1 h).mem_right d' hd'
  have := hu x hx y hy (hxd.crateName.trans (hc.trans hyd.crateName.symm))
  exact ⟨hxd.fileName.symm.trans (this.1.trans hyd.fileName), hxd.multiFile.symm.trans (this.2.trans hyd.multiFile)⟩

theorem C06_multi_collect_arrEq (a b : List ParsedData) (h : ArrEq a b) (hu : UniformPerCrate a) :
    MapEq (collect a) (collect b) := by
  obtain ⟨a', h1, h2⟩ := h
  exact (C06_multi_collect_file_hash_order a a' h1 hu).trans
    (C06_multi_collect a' b h2 (uniform_of_fileEq h1 hu))

/-- the job list does not depend on the arrival order, nor on any hash order inside a file, of the collected
map or of `all_types` -/
theorem C06_multi' (a b : List ParsedData) (hp : ArrEq a b) (hw : WFm a)
    (m₁ m₂ : List (Str × ParsedData)) (h₁ : MapEq (collect a) m₁) (h₂ : MapEq (collect b) m₂)
    (σ₁ σ₂ : List (Str × List Str) → List (Str × List Str))
    (hσ₁ : ∀ l, (σ₁ l).Perm l) (hσ₂ : ∀ l, (σ₂ l).Perm l) :
    (jobsWith σ₁ m₁).map jobView = (jobsWith σ₂ m₂).map jobView := by
  have wf := mapWF_collect hw
  have e1 := jobs_congr h₁ wf id σ₁ (fun _ => .refl _) hσ₁
  have e2 := jobs_congr ((C06_multi_collect_arrEq a b hp hw.uniform).trans h₂) wf id σ₂ (fun _ => .refl _) hσ₂
  exact e1.symm.trans e2

/-- **C06, multi-file mode.**  The jobs `(crate, data, scoped imports)` that `Generate.run` hands to the back
ends (`Run.run_eq`: `runJobs true (reconcile m)` unfolds to `jobsWith id m`) are, as far as any back end can see
(`jobView`), the same for
* every permutation `b` of the arrivals `a`,
* every representative `m₁` / `m₂` of the collected maps — i.e. every iteration order of every `import_types`
  and `type_names` set (and every order of the item vectors),
* every iteration order `σ₁` / `σ₂` of the `all_types` hash map. -/
theorem C06_multi (a b : List ParsedData) (hp : a.Perm b) (hw : WFm a)
    (m₁ m₂ : List (Str × ParsedData)) (h₁ : MapEq (collect a) m₁) (h₂ : MapEq (collect b) m₂)
    (σ₁ σ₂ : List (Str × List Str) → List (Str × List Str))
    (hσ₁ : ∀ l, (σ₁ l).Perm l) (hσ₂ : ∀ l, (σ₂ l).Perm l) :
    (jobsWith σ₁ m₁).map jobView = (jobsWith σ₂ m₂).map jobView :=
  C06_multi' a b ⟨a, rel₂_iff.2 (.refl fun d _ => FileEq.refl d), hp⟩ hw m₁ m₂ h₁ h₂ σ₁ σ₂ hσ₁ hσ₂

/-! ## 4. through `Generate.run`: walk order, `find` choice, all six back ends -/

/-- two results of a run: equal, or both aborted by `check_parse_errors` with the same errors in another order -/
def RunSim : Outcome Generate.RunResult → Outcome Generate.RunResult → Prop
  | .ok (.parseErrors e), .ok (.parseErrors e') => e.Perm e'
  | x, y => x = y

theorem RunSim.of_eq {x y : Outcome Generate.RunResult} (h : x = y) : RunSim x y := by
  subst h
  cases x with
  | ok r =>
    cases r with
    | outputs o => rfl
    | parseErrors e => exact List.Perm.refl e
  | err e => rfl
  | panic s => rfl

/-- **C06, multi-file mode, whole run.**  If the files parse, then for every order in which the walker visits
the files and every choice `min_by_key` makes among equally minimal candidates in `find_type` (`pick`) the run
produces the same output files with the same
contents, for each of the six back ends (or aborts with the same parse errors, listed in another order). -/
theorem C06_multi_run (E : Ext) (lang : Generate.LangCfg) (targetOs : List Str)
    (pick pick' : List ImportedType → Option ImportedType) (files files' : List Generate.SourceFile)
    (hf : files.Perm files') (hpk : ValidPick pick) (hpk' : ValidPick pick')
    (a : List ParsedData)
    (ha : Generate.parseAll E { ignoredTypes := Generate.ignoredTypes lang, multiFile := true, targetOs } pick files
      = .ok a)
    (hw : WFm a) :
    RunSim (Generate.run E lang true targetOs pick files) (Generate.run E lang true targetOs pick' files') := by
  have ha' := ha
  rw [parseAll_pick E _ hpk hpk' files] at ha'
  obtain ⟨b, hb, hab⟩ := parseAll_perm E _ pick' hf a ha'
  have hme := C06_multi_collect a b hab hw.uniform
  have wf := mapWF_collect hw
  have hp := allErrors_perm hme wf
  rw [Run.run_of_parse ha, Run.run_of_parse hb]
  by_cases he : allErrors (reconcile (collect a)) = []
  · rw [Run.finish_of_clean he, Run.finish_of_clean (he ▸ hp).symm.eq_nil]
    exact RunSim.of_eq (congrArg (Outcome.bind · _)
      (genAll_congr E lang true (jobs_congr hme wf id id (fun _ => .refl _) (fun _ => .refl _))))
  · rw [Run.finish_of_errors he, Run.finish_of_errors fun e => he (e ▸ hp).eq_nil]
    exact hp

/-- without recorded parse errors: literally the same result -/
theorem C06_multi_run_eq (E : Ext) (lang : Generate.LangCfg) (targetOs : List Str)
    (pick pick' : List ImportedType → Option ImportedType) (files files' : List Generate.SourceFile)
    (hf : files.Perm files') (hpk : ValidPick pick) (hpk' : ValidPick pick')
    (a : List ParsedData)
    (ha : Generate.parseAll E { ignoredTypes := Generate.ignoredTypes lang, multiFile := true, targetOs } pick files
      = .ok a)
    (hw : WFm a) (hne : allErrors (reconcile (collect a)) = []) :
    Generate.run E lang true targetOs pick files = Generate.run E lang true targetOs pick' files' := by
  have h := C06_multi_run E lang targetOs pick pick' files files' hf hpk hpk' a ha hw
  rw [Run.run_of_parse ha, Run.finish_of_clean hne] at h ⊢
  cases hg : genAll E lang true (C14_Helpers.runJobs true (reconcile (collect a))) <;> rw [hg] at h <;> exact h

/-! ## the statement at full strength, and the one class on which it still fails -/

/-- C06 for multi-file mode without any hypothesis on names or imports (`UniformPerCrate` is an invariant of real
arrivals: the crate determines the output file name and the mode) -/
def C06_multi_full : Prop :=
  ∀ (a b : List ParsedData) (m₁ m₂ : List (Str × ParsedData))
    (σ₁ σ₂ : List (Str × List Str) → List (Str × List Str)),
    a.Perm b → UniformPerCrate a → MapEq (collect a) m₁ → MapEq (collect b) m₂ →
    (∀ l, (σ₁ l).Perm l) → (∀ l, (σ₂ l).Perm l) →
    (jobsWith σ₁ m₁).map jobView = (jobsWith σ₂ m₂).map jobView

/-- the one class of inputs on which it fails: a crate with two types, or two consts, of the same name
(decidable).  A type name reachable from two crates is not in it: see `C06_multi_imports_full`. -/
def Known_duplicate_names (a : List ParsedData) : Prop :=
  ¬ ((∀ d ∈ a, (typeKeys (arr a d.crateName)).Nodup) ∧ (∀ d ∈ a, (constKeys (arr a d.crateName)).Nodup))

instance (a : List ParsedData) : Decidable (Known_duplicate_names a) := by
  unfold Known_duplicate_names; infer_instance

/-- **C06 in multi-file mode, every import pattern.**  The statement at full strength restricted only by "no two
types / consts of one crate share a name": whatever is imported from wherever — the same type name from two or
three crates, renamed by none, some or all of them, through `use`, qualified paths, `self::` / `crate::` paths or a
re-exporting crate that is not part of the run — the jobs do not depend on the arrival order nor on any hash
iteration order.  (False before the repair of the three look-ups.) -/
def C06_multi_imports_full : Prop :=
  ∀ (a b : List ParsedData) (m₁ m₂ : List (Str × ParsedData))
    (σ₁ σ₂ : List (Str × List Str) → List (Str × List Str)),
    a.Perm b → UniformPerCrate a → MapEq (collect a) m₁ → MapEq (collect b) m₂ →
    (∀ l, (σ₁ l).Perm l) → (∀ l, (σ₂ l).Perm l) → ¬ Known_duplicate_names a →
    (jobsWith σ₁ m₁).map jobView = (jobsWith σ₂ m₂).map jobView

theorem C06_multi_partial (a b : List ParsedData) (m₁ m₂ : List (Str × ParsedData))
    (σ₁ σ₂ : List (Str × List Str) → List (Str × List Str))
    (hp : a.Perm b) (hun : UniformPerCrate a) (h₁ : MapEq (collect a) m₁) (h₂ : MapEq (collect b) m₂)
    (hσ₁ : ∀ l, (σ₁ l).Perm l) (hσ₂ : ∀ l, (σ₂ l).Perm l)
    (k1 : ¬ Known_duplicate_names a) :
    (jobsWith σ₁ m₁).map jobView = (jobsWith σ₂ m₂).map jobView := by
  have hd := Classical.not_not.1 k1
  exact C06_multi a b hp ⟨hun, hd.1, hd.2⟩ m₁ m₂ h₁ h₂ σ₁ σ₂ hσ₁ hσ₂

theorem C06_multi_imports : C06_multi_imports_full := C06_multi_partial

/-! ## non-vacuity, regression examples and the remaining counter-example -/

def mkS (orig ren : Str) (sr : Bool) (fields : List (Str × RustType)) : RustStruct :=
  { id := ⟨orig, ren, sr⟩, genericTypes := [],
    fields := fields.map fun p => ⟨⟨p.1, p.1, false⟩, p.2, [], false, []⟩,
    comments := [], decorators := {}, isRedacted := false }

def tyName : RustType → Str
  | .simple id => id
  | _ => []

/-- the field types of the structs of a job -/
def fieldTypes (v : Str × List RustStruct × List RustEnum × List RustTypeAlias × List RustConst ×
    Str × Str × Bool × Option ScopedCrateTypes) : List (List Str) :=
  v.2.1.map fun s => s.fields.map fun f => tyName f.ty

/-! ### a two-crate run with a cross-crate import

crate `a` (two files): `#[serde(rename = "FooR")] struct Foo`, `struct Qux`;
crate `b`: `use a::{Foo, Qux}; struct Bar { f: Foo, g: Qux }`. -/

def fA1 : ParsedData :=
  { structs := [mkS s%"Foo" s%"FooR" true []], typeNames := [s%"FooR"], crateName := s%"a", fileName := s%"a",
    multiFile := true }
def fA2 : ParsedData :=
  { structs := [mkS s%"Qux" s%"Qux" false []], typeNames := [s%"Qux"], crateName := s%"a", fileName := s%"a",
    multiFile := true }
def fB : ParsedData :=
  { structs := [mkS s%"Bar" s%"Bar" false [(s%"f", .simple s%"Foo"), (s%"g", .simple s%"Qux")]],
    importTypes := [⟨s%"a", s%"Foo"⟩, ⟨s%"a", s%"Qux"⟩], typeNames := [s%"Bar"], crateName := s%"b",
    fileName := s%"b", multiFile := true }
def exArr : List ParsedData := [fB, fA1, fA2]

instance (a : List ParsedData) : Decidable (UniformPerCrate a) := by unfold UniformPerCrate; infer_instance

/-- a concrete list of arrivals is well-formed by one evaluation -/
instance (a : List ParsedData) : Decidable (WFm a) :=
  decidable_of_iff (UniformPerCrate a ∧ (∀ d ∈ a, (typeKeys (arr a d.crateName)).Nodup) ∧
      ∀ d ∈ a, (constKeys (arr a d.crateName)).Nodup)
    ⟨fun h => ⟨h.1, h.2.1, h.2.2⟩, fun h => ⟨h.1, h.2, h.3⟩⟩

theorem exArr_wf : WFm exArr := by decide +kernel

section
/-- composed by hand: instance search gives up on this product within its default size -/
local instance : DecidableEq (Str × List (List Str) × Option ScopedCrateTypes) :=
  @instDecidableEqProd _ _ inferInstance (@instDecidableEqProd _ _ inferInstance inferInstance)

/-- the hypotheses of `C06_multi` are met, and the result is not trivial: the reference to `Foo` in crate `b`
is rewritten to crate `a`'s serde name, crate `b` imports `Qux` from `a` -/
example : ((jobsWith id (collect exArr)).map jobView).map (fun v => (v.1, fieldTypes v, v.2.2.2.2.2.2.2.2)) =
    [(s%"a", [[], []], some []), (s%"b", [[s%"FooR", s%"Qux"]], some [(s%"a", [s%"Qux"])])] := by
  simp only [jobsWith, reconcile, reconcileOne, Order.sortBy_eq_sortByI]
  decide +kernel
end

/-- `C06_multi` applied: the other arrival orders, the import set of `b` iterated backwards, and the
`all_types` map iterated backwards give the same jobs -/
example : (jobsWith List.reverse (collect [fA2, fB, fA1])).map jobView = (jobsWith id (collect exArr)).map jobView :=
  (C06_multi exArr [fA2, fB, fA1] (List.perm_append_comm (l₁ := [fB, fA1]) (l₂ := [fA2])) exArr_wf _ _ (MapEq.refl _) (MapEq.refl _) id
    List.reverse (fun _ => .refl _) (fun l => List.reverse_perm l)).symm

/-! ### regression 1: `resolve_renamed`

crates `a` and `b` both export a `Foo` with different serde names; crate `c` imports both and refers to `Foo`.
Before the repair the first import in hash order won (`Bar.f : FooA` for the order a, b and `Bar.f : FooB` for
b, a); since the repair crate `a` wins in both. -/

def gA : ParsedData :=
  { structs := [mkS s%"Foo" s%"FooA" true []], typeNames := [s%"FooA"], crateName := s%"a", fileName := s%"a",
    multiFile := true }
def gB : ParsedData :=
  { structs := [mkS s%"Foo" s%"FooB" true []], typeNames := [s%"FooB"], crateName := s%"b", fileName := s%"b",
    multiFile := true }
def gC (imps : List ImportedType) : ParsedData :=
  { structs := [mkS s%"Bar" s%"Bar" false [(s%"f", .simple s%"Foo")]],
    importTypes := imps, typeNames := [s%"Bar"], crateName := s%"c", fileName := s%"c", multiFile := true }
def impAB : List ImportedType := [⟨s%"a", s%"Foo"⟩, ⟨s%"b", s%"Foo"⟩]
def impBA : List ImportedType := [⟨s%"b", s%"Foo"⟩, ⟨s%"a", s%"Foo"⟩]

theorem cx_ab : ((jobsWith id (collect [gA, gB, gC impAB])).map jobView).map fieldTypes =
    [[[]], [[]], [[s%"FooA"]]] := by decide +kernel

theorem cx_ba : ((jobsWith id (collect [gA, gB, gC impBA])).map jobView).map fieldTypes =
    [[[]], [[]], [[s%"FooA"]]] := by decide +kernel

/-- the two files `gC impAB` / `gC impBA` are the same file with its import set in two hash orders -/
theorem gC_fileEq : FileEq (gC impAB) (gC impBA) :=
  ⟨rfl, rfl, rfl, rfl, rfl, fun i => by simp [gC, impAB, impBA, or_comm], fun _ => Iff.rfl, rfl, rfl, rfl⟩

theorem gABC_wf : WFm [gA, gB, gC impAB] := by decide +kernel

/-- **both hash orders of the import set of crate `c` give the same jobs** (by the theorem, and above by
evaluation: `Bar.f : FooA` in both) -/
theorem regression_resolve_renamed :
    (jobsWith id (collect [gA, gB, gC impAB])).map jobView = (jobsWith id (collect [gA, gB, gC impBA])).map jobView :=
  have hrel : Rel₂ FileEq [gA, gB, gC impAB] [gA, gB, gC impBA] :=
    ⟨FileEq.refl gA, FileEq.refl gB, gC_fileEq, trivial⟩
  C06_multi' [gA, gB, gC impAB] [gA, gB, gC impBA] ⟨_, hrel, .refl _⟩
    gABC_wf _ _ (MapEq.refl _) (MapEq.refl _) id id (fun _ => .refl _) (fun _ => .refl _)

/-! ### regression 2: the re-export fallback of `used_imports`

crates `a` and `b` both define `T`; crate `c` imports `T` through a crate `x` that is not part of the run
(a re-export).  Before the repair `used_imports` attributed it to the first crate in `all_types` hash order that
has a `T` (`a` for the order a, b, c and `b` for the reverse); since the repair to `a` in both. -/

def hT (c : Str) : ParsedData :=
  { structs := [mkS s%"T" s%"T" false []], typeNames := [s%"T"], crateName := c, fileName := c, multiFile := true }
def hC : ParsedData :=
  { structs := [mkS s%"Bar" s%"Bar" false [(s%"f", .simple s%"T")]],
    importTypes := [⟨s%"x", s%"T"⟩], typeNames := [s%"Bar"], crateName := s%"c", fileName := s%"c",
    multiFile := true }

theorem regression_fallback :
    ((jobsWith id (collect [hT s%"a", hT s%"b", hC])).map jobView).map (·.2.2.2.2.2.2.2.2) =
      [some [], some [], some [(s%"a", [s%"T"])]] ∧
    ((jobsWith List.reverse (collect [hT s%"a", hT s%"b", hC])).map jobView).map (·.2.2.2.2.2.2.2.2) =
      [some [], some [], some [(s%"a", [s%"T"])]] := by
  constructor <;> decide +kernel

/-- the crate names decide, not the order of arrival: with the crates called `b` and `a` (in that order of
arrival) it is still `a` -/
example : ((jobsWith List.reverse (collect [hT s%"b", hC, hT s%"a"])).map jobView).map (·.2.2.2.2.2.2.2.2) =
      [some [], some [], some [(s%"a", [s%"T"])]] := by decide +kernel

/-! ### regression 3: `find_type` — a file that imports `Foo` from two crates and refers to it

`reconcile_referenced_types` keeps the import from the crate with the smallest name, whichever of the candidates
`min_by_key` is offered first. -/

example : (Visitor.reconcileReferencedTypes UnicodeOps.ascii (fun l => l.head?) (gC impAB)).importTypes = [⟨s%"a", s%"Foo"⟩] ∧
    (Visitor.reconcileReferencedTypes UnicodeOps.ascii (fun l => l.getLast?) (gC impBA)).importTypes = [⟨s%"a", s%"Foo"⟩] := by
  constructor <;> decide +kernel

example : Visitor.reconcileReferencedTypes UnicodeOps.ascii (fun l => l.head?) (gC impAB) =
    Visitor.reconcileReferencedTypes UnicodeOps.ascii (fun l => l.getLast?) (gC impAB) :=
  reconcileReferencedTypes_pick _ validPick_head validPick_getLast _

/-! ### the remaining class: two types of one name in one crate

crate `a`, file 1: `struct X { p: u8 }`; file 2: `mod inner { struct X { q: u8 } }` (typeshare flattens modules).
`Vec::sort` is stable and both have the key `X`: they stay in arrival order.  Replayed on the real binary with
the collector hook (`TYPESHARE_VERIF_ORDER=0,1` / `1,0`): the two `X` change places in `a.ts`
(open finding `duplicate-type-names-arrival-order`). -/

def dX (f : Str) : ParsedData :=
  { structs := [mkS s%"X" s%"X" false [(f, .prim .u8)]], typeNames := [s%"X"], crateName := s%"a", fileName := s%"a",
    multiFile := true }

example : Known_duplicate_names [dX s%"p", dX s%"q"] := by
  unfold Known_duplicate_names; decide +kernel

/-- the field names of the structs of a job -/
def fieldNames (v : Str × List RustStruct × List RustEnum × List RustTypeAlias × List RustConst ×
    Str × Str × Bool × Option ScopedCrateTypes) : List (List Str) :=
  v.2.1.map fun s => s.fields.map fun f => f.id.original

theorem dup_pq : ((jobsWith id (collect [dX s%"p", dX s%"q"])).map jobView).map fieldNames = [[[s%"p"], [s%"q"]]] := by
  simp only [jobsWith, reconcile, reconcileOne, Order.sortBy_eq_sortByI]
  decide +kernel

theorem dup_qp : ((jobsWith id (collect [dX s%"q", dX s%"p"])).map jobView).map fieldNames = [[[s%"q"], [s%"p"]]] := by
  simp only [jobsWith, reconcile, reconcileOne, Order.sortBy_eq_sortByI]
  decide +kernel

/-- **the unconditional statement is false** (kernel-checked witness: the same two files in the two arrival
orders ⇒ `X {p}, X {q}` vs `X {q}, X {p}`); by `C06_multi_partial` every counter-example is in
`Known_duplicate_names` -/
theorem C06_multi_not_full : ¬ C06_multi_full := by
  intro h
  have hu : UniformPerCrate [dX s%"p", dX s%"q"] := by unfold UniformPerCrate; decide +kernel
  have e := h [dX s%"p", dX s%"q"] [dX s%"q", dX s%"p"] (collect [dX s%"p", dX s%"q"]) (collect [dX s%"q", dX s%"p"])
    id id (List.Perm.swap _ _ _) hu (MapEq.refl _) (MapEq.refl _) (fun _ => .refl _) (fun _ => .refl _)
  have e' := congrArg (List.map fieldNames) e
  rw [dup_pq, dup_qp] at e'
  exact absurd e' (by decide +kernel)

/-! ### a concrete run that meets the hypotheses of `C06_multi_run`

crate `a`: `#[typeshare] struct Foo { x: u8 }`; crate `b`: `use a::Foo; #[typeshare] struct Bar { f: Foo }` -/

open TsV.Syn in
def E0 : Ext := { U := UnicodeOps.ascii, parseType := fun _ => none }
open TsV.Syn in
def tsAttr : Attr := ⟨.path [s%"typeshare"]⟩
open TsV.Syn in
def fld (n t : Str) : Field := ⟨[], some n, .path [] t []⟩
def srcA : Generate.SourceFile :=
  { crateName := s%"a", fileName := s%"a", path := s%"a/src/lib.rs",
    file := { attrs := [], marker := true,
              items := [.struct [tsAttr] s%"Foo" [] (.named [fld s%"x" s%"u8"])] } }
def srcB : Generate.SourceFile :=
  { crateName := s%"b", fileName := s%"b", path := s%"b/src/lib.rs",
    file := { attrs := [], marker := true,
              items := [.use (.path s%"a" (.name s%"Foo")),
                        .struct [tsAttr] s%"Bar" [] (.named [fld s%"f" s%"Foo"])] } }
def ctx0 : ParseContext := { ignoredTypes := [], multiFile := true, targetOs := [] }
def exRun : List ParsedData := getOk (Generate.parseAll E0 ctx0 (fun l => l.head?) [srcA, srcB])

theorem exRun_ok : Generate.parseAll E0 ctx0 (fun l => l.head?) [srcA, srcB] = .ok exRun :=
  eq_ok_getOk (by decide +kernel)
theorem exRun_wf : WFm exRun := by decide +kernel
theorem exRun_noErrors : allErrors (reconcile (collect exRun)) = [] := by
  have : (allErrors (collect exRun)).isEmpty = true := by decide +kernel
  rw [allErrors_reconcile]; exact List.isEmpty_iff.1 this
/-- the run really has two crates and a cross-crate import -/
example : exRun.map (fun d => (d.crateName, d.importTypes)) = [(s%"a", []), (s%"b", [⟨s%"a", s%"Foo"⟩])] := by
  decide +kernel

/-- for every Go configuration: the other walk order and the other choice give the same result -/
example (cfg : Lang.Go.Cfg) :
    Generate.run E0 (.go cfg) true [] (fun l => l.head?) [srcA, srcB] =
      Generate.run E0 (.go cfg) true [] (fun l => l.getLast?) [srcB, srcA] :=
  C06_multi_run_eq E0 (.go cfg) [] _ _ [srcA, srcB] [srcB, srcA] (List.Perm.swap _ _ _) validPick_head
    validPick_getLast exRun exRun_ok exRun_wf exRun_noErrors

/-! ### a concrete *ambiguous* run (the witness of the repaired defect) through `C06_multi_run`

crates `ledger` and `directory` both define `Account` (renamed `LedgerAccount` / `DirectoryAccount`); crate `app`
imports one in `billing.rs` and the other in `audit.rs`.  On the unrepaired code 24 runs of the real binary gave two
different `app.ts`; here: every walk order and every choice give the same run. -/

open TsV.Syn in
def renAttr (n : Str) : Attr := ⟨.list [s%"serde"] true [.nameValue [s%"rename"] (some (.str n))]⟩
def srcLedger : Generate.SourceFile :=
  { crateName := s%"ledger", fileName := s%"ledger", path := s%"ledger/src/lib.rs",
    file := { attrs := [], marker := true,
              items := [.struct [tsAttr, renAttr s%"LedgerAccount"] s%"Account" [] (.named [fld s%"x" s%"u8"])] } }
def srcDirectory : Generate.SourceFile :=
  { crateName := s%"directory", fileName := s%"directory", path := s%"directory/src/lib.rs",
    file := { attrs := [], marker := true,
              items := [.struct [tsAttr, renAttr s%"DirectoryAccount"] s%"Account" [] (.named [fld s%"y" s%"u8"])] } }
def srcBilling : Generate.SourceFile :=
  { crateName := s%"app", fileName := s%"app", path := s%"app/src/billing.rs",
    file := { attrs := [], marker := true,
              items := [.use (.path s%"ledger" (.name s%"Account")),
                        .struct [tsAttr] s%"Invoice" [] (.named [fld s%"f" s%"Account"])] } }
def srcAudit : Generate.SourceFile :=
  { crateName := s%"app", fileName := s%"app", path := s%"app/src/audit.rs",
    file := { attrs := [], marker := true,
              items := [.use (.path s%"directory" (.name s%"Account")),
                        .alias [tsAttr] s%"Trail" [] (.path [] s%"Account" [])] } }
def ambFiles : List Generate.SourceFile := [srcLedger, srcDirectory, srcBilling, srcAudit]
def ambRun : List ParsedData := getOk (Generate.parseAll E0 ctx0 (fun l => l.head?) ambFiles)

theorem ambRun_ok : Generate.parseAll E0 ctx0 (fun l => l.head?) ambFiles = .ok ambRun :=
  eq_ok_getOk (by decide +kernel)
theorem ambRun_wf : WFm ambRun := by decide +kernel
theorem ambRun_noErrors : allErrors (reconcile (collect ambRun)) = [] := by
  have : (allErrors (collect ambRun)).isEmpty = true := by decide +kernel
  rw [allErrors_reconcile]; exact List.isEmpty_iff.1 this

/-- crate `app` really imports `Account` from two crates that rename it differently, and both references (the
field of `Invoice` in `billing.rs`, the alias `Trail` in `audit.rs`) resolve to the name given by `directory` (the
smaller crate name), not to the one of the crate imported first or in the same file -/
example : ((jobsWith id (collect ambRun)).map jobView).map (fun v => (v.1, fieldTypes v, v.2.2.2.1.map fun a => tyName a.ty)) =
      [(s%"app", [[s%"DirectoryAccount"]], [s%"DirectoryAccount"]), (s%"directory", [[[]]], []), (s%"ledger", [[[]]], [])] ∧
    (ambRun.filter (·.crateName == s%"app")).map (·.importTypes) =
      [[⟨s%"ledger", s%"Account"⟩], [⟨s%"directory", s%"Account"⟩]] := by
  constructor <;> decide +kernel

/-- every Go configuration, and TypeScript (which prints the import clause): the reverse walk order and the other
choice give the same result -/
example (cfg : Lang.Go.Cfg) :
    Generate.run E0 (.go cfg) true [] (fun l => l.head?) ambFiles =
      Generate.run E0 (.go cfg) true [] (fun l => l.getLast?) ambFiles.reverse :=
  C06_multi_run_eq E0 (.go cfg) [] (fun l => l.head?) (fun l => l.getLast?) ambFiles ambFiles.reverse
    (List.reverse_perm _).symm validPick_head validPick_getLast ambRun ambRun_ok ambRun_wf ambRun_noErrors

example : Generate.run E0 (.typescript {}) true [] (fun l => l.head?) ambFiles =
      Generate.run E0 (.typescript {}) true [] (fun l => l.getLast?) ambFiles.reverse :=
  C06_multi_run_eq E0 (.typescript {}) [] (fun l => l.head?) (fun l => l.getLast?) ambFiles ambFiles.reverse
    (List.reverse_perm _).symm validPick_head validPick_getLast ambRun ambRun_ok ambRun_wf ambRun_noErrors

end TsV.C06
