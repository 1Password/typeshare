import TsV.Lemmas.Rename
/-!
# C16 — `rename_all` case conversion agrees with serde_derive's algorithm

`Serde.applyField` / `Serde.applyVariant` are a port of `serde_derive/src/internals/case.rs`
(tied to the vendored source by the correspondence check); `Rename.renameAllToCase` is the model of
typeshare.  serde_derive byte-slices `[..1]` under `camelCase` and therefore panics (at compile
time of the user's crate) on an empty Pascal form or a non-ASCII first letter; there is nothing to
agree with then, so agreement is stated as "whenever serde produces a name, typeshare produces the
same name" (`Agree`).
-/
namespace TsV.C16
open TsV TsV.Str TsV.Rename TsV.Serde TsV.RenameLemmas

/-- the property at full strength: for each of the eight rules typeshare's name equals serde's,
in field position and in variant position, for every identifier -/
def Agree (ts serde : Outcome Str) : Prop := ∀ v, serde = .ok v → ts = .ok v

def C16_full (U : UnicodeOps) : Prop :=
  ∀ (r : Str) (rule : Rule) (s : Str), Rule.ofStr r = some rule →
    Agree (renameAllToCase U s (some r)) (applyField rule s) ∧
    Agree (renameAllToCase U s (some r)) (applyVariant U rule s)

/-- typeshare does not satisfy it: variant `URL` under `camelCase` gives `url`, serde `uRL` -/
theorem C16_not_full : ¬ C16_full UnicodeOps.ascii := by
  intro h
  have := (h s%"camelCase" .camel s%"URL" (by decide +kernel)).2 s%"uRL" (by decide +kernel)
  revert this
  decide +kernel

/-- conventionally named fields: `[a-z0-9_]*` -/
def FieldConv (s : Str) : Prop := ∀ c ∈ s, fcChar c = true

/-- UpperCamelCase variants: a capital, then letters and digits, with at least one lower-case
letter — or a single capital followed only by digits -/
def UpperCamel (s : Str) : Prop :=
  ∃ c rest, s = c :: rest ∧ isAsciiUpper c = true ∧ (∀ x ∈ rest, alnum x = true) ∧
    ((∃ x ∈ rest, isAsciiLower x = true) ∨ (∀ x ∈ rest, isAsciiDigit x = true))

/-- typeshare's dispatch, re-expressed over serde's rule type -/
def byRule (U : UnicodeOps) (s : Str) : Option Rule → Outcome Str
  | some .lower => .ok (toAsciiLower s)
  | some .upper => .ok (toAsciiUpper s)
  | some .pascal => .ok (toPascal U s)
  | some .camel => .ok (toCamel U s)
  | some .snake => .ok (toSnake U s)
  | some .screamingSnake => .ok (toScreamingSnake U s)
  | some .kebab => .ok (toKebab U s)
  | some .screamingKebab => .ok (toScreamingKebab U s)
  | some .none => .ok s
  | none => .ok s

/-- the dispatch recognises exactly serde's eight rule names, in the same way -/
theorem rename_by_rule (U : UnicodeOps) (s r : Str) :
    renameAllToCase U s (some r) = byRule U s (Rule.ofStr r) := by
  -- `byRule U s` goes through the conditionals of `Rule.ofStr`; what is left is the same chain of tests
  unfold Rule.ofStr
  simp only [apply_ite (byRule U s)]
  rfl

/-- **An unknown rule leaves names unchanged.** -/
theorem unknown_rule (U : UnicodeOps) (s r : Str) (h : Rule.ofStr r = none) :
    renameAllToCase U s (some r) = .ok s := by
  rw [rename_by_rule, h]; rfl

theorem ofStr_lower : Rule.ofStr s%"lowercase" = some .lower := by decide +kernel
theorem ofStr_upper : Rule.ofStr s%"UPPERCASE" = some .upper := by decide +kernel
theorem ofStr_pascal : Rule.ofStr s%"PascalCase" = some .pascal := by decide +kernel
theorem ofStr_camel : Rule.ofStr s%"camelCase" = some .camel := by decide +kernel
theorem ofStr_snake : Rule.ofStr s%"snake_case" = some .snake := by decide +kernel

/-- no `rename_all` at all -/
theorem no_rule (U : UnicodeOps) (s : Str) : renameAllToCase U s none = .ok s := rfl

theorem agrees_ok (a b : Str) (h : a = b) : Agree (Outcome.ok a) (.ok b) := by
  subst h; intro v hv; exact hv

theorem lowerFirst_agrees (a b : Str) (h : a = b) :
    Agree (.ok (Rename.lowerFirst a)) (Serde.lowerFirst b) := by
  subst h
  intro v hv
  cases a with
  | nil => simp [Serde.lowerFirst] at hv
  | cons c t =>
    simp only [Serde.lowerFirst] at hv
    split at hv
    · simpa [Rename.lowerFirst] using hv
    · simp at hv

/-! ### rule by rule: the eight rules are built from the lower-case, the Pascal and the snake form -/

/-- in field position the rules agree as soon as these three forms do -/
theorem agree_field (U : UnicodeOps) (s : Str) (hl : toAsciiLower s = s)
    (hp : toPascal U s = fieldPascal s) (hs : toSnake U s = s) (rule : Rule) :
    Agree (byRule U s (some rule)) (applyField rule s) := by
  cases rule with
  | none => exact agrees_ok _ _ rfl
  | lower => exact agrees_ok _ _ hl
  | upper => exact agrees_ok _ _ rfl
  | pascal => exact agrees_ok _ _ hp
  | camel => exact lowerFirst_agrees _ _ hp
  | snake => exact agrees_ok _ _ hs
  | screamingSnake => exact agrees_ok _ _ (congrArg toAsciiUpper hs)
  | kebab => exact agrees_ok _ _ (congrArg (replaceChar · '_' ['-']) hs)
  | screamingKebab =>
    exact agrees_ok _ _
      ((congrArg (fun t => toAsciiUpper (replaceChar t '_' ['-'])) hs).trans (upper_replace_comm s))

/-- in variant position serde lower- and upper-cases like typeshare: two forms are left to compare -/
theorem agree_variant (U : UnicodeOps) (s : Str) (hp : toPascal U s = s)
    (hs : toSnake U s = variantSnake U s) (rule : Rule) :
    Agree (byRule U s (some rule)) (applyVariant U rule s) := by
  cases rule with
  | none => exact agrees_ok _ _ rfl
  | lower => exact agrees_ok _ _ rfl
  | upper => exact agrees_ok _ _ rfl
  | pascal => exact agrees_ok _ _ hp
  | camel => exact lowerFirst_agrees _ _ hp
  | snake => exact agrees_ok _ _ hs
  | screamingSnake => exact agrees_ok _ _ (congrArg toAsciiUpper hs)
  | kebab => exact agrees_ok _ _ (congrArg (replaceChar · '_' ['-']) hs)
  | screamingKebab =>
    exact agrees_ok _ _
      ((congrArg (fun t => toAsciiUpper (replaceChar t '_' ['-'])) hs).trans (upper_replace_comm _))

/-- `to_snake_case` leaves a conventionally named field alone -/
theorem toSnake_fieldConv (U : UnicodeOps) (hU : U.AsciiCorrect) (s : Str) (hs : FieldConv s) :
    toSnake U s = s :=
  snakeGo_id U _ s (fun c hc =>
    ⟨by rw [hU.upper c (fc_ascii c (hs c hc))]; exact fc_notUpper c (hs c hc), fc_lowerId c (hs c hc)⟩) true

/-- on a conventionally named field `to_pascal_case` is serde's Pascal form -/
theorem toPascal_fieldConv (U : UnicodeOps) (s : Str) (hs : FieldConv s) : toPascal U s = fieldPascal s :=
  pascalGo_field _ s (fun c hc => fc_lowerId c (hs c hc)) true

/-- **Field position.** On conventionally named fields every one of the eight rules gives serde's key. -/
theorem C16_field (U : UnicodeOps) (hU : U.AsciiCorrect) (r : Str) (rule : Rule)
    (hr : Rule.ofStr r = some rule) (s : Str) (hs : FieldConv s) :
    Agree (renameAllToCase U s (some r)) (applyField rule s) := by
  rw [rename_by_rule, hr]
  exact agree_field U s (toAsciiLower_id s fun c hc => fc_lowerId c (hs c hc)) (toPascal_fieldConv U s hs)
    (toSnake_fieldConv U hU s hs) rule

/-- an UpperCamelCase name on which the all-capitals test succeeds is a capital followed by digits -/
theorem upperCamel_flag (U : UnicodeOps) (hU : U.AsciiCorrect) (c : Char) (rest : Str)
    (hshape : (∃ x ∈ rest, isAsciiLower x = true) ∨ ∀ x ∈ rest, isAsciiDigit x = true)
    (hf : isAllUpper U (c :: rest) = true) : ∀ x ∈ rest, isAsciiDigit x = true := by
  rcases hshape with ⟨x, hx, hl⟩ | hd
  · rw [isAllUpper_asciiLower U hU (c :: rest) x (List.mem_cons_of_mem _ hx) hl] at hf
    cases hf
  · exact hd

/-- `to_pascal_case` leaves a name alone that has no `_`, does not start with an ASCII lowercase letter
and, if the all-capitals test succeeds on it, has no ASCII capital after the first character -/
theorem toPascal_id (U : UnicodeOps) (c : Char) (rest : Str) (hus : ∀ x ∈ c :: rest, x ≠ '_')
    (hc : asciiUpper c = c) (ht : isAllUpper U (c :: rest) = true → ∀ x ∈ rest, asciiLower x = x) :
    toPascal U (c :: rest) = c :: rest := by
  unfold toPascal
  simp only [pascalGo, hus c List.mem_cons_self, if_false, if_true, hc]
  congr 1
  exact pascalGo_id _ rest fun x hx => ⟨hus x (List.mem_cons_of_mem _ hx), fun hf => ht hf x hx⟩

/-- `to_pascal_case` leaves an UpperCamelCase name alone -/
theorem toPascal_upperCamel (U : UnicodeOps) (hU : U.AsciiCorrect) (s : Str) (hs : UpperCamel s) :
    toPascal U s = s := by
  obtain ⟨c, rest, rfl, hc, hrest, hshape⟩ := hs
  exact toPascal_id U c rest (List.forall_mem_cons.2 ⟨upper_ne_us c hc, fun x hx => alnum_ne_us x (hrest x hx)⟩)
    (upper_upperId c hc) fun hf x hx => digit_lowerId x (upperCamel_flag U hU c rest hshape hf x hx)

/-- on an UpperCamelCase name `to_snake_case` is serde's variant form -/
theorem toSnake_upperCamel (U : UnicodeOps) (hU : U.AsciiCorrect) (s : Str) (hs : UpperCamel s) :
    toSnake U s = variantSnake U s := by
  obtain ⟨c, rest, rfl, hc, hrest, hshape⟩ := hs
  unfold toSnake variantSnake
  simp only [snakeGo, variantSnakeGo, Bool.not_true, Bool.false_and, Bool.false_eq_true, if_false,
    List.nil_append]
  congr 1
  refine snakeGo_variant U _ rest fun hf x hx => ?_
  have hd := upperCamel_flag U hU c rest hshape hf x hx
  rw [hU.upper x (digit_ascii x hd)]; exact digit_notUpper x hd

/-- **Variant position.** On UpperCamelCase variants every one of the eight rules gives serde's name. -/
theorem C16_variant (U : UnicodeOps) (hU : U.AsciiCorrect) (r : Str) (rule : Rule)
    (hr : Rule.ofStr r = some rule) (s : Str) (hs : UpperCamel s) :
    Agree (renameAllToCase U s (some r)) (applyVariant U rule s) := by
  rw [rename_by_rule, hr]
  exact agree_variant U s (toPascal_upperCamel U hU s hs) (toSnake_upperCamel U hU s hs) rule

/-! ### `lowercase` / `UPPERCASE` (repaired by the `fix:` commit 7d1c05f)

The pinned tree used the Unicode mappings `U.lowerStr` / `U.upperStr` for the two rules, which agree
with serde's ASCII mappings on ASCII names only (class `unicode-case-mapping`: variant `É` under
`lowercase` gave `é`).  The repaired code, which the model follows, uses serde's own functions, so the
agreement depends neither on the Unicode tables `U` nor on the shape of the identifier. -/

/-- **Variant position, `lowercase` and `UPPERCASE`: serde's name for every identifier whatsoever**
(any Unicode tables, no `AsciiCorrect`, no `UpperCamel`). -/
theorem C16_lower_upper_variant (U : UnicodeOps) (s : Str) :
    renameAllToCase U s (some s%"lowercase") = applyVariant U .lower s ∧
    renameAllToCase U s (some s%"UPPERCASE") = applyVariant U .upper s := by
  constructor
  · rw [rename_by_rule, ofStr_lower]; rfl
  · rw [rename_by_rule, ofStr_upper]; rfl

/-- **Field position, `UPPERCASE`: serde's key for every identifier whatsoever.** -/
theorem C16_upper_field (U : UnicodeOps) (s : Str) :
    renameAllToCase U s (some s%"UPPERCASE") = applyField .upper s := by
  rw [rename_by_rule, ofStr_upper]; rfl

/-- **Field position, `lowercase`, exactly**: serde leaves a field untouched under `lowercase`
(`apply_to_field`: `None | LowerCase | SnakeCase => field.to_owned()`), typeshare lower-cases its
ASCII capitals; so the two agree iff the field has no ASCII capital.  This is all that
separates the model from serde under these two rules (it is outside `FieldConv`, and of the same
kind as `snake-splits-fields`: serde assumes fields are already snake_case). -/
theorem C16_lower_field_exact (U : UnicodeOps) (s : Str) :
    Agree (renameAllToCase U s (some s%"lowercase")) (applyField .lower s) ↔ toAsciiLower s = s := by
  rw [rename_by_rule, ofStr_lower]
  show Agree (Outcome.ok (toAsciiLower s)) (.ok s) ↔ _
  constructor
  · intro h
    have := h s rfl
    exact Outcome.ok.inj this
  · intro h; exact agrees_ok _ _ h

/-- the two rules do not consult the Unicode tables at all -/
theorem C16_lower_upper_unicode_free (U U' : UnicodeOps) (s r : Str)
    (hr : r = s%"lowercase" ∨ r = s%"UPPERCASE") :
    renameAllToCase U s (some r) = renameAllToCase U' s (some r) := by
  rcases hr with rfl | rfl
  · rw [rename_by_rule, rename_by_rule, ofStr_lower]; rfl
  · rw [rename_by_rule, rename_by_rule, ofStr_upper]; rfl

/-- a Unicode table that maps `É ↦ é`, `é ↦ É`, `ß ↦ SS` (what Rust `std` does) — not `ascii` -/
def frenchU : UnicodeOps :=
  { UnicodeOps.ascii with
    isUpper := fun c => isAsciiUpper c || c == 'É'
    isLower := fun c => isAsciiLower c || c == 'é' || c == 'ß'
    toLower := fun c => if c == 'É' then ['é'] else [asciiLower c]
    toUpper := fun c => if c == 'é' then ['É'] else if c == 'ß' then ['S', 'S'] else [asciiUpper c] }

/-- the repaired witnesses of `unicode-case-mapping`, as positive regression examples: under a
Unicode table that does map the letters, typeshare gives serde's names (the pinned tree gave
`é`, `ÉCLAIR`, `STRASSE`) -/
example : renameAllToCase frenchU s%"É" (some s%"lowercase") = .ok s%"É" ∧
    applyVariant frenchU .lower s%"É" = .ok s%"É" := by decide +kernel
example : renameAllToCase frenchU s%"Éclair" (some s%"lowercase") = .ok s%"Éclair" ∧
    renameAllToCase frenchU s%"éclair" (some s%"UPPERCASE") = .ok s%"éCLAIR" ∧
    applyField .upper s%"éclair" = .ok s%"éCLAIR" := by decide +kernel
example : renameAllToCase frenchU s%"straße" (some s%"UPPERCASE") = .ok s%"STRAßE" ∧
    applyField .upper s%"straße" = .ok s%"STRAßE" ∧ frenchU.upperStr s%"straße" = s%"STRASSE" := by decide +kernel
/-- the remaining difference under `lowercase`: a field with a capital (outside the convention) -/
example : renameAllToCase .ascii s%"fooBar" (some s%"lowercase") = .ok s%"foobar" ∧
    applyField .lower s%"fooBar" = .ok s%"fooBar" := by decide +kernel

/-! ### the all-capitals special case (class `allcaps-special-case`; narrowed by the `fix:` commit 8290303)

`to_pascal_case` / `to_snake_case` treat a name that is "all uppercase, such as URL or TOTP" specially
(the tail is lower-cased, no `_` is inserted).  On the pinned tree "all uppercase" is
`to_ascii_uppercase() == self`, true of every name without an *ASCII* lowercase letter (`ΑλφαΒήτα`); in the
repaired code, which the model follows, it is `Known_allcaps`: no lowercase letter of any script.  The
divergence inside that class stays (`URL`, `ΟΔΟΣ`); outside it the snake / kebab family is serde's for every
identifier whatsoever. -/

/-- the known class: the name has no lowercase letter (`char::is_lowercase`) of any script -/
def Known_allcaps (U : UnicodeOps) (s : Str) : Prop := ∀ c ∈ s, U.isLower c = false

instance (U : UnicodeOps) (s : Str) : Decidable (Known_allcaps U s) := by unfold Known_allcaps; infer_instance

theorem known_allcaps_iff (U : UnicodeOps) (s : Str) : Known_allcaps U s ↔ isAllUpper U s = true :=
  (isAllUpper_iff U s).symm

/-- over ASCII names the class is the one the pinned tree tests (`to_ascii_uppercase() == self`) -/
theorem known_allcaps_ascii (U : UnicodeOps) (hU : U.AsciiCorrect) (s : Str) (h : ∀ c ∈ s, c.toNat < 128) :
    Known_allcaps U s ↔ toAsciiUpper s = s := by
  rw [known_allcaps_iff, isAllUpper_ascii U hU s h]; exact beq_iff_eq

/-- `snakeGo` with the flag set inserts nothing -/
theorem snakeGo_flag (U : UnicodeOps) (s : Str) : ∀ first, snakeGo U true first s = toAsciiLower s := by
  induction s with
  | nil => intro _; rfl
  | cons c t ih => intro first; simp [snakeGo, toAsciiLower, ih]

/-- serde's variant form inserts nothing exactly when no character after the first is a capital -/
theorem variantSnakeGo_plain (U : UnicodeOps) (s : Str) :
    variantSnakeGo U false s = toAsciiLower s ↔ ∀ c ∈ s, U.isUpper c = false := by
  induction s with
  | nil => simp [variantSnakeGo, toAsciiLower]
  | cons c t ih =>
    simp only [variantSnakeGo, toAsciiLower, List.map_cons, Bool.not_false, Bool.true_and, List.mem_cons,
      forall_eq_or_imp]
    cases hc : U.isUpper c with
    | false =>
      simp only [Bool.false_eq_true, if_false, List.nil_append, List.cons.injEq, true_and]
      exact ih
    | true =>
      simp only [if_true, List.cons_append, List.nil_append, List.cons.injEq, Bool.true_eq_false, false_and, iff_false]
      intro h
      have hl := congrArg List.length h.2
      have hlen : ∀ (b : Bool) (u : Str), (variantSnakeGo U b u).length ≥ u.length := by
        intro b u
        induction u generalizing b with
        | nil => simp [variantSnakeGo]
        | cons x u ihu =>
          simp only [variantSnakeGo, List.length_append, List.length_cons]
          have := ihu false
          omega
      have := hlen false t
      simp only [List.length_cons, List.length_map] at hl
      omega

/-- **Variant position, the snake / kebab family, every identifier of every script, exactly**: typeshare's
snake form is serde's iff the name is outside the known class, or is inside it but has no capital after the
first character (then neither inserts a `_`).  No `AsciiCorrect`, no `UpperCamel`. -/
theorem C16_variant_snake_exact (U : UnicodeOps) (s : Str) :
    toSnake U s = variantSnake U s ↔ (¬ Known_allcaps U s ∨ ∀ c ∈ s.tail, U.isUpper c = false) := by
  rw [known_allcaps_iff]
  cases s with
  | nil => simp [toSnake, variantSnake, snakeGo, variantSnakeGo]
  | cons c rest =>
    unfold toSnake variantSnake
    simp only [snakeGo, variantSnakeGo, Bool.not_true, Bool.false_and, Bool.false_eq_true, if_false,
      List.nil_append, List.cons.injEq, true_and, List.tail_cons]
    cases hf : isAllUpper U (c :: rest) with
    | false =>
      simp only [Bool.false_eq_true, not_false_eq_true, true_or, iff_true]
      exact snakeGo_variant U false rest (fun h => absurd h (by decide))
    | true =>
      simp only [not_true_eq_false, false_or]
      rw [snakeGo_flag]
      constructor
      · intro h; exact (variantSnakeGo_plain U rest).1 h.symm
      · intro h; exact ((variantSnakeGo_plain U rest).2 h).symm

/-- **outside the known class the four snake / kebab rules give serde's variant name, for every identifier** -/
theorem C16_variant_snake_family (U : UnicodeOps) (s : Str) (hk : ¬ Known_allcaps U s) (r : Str) (rule : Rule)
    (hr : Rule.ofStr r = some rule)
    (hfam : rule = .snake ∨ rule = .screamingSnake ∨ rule = .kebab ∨ rule = .screamingKebab) :
    renameAllToCase U s (some r) = applyVariant U rule s := by
  rw [rename_by_rule, hr]
  have hsnake := (C16_variant_snake_exact U s).2 (Or.inl hk)
  rcases hfam with rfl | rfl | rfl | rfl
  · simp only [byRule, applyVariant, hsnake]
  · simp only [byRule, applyVariant, toScreamingSnake, hsnake]
  · simp only [byRule, applyVariant, toKebab, hsnake]
  · simp only [byRule, applyVariant, toScreamingKebab, toKebab, hsnake, upper_replace_comm]

/-- inside the class with a capital after the first character the family differs from serde (`URL`, `ΟΔΟΣ`) -/
theorem C16_variant_snake_known_fails (U : UnicodeOps) (s : Str) (hk : Known_allcaps U s)
    (hcap : ∃ c ∈ s.tail, U.isUpper c = true) :
    ¬ Agree (renameAllToCase U s (some s%"snake_case")) (applyVariant U .snake s) := by
  intro h
  have h1 := h _ rfl
  rw [rename_by_rule, ofStr_snake] at h1
  have h2 : toSnake U s = variantSnake U s := Outcome.ok.inj h1
  rcases (C16_variant_snake_exact U s).1 h2 with h3 | h3
  · exact h3 hk
  · obtain ⟨c, hc, hu⟩ := hcap
    rw [h3 c hc] at hu
    exact absurd hu (by decide)

/-- **PascalCase / camelCase in variant position, any script**: a name outside the known class without `_`
whose first character is not an ASCII lowercase letter is left as it is, like serde does -/
theorem C16_variant_pascal_any (U : UnicodeOps) (c : Char) (rest : Str) (hk : ¬ Known_allcaps U (c :: rest))
    (hc : asciiUpper c = c) (hus : ∀ x ∈ c :: rest, x ≠ '_') :
    renameAllToCase U (c :: rest) (some s%"PascalCase") = applyVariant U .pascal (c :: rest) ∧
    Agree (renameAllToCase U (c :: rest) (some s%"camelCase")) (applyVariant U .camel (c :: rest)) := by
  have hpascal : toPascal U (c :: rest) = c :: rest :=
    toPascal_id U c rest hus hc fun hf => absurd ((known_allcaps_iff U _).2 hf) hk
  constructor
  · rw [rename_by_rule, ofStr_pascal]; exact congrArg Outcome.ok hpascal
  · rw [rename_by_rule, ofStr_camel]; exact lowerFirst_agrees _ _ hpascal

/-- a Unicode table that knows the Greek letters (what Rust `std` says of them) — not `ascii` -/
def greekU : UnicodeOps :=
  { UnicodeOps.ascii with
    isUpper := fun c => isAsciiUpper c || (0x391 ≤ c.toNat && c.toNat ≤ 0x3A9)
    isLower := fun c => isAsciiLower c || (0x3AC ≤ c.toNat && c.toNat ≤ 0x3CE) }

/-- the repaired witnesses of `ascii-allcaps-test-on-unicode-names`, as positive regression examples: a Greek
UpperCamelCase name does not count as all capitals, and typeshare gives serde's names (the pinned tree gave
`ΑλφαΒήτα` without the `_`, and `Οδόςa`) -/
example : ¬ Known_allcaps greekU s%"ΑλφαΒήτα" ∧ ¬ Known_allcaps greekU s%"ΟδόςA" := by decide +kernel
example : renameAllToCase greekU s%"ΑλφαΒήτα" (some s%"snake_case") = .ok s%"Αλφα_Βήτα" ∧
    applyVariant greekU .snake s%"ΑλφαΒήτα" = .ok s%"Αλφα_Βήτα" := by decide +kernel
example : renameAllToCase greekU s%"ΟδόςA" (some s%"PascalCase") = .ok s%"ΟδόςA" ∧
    applyVariant greekU .pascal s%"ΟδόςA" = .ok s%"ΟδόςA" := by decide +kernel
example : renameAllToCase greekU s%"ΑλφαΒήτα" (some s%"SCREAMING-KEBAB-CASE") =
    applyVariant greekU .screamingKebab s%"ΑλφαΒήτα" :=
  C16_variant_snake_family greekU _ (by decide +kernel) _ .screamingKebab (by decide +kernel) (by simp)
example : renameAllToCase greekU s%"ΟδόςA" (some s%"PascalCase") = applyVariant greekU .pascal s%"ΟδόςA" :=
  (C16_variant_pascal_any greekU 'Ο' s%"δόςA" (by decide +kernel) (by decide +kernel) (by decide +kernel)).1
/-- what stays open: names that really are all capitals, of any script -/
example : Known_allcaps greekU s%"ΟΔΟΣ" ∧ Known_allcaps greekU s%"URL" ∧ Known_allcaps .ascii s%"URL" := by
  decide +kernel
example : renameAllToCase greekU s%"ΟΔΟΣ" (some s%"snake_case") = .ok s%"ΟΔΟΣ" ∧
    applyVariant greekU .snake s%"ΟΔΟΣ" = .ok s%"Ο_Δ_Ο_Σ" := by decide +kernel
example : ¬ Agree (renameAllToCase greekU s%"ΟΔΟΣ" (some s%"snake_case")) (applyVariant greekU .snake s%"ΟΔΟΣ") :=
  C16_variant_snake_known_fails greekU _ (by decide +kernel) ⟨'Δ', by decide +kernel, by decide +kernel⟩
/-- the ASCII table does not know the Greek letters: with it (as on the pinned tree) the name
counts as all capitals — the theorems are about the table, the check supplies `std`'s -/
example : Known_allcaps .ascii s%"ΑλφαΒήτα" := by decide +kernel

/-! ### non-vacuity and the known divergences as kernel-checked witnesses -/
example : FieldConv s%"address_line1" := by unfold FieldConv; decide +kernel
example : UpperCamel s%"AddressLine1" :=
  ⟨'A', s%"ddressLine1", rfl, by decide +kernel, by decide +kernel,
    Or.inl ⟨'d', by decide +kernel, by decide +kernel⟩⟩
example : UpperCamel s%"A1" := ⟨'A', s%"1", rfl, by decide +kernel, by decide +kernel, Or.inr (by decide +kernel)⟩
example : renameAllToCase .ascii s%"address_line1" (some s%"camelCase") = .ok s%"addressLine1" := by decide +kernel
example : renameAllToCase .ascii s%"AddressLine1" (some s%"SCREAMING-KEBAB-CASE") = .ok s%"ADDRESS-LINE1" := by
  decide +kernel
/-- all-caps special case (outside UpperCamelCase): typeshare `url`, serde `uRL` -/
example : renameAllToCase .ascii s%"URL" (some s%"camelCase") = .ok s%"url" ∧
    applyVariant .ascii .camel s%"URL" = .ok s%"uRL" := by decide +kernel
/-- a field with a capital (outside the convention): typeshare splits, serde does not -/
example : renameAllToCase .ascii s%"fooBar" (some s%"snake_case") = .ok s%"foo_bar" ∧
    applyField .snake s%"fooBar" = .ok s%"fooBar" := by decide +kernel
/-- `__` under camelCase: serde_derive panics (compile error in the user crate), typeshare yields the empty name -/
example : renameAllToCase .ascii s%"__" (some s%"camelCase") = .ok [] ∧
    applyField .camel s%"__" = .panic s%"case.rs" := by decide +kernel

/-- typeshare's own conversion never fails (C07) -/
theorem rename_total (U : UnicodeOps) (s : Str) (rule : Option Str) :
    ∃ v, renameAllToCase U s rule = .ok v := by
  cases rule with
  | none => exact ⟨s, rfl⟩
  | some r =>
    rw [rename_by_rule]
    cases Rule.ofStr r with
    | none => exact ⟨_, rfl⟩
    | some rule => cases rule <;> exact ⟨_, rfl⟩

end TsV.C16
