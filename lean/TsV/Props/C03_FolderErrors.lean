import TsV.Lemmas.C03_FolderErrors
import TsV.Lemmas.C06_Multi_Parse
import TsV.Lemmas.Outcome
import TsV.Lemmas.Run
import TsV.Lemmas.Visit
/-!
# C03_FolderErrors — an annotated item that cannot be generated is reported, whichever crate holds it

C03: an annotated item is generated or the run reports it.  `Props/C03_Emission.lean`
(`run_reports_errors`) states the error half for a single file.  This module states it for a **folder
run**: many files, many crates, any arrival order.

What is modelled: `Pipeline.addAssign` is `impl AddAssign for ParsedData`
(`errors := a.errors ++ b.errors`), `Pipeline.collect` the collector fold into the name-ordered crate
map, `Pipeline.allErrors` is `check_parse_errors` (every crate's list, in map order) and `Generate.run`
leaves through `.parseErrors errs` exactly when that list is not empty.

* `merge_appends_errors`, `crate_errors`: the merge appends; the entry of a crate holds its files'
  errors concatenated in arrival order;
* `no_error_lost`: the errors the run sees are, as a multiset (`List.Perm`), the errors of all per-file
  results — `arrival_order_irrelevant`: two arrival orders report the same multiset;
* `reconcile_keeps_errors`: `reconcile_aliases` does not touch them;
* `fails_iff_some_crate`, `position_irrelevant`, `clean_neighbours`, `map_order_irrelevant`: the exit
  depends on *whether some crate has an error*, not on where that crate stands in the map nor on the
  clean crates around it; with clean neighbours the report is exactly that crate's list;
* `run_fails_iff`: `Generate.run` returns `.parseErrors errs` iff some crate of the collected map (iff
  some arrived file) has a non-empty error list, and then `errs` is `allErrors` of the collected map;
  otherwise it never returns `.parseErrors`;
* `erroneous_file_arrives`, `arrivals_of_files`: a file whose visit recorded an error is not dropped by
  `parser::parse` (the "nothing annotated here" shortcut asks for an empty error list too), and the
  arrivals are exactly the non-dropped per-file results.
* `C03_FolderErrors : C03_FolderErrors_full`.  Nothing is false on the model.
-/
namespace TsV.C03_FolderErrors
open TsV TsV.Pipeline TsV.Collect TsV.C06M TsV.Generate

/-! ## 1. the merge -/

/-- **`AddAssign` appends the error lists** -/
theorem merge_appends_errors (a b : ParsedData) : (addAssign a b).errors = a.errors ++ b.errors := rfl

/-- **the entry of crate `c` in the collected map holds the errors of the files of `c`, concatenated in
arrival order** (and there is an entry for every crate with an arrival: `C06M.collect_key_iff`) -/
theorem crate_errors (a : List ParsedData) (c : Str) (v : ParsedData) (h : (c, v) ∈ collect a) :
    v.errors = (a.filter fun d => d.crateName == c).flatMap (·.errors) := entry_errors a h

/-- **no error is lost**: what `check_parse_errors` iterates over is a permutation of all the errors of
all the per-file results -/
theorem no_error_lost (a : List ParsedData) : (allErrors (collect a)).Perm (a.flatMap (·.errors)) := by
  -- the entries partition the arrivals by crate name, and the keys of the map are duplicate-free
  rw [allErrors_collect]
  have h1 : (((collect a).map (·.1)).flatMap fun c => (arr a c).flatMap (·.errors)) =
      (((collect a).map (·.1)).flatMap fun c => a.filter fun d => d.crateName == c).flatMap (·.errors) := by
    rw [List.flatMap_assoc]; rfl
  rw [h1]
  apply List.Perm.flatMap_right
  apply flatMap_filter_perm (fun d : ParsedData => d.crateName) a _ (sorted_keys (collect_sorted a)).nodup
  intro d hd
  exact (collect_key_iff a d.crateName).2 ⟨d, hd, rfl⟩

/-- … so the arrival order of the files (the walker's threads) does not change the multiset reported -/
theorem arrival_order_irrelevant (a b : List ParsedData) (h : a.Perm b) :
    (allErrors (collect a)).Perm (allErrors (collect b)) :=
  (no_error_lost a).trans ((h.flatMap_right _).trans (no_error_lost b).symm)

/-- `reconcile_aliases` leaves every crate's error list as it is -/
theorem reconcile_keeps_errors (m : List (Str × ParsedData)) :
    allErrors (reconcile m) = allErrors m ∧
    (reconcile m).map (fun p => (p.1, p.2.errors)) = m.map fun p => (p.1, p.2.errors) :=
  ⟨allErrors_reconcile m, reconcile_errors m⟩

/-! ## 2. the exit test -/

/-- **the test fires iff some crate has an error** -/
theorem fails_iff_some_crate (m : List (Str × ParsedData)) : allErrors m ≠ [] ↔ ∃ p ∈ m, p.2.errors ≠ [] :=
  flatMap_ne_nil_iff

/-- **wherever the crate stands**: first, last or between any crates -/
theorem position_irrelevant (pre post : List (Str × ParsedData)) (x : Str × ParsedData) (h : x.2.errors ≠ []) :
    allErrors (pre ++ x :: post) ≠ [] :=
  (fails_iff_some_crate _).2 ⟨x, by simp, h⟩

/-- **clean crates around it change nothing**: the report is that crate's list -/
theorem clean_neighbours (pre post : List (Str × ParsedData)) (x : Str × ParsedData)
    (hpre : ∀ p ∈ pre, p.2.errors = []) (hpost : ∀ p ∈ post, p.2.errors = []) :
    allErrors (pre ++ x :: post) = x.2.errors := by
  rw [allErrors_append, (allErrors_nil_iff pre).2 hpre]
  show allErrors ([x] ++ post) = _
  rw [allErrors_append, (allErrors_nil_iff post).2 hpost]
  simp [allErrors]

/-- the same crates in another order: the same verdict and the same multiset -/
theorem map_order_irrelevant (m m' : List (Str × ParsedData)) (h : m.Perm m') :
    (allErrors m).Perm (allErrors m') ∧ (allErrors m = [] ↔ allErrors m' = []) := by
  have hp : (allErrors m).Perm (allErrors m') := h.flatMap_right _
  exact ⟨hp, nil_iff_of_perm hp⟩

/-! ## 3. the run -/

/-- the run's two exits, given what the files parsed to -/
theorem run_exit (E : Ext) (lang : LangCfg) (multiFile : Bool) (targetOs : List Str)
    (pick : List ImportedType → Option ImportedType) (files : List SourceFile) (arrivals : List ParsedData)
    (h : parseAll E { ignoredTypes := ignoredTypes lang, multiFile, targetOs } pick files = .ok arrivals) :
    (allErrors (collect arrivals) ≠ [] →
      run E lang multiFile targetOs pick files = .ok (.parseErrors (allErrors (collect arrivals)))) ∧
    (allErrors (collect arrivals) = [] → ∀ errs, run E lang multiFile targetOs pick files ≠ .ok (.parseErrors errs)) := by
  rw [Run.run_of_parse h]
  constructor
  · intro hne
    rw [Run.finish_of_errors (by rwa [allErrors_reconcile]), allErrors_reconcile]
  · intro he errs hh
    rw [Run.finish_of_clean (by rwa [allErrors_reconcile])] at hh
    obtain ⟨o, _, ho⟩ := Outcome.of_bind_ok hh
    cases ho

/-- **the run fails with the parse errors iff some crate's merged data has an error — iff some
arrived file has one**; the errors reported are those of the whole map -/
theorem run_fails_iff (E : Ext) (lang : LangCfg) (multiFile : Bool) (targetOs : List Str)
    (pick : List ImportedType → Option ImportedType) (files : List SourceFile) (arrivals : List ParsedData)
    (h : parseAll E { ignoredTypes := ignoredTypes lang, multiFile, targetOs } pick files = .ok arrivals) :
    ((∃ errs, run E lang multiFile targetOs pick files = .ok (.parseErrors errs)) ↔
      ∃ p ∈ collect arrivals, p.2.errors ≠ []) ∧
    ((∃ p ∈ collect arrivals, p.2.errors ≠ []) ↔ ∃ d ∈ arrivals, d.errors ≠ []) ∧
    (∀ errs, run E lang multiFile targetOs pick files = .ok (.parseErrors errs) →
      errs = allErrors (collect arrivals) ∧ errs.Perm (arrivals.flatMap (·.errors))) := by
  obtain ⟨h1, h2⟩ := run_exit E lang multiFile targetOs pick files arrivals h
  have key : ∀ errs, run E lang multiFile targetOs pick files = .ok (.parseErrors errs) →
      allErrors (collect arrivals) ≠ [] ∧ errs = allErrors (collect arrivals) := by
    intro errs hr
    by_cases he : allErrors (collect arrivals) = []
    · exact absurd hr (h2 he errs)
    · rw [h1 he] at hr
      cases hr
      exact ⟨he, rfl⟩
  refine ⟨⟨fun ⟨errs, hr⟩ => (fails_iff_some_crate _).1 (key errs hr).1,
    fun hp => ⟨_, h1 ((fails_iff_some_crate _).2 hp)⟩⟩, ?_, fun errs hr => ?_⟩
  · rw [← fails_iff_some_crate, Ne, nil_iff_of_perm (no_error_lost arrivals)]
    exact flatMap_ne_nil_iff
  · obtain ⟨_, rfl⟩ := key errs hr
    exact ⟨rfl, no_error_lost arrivals⟩

/-! ## 4. from the files to the arrivals -/

/-- **a file whose visit recorded an error arrives**: `parser::parse` drops a result only when it has
no item *and no error*; in folder mode `reconcile_referenced_types` keeps the error list -/
theorem erroneous_file_arrives (E : Ext) (ctx : ParseContext) (pick : List ImportedType → Option ImportedType)
    (crateName fileName filePath : Str) (f : Syn.File) (d : ParsedData) (hm : f.marker = true)
    (hv : Visitor.visitFile E ctx crateName fileName filePath f = .ok d) (he : d.errors ≠ []) :
    ∃ d', Visitor.parseFile E ctx pick crateName fileName filePath f = .ok (some d') ∧ d'.errors = d.errors ∧
      d'.crateName = d.crateName := by
  have hne : Visitor.isEmpty d = false := by
    simp [Visitor.isEmpty, List.isEmpty_eq_false_iff.2 he]
  rw [Visit.parseFile_of_visit hm hv, hne]
  cases ctx.multiFile
  · exact ⟨d, rfl, rfl, rfl⟩
  · exact ⟨_, rfl, reconcileReferencedTypes_errors _ _ d, reconcileReferencedTypes_crateName _ _ d⟩

/-- **the arrivals are the per-file results that were not dropped**, in file order -/
theorem arrivals_of_files (E : Ext) (ctx : ParseContext) (pick : List ImportedType → Option ImportedType) :
    ∀ (files : List SourceFile) (arrivals : List ParsedData), parseAll E ctx pick files = .ok arrivals →
      ∀ d, d ∈ arrivals ↔
        ∃ f ∈ files, Visitor.parseFile E ctx pick f.crateName f.fileName f.path f.file = .ok (some d) :=
  C06M.mem_parseAll E ctx pick

/-- **whichever crate holds it**: if any file of the run — of any crate — parses to a result with an
error, the run leaves through the error exit and the error is among those reported -/
theorem file_error_fails_run (E : Ext) (lang : LangCfg) (multiFile : Bool) (targetOs : List Str)
    (pick : List ImportedType → Option ImportedType) (files : List SourceFile) (arrivals : List ParsedData)
    (h : parseAll E { ignoredTypes := ignoredTypes lang, multiFile, targetOs } pick files = .ok arrivals)
    (f : SourceFile) (hf : f ∈ files) (d : ParsedData)
    (hp : Visitor.parseFile E { ignoredTypes := ignoredTypes lang, multiFile, targetOs } pick f.crateName f.fileName f.path
      f.file = .ok (some d)) (e : ErrKind × Str) (he : e ∈ d.errors) :
    ∃ errs, run E lang multiFile targetOs pick files = .ok (.parseErrors errs) ∧ e ∈ errs := by
  have hd : d ∈ arrivals := (arrivals_of_files E _ pick files arrivals h d).2 ⟨f, hf, hp⟩
  have hmem : e ∈ allErrors (collect arrivals) :=
    (no_error_lost arrivals).symm.subset (List.mem_flatMap.2 ⟨d, hd, he⟩)
  have hne : allErrors (collect arrivals) ≠ [] := fun h0 => by rw [h0] at hmem; cases hmem
  exact ⟨_, (run_exit E lang multiFile targetOs pick files arrivals h).1 hne, hmem⟩

/-! ## the statement at full strength -/

/-- **C03_FolderErrors**: for every language, mode, set of files and arrival order — (1) the merge
appends error lists and the collected map holds, per crate, its files' errors in arrival order, as a
multiset all errors of all files, independent of the arrival order; (2) the error exit is taken iff
some crate (iff some file) has an error, reporting the whole map's errors; position in the map and
clean neighbours play no role; (3) a file with an error is never dropped before the collector. -/
def C03_FolderErrors_full : Prop :=
  (∀ a b : ParsedData, (addAssign a b).errors = a.errors ++ b.errors) ∧
  (∀ (a : List ParsedData) (c : Str) (v : ParsedData), (c, v) ∈ collect a →
    v.errors = (a.filter fun d => d.crateName == c).flatMap (·.errors)) ∧
  (∀ a : List ParsedData, (allErrors (collect a)).Perm (a.flatMap (·.errors))) ∧
  (∀ a b : List ParsedData, a.Perm b → (allErrors (collect a)).Perm (allErrors (collect b))) ∧
  (∀ m : List (Str × ParsedData), allErrors (reconcile m) = allErrors m) ∧
  (∀ (pre post : List (Str × ParsedData)) (x : Str × ParsedData),
    (x.2.errors ≠ [] → allErrors (pre ++ x :: post) ≠ []) ∧
    ((∀ p ∈ pre, p.2.errors = []) → (∀ p ∈ post, p.2.errors = []) → allErrors (pre ++ x :: post) = x.2.errors)) ∧
  (∀ m m' : List (Str × ParsedData), m.Perm m' → (allErrors m = [] ↔ allErrors m' = [])) ∧
  (∀ (E : Ext) (lang : LangCfg) (multiFile : Bool) (targetOs : List Str) (pick : List ImportedType → Option ImportedType)
    (files : List SourceFile) (arrivals : List ParsedData),
    parseAll E { ignoredTypes := ignoredTypes lang, multiFile, targetOs } pick files = .ok arrivals →
    ((∃ errs, run E lang multiFile targetOs pick files = .ok (.parseErrors errs)) ↔
      ∃ p ∈ collect arrivals, p.2.errors ≠ []) ∧
    ((∃ p ∈ collect arrivals, p.2.errors ≠ []) ↔ ∃ d ∈ arrivals, d.errors ≠ []) ∧
    (∀ errs, run E lang multiFile targetOs pick files = .ok (.parseErrors errs) →
      errs = allErrors (collect arrivals) ∧ errs.Perm (arrivals.flatMap (·.errors))) ∧
    (∀ d, d ∈ arrivals ↔ ∃ f ∈ files,
      Visitor.parseFile E { ignoredTypes := ignoredTypes lang, multiFile, targetOs } pick f.crateName f.fileName f.path f.file =
        .ok (some d))) ∧
  (∀ (E : Ext) (ctx : ParseContext) (pick : List ImportedType → Option ImportedType) (crateName fileName filePath : Str)
    (f : Syn.File) (d : ParsedData), f.marker = true → Visitor.visitFile E ctx crateName fileName filePath f = .ok d →
    d.errors ≠ [] →
    ∃ d', Visitor.parseFile E ctx pick crateName fileName filePath f = .ok (some d') ∧ d'.errors = d.errors ∧
      d'.crateName = d.crateName)

theorem C03_FolderErrors : C03_FolderErrors_full :=
  ⟨merge_appends_errors, crate_errors, no_error_lost, arrival_order_irrelevant, allErrors_reconcile,
   fun pre post x => ⟨position_irrelevant pre post x, clean_neighbours pre post x⟩,
   fun m m' h => (map_order_irrelevant m m' h).2,
   fun E lang mf os pick files arrivals h =>
     ⟨(run_fails_iff E lang mf os pick files arrivals h).1, (run_fails_iff E lang mf os pick files arrivals h).2.1,
      (run_fails_iff E lang mf os pick files arrivals h).2.2, arrivals_of_files E _ pick files arrivals h⟩,
   fun E ctx pick c fn p f d hm hv he => erroneous_file_arrives E ctx pick c fn p f d hm hv he⟩

/-! ## non-vacuity: three crates `alpha`, `beta`, `gamma`; two files of `beta`; one error each in a
file of the first / middle / last crate -/

def fileOf (crate file : Str) (errs : List (ErrKind × Str)) : ParsedData :=
  { crateName := crate, fileName := crate ++ s%".ts", multiFile := true, errors := errs,
    typeNames := [file] }

def eA : ErrKind × Str := (.unsupportedType, s%"alpha/src/lib.rs")
def eB : ErrKind × Str := (.unsupportedItem, s%"beta/src/x.rs")
def eB' : ErrKind × Str := (.serdeTagRequired, s%"beta/src/lib.rs")
def eC : ErrKind × Str := (.rustConstExprInvalid, s%"gamma/src/lib.rs")

/-- the error is reported from the first, the middle and the last crate of the map, whatever the
arrival order; two files of one crate: both errors, in arrival order -/
theorem position_example :
    allErrors (collect [fileOf s%"gamma" s%"G" [], fileOf s%"alpha" s%"A" [eA], fileOf s%"beta" s%"B" []]) = [eA] ∧
    allErrors (collect [fileOf s%"gamma" s%"G" [], fileOf s%"beta" s%"B" [eB], fileOf s%"alpha" s%"A" [],
      fileOf s%"beta" s%"B2" []]) = [eB] ∧
    allErrors (collect [fileOf s%"gamma" s%"G" [eC], fileOf s%"beta" s%"B" [], fileOf s%"alpha" s%"A" []]) = [eC] ∧
    allErrors (collect [fileOf s%"gamma" s%"G" [eC], fileOf s%"beta" s%"B" [eB], fileOf s%"alpha" s%"A" [eA],
      fileOf s%"beta" s%"B2" [eB']]) = [eA, eB, eB', eC] ∧
    allErrors (collect [fileOf s%"beta" s%"B2" [eB'], fileOf s%"alpha" s%"A" [eA], fileOf s%"beta" s%"B" [eB],
      fileOf s%"gamma" s%"G" [eC]]) = [eA, eB', eB, eC] ∧
    (collect [fileOf s%"gamma" s%"G" [], fileOf s%"alpha" s%"A" [eA], fileOf s%"beta" s%"B" []]).map (·.1) =
      [s%"alpha", s%"beta", s%"gamma"] := by
  decide +kernel

/-- the hypotheses of `clean_neighbours` / `position_irrelevant` on the witness -/
example : (∀ p ∈ [(s%"alpha", fileOf s%"alpha" s%"A" [])], p.2.errors = []) ∧
    (s%"beta", fileOf s%"beta" s%"B" [eB]).2.errors ≠ [] := by
  refine ⟨?_, by decide⟩
  intro p hp
  simp only [List.mem_cons, List.not_mem_nil, or_false] at hp
  subst hp; rfl

end TsV.C03_FolderErrors
