import TsV.Lemmas.C11_Modules
import TsV.Props.C11_Coverage
import TsV.Props.C03_Emission
/-!
# C11, folder output — the module of a crate holds exactly that crate's items, each once

`Generate.run … (multiFile := true)` parses the files (`arrivals`), folds them per crate
(`collect`), reconciles (`reconcile`) and hands one job per crate to the back end.

* `C11_Modules` (`C11_Modules_full`), all six back ends: a run that produces output writes one
  module per crate of the run — the crates are the crate names of the arrivals, each once, in map
  order — followed only by Swift's `post_generation` file.  The module of crate `c` is the back
  end's `generate_types` of the job of `c` alone (`ModuleOf`; with the printer state the earlier
  crates left, for the back ends that have one).  It consists of one block per item
  (`BlockOf`: what `write_item` prints for it), the items written being — up to order — exactly the
  reconciled items of the arrivals of crate `c` (`recItemI`; same kinds and identifiers,
  `itemKey`), each once.  Nothing here mentions the other crates: names may coincide across crates.
* `C11_Modules_independent`: kinds, identifiers and pre-`topsort` order of a module's items are
  the same in any two runs in which crate `c` has the same arrivals, whatever the other crates
  define (the types inside the items may differ through the shared rename table).
* `C11_Modules_order`: the back ends that sort (`TypeScript`, `Kotlin`, `Swift`, `Go`, `Python`)
  write the module in `topsort` order of the module's own items, so `C11.C11_order` applies module
  by module; Scala writes `ParsedData` order.
-/
namespace TsV.C11_Modules
open TsV TsV.Lang TsV.Generate TsV.Pipeline TsV.Collect TsV.C06M TsV.C11M TsV.C12L TsV.C03E

/-- `b` is what the back end's `write_item` prints for `it` (in some printer state) -/
def BlockOf (E : Ext) : LangCfg → RustItem → Str → Prop
  | .typescript cfg, it, b => ∃ st st', TypeScript.writeItem E.U cfg it st = .ok (b, st')
  | .kotlin cfg, it, b => Kt.writeItem cfg it = .ok b
  | .swift cfg, it, b => ∃ st st', Swift.writeItem E.U cfg it st = .ok (b, st')
  | .scala cfg, it, b => Sc.writeItem cfg it = .ok b
  | .go cfg, it, b => ∃ cs st st', Go.writeItem E.U cfg cs it st = .ok (b, st')
  | .python cfg, it, b => ∃ st st', Python.writeItem E cfg it st = .ok (b, st')

/-- does the back end order a module with `topsort`? -/
def sorts : LangCfg → Bool
  | .scala _ => false
  | _ => true

/-- a module text made of one block per item of `items`, in that order, between header, (Scala:
package scaffolding in the middle) and footer -/
def MadeOf (E : Ext) (lang : LangCfg) (items : List RustItem) (text : Str) : Prop :=
  ∃ blocks : List Str, Paired (BlockOf E lang) items blocks ∧
    ∃ (pre mid post : Str) (n : Nat),
      text = pre ++ (blocks.take n).flatten ++ mid ++ (blocks.drop n).flatten ++ post

/-- **one module**: the items written are a permutation of the job's items (`topsort` order for the
sorting back ends, `ParsedData` order for Scala), one block each -/
theorem module_blocks (E : Ext) (lang : LangCfg) (j : Job) (text : Str) (h : ModuleOf E lang j text) :
    ∃ items, items.Perm (itemsOf j.2.1) ∧
      (if sorts lang then generateOrder j.2.1 = some items else items = itemsOf j.2.1) ∧
      MadeOf E lang items text := by
  cases lang with
  | typescript cfg =>
    obtain ⟨st, st', hg⟩ := h
    obtain ⟨items, blocks, ho, ht, _, htext⟩ := C03_Emission.blocks_typescript E.U cfg j.2.1 j.2.2 st text st' hg
    refine ⟨items, generateOrder_perm _ _ ho, ho, blocks, ht.forall₂.mono fun it b hb => hb,
      TS.header cfg j.2.2, [], TypeScript.endFile st', 0, ?_⟩
    simp [htext]
  | kotlin cfg =>
    obtain ⟨items, blocks, ho, hp, _, htext⟩ := C03_Emission.blocks_kotlin cfg j.2.1 j.2.2 text h
    refine ⟨items, generateOrder_perm _ _ ho, ho, blocks, hp, Kt.header cfg j.2.1 j.2.2, [], [], 0, ?_⟩
    simp [htext]
  | swift cfg =>
    obtain ⟨st, st', hg⟩ := h
    obtain ⟨items, blocks, ho, ht, _, htext⟩ := C03_Emission.blocks_swift E.U cfg true j.2.1 st text st' hg
    refine ⟨items, generateOrder_perm _ _ ho, ho, blocks, ht.forall₂.mono fun it b hb => hb,
      Swift.beginFile cfg, [], Swift.endFile cfg true st', 0, ?_⟩
    simp [htext]
  | scala cfg =>
    obtain ⟨blocks, hp, _, _, htext⟩ := C03_Emission.blocks_scala cfg j.2.1 text h
    exact ⟨itemsOf j.2.1, List.Perm.refl _, rfl, blocks, hp, Sc.pre cfg j.2.1, Sc.mid cfg j.2.1, Sc.post j.2.1,
      j.2.1.aliases.length, htext⟩
  | go cfg =>
    obtain ⟨st, st', hg⟩ := h
    obtain ⟨items, blocks, ho, ht, _, htext⟩ := C03_Emission.blocks_go E.U cfg j.2.1 st text st' hg
    refine ⟨items, generateOrder_perm _ _ ho, ho, blocks,
      ht.forall₂.mono (fun it b ⟨s, s', hb⟩ => ⟨_, s, s', hb⟩),
      Go.beginFile cfg ++ Go.renderImports st', [], [], 0, ?_⟩
    simp [htext]
  | python cfg =>
    obtain ⟨st, st', hg⟩ := h
    obtain ⟨items, blocks, st1, ho, ht, _, _, htext⟩ := C03_Emission.blocks_python E cfg j.2.1 st text st' hg
    refine ⟨items, generateOrder_perm _ _ ho, ho, blocks, ht.forall₂.mono fun it b hb => hb,
      Python.beginFile cfg ++ Python.writeAllImports st' ++ Python.writeCustomFns st', [], [], 0, ?_⟩
    simp [htext]

/-- a folder run that produces output: the arrivals, no parse error, one module per job, then the
post-generation files -/
theorem run_modules (E : Ext) (lang : LangCfg) (targetOs : List Str)
    (pick : List ImportedType → Option ImportedType) (files : List SourceFile) (outs : List (Str × Str))
    (h : Generate.run E lang true targetOs pick files = .ok (.outputs outs)) :
    ∃ arrivals mods post,
      parseAll E { ignoredTypes := ignoredTypes lang, multiFile := true, targetOs } pick files = .ok arrivals ∧
      allErrors (reconcile (collect arrivals)) = [] ∧
      outs = mods ++ post ∧ Mods (ModuleOf E lang) (jobsWith id (collect arrivals)) mods ∧
      postOf lang (jobsWith id (collect arrivals)) post := by
  obtain ⟨arrivals, ha, he, ho⟩ := Run.run_outputs h
  obtain ⟨mods, post, hsplit, hm, hp⟩ := generateAll_mods E lang _ outs ho
  exact ⟨arrivals, mods, post, ha, he, hsplit, hm, hp⟩

/-- the reconciled items of crate `c` in a run with arrivals `a` -/
def crateItems (a : List ParsedData) (c : Str) : List RustItem :=
  ((arr a c).flatMap itemsOf).map
    (recItemI c (collectSerdeRenames (collect a)) (merged {} (arr a c)).importTypes)

theorem crateItems_keys (a : List ParsedData) (c : Str) :
    (crateItems a c).map itemKey = ((arr a c).flatMap itemsOf).map itemKey := by
  unfold crateItems
  rw [List.map_map]
  apply List.map_congr_left
  intro it _
  exact itemKey_rec _ _ _ it

/-- the items of the job of crate `c` are the reconciled items of the arrivals of `c`, each once -/
theorem job_items (a : List ParsedData) (j : Job) (h : j ∈ jobsWith id (collect a)) :
    (itemsOf j.2.1).Perm (crateItems a j.1) := by
  obtain ⟨v, hv, hd⟩ := job_entry (collect a) j h
  rw [hd]
  refine (reconcileOne_items_perm _ _ _).trans ?_
  have hve := (collect_entry a hv).1
  unfold crateItems
  rw [← hve]
  exact (entry_items_perm a hv).map _

/-- **C11_Modules at full strength**: every back end, every run in folder mode -/
def C11_Modules_full : Prop :=
  ∀ (E : Ext) (lang : LangCfg) (targetOs : List Str) (pick : List ImportedType → Option ImportedType)
    (files : List SourceFile) (outs : List (Str × Str)),
    Generate.run E lang true targetOs pick files = .ok (.outputs outs) →
    ∃ arrivals mods post,
      parseAll E { ignoredTypes := ignoredTypes lang, multiFile := true, targetOs } pick files = .ok arrivals ∧
      outs = mods ++ post ∧ postOf lang (jobsWith id (collect arrivals)) post ∧
      -- one module per crate of the run, each crate once, in map order
      mods.map (·.1) = (collect arrivals).map (·.1) ∧ (mods.map (·.1)).Nodup ∧
      (∀ c, c ∈ mods.map (·.1) ↔ ∃ d ∈ arrivals, d.crateName = c) ∧
      -- the module of a crate: that crate's items, each once, one block per item
      ∀ p ∈ mods, ∃ j items, j ∈ jobsWith id (collect arrivals) ∧ j.1 = p.1 ∧ ModuleOf E lang j p.2 ∧
        items.Perm (crateItems arrivals p.1) ∧
        (items.map itemKey).Perm (((arr arrivals p.1).flatMap itemsOf).map itemKey) ∧
        (if sorts lang then generateOrder j.2.1 = some items else items = itemsOf j.2.1) ∧
        MadeOf E lang items p.2

/-- **C11_Modules.**  The model satisfies the statement. -/
theorem C11_Modules : C11_Modules_full := by
  intro E lang targetOs pick files outs h
  obtain ⟨arrivals, mods, post, ha, _, hsplit, hm, hp⟩ := run_modules E lang targetOs pick files outs h
  have hnames : mods.map (·.1) = (collect arrivals).map (·.1) := by rw [hm.names, jobsWith_names]
  refine ⟨arrivals, mods, post, ha, hsplit, hp, hnames, ?_, ?_, ?_⟩
  · rw [hnames]; exact (sorted_keys (collect_sorted arrivals)).nodup
  · intro c; rw [hnames]; exact collect_key_iff arrivals c
  · intro p hpm
    obtain ⟨j, hj, hj1, hmod⟩ := hm.mem_out p hpm
    obtain ⟨items, hperm, hord, hmade⟩ := module_blocks E lang j p.2 hmod
    have hji := job_items arrivals j hj
    rw [hj1] at hji
    refine ⟨j, items, hj, hj1, hmod, hperm.trans hji, ?_, hord, hmade⟩
    rw [← crateItems_keys]
    exact (hperm.trans hji).map _

/-! ## independence of the other crates -/

/-- **whatever the other crates define**: if crate `c` has the same arrivals in two runs, its jobs
have items of the same kinds and identifiers in the same pre-`topsort` order -/
theorem C11_Modules_independent (a a' : List ParsedData) (c : Str) (hc : arr a c = arr a' c)
    (j j' : Job) (hj : j ∈ jobsWith id (collect a)) (hj' : j' ∈ jobsWith id (collect a'))
    (h1 : j.1 = c) (h1' : j'.1 = c) :
    (itemsOf j.2.1).map itemKey = (itemsOf j'.2.1).map itemKey := by
  obtain ⟨v, hv, hd⟩ := job_entry (collect a) j hj
  obtain ⟨v', hv', hd'⟩ := job_entry (collect a') j' hj'
  have e1 := (collect_entry a hv).1
  have e2 := (collect_entry a' hv').1
  rw [h1] at e1
  rw [h1', ← hc] at e2
  rw [hd, hd', h1, h1', e1, e2]
  exact reconcile_keys_indep _ _ c _

/-- the crate exists in the second run exactly when it has an arrival there -/
theorem crate_has_job (a : List ParsedData) (c : Str) :
    (∃ j ∈ jobsWith id (collect a), j.1 = c) ↔ arr a c ≠ [] := by
  rw [arr_ne_nil_iff, ← collect_key_iff, ← jobsWith_names]
  simp [List.mem_map]

/-! ## order inside a module -/

/-- `generate_types` sorts the items of the module itself: `topsort` of `itemsOf d` -/
theorem generateOrder_eq (d : ParsedData) : generateOrder d = Deps.topsort (itemsOf d) := rfl

/-- **C11 module by module**: under C11's hypotheses on the items of the module, the sorting back
ends write every definition of the module after the definitions of the module it refers to -/
theorem C11_Modules_order (E : Ext) (lang : LangCfg) (hs : sorts lang = true) (j : Job) (text : Str)
    (h : ModuleOf E lang j text)
    (hd : Deps.NamesDistinct (itemsOf j.2.1)) (hdepth : C11.DepthOk (itemsOf j.2.1))
    (hgu : C11.GenericsUsed (itemsOf j.2.1)) (hac : C11.AcyclicRefs (itemsOf j.2.1)) :
    ∃ items, generateOrder j.2.1 = some items ∧ items.Perm (itemsOf j.2.1) ∧ MadeOf E lang items text ∧
      ∀ (pa pb : Nat) (x y : RustItem), items[pa]? = some x → items[pb]? = some y →
        y.originalName ∈ C11.refsItem x → pb < pa := by
  obtain ⟨items, hperm, hord, hmade⟩ := module_blocks E lang j text h
  rw [hs] at hord
  simp only [if_true] at hord
  obtain ⟨out, htop, _, hbefore⟩ := C11.C11_order (itemsOf j.2.1) hd hdepth hgu hac
  rw [generateOrder_eq, htop] at hord
  simp only [Option.some.injEq] at hord
  subst hord
  exact ⟨out, by rw [generateOrder_eq, htop], hperm, hmade, hbefore⟩

/-! ## non-vacuity: two crates that define a struct of the same name -/

def mkField (name : Str) (ty : RustType) : RustField :=
  { id := ⟨name, name, false⟩, ty, comments := [], hasDefault := false, decorators := [] }
def mkStruct (name : Str) (fields : List RustField) : RustStruct :=
  { id := ⟨name, name, false⟩, genericTypes := [], fields, comments := [], decorators := {}, isRedacted := false }

/-- crate `a`: `struct X { n: u8 }` and (a second file) `struct Y { x: X }`; crate `b`: `struct X { s: String }` -/
def fileA1 : ParsedData := { structs := [mkStruct s%"X" [mkField s%"n" (.prim .u8)]], crateName := s%"a", multiFile := true }
def fileA2 : ParsedData := { structs := [mkStruct s%"Y" [mkField s%"x" (.simple s%"X")]], crateName := s%"a", multiFile := true }
def fileB : ParsedData := { structs := [mkStruct s%"X" [mkField s%"s" (.prim .string)]], crateName := s%"b", multiFile := true }

def exArrivals : List ParsedData := [fileB, fileA1, fileA2]
/-- the same run with another crate `b` (it defines `Y`, `Z` instead) -/
def fileB' : ParsedData :=
  { structs := [mkStruct s%"Y" [], mkStruct s%"Z" []], crateName := s%"b", multiFile := true }
def exArrivals' : List ParsedData := [fileA1, fileB', fileA2]

example : (collect exArrivals).map (·.1) = [s%"a", s%"b"] := by decide +kernel
example : ((arr exArrivals s%"a").flatMap itemsOf).map itemKey =
    [(.struct, ⟨s%"X", s%"X", false⟩), (.struct, ⟨s%"Y", s%"Y", false⟩)] := by decide +kernel
example : ((arr exArrivals s%"b").flatMap itemsOf).map itemKey = [(.struct, ⟨s%"X", s%"X", false⟩)] := by
  decide +kernel
/-- the hypothesis of `C11_Modules_independent` for crate `a` -/
example : (arr exArrivals s%"a").map (·.structs.map (·.id.original)) =
    (arr exArrivals' s%"a").map (·.structs.map (·.id.original)) := by decide +kernel
example : arr exArrivals s%"a" = arr exArrivals' s%"a" := by
  simp [arr, exArrivals, exArrivals', fileA1, fileA2, fileB, fileB']
example : arr exArrivals s%"a" ≠ [] := by simp [arr, exArrivals, fileA1, fileA2, fileB]

end TsV.C11_Modules
