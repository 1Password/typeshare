import TsV.Props.C01
/-!
# C16, carried to the generated text — the key every back end binds is serde's `rename_all` form

`TsV.C16.C16_field` is a statement about the parser (`rename_all_to_case` against the port of
serde_derive's `case.rs`).  This module carries it through the six back ends with `TsV.C01.C01`: for each of
serde's eight rules, the JSON key that the *generated declaration* binds to a field of a struct, or to a field of
a struct variant, is `Serde.applyField rule <identifier>` — whenever serde has a key at all (`C16.Agree`: under
`camelCase` serde_derive itself panics on an empty Pascal form).

* `RuleKey rule f k`: the field carries no explicit `serde(rename)` and `k` agrees with
  `Serde.applyField rule` of the un-raw'd identifier.
* `C16_Backends_struct`: the declaration generated for an annotated struct whose `serde(rename_all = r)` names
  one of the eight rules binds every kept field without an own `serde(rename)` to its `RuleKey`.
* `C16_Backends_variant`: the same for the helper declaration of every struct variant, with the *variant's*
  `rename_all`.
* `C16_Backends_unknown`: a `rename_all` string that is no rule name leaves the bound keys at the identifiers.

The binding semantics (`C01.structKeys` / `C01.enumKeys`: which key a generated declaration binds) and the scope
(`C01.InScope`: conventional identifier, key alphabet; Scala: dash-free) are C01's.
-/
namespace TsV.C16_Backends
open TsV TsV.Str TsV.Syn TsV.Parser TsV.Serde TsV.Lang TsV.Outcome TsV.C01

/-- the key is serde's `rename_all` form of the field's identifier -/
def RuleKey (rule : Rule) (f : Field) (k : Str) : Prop :=
  C16.Agree (.ok k) (applyField rule (stripRaw (f.ident.getD [])))

theorem serdeKey_rule (E : Ext) (r : Str) (rule : Rule) (f : Field) (k : Str)
    (hrule : Rule.ofStr r = some rule) (hn : serdeRename E f.attrs = none) (h : SerdeKey E (some r) f k) :
    RuleKey rule f k := by
  unfold SerdeKey fieldKeyOf fieldKey at h
  simpa [hn, hrule, RuleKey] using h

theorem serdeKey_unknown (E : Ext) (ra : Option Str) (f : Field) (k : Str)
    (hrule : ra.bind Rule.ofStr = none) (hn : serdeRename E f.attrs = none) (h : SerdeKey E ra f k) :
    k = stripRaw (f.ident.getD []) := by
  unfold SerdeKey fieldKeyOf fieldKey at h
  simp only [hn, hrule] at h
  have := h _ rfl
  simpa using this

/-- **structs, all six back ends, all eight rules** -/
theorem C16_Backends_struct (E : Ext) (hU : E.U.AsciiCorrect) (L : TsV.Lang) (ctx : Ctx L) (targetOs : List Str)
    (attrs : List Attr) (ident : Str) (gens : List GenericParam) (fs : List Field) (rs rs' : RustStruct)
    (ks : List Str) (r : Str) (rule : Rule)
    (hra : serdeRenameAll E attrs = some r) (hrule : Rule.ofStr r = some rule)
    (hparse : parseStruct E targetOs attrs ident gens (.named fs) = .ok (.struct rs))
    (hids : fieldIds rs'.fields = fieldIds rs.fields)
    (hscope : ∀ f ∈ kept targetOs fs, InScope E L (some r) f)
    (hd : Distinct L rs'.fields)
    (hkeys : structKeys E L ctx rs' = .ok ks) :
    Forall₂ (fun f k => serdeRename E f.attrs = none → RuleKey rule f k) (kept targetOs fs) ks := by
  have h := (C01 E hU L ctx targetOs).1 attrs ident gens fs rs rs' ks hparse hids (by rw [hra]; exact hscope) hd hkeys
  rw [hra] at h
  exact Forall₂.imp (fun f k hk hn => serdeKey_rule E r rule f k hrule hn hk) h

/-- **struct variants**: the rule is the variant's own `rename_all` -/
theorem C16_Backends_variant (E : Ext) (hU : E.U.AsciiCorrect) (L : TsV.Lang) (ctx : Ctx L) (targetOs : List Str)
    (attrs : List Attr) (ident : Str) (gens : List GenericParam) (variants : List Variant) (e e' : RustEnum)
    (kss : List (List Str))
    (hparse : parseEnum E targetOs attrs ident gens variants = .ok (.enum e))
    (hids : (structVariants e').map (fun p => fieldIds p.2) = (structVariants e).map (fun p => fieldIds p.2))
    (hscope : ∀ v ∈ variants.filter (fun v => !isSkipped v.attrs targetOs), ∀ fs, v.fields = .named fs →
      ∀ f ∈ kept targetOs fs, InScope E L (serdeRenameAll E v.attrs) f)
    (hd : ∀ p ∈ structVariants e', Distinct L p.2)
    (hkeys : enumKeys E L ctx e' = .ok kss) :
    Forall₂ (fun v ks => ∃ fs, v.fields = .named fs ∧
        ∀ r rule, serdeRenameAll E v.attrs = some r → Rule.ofStr r = some rule →
          Forall₂ (fun f k => serdeRename E f.attrs = none → RuleKey rule f k) (kept targetOs fs) ks)
      ((variants.filter fun v => !isSkipped v.attrs targetOs).filter namedFields) kss := by
  have h := (C01 E hU L ctx targetOs).2 attrs ident gens variants e e' kss hparse hids hscope hd hkeys
  refine Forall₂.imp ?_ h
  rintro v ks ⟨fs, hfs, hk⟩
  refine ⟨fs, hfs, fun r rule hra hrule => ?_⟩
  rw [hra] at hk
  exact Forall₂.imp (fun f k hk hn => serdeKey_rule E r rule f k hrule hn hk) hk

/-- **an unknown rule (or none) leaves the bound keys at the identifiers** -/
theorem C16_Backends_unknown (E : Ext) (hU : E.U.AsciiCorrect) (L : TsV.Lang) (ctx : Ctx L) (targetOs : List Str)
    (attrs : List Attr) (ident : Str) (gens : List GenericParam) (fs : List Field) (rs rs' : RustStruct)
    (ks : List Str)
    (hrule : (serdeRenameAll E attrs).bind Rule.ofStr = none)
    (hparse : parseStruct E targetOs attrs ident gens (.named fs) = .ok (.struct rs))
    (hids : fieldIds rs'.fields = fieldIds rs.fields)
    (hscope : ∀ f ∈ kept targetOs fs, InScope E L (serdeRenameAll E attrs) f)
    (hd : Distinct L rs'.fields)
    (hkeys : structKeys E L ctx rs' = .ok ks) :
    Forall₂ (fun f k => serdeRename E f.attrs = none → k = stripRaw (f.ident.getD [])) (kept targetOs fs) ks := by
  have h := (C01 E hU L ctx targetOs).1 attrs ident gens fs rs rs' ks hparse hids hscope hd hkeys
  exact Forall₂.imp (fun f k hk hn => serdeKey_unknown E _ f k hrule hn hk) h

/-! ## non-vacuity: the eight rules on `struct S { user_id, r#type }`, the keys the Kotlin and Swift declarations bind -/

def E0 : Ext := { U := .ascii, parseType := fun _ => none }
def attrsFor (r : Str) : List Attr :=
  [⟨.path [s%"typeshare"]⟩, ⟨.list [s%"serde"] true [.nameValue [s%"rename_all"] (some (.str r))]⟩]
def exFields : List Field :=
  [⟨[], some s%"user_id", .path [] s%"u32" []⟩, ⟨[], some s%"r#type", .path [] s%"String" []⟩]
def structFor (r : Str) : RustStruct :=
  match parseStruct E0 [] (attrsFor r) s%"S" [] (.named exFields) with
  | .ok (.struct rs) => rs
  | _ => default

def rules : List (Str × Rule) :=
  [(s%"lowercase", .lower), (s%"UPPERCASE", .upper), (s%"PascalCase", .pascal), (s%"camelCase", .camel),
   (s%"snake_case", .snake), (s%"SCREAMING_SNAKE_CASE", .screamingSnake), (s%"kebab-case", .kebab),
   (s%"SCREAMING-KEBAB-CASE", .screamingKebab)]

example : rules.all (fun p => Rule.ofStr p.1 == some p.2) = true := by decide +kernel

/-- serde's keys for the two fields, rule by rule … -/
example : rules.map (fun p => exFields.map fun f => applyField p.2 (stripRaw (f.ident.getD []))) =
    [[.ok s%"user_id", .ok s%"type"], [.ok s%"USER_ID", .ok s%"TYPE"], [.ok s%"UserId", .ok s%"Type"],
     [.ok s%"userId", .ok s%"type"], [.ok s%"user_id", .ok s%"type"], [.ok s%"USER_ID", .ok s%"TYPE"],
     [.ok s%"user-id", .ok s%"type"], [.ok s%"USER-ID", .ok s%"TYPE"]] := by decide +kernel

/-- the keys bound for `user_id`, `r#type` under each of the eight rules, in the order of `rules` -/
def keysByRule : List (Outcome (List Str)) :=
    [.ok [s%"user_id", s%"type"], .ok [s%"USER_ID", s%"TYPE"], .ok [s%"UserId", s%"Type"],
     .ok [s%"userId", s%"type"], .ok [s%"user_id", s%"type"], .ok [s%"USER_ID", s%"TYPE"],
     .ok [s%"user-id", s%"type"], .ok [s%"USER-ID", s%"TYPE"]]
/-- one evaluation for the three back ends (default configurations, initial printer states), so that the eight
structs are parsed once -/
theorem keys_by_rule : ∀ L ∈ [TsV.Lang.kotlin, .swift, .go],
    rules.map (fun p => structKeys E0 L (ctx0 L) (structFor p.1)) = keysByRule := by decide +kernel
/-- … and the keys the generated Kotlin / Swift / Go declarations bind -/
example : rules.map (fun p => structKeys E0 .kotlin {} (structFor p.1)) =
    [.ok [s%"user_id", s%"type"], .ok [s%"USER_ID", s%"TYPE"], .ok [s%"UserId", s%"Type"],
     .ok [s%"userId", s%"type"], .ok [s%"user_id", s%"type"], .ok [s%"USER_ID", s%"TYPE"],
     .ok [s%"user-id", s%"type"], .ok [s%"USER-ID", s%"TYPE"]] := keys_by_rule .kotlin (by decide)
example : rules.map (fun p => structKeys E0 .swift ({}, false) (structFor p.1)) =
    [.ok [s%"user_id", s%"type"], .ok [s%"USER_ID", s%"TYPE"], .ok [s%"UserId", s%"Type"],
     .ok [s%"userId", s%"type"], .ok [s%"user_id", s%"type"], .ok [s%"USER_ID", s%"TYPE"],
     .ok [s%"user-id", s%"type"], .ok [s%"USER-ID", s%"TYPE"]] := keys_by_rule .swift (by decide)
example : rules.map (fun p => structKeys E0 .go ({}, []) (structFor p.1)) =
    [.ok [s%"user_id", s%"type"], .ok [s%"USER_ID", s%"TYPE"], .ok [s%"UserId", s%"Type"],
     .ok [s%"userId", s%"type"], .ok [s%"user_id", s%"type"], .ok [s%"USER_ID", s%"TYPE"],
     .ok [s%"user-id", s%"type"], .ok [s%"USER-ID", s%"TYPE"]] := keys_by_rule .go (by decide)

/-- every hypothesis of `C16_Backends_struct` is met for `kebab-case` and Swift (a dashed key: `CodingKeys`) -/
example : Forall₂ (fun f k => serdeRename E0 f.attrs = none → RuleKey .kebab f k) (kept [] exFields)
    [s%"user-id", s%"type"] := by
  obtain ⟨hall, hrule, hscope, hdistinct, hkeys⟩ : serdeRenameAll E0 (attrsFor s%"kebab-case") = some s%"kebab-case" ∧
      Rule.ofStr s%"kebab-case" = some .kebab ∧
      (kept [] exFields).all (inScopeB E0 .swift (some s%"kebab-case")) = true ∧
      Distinct .swift (structFor s%"kebab-case").fields ∧
      structKeys E0 .swift ({}, false) (structFor s%"kebab-case") = .ok [s%"user-id", s%"type"] := by decide +kernel
  exact C16_Backends_struct E0 UnicodeOps.ascii_correct .swift ({}, false) [] (attrsFor s%"kebab-case") s%"S" [] exFields
    (structFor s%"kebab-case") (structFor s%"kebab-case") _ s%"kebab-case" .kebab hall hrule
    (by rfl) rfl (inScopeB_all _ _ _ _ hscope) hdistinct hkeys

end TsV.C16_Backends
