import TsV.Lemmas.C13_ModuleAttrs
import TsV.Props.C13_Pruned
/-!
# C13 / C03 — an inline module is not an attachment level

The abstract AST records the attribute list of an inline module (`Item.mod attrs ident items`), so the
independence is a theorem, not a property of the translation.  The visitor never *decides* anything on these
attributes — no `--target-os` rule, no `cfg(test)` rule, no annotation test: `visit_item_mod` is not
overridden, `syn::visit::visit_item_mod` walks the attribute paths (`visit_path`) and then the items.

`SameButModAttrs f f'` (`Lemmas/C13_ModuleAttrs.lean`): `f'` is `f` with the attribute list of any inline
modules, at any depth (also inside function bodies), replaced by any other lists — same inner attributes,
same marker, same items after blanking module attributes (`stripItems`).  `reattr g f` is one way to make
such a file: `g depth name old` is the new list of the module `name` at nesting depth `depth`.

* `C13_ModuleAttrs_full`: `parser::parse` answers the same for `f` and `f'` in every context.  **False in
  folder mode** (`C13_ModuleAttrs_not_full`): the *path* of a module attribute is walked like every other
  path, so `#[other::Foo] mod m {}` records the import `other::Foo`, which survives
  `reconcile_referenced_types` when a kept item mentions `Foo`.  (Only the raw import set is affected.)
* `C13_ModuleAttrs` (single-file mode, every `--target-os` list): outright equality.
* `C13_ModuleAttrs_folder` (every mode, every list): equality of everything except `importTypes` — the same
  structs, enums, aliases, consts, members, error entries, type names, `None`-ness, panics.
* `C13_ModuleAttrs_plain` (every mode, every list): outright equality when the module attributes on both sides
  have single-identifier paths (`cfg(..)`, `cfg_attr(..)`, `doc`, `path = ".."`, `allow(..)`, `typeshare`,
  `serde(..)` …).
* `visit_mod`, `visit_mod_single`: the visitor's result on `Item.mod` is the fold over the module's items
  started in the *enclosing* state (plus, in folder mode, the imports of the attribute paths), nothing else.
* `C13_ModuleAttrs_text`: the same when the replacement changes whether the text contains `#[typeshare`
  (e.g. `#[typeshare] mod m {..}` in a file without any annotated item): both answers are `None`.
-/
namespace TsV.C13_ModuleAttrs
open TsV TsV.Syn TsV.Parser TsV.Visitor TsV.C13P TsV.C13MA TsV.C13_Pruned

/-- **the independence at full strength**: in every context (`--target-os` list, single-file or folder mode,
ignored types) `parser::parse` answers the same whatever attributes the inline modules carry -/
def C13_ModuleAttrs_full : Prop :=
  ∀ (E : Ext) (ctx : ParseContext) (pick : List ImportedType → Option ImportedType) (cn fn fp : Str)
    (f f' : File), SameButModAttrs f f' →
    parseFile E ctx pick cn fn fp f' = parseFile E ctx pick cn fn fp f

/-! ## the visitor on a module -/

/-- the visitor's result on an inline module is the fold over the module's items, started in the enclosing
state to which the paths of the module's attributes have been offered as imports — no test of any kind -/
theorem visit_mod (E : Ext) (ctx : ParseContext) (fp : Str) (d : ParsedData) (attrs : List Attr) (ident : Str)
    (items : List Item) :
    visitItem E ctx fp d (.mod attrs ident items) =
      visitItems E ctx fp (addPaths E ctx d (attrPaths attrs)) items := by
  simp only [visitItem]

/-- offering paths changes the raw import set only -/
theorem addPaths_forget (E : Ext) (ctx : ParseContext) (d : ParsedData) (ps : List (List Str)) :
    forget (addPaths E ctx d ps) = forget d :=
  C13P.addPaths_forget E ctx d ps

/-- in single-file mode: the fold over the module's items with the enclosing state, nothing else -/
theorem visit_mod_single (E : Ext) (ctx : ParseContext) (fp : Str) (d : ParsedData) (attrs : List Attr)
    (ident : Str) (items : List Item) (hsingle : ctx.multiFile = false) :
    visitItem E ctx fp d (.mod attrs ident items) = visitItems E ctx fp d items := by
  simp only [visitItem, addPaths, hsingle]
  rfl

/-- in every mode, for attributes with single-identifier paths: the same -/
theorem visit_mod_plain (E : Ext) (ctx : ParseContext) (fp : Str) (d : ParsedData) (attrs : List Attr)
    (ident : Str) (items : List Item) (hp : plain attrs = true) :
    visitItem E ctx fp d (.mod attrs ident items) = visitItems E ctx fp d items := by
  simp only [visitItem, addPaths_plain E ctx d attrs hp]

theorem visitFile_same (E : Ext) (ctx : ParseContext) (cn fn fp : Str) (f f' : File)
    (h : SameButModAttrs f f') :
    AgreeO ctx (visitFile E ctx cn fn fp f) (visitFile E ctx cn fn fp f') := by
  obtain ⟨ha, _, hi⟩ := h
  simp only [visitFile, ha]
  split
  · exact visitItems_same E ctx fp f.items f'.items _ hi
  · exact Agree.refl ctx _

theorem parseFile_same_both (E : Ext) (ctx : ParseContext) (pick : List ImportedType → Option ImportedType)
    (cn fn fp : Str) (f f' : File) (h : SameButModAttrs f f') :
    forgetR (parseFile E ctx pick cn fn fp f') = forgetR (parseFile E ctx pick cn fn fp f) ∧
    (ctx.multiFile = false → parseFile E ctx pick cn fn fp f' = parseFile E ctx pick cn fn fp f) :=
  parseFile_agree E ctx pick cn fn fp f f' h.2.1 (visitFile_same E ctx cn fn fp f f' h)

/-- **C13_ModuleAttrs (single-file mode).**  With `-o`, for every `--target-os` list: replacing the attribute
lists of inline modules, at any depth, by any other lists does not change the answer of `parser::parse`. -/
theorem C13_ModuleAttrs (E : Ext) (ctx : ParseContext) (pick : List ImportedType → Option ImportedType)
    (cn fn fp : Str) (f f' : File) (h : SameButModAttrs f f') (hsingle : ctx.multiFile = false) :
    parseFile E ctx pick cn fn fp f' = parseFile E ctx pick cn fn fp f :=
  (parseFile_same_both E ctx pick cn fn fp f f' h).2 hsingle

/-- **C13_ModuleAttrs (every mode).**  The two answers agree in everything but the raw import set. -/
theorem C13_ModuleAttrs_folder (E : Ext) (ctx : ParseContext) (pick : List ImportedType → Option ImportedType)
    (cn fn fp : Str) (f f' : File) (h : SameButModAttrs f f') :
    forgetR (parseFile E ctx pick cn fn fp f') = forgetR (parseFile E ctx pick cn fn fp f) :=
  (parseFile_same_both E ctx pick cn fn fp f f' h).1

/-- **C13_ModuleAttrs (every mode, single-identifier attribute paths).**  When the module attributes of both
files are of the kind `cfg(..)`, `cfg_attr(..)`, `doc = ".."`, `path = ".."`, `allow(..)`, `typeshare`,
`serde(..)`, the answers are equal outright — folder mode included. -/
theorem C13_ModuleAttrs_plain (E : Ext) (ctx : ParseContext) (pick : List ImportedType → Option ImportedType)
    (cn fn fp : Str) (f f' : File) (h : SameButModAttrs f f')
    (hp : modsPlainList f.items = true) (hp' : modsPlainList f'.items = true) :
    parseFile E ctx pick cn fn fp f' = parseFile E ctx pick cn fn fp f := by
  obtain ⟨ha, hm, hi⟩ := h
  simp only [parseFile, visitFile, ha, hm,
    ← visitItems_strip_plain E ctx fp f.items _ hp, ← visitItems_strip_plain E ctx fp f'.items _ hp', hi]

/-- field by field, for a file that yields data -/
theorem C13_ModuleAttrs_fields (E : Ext) (ctx : ParseContext) (pick : List ImportedType → Option ImportedType)
    (cn fn fp : Str) (f f' : File) (hs : SameButModAttrs f f') (d : ParsedData)
    (h : parseFile E ctx pick cn fn fp f = .ok (some d)) :
    ∃ d', parseFile E ctx pick cn fn fp f' = .ok (some d') ∧
      d'.structs = d.structs ∧ d'.enums = d.enums ∧ d'.aliases = d.aliases ∧ d'.consts = d.consts ∧
      d'.errors = d.errors ∧ d'.typeNames = d.typeNames ∧ d'.crateName = d.crateName ∧
      d'.fileName = d.fileName ∧ d'.multiFile = d.multiFile := by
  have hf := C13_ModuleAttrs_folder E ctx pick cn fn fp f f' hs
  rw [h] at hf
  exact forgetR_some hf

/-- **the text marker.**  A replacement may change whether the text contains `#[typeshare` (a module that
itself carries `#[typeshare]`).  Whichever value `m` the marker of the new text has — the old one, or any
value when no item of the file is annotated — the answers agree. -/
theorem C13_ModuleAttrs_text (E : Ext) (ctx : ParseContext) (pick : List ImportedType → Option ImportedType)
    (cn fn fp : Str) (f f' : File) (m : Bool) (h : SameButModAttrs f f')
    (hm : m = f.marker ∨ noAnnotatedList f.items = true) :
    forgetR (parseFile E ctx pick cn fn fp { f' with marker := m }) = forgetR (parseFile E ctx pick cn fn fp f) := by
  rcases hm with rfl | hn
  · exact C13_ModuleAttrs_folder E ctx pick cn fn fp f { f' with marker := f.marker } ⟨h.1, rfl, h.2.2⟩
  · have hn' : noAnnotatedList f'.items = true := by
      rw [← noAnnotatedList_strip, h.2.2, noAnnotatedList_strip]; exact hn
    rw [parseFile_noAnnotated E ctx pick cn fn fp f hn,
      parseFile_noAnnotated E ctx pick cn fn fp { f' with marker := m } hn']

/-- rewriting every module's attribute list by a function of depth, name and old list -/
def reattr (g : Nat → Str → List Attr → List Attr) (f : File) : File :=
  { f with items := reattrItems g 0 f.items }

theorem reattr_same (g : Nat → Str → List Attr → List Attr) (f : File) : SameButModAttrs f (reattr g f) :=
  ⟨rfl, rfl, strip_reattrItems g 0 f.items⟩

/-- blanking is the special case; and the relation is symmetric, so "any list by any other list" -/
theorem same_symm {f f' : File} (h : SameButModAttrs f f') : SameButModAttrs f' f :=
  ⟨h.1.symm, h.2.1.symm, h.2.2.symm⟩

/-! ## the witness against the full statement (folder mode), kernel-checked -/

def wCtx : ParseContext := { multiFile := true }
def pathAttr : Attr := ⟨.path [s%"other", s%"Foo"]⟩
def keptStruct : Item := .struct [tsAttr] s%"Kept" [] (.named [⟨[], some s%"y", .path [] s%"Foo" []⟩])

/-- ```
#[other::Foo] mod m {}
#[typeshare] pub struct Kept { pub y: Foo }
``` -/
def wFile : File := { attrs := [], marker := true, items := [.mod [pathAttr] s%"m" [], keptStruct] }
/-- the same with `mod m {}` bare -/
def wFile' : File := { attrs := [], marker := true, items := [.mod [] s%"m" [], keptStruct] }

theorem wSame : SameButModAttrs wFile wFile' := ⟨rfl, rfl, rfl⟩

theorem witness_original :
    importsOf (parseFile wE wCtx List.head? s%"mine" s%"mine" s%"src/lib.rs" wFile) = [⟨s%"other", s%"Foo"⟩] := by
  decide +kernel

theorem witness_bare :
    importsOf (parseFile wE wCtx List.head? s%"mine" s%"mine" s%"src/lib.rs" wFile') = [] := by
  decide +kernel

/-- **the full statement is false in folder mode**: the path of a module attribute is an import candidate. -/
theorem C13_ModuleAttrs_not_full : ¬ C13_ModuleAttrs_full := by
  intro h
  have := congrArg importsOf (h wE wCtx List.head? s%"mine" s%"mine" s%"src/lib.rs" wFile wFile' wSame)
  rw [witness_original, witness_bare] at this
  exact absurd this (by decide +kernel)

def cfgTest : Attr := ⟨.list [s%"cfg"] true [.path [s%"test"]]⟩
def cfgIos : Attr := ⟨.list [s%"cfg"] true [.nameValue [s%"target_os"] (some (.str s%"ios"))]⟩
def cfgNotAndroid : Attr :=
  ⟨.list [s%"cfg"] true [.list [s%"not"] true [.nameValue [s%"target_os"] (some (.str s%"android"))]]⟩

/-- ```
#[cfg(test)] mod a { #[cfg(target_os = "ios")] mod b { #[typeshare] struct Kept { y: Foo } } }
fn body() { #[cfg(not(target_os = "android"))] #[typeshare] mod c { #[typeshare] struct Kept { y: Foo } } }
``` -/
def nFile : File :=
  { attrs := [], marker := true,
    items := [.mod [cfgTest] s%"a" [.mod [cfgIos] s%"b" [keptStruct]],
              .other [] [.mod [cfgNotAndroid, tsAttr] s%"c" [keptStruct]]] }
/-- the twin without module attributes -/
def nTwin : File :=
  { attrs := [], marker := true,
    items := [.mod [] s%"a" [.mod [] s%"b" [keptStruct]], .other [] [.mod [] s%"c" [keptStruct]]] }

/-- the hypotheses of the three theorems hold for the pair … -/
example : SameButModAttrs nTwin nFile := ⟨rfl, rfl, rfl⟩
example : modsPlainList nFile.items = true ∧ modsPlainList nTwin.items = true := by decide +kernel
example : reattr (fun _ _ _ => []) nFile = nTwin := rfl
/-- … both structs are parsed under `--target-os android`, in folder mode, although the modules are
`cfg(test)`, `cfg(target_os = "ios")` and `cfg(not(target_os = "android"))` -/
example : (match parseFile wE { multiFile := true, targetOs := [s%"android"] } List.head? s%"mine" s%"mine"
      s%"src/lib.rs" nFile with
    | .ok (some d) => d.structs.map (·.id.original) | _ => []) = [s%"Kept", s%"Kept"] := by decide +kernel
/-- the witness pair is outside `C13_ModuleAttrs_plain` and inside the other two -/
example : modsPlainList wFile.items = false := by decide +kernel

end TsV.C13_ModuleAttrs
