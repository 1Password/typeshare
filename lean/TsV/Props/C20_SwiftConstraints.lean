import TsV.Lemmas.C20_SwiftConstraints
/-!
# C20, Swift's file-only settings reach every declaration

`default_generic_constraints`, `default_decorators` and `codablevoid_constraints` exist only in
`typeshare.toml` ("settings only in the file … are applied unchanged").  How far do they reach?

* `C20_SwiftConstraints` (`C20_SwiftConstraints_full`): in every struct declaration, every enum
  declaration and every helper struct of a struct variant, the generic clause names exactly the
  declaration's parameters, in order, and the constraint list printed for *each* parameter contains
  `Codable` and every configured constraint (each entry split at `&` and trimmed, as
  `GenericConstraints::from_config` does) — whether or not the item carries
  `swiftGenericConstraints` of its own (the helper structs inherit the enum's).  The conformance list
  of each of these declarations contains `Codable` and every `default_decorators` entry, and the
  `CodableVoid` declaration carries these and every `codablevoid_constraints` entry.
  `constraints_exact`: nothing else is printed (defaults, or the item's own for that parameter).
* the facts are what is rendered: `writeStruct_clause`, `writeEnum_clause`, `constraint_in_text`.
* **aliases**: `write_type_alias` prints `<T, U>` without any constraint.  The statement with
  aliases inside the quantifier (`AliasClause_full`) is false: `C20_SwiftConstraints_alias_not`.
-/
namespace TsV.C20_SwiftConstraints
open TsV TsV.Lang TsV.Lang.Swift TsV.C20S

/-- **the statement**: every struct, every enum, every helper struct; `CodableVoid` -/
def C20_SwiftConstraints_full : Prop :=
  ∀ (U : UnicodeOps) (cfg : Cfg),
    (∀ (rs : RustStruct) (st st' : St) (s : SwiftStruct), structFacts U cfg rs st = .ok (s, st') →
      Reaches U cfg s.generics rs.genericTypes ∧ DecoratorsReach cfg s.conformances) ∧
    (∀ (e : RustEnum) (st st' : St) (ss : List SwiftStruct) (se : SwiftEnum),
      enumFacts U cfg e st = .ok (ss, se, st') →
      Reaches U cfg se.generics e.genericTypes ∧ DecoratorsReach cfg se.conformances ∧
      ss.length = (structVariants e).length ∧
      ∀ p ∈ (structVariants e).zip ss,
        Reaches U cfg p.2.generics
          (anonymousStruct e (anonymousStructName e p.1.1.original) p.1.1.original p.1.2).genericTypes ∧
        DecoratorsReach cfg p.2.conformances) ∧
    (DecoratorsReach cfg (codableVoidConformances cfg) ∧
      ∀ d ∈ cfg.codablevoidConstraints, d ∈ codableVoidConformances cfg)

theorem zip_of_map_eq {α β γ} (f : β → γ) (g : α → γ) : ∀ (l : List α) (ss : List β), ss.map f = l.map g →
    ss.length = l.length ∧ ∀ p ∈ l.zip ss, f p.2 = g p.1 := by
  intro l
  induction l with
  | nil => intro ss h; cases ss with
    | nil => exact ⟨rfl, fun p hp => by simp at hp⟩
    | cons _ _ => simp at h
  | cons a l ih =>
    intro ss h
    cases ss with
    | nil => simp at h
    | cons b ss =>
      simp only [List.map_cons, List.cons.injEq] at h
      obtain ⟨hl, hz⟩ := ih ss h.2
      refine ⟨by simp [hl], fun p hp => ?_⟩
      simp only [List.zip_cons_cons, List.mem_cons] at hp
      rcases hp with rfl | hp
      · exact h.1
      · exact hz p hp

/-- **C20_SwiftConstraints.**  The model satisfies the statement. -/
theorem C20_SwiftConstraints : C20_SwiftConstraints_full := by
  intro U cfg
  refine ⟨?_, ?_, codableVoid_reach cfg⟩
  · intro rs st st' s h
    obtain ⟨hg, hc⟩ := structFacts_clauses U cfg rs st st' s h
    rw [hg, hc]
    exact ⟨genericParams_reaches U cfg _ _, structConformances_reach cfg _⟩
  · intro e st st' ss se h
    obtain ⟨hg, hc, hss⟩ := enumFacts_clauses U cfg e st st' ss se h
    rw [hg, hc]
    obtain ⟨hl, hz⟩ := zip_of_map_eq _ _ _ _ hss
    refine ⟨genericParams_reaches U cfg _ _, enumConformances_reach cfg e, hl, fun p hp => ?_⟩
    have := hz p hp
    simp only [Prod.mk.injEq] at this
    rw [this.1, this.2]
    exact ⟨genericParams_reaches U cfg _ _, structConformances_reach cfg _⟩

/-- nothing else is printed for a parameter: a default constraint, or one the item itself gives
for a parameter in `swiftGenericConstraints` -/
theorem constraints_exact (U : UnicodeOps) (cfg : Cfg) (dm : DecoratorMap) (gens : List Str) :
    ∀ p ∈ genericParams U cfg dm gens, ∀ c,
      c ∈ p.constraints → c = codable ∨ c ∈ configured U cfg ∨
        ∃ gcs gc, dm.swiftGenericConstraints = some gcs ∧ gc ∈ gcs ∧
          ∃ name own rest, splitChar ':' gc = name :: own :: rest ∧ c ∈ ownConstraints U own := by
  intro p hp c hc
  rcases genericParams_only U cfg dm gens p hp c hc with h | h
  · rcases (mem_defaultConstraints U cfg c).1 h with h | h
    · exact Or.inl h
    · exact Or.inr (Or.inl h)
  · exact Or.inr (Or.inr h)

/-- the default decorators come first, in the configured order, right after `Codable` -/
theorem struct_conformances_prefix (U : UnicodeOps) (cfg : Cfg) (rs : RustStruct) (st st' : St) (s : SwiftStruct)
    (h : structFacts U cfg rs st = .ok (s, st')) : (codable :: cfg.defaultDecorators) <+: s.conformances := by
  rw [(structFacts_clauses U cfg rs st st' s h).2]
  exact structConformances_prefix cfg _

/-! ## the facts are what is printed -/

/-- what follows the head line of a struct declaration -/
def structRest (U : UnicodeOps) (s : SwiftStruct) : Str :=
  s.props.flatMap (renderProp U) ++
  (if s.explicitCodingKeys then renderCodingKeys s.codingKeys else []) ++
  (if s.props.isEmpty then [] else nl) ++
  s%"\tpublic init(" ++ Str.intercalate s%", " (s.initParams.map renderInitParam) ++ s%") {" ++
  s.initAssigns.flatMap renderInitAssign ++
  (if s.props.isEmpty then [] else s%"\n\t") ++ s%"}\n" ++
  s%"}\n"

/-- the head line of a struct declaration: name, generic clause, conformance list -/
theorem renderStruct_head (U : UnicodeOps) (s : SwiftStruct) :
    renderStruct U s = nl ++ comments U 0 s.comments ++ s%"public struct " ++ s.name ++
      renderGenericClause s.generics ++ s%": " ++ Str.intercalate s%", " s.conformances ++ s%" {\n" ++ structRest U s := by
  unfold renderStruct structRest
  simp only [List.append_assoc]

theorem writeStruct_clause (U : UnicodeOps) (cfg : Cfg) (rs : RustStruct) (st st' : St) (txt : Str)
    (h : writeStruct U cfg rs st = .ok (txt, st')) :
    ∃ s, structFacts U cfg rs st = .ok (s, st') ∧
      txt = nl ++ comments U 0 s.comments ++ s%"public struct " ++ s.name ++ renderGenericClause s.generics ++ s%": " ++
        Str.intercalate s%", " s.conformances ++ s%" {\n" ++ structRest U s := by
  unfold writeStruct at h
  obtain ⟨s, st1, h1, h⟩ := Outcome.of_bind_pair_ok h
  simp only [Outcome.ok.injEq, Prod.mk.injEq] at h
  obtain ⟨rfl, rfl⟩ := h
  exact ⟨s, h1, renderStruct_head U s⟩

/-- what follows the head line of an enum declaration -/
def enumRest (U : UnicodeOps) (e : SwiftEnum) : Str :=
  (match e.codable with
   | none => e.cases.flatMap (renderUnitCase U)
   | some _ => e.cases.flatMap (renderAlgebraicCase U)) ++
  (if e.codingKeys.isEmpty then [] else renderCodingKeys e.codingKeys) ++
  (match e.codable with
   | none => []
   | some a => renderCodable a) ++
  s%"}\n"

theorem renderEnum_head (U : UnicodeOps) (e : SwiftEnum) :
    renderEnum U e = comments U 0 e.comments ++ s%"public " ++ (if e.indirect then s%"indirect " else []) ++ s%"enum " ++
      e.name ++ renderGenericClause e.generics ++ s%": " ++ Str.intercalate s%", " e.conformances ++ s%" {\n" ++
      enumRest U e := by
  unfold renderEnum enumRest
  simp only [List.append_assoc]
  cases e.codable <;> rfl

/-- an enum: the helper structs rendered, then the enum's head line -/
theorem writeEnum_clause (U : UnicodeOps) (cfg : Cfg) (e : RustEnum) (st st' : St) (txt : Str)
    (h : writeEnum U cfg e st = .ok (txt, st')) :
    ∃ ss se, enumFacts U cfg e st = .ok (ss, se, st') ∧
      txt = nl ++ ss.flatMap (renderStruct U) ++ (comments U 0 se.comments ++
        s%"public " ++ (if se.indirect then s%"indirect " else []) ++ s%"enum " ++ se.name ++
        renderGenericClause se.generics ++ s%": " ++ Str.intercalate s%", " se.conformances ++ s%" {\n" ++ enumRest U se) := by
  unfold writeEnum at h
  obtain ⟨ss, r, h1, h⟩ := Outcome.of_bind_pair_ok h
  obtain ⟨se, st1⟩ := r
  simp only [Outcome.ok.injEq, Prod.mk.injEq] at h
  obtain ⟨rfl, rfl⟩ := h
  exact ⟨ss, se, h1, by rw [renderEnum_head]⟩

/-- every constraint of a parameter is in the clause's text (`name: C1 & C2`, clauses joined by `, `) -/
theorem constraint_in_text {ps : List GenericParam} {p : GenericParam} {c : Str} (hp : p ∈ ps)
    (hc : c ∈ p.constraints) : c <:+: renderGenericClause ps := by
  unfold renderGenericClause
  have hne : ps.isEmpty = false := by cases ps with | nil => simp at hp | cons a b => rfl
  simp only [hne, Bool.false_eq_true, if_false]
  have h1 : c <:+: renderParam p := by
    unfold renderParam
    have := C12L.infix_intercalate (a := c) s%" & " p.constraints ⟨c, hc, List.infix_refl c⟩
    exact C12L.infix_mid (p.name ++ s%": ") [] this |> fun h => by simpa using h
  have h2 : c <:+: renderGenericParams ps :=
    C12L.infix_intercalate s%", " (ps.map renderParam) ⟨renderParam p, List.mem_map_of_mem hp, h1⟩
  exact C12L.infix_mid s%"<" s%">" h2

/-- the `CodableVoid` declaration, as text -/
theorem codableVoid_text (cfg : Cfg) :
    writeCodable cfg =
      s%"\n/// () isn't codable, so we use this instead to represent Rust's unit type\npublic struct CodableVoid: " ++
        Str.intercalate s%", " (codableVoidConformances cfg) ++ s%" {}" ++ nl := rfl

/-- what `write_type_alias` prints: the parameters bare -/
theorem writeAlias_clause (U : UnicodeOps) (cfg : Cfg) (a : RustTypeAlias) (st st' : St) (txt : Str)
    (h : writeAlias U cfg a st = .ok (txt, st')) :
    ∃ ty, formatType cfg a.genericTypes a.ty st = .ok (ty, st') ∧
      txt = nl ++ comments U 0 a.comments ++ s%"public typealias " ++ kw (cfg.pfx ++ a.id.renamed) ++
        genericSuffix a.genericTypes ++ s%" = " ++ ty ++ nl := by
  unfold writeAlias at h
  obtain ⟨ty, st1, h1, h⟩ := Outcome.of_bind_pair_ok h
  simp only [Outcome.ok.injEq, Prod.mk.injEq] at h
  obtain ⟨rfl, rfl⟩ := h
  exact ⟨ty, h1, rfl⟩

/-- the statement read with aliases included ("struct / enum / alias declaration"): the generic
clause an alias prints is the constrained clause `generic_constraints` computes -/
def AliasClause_full : Prop :=
  ∀ (U : UnicodeOps) (cfg : Cfg) (a : RustTypeAlias),
    genericSuffix a.genericTypes = renderGenericClause (genericParams U cfg a.decorators a.genericTypes)

/-- `type Page<T> = Vec<T>;` -/
def exAlias : RustTypeAlias :=
  { id := ⟨s%"Page", s%"Page", false⟩, genericTypes := [s%"T"], ty := .vec (.simple s%"T"), comments := [],
    decorators := {}, isRedacted := false }

def exCfg : Cfg := { defaultGenericConstraints := [s%"Sendable & Hashable", s%"Equatable"], defaultDecorators := [s%"Deco", s%"Alpha"],
                     codablevoidConstraints := [s%"Sendable"], pfx := s%"P" }

/-- **aliases get no constraint at all**, not even `Codable` -/
theorem C20_SwiftConstraints_alias_not : ¬ AliasClause_full := by
  intro H
  have := H .ascii exCfg exAlias
  revert this
  decide +kernel

def aliasText : Option Str :=
  match writeAlias .ascii exCfg exAlias false with
  | .ok (t, _) => some t
  | _ => none

example : aliasText = some s%"\npublic typealias PPage<T> = [T]\n" := by decide +kernel
example : renderGenericClause (genericParams .ascii exCfg exAlias.decorators exAlias.genericTypes) =
    s%"<T: Codable & Equatable & Hashable & Sendable>" := by decide +kernel

/-! ## non-vacuity -/

example : configured .ascii exCfg = [s%"Sendable", s%"Hashable", s%"Equatable"] := by decide +kernel

/-- `#[typeshare(swiftGenericConstraints = "T: Comparable & Hashable")] struct Annotated<T, U> { t: T, u: U }` -/
def exStruct : RustStruct :=
  { id := ⟨s%"Annotated", s%"Annotated", false⟩, genericTypes := [s%"T", s%"U"],
    fields := [{ id := ⟨s%"t", s%"t", false⟩, ty := .simple s%"T", comments := [], hasDefault := false, decorators := [] },
               { id := ⟨s%"u", s%"u", false⟩, ty := .simple s%"U", comments := [], hasDefault := false, decorators := [] }],
    comments := [], decorators := { swiftGenericConstraints := some [s%"T: Comparable & Hashable"], swift := some [s%"Zeta"] },
    isRedacted := false }

def structHead (cfg : Cfg) (rs : RustStruct) : Option (List GenericParam × List Str) :=
  match structFacts .ascii cfg rs false with
  | .ok (s, _) => some (s.generics, s.conformances)
  | _ => none

/-- the annotated parameter keeps its own constraints and gets the configured ones; the other one
gets the configured ones; the default decorators precede the struct's own -/
example : structHead exCfg exStruct = some
    ([⟨s%"T", [s%"Codable", s%"Comparable", s%"Equatable", s%"Hashable", s%"Sendable"]⟩,
      ⟨s%"U", [s%"Codable", s%"Equatable", s%"Hashable", s%"Sendable"]⟩],
     [s%"Codable", s%"Deco", s%"Alpha", s%"Zeta"]) := by decide +kernel

/-- `#[typeshare(swiftGenericConstraints = "K: Comparable")] #[serde(tag = "t", content = "c")]
enum Choice<K, V> { One(K), Two { k: K }, Three { v: Vec<V> } }` -/
def exEnum : RustEnum :=
  { id := ⟨s%"Choice", s%"Choice", false⟩, genericTypes := [s%"K", s%"V"], comments := [],
    decorators := { swiftGenericConstraints := some [s%"K: Comparable"] }, isRedacted := false,
    keys := some (s%"t", s%"c"), isRecursive := false,
    variants := [.tuple ⟨s%"One", s%"One", false⟩ [] (.simple s%"K"),
      .anonymousStruct ⟨s%"Two", s%"Two", false⟩ []
        [{ id := ⟨s%"k", s%"k", false⟩, ty := .simple s%"K", comments := [], hasDefault := false, decorators := [] }],
      .anonymousStruct ⟨s%"Three", s%"Three", false⟩ []
        [{ id := ⟨s%"v", s%"v", false⟩, ty := .vec (.simple s%"V"), comments := [], hasDefault := false, decorators := [] }]] }

def enumHeads (cfg : Cfg) (e : RustEnum) : Option (List (Str × List GenericParam) × List GenericParam × List Str) :=
  match enumFacts .ascii cfg e false with
  | .ok (ss, se, _) => some (ss.map (fun s => (s.name, s.generics)), se.generics, se.conformances)
  | _ => none

/-- the helper structs inherit the enum's own constraint on `K` and get the configured ones -/
example : enumHeads exCfg exEnum = some
    ([(s%"PChoiceTwoInner", [⟨s%"K", [s%"Codable", s%"Comparable", s%"Equatable", s%"Hashable", s%"Sendable"]⟩]),
      (s%"PChoiceThreeInner", [⟨s%"V", [s%"Codable", s%"Equatable", s%"Hashable", s%"Sendable"]⟩])],
     [⟨s%"K", [s%"Codable", s%"Comparable", s%"Equatable", s%"Hashable", s%"Sendable"]⟩,
      ⟨s%"V", [s%"Codable", s%"Equatable", s%"Hashable", s%"Sendable"]⟩],
     [s%"Codable", s%"Deco", s%"Alpha"]) := by decide +kernel

example : writeCodable exCfg =
    s%"\n/// () isn't codable, so we use this instead to represent Rust's unit type\npublic struct CodableVoid: Codable, Deco, Alpha, Sendable {}\n" := by
  decide +kernel

/-- the hypotheses of the struct and enum clauses are met by the examples -/
example : ∃ s st', structFacts .ascii exCfg exStruct false = .ok (s, st') ∧ Reaches .ascii exCfg s.generics [s%"T", s%"U"] := by
  have hok : (structFacts .ascii exCfg exStruct false).isOk = true := by decide +kernel
  cases h : structFacts .ascii exCfg exStruct false with
  | ok p => exact ⟨p.1, p.2, rfl, ((C20_SwiftConstraints .ascii exCfg).1 exStruct false p.2 p.1 h).1⟩
  | err e => rw [h] at hok; simp [Outcome.isOk] at hok
  | panic s => rw [h] at hok; simp [Outcome.isOk] at hok

end TsV.C20_SwiftConstraints
