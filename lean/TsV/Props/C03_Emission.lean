import TsV.Lemmas.C03_Emission_TypeScript
import TsV.Lemmas.C03_Emission_Kotlin
import TsV.Lemmas.C03_Emission_Swift
import TsV.Lemmas.C03_Emission_Scala
import TsV.Lemmas.C03_Emission_Go
import TsV.Lemmas.C03_Emission_Python
import TsV.Lemmas.C03_Emission_Run
import TsV.Lemmas.RunEval
/-!
# C03, emission clause — every parsed item is printed exactly once, by every back end

`TsV.C03` (the parse half) shows that `ParsedData` holds exactly one entry per annotated, accepted
item (the parsed item or an error) with exactly the non-skipped members.  This file is the other
half, for the six back-end models and every configuration / printer state:

1. **`blocks_*`** — the text of one output file is `header ++ blocks.flatten ++ footer` with exactly
   one block per item, block k being what the back end's `writeItem` writes for item k (in
   `generateOrder`; Scala: in `ParsedData` order), the printer state threaded from block to block
   (`Threaded`, index form `threaded_nth`).  Header and footer are given explicitly: they hold the
   version header, package / import lines and the helper definitions typeshare adds on its own
   (TypeScript `ReviverFunc` / `ReplacerFunc`, Swift `CodableVoid`, Scala `UByte…`, Python
   `TypeVar`s and (de)serialisers) — never an item.
2. **`defines_*`** — the block of an item splits (`SplitsInto`) into exactly the top-level
   definitions `*Defs` lists (trusted, `Lemmas/C03_Emission_Spec.lean`): the helper structs of its
   struct variants, named `<Enum><Variant>Inner`, and the item itself — each piece being the
   rendering of one declaration record of the model and containing, at the start of a line, the
   language's defining keyword followed by the complete name (`DefinesHead`).  `decls_*` give the
   same count on the fact records where the model has them.
3. **`C03_Emission`** — composed with the parse half through `Generate.run` for a single file: if the
   run produces output then no annotated accepted item failed to parse, the output is one file, its
   blocks are in one-to-one correspondence (`Perm` + `Threaded` / `Paired`, `emission_<lang>`) with the
   annotated accepted items, each block defining its item; if some item fails to parse the run reports
   the errors and prints nothing (`run_reports_errors`); consts make Kotlin / Swift / Scala fail
   (`*_no_const`).  Un-annotated items are not in `sourceItems`, so nothing is printed for them.
-/
namespace TsV.C03_Emission
open TsV TsV.Lang TsV.Generate TsV.C03E

/-! ## 1. one block per item, in order, nothing else -/

theorem blocks_typescript (U : UnicodeOps) (cfg : TypeScript.Cfg) (d : ParsedData)
    (imports : Option Pipeline.ScopedCrateTypes) (st0 : TypeScript.CustomMap) (text : Str) (st : TypeScript.CustomMap)
    (h : TypeScript.generate U cfg d imports st0 = .ok (text, st)) :
    ∃ items blocks, Pipeline.generateOrder d = some items ∧
      Threaded (TypeScript.writeItem U cfg) items st0 blocks st ∧ blocks.length = items.length ∧
      text = TS.header cfg imports ++ blocks.flatten ++ TypeScript.endFile st := by
  obtain ⟨items, blocks, ho, ht, htext⟩ := TS.generate_blocks U cfg d imports st0 text st h
  exact ⟨items, blocks, ho, ht, ht.length, htext⟩

theorem blocks_kotlin (cfg : Kotlin.Cfg) (d : ParsedData) (imports : Option Pipeline.ScopedCrateTypes) (text : Str)
    (h : Kotlin.generate cfg d imports = .ok text) :
    ∃ items blocks, Pipeline.generateOrder d = some items ∧
      Paired (fun it b => Kt.writeItem cfg it = .ok b) items blocks ∧ blocks.length = items.length ∧
      text = Kt.header cfg d imports ++ blocks.flatten := by
  obtain ⟨items, blocks, ho, hp, htext⟩ := Kt.generate_blocks cfg d imports text h
  exact ⟨items, blocks, ho, hp, hp.length_eq.symm, htext⟩

theorem blocks_swift (U : UnicodeOps) (cfg : Swift.Cfg) (multi : Bool) (d : ParsedData) (st0 : Swift.St) (text : Str)
    (st : Swift.St) (h : Swift.generate U cfg multi d st0 = .ok (text, st)) :
    ∃ items blocks, Pipeline.generateOrder d = some items ∧
      Threaded (Swift.writeItem U cfg) items st0 blocks st ∧ blocks.length = items.length ∧
      text = Swift.beginFile cfg ++ blocks.flatten ++ Swift.endFile cfg multi st := by
  obtain ⟨items, blocks, ho, ht, htext⟩ := Sw.generate_blocks U cfg multi d st0 text st h
  exact ⟨items, blocks, ho, ht, ht.length, htext⟩

/-- Scala prints `ParsedData` order (no sort): aliases inside the package object, structs and enums
inside the package block; `Sc.pre` / `Sc.mid` / `Sc.post` are the package scaffolding and the four
unsigned-integer aliases -/
theorem blocks_scala (cfg : Scala.Cfg) (d : ParsedData) (text : Str) (h : Scala.generate cfg d = .ok text) :
    ∃ blocks, Paired (fun it b => Sc.writeItem cfg it = .ok b) (C12L.itemsOf d) blocks ∧
      blocks.length = (C12L.itemsOf d).length ∧ d.consts = [] ∧
      text = Sc.pre cfg d ++ (blocks.take d.aliases.length).flatten ++ Sc.mid cfg d ++
        (blocks.drop d.aliases.length).flatten ++ Sc.post d := by
  obtain ⟨hc, blocks, hp, htext⟩ := Sc.generate_items cfg d text h
  exact ⟨blocks, hp, hp.length_eq.symm, hc, htext⟩

theorem blocks_go (U : UnicodeOps) (cfg : Go.Cfg) (d : ParsedData) (st0 : Go.Imports) (text : Str) (st : Go.Imports)
    (h : Go.generate U cfg d st0 = .ok (text, st)) :
    ∃ items blocks, Pipeline.generateOrder d = some items ∧
      Threaded (Go.writeItem U cfg (Go.typesMappingToStruct items)) items (Go.addImport st0 s%"encoding/json") blocks st ∧
      blocks.length = items.length ∧
      text = Go.beginFile cfg ++ Go.renderImports st ++ blocks.flatten := by
  obtain ⟨items, blocks, ho, ht, htext⟩ := C03E.Go.generate_blocks U cfg d st0 text st h
  exact ⟨items, blocks, ho, ht, ht.length, htext⟩

theorem blocks_python (E : Ext) (cfg : Python.Cfg) (d : ParsedData) (st0 : Python.St) (text : Str) (st : Python.St)
    (h : Python.generate E cfg d st0 = .ok (text, st)) :
    ∃ items blocks st1, Pipeline.generateOrder d = some items ∧
      Threaded (Python.writeItem E cfg) items st0 blocks st1 ∧ blocks.length = items.length ∧
      st = Python.addDatetimeImport st1 ∧
      text = Python.beginFile cfg ++ Python.writeAllImports st ++ Python.writeCustomFns st ++ blocks.flatten := by
  obtain ⟨items, blocks, st1, ho, ht, hst, htext⟩ := Py.generate_blocks E cfg d st0 text st h
  exact ⟨items, blocks, st1, ho, ht, ht.length, hst, htext⟩

/-- the items written are the items of the `ParsedData`, each once (C11: `topsort` only permutes) -/
theorem order_is_permutation (d : ParsedData) (items : List RustItem) (h : Pipeline.generateOrder d = some items) :
    items.Perm (C12L.itemsOf d) := C12L.generateOrder_perm d items h

/-- index form of `Threaded`: block k is `w items[k]` run in the state left by block k-1 -/
theorem threaded_nth {σ : Type} {w : RustItem → σ → Outcome (Str × σ)} {items : List RustItem} {st st' : σ}
    {blocks : List Str} (h : Threaded w items st blocks st') :
    ∃ sts : List σ, sts.length = items.length + 1 ∧ sts[0]? = some st ∧ sts[items.length]? = some st' ∧
      ∀ k it, items[k]? = some it →
        ∃ s s' b, sts[k]? = some s ∧ sts[k+1]? = some s' ∧ blocks[k]? = some b ∧ w it s = .ok (b, s') := by
  induction h with
  | nil st => exact ⟨[st], rfl, rfl, rfl, fun k it hk => by simp at hk⟩
  | @cons it its st st1 st2 b bs hw _ ih =>
    obtain ⟨sts, hl, h0, hlast, hall⟩ := ih
    refine ⟨st :: sts, by simp [hl], rfl, by simpa using hlast, ?_⟩
    intro k x hk
    cases k with
    | zero =>
      simp at hk; subst hk
      exact ⟨st, st1, b, rfl, by simpa using h0, rfl, hw⟩
    | succ j =>
      obtain ⟨s, s', b', h1, h2, h3, h4⟩ := hall j x (by simpa using hk)
      exact ⟨s, s', b', by simpa using h1, by simpa using h2, by simpa using h3, h4⟩

/-! ## 2. a block defines its item (and the helper structs of its struct variants), nothing else -/

theorem defines_typescript (U : UnicodeOps) (cfg : TypeScript.Cfg) (it : RustItem) (st st' : TypeScript.CustomMap)
    (b : Str) (h : TypeScript.writeItem U cfg it st = .ok (b, st')) : SplitsInto (tsDefs U it) b :=
  TS.block_defines U cfg it st b st' h

theorem defines_kotlin (cfg : Kotlin.Cfg) (it : RustItem) (b : Str) (h : Kt.writeItem cfg it = .ok b) :
    SplitsInto (ktDefs cfg it) b := Kt.block_defines cfg it b h

/-- record level: the `KtDecl`s built for an item are exactly the ones `ktDefs` lists — one for a
struct or alias, `1 + #struct variants` for an enum -/
theorem decls_kotlin (cfg : Kotlin.Cfg) (it : RustItem) (ds : List Kotlin.KtDecl) (h : Kotlin.itemFacts cfg it = .ok ds) :
    ds.map (fun d => (Kt.ktKw d, C09.ktName d)) = ktDefs cfg it ∧ ds.length = (ktDefs cfg it).length := by
  have := (Kt.itemFacts_heads cfg it ds h).1
  exact ⟨this, by rw [← this]; simp⟩

theorem defines_swift (U : UnicodeOps) (cfg : Swift.Cfg) (it : RustItem) (st st' : Swift.St) (b : Str)
    (h : Swift.writeItem U cfg it st = .ok (b, st')) : SplitsInto (swDefs cfg it) b :=
  Sw.block_defines U cfg it st b st' h

theorem decls_swift (U : UnicodeOps) (cfg : Swift.Cfg) (e : RustEnum) (st st' : Swift.St) (ss : List Swift.SwiftStruct)
    (se : Swift.SwiftEnum) (h : Swift.enumFacts U cfg e st = .ok (ss, se, st')) :
    ss.length = (structVariantsOf e).length := by
  simpa [swDefs] using congrArg List.length (Sw.enumFacts_heads h)

theorem defines_scala (cfg : Scala.Cfg) (it : RustItem) (b : Str) (h : Sc.writeItem cfg it = .ok b) :
    SplitsInto (scDefs it) b := Sc.block_defines cfg it b h

theorem decls_scala (cfg : Scala.Cfg) (e : RustEnum) (f : Scala.ScEnum) (h : Scala.enumFacts cfg e = .ok f) :
    f.inner.length = (structVariantsOf e).length := by
  simpa [scDefs] using congrArg List.length (Sc.enumFacts_heads cfg e f h)

/-- Go: the names go through `uppercase_acronyms`, which is an `Outcome` -/
theorem defines_go (U : UnicodeOps) (cfg : Go.Cfg) (cs : List Str) (it : RustItem) (st st' : Go.Imports) (b : Str)
    (h : Go.writeItem U cfg cs it st = .ok (b, st')) : ∃ defs, goDefs U cfg it = .ok defs ∧ SplitsInto defs b :=
  C03E.Go.block_defines U cfg cs it st b st' h

theorem defines_python (E : Ext) (cfg : Python.Cfg) (it : RustItem) (st st' : Python.St) (b : Str)
    (h : Python.writeItem E cfg it st = .ok (b, st')) : SplitsInto (pyDefs E it) b :=
  Py.block_defines E cfg it st b st' h

/-- what `SplitsInto` gives, spelled out: as many pieces as definitions -/
theorem splitsInto_count {defs : List (Str × Str)} {b : Str} (h : SplitsInto defs b) :
    ∃ (lead : Str) (chunks : List Str), b = lead ++ chunks.flatten ∧ chunks.length = defs.length := h.length

/-- the last definition of every block is the item itself, under the name C09's `defName` gives
(TypeScript / Kotlin / Scala / Python: literally; Swift: inside back-ticks if a keyword) -/
theorem last_def_typescript (U : UnicodeOps) (cfg : TypeScript.Cfg) (it : RustItem) (h : isConst it = false) :
    ((tsDefs U it).map (·.2)).getLast? = some (C09.defName (.typescript cfg) it) := by
  cases it <;> simp_all [tsDefs, C09.defName, C09.itemId, isConst]

theorem last_def_kotlin (cfg : Kotlin.Cfg) (it : RustItem) (h : isConst it = false) :
    ((ktDefs cfg it).map (·.2)).getLast? = some (C09.defName (.kotlin cfg) it) := by
  cases it with
  | alias a => by_cases hi : Kotlin.isInline a.decorators = true <;> simp [ktDefs, C09.defName, C09.itemId, hi]
  | const c => simp [isConst] at h
  | struct s => simp [ktDefs, C09.defName, C09.itemId]
  | «enum» e => simp [ktDefs, C09.defName, C09.itemId]

theorem last_def_swift (cfg : Swift.Cfg) (it : RustItem) (h : isConst it = false) :
    ((swDefs cfg it).map (·.2)).getLast? = some (Swift.kw (C09.defName (.swift cfg) it)) := by
  cases it <;> simp_all [swDefs, C09.defName, C09.itemId, isConst]

theorem last_def_scala (cfg : Scala.Cfg) (it : RustItem) (h : isConst it = false) :
    ((scDefs it).map (·.2)).getLast? = some (C09.defName (.scala cfg) it) := by
  cases it <;> simp_all [scDefs, C09.defName, C09.itemId, isConst]

theorem last_def_python (E : Ext) (cfg : Python.Cfg) (it : RustItem) (h : isConst it = false) :
    ((pyDefs E it).map (·.2)).getLast? = some (C09.defName (.python cfg) it) := by
  cases it with
  | «enum» e =>
    cases hk : e.keys <;>
      simp [pyDefs, C09.defName, C09.itemId, hk, List.getLast?_cons, List.getLast?_append]
  | const c => simp [isConst] at h
  | struct s => simp [pyDefs, C09.defName, C09.itemId]
  | alias a => simp [pyDefs, C09.defName, C09.itemId]

/-- Go without `uppercase_acronyms`: the last definition is `defName` -/
theorem last_def_go (U : UnicodeOps) (cfg : Go.Cfg) (hc : cfg.uppercaseAcronyms = []) (it : RustItem)
    (h : isConst it = false) (defs : List (Str × Str)) (hd : goDefs U cfg it = .ok defs) :
    (defs.map (·.2)).getLast? = some (C09.defName (.go cfg) it) := by
  have hacr := Go.acr_nil U cfg hc
  cases it with
  | struct s => simp [goDefs, hacr] at hd; subst hd; simp [C09.defName, C09.itemId]
  | alias a => simp [goDefs, hacr] at hd; subst hd; simp [C09.defName, C09.itemId]
  | const c => simp [isConst] at h
  | «enum» e =>
    simp only [goDefs, hacr, Outcome.bind_ok] at hd
    obtain ⟨inner, _, hd⟩ := Outcome.of_bind_ok hd
    cases hk : e.keys with
    | none => simp [hk] at hd; subst hd; simp [C09.defName]
    | some kc => simp [hk] at hd; subst hd; simp [C09.defName]

/-! ## 3. composed with the parse half: a single-file run -/

/-- the parse half in list form: every annotated accepted item is parsed or is an error, never
both, never neither (no panic: `NoPanic.parseItem_np`) -/
theorem parsed_or_error (E : Ext) (ctx : ParseContext) (f : Syn.File) :
    (parsedItems E ctx f).length + (parseErrs E ctx f).length = (sourceItems ctx f).length := by
  unfold parsedItems parseErrs
  induction sourceItems ctx f with
  | nil => rfl
  | cons it t ih =>
    have hnp := NoPanic.parseItem_np E ctx it
    cases hp : C03.parseItem E ctx it with
    | ok r => simp [okItems, errKinds, hp] at ih ⊢; omega
    | err e => simp [okItems, errKinds, hp] at ih ⊢; omega
    | panic s => simp [hp, Outcome.NP, Outcome.isPanic] at hnp

/-- **an item that does not parse is reported, and nothing is generated** -/
theorem run_reports_errors (E : Ext) (lang : LangCfg) (targetOs : List Str)
    (pick : List ImportedType → Option ImportedType) (f : SourceFile)
    (h : parseErrs E (ctxOf lang targetOs) f.file ≠ []) :
    run E lang false targetOs pick [f] =
      .ok (.parseErrors ((parseErrs E (ctxOf lang targetOs) f.file).map fun e => (e, f.path))) := by
  obtain ⟨d', _, _, _, hrun⟩ := run_single E lang targetOs pick f
  rw [hrun, if_neg (fun hh => h hh.2), if_pos h]

/-- a run that produces output: no parse error, and either nothing to print or one job holding the
reconciled parsed items, each once -/
theorem run_outputs (E : Ext) (lang : LangCfg) (targetOs : List Str)
    (pick : List ImportedType → Option ImportedType) (f : SourceFile) (outs : List (Str × Str))
    (h : run E lang false targetOs pick [f] = .ok (.outputs outs)) :
    parseErrs E (ctxOf lang targetOs) f.file = [] ∧
    (parsedItems E (ctxOf lang targetOs) f.file).length = (sourceItems (ctxOf lang targetOs) f.file).length ∧
    (parsedItems E (ctxOf lang targetOs) f.file = [] → outs = []) ∧
    (parsedItems E (ctxOf lang targetOs) f.file ≠ [] → ∃ d' : ParsedData,
      (C12L.itemsOf d').Perm ((parsedItems E (ctxOf lang targetOs) f.file).map
        (recItem f.crateName (renamesFor f.crateName (parsedItems E (ctxOf lang targetOs) f.file)))) ∧
      d'.multiFile = false ∧ d'.crateName = f.crateName ∧
      genAll E lang false [(f.crateName, d', none)] = .ok outs) := by
  obtain ⟨d', hperm, hmf, hcr, hrun⟩ := run_single E lang targetOs pick f
  have hcount := parsed_or_error E (ctxOf lang targetOs) f.file
  by_cases herr : parseErrs E (ctxOf lang targetOs) f.file = []
  · refine ⟨herr, by simpa [herr] using hcount, ?_, ?_⟩
    · intro hP
      rw [hrun, if_pos ⟨hP, herr⟩] at h
      cases h; rfl
    · intro hP
      rw [hrun, if_neg (fun hh => hP hh.1), if_neg (by simp [herr])] at h
      refine ⟨d', hperm, hmf, hcr, ?_⟩
      cases hg : genAll E lang false [(f.crateName, d', none)] with
      | ok o => rw [hg] at h; cases h; rfl
      | err e => rw [hg] at h; cases h
      | panic s => rw [hg] at h; cases h
  · rw [run_reports_errors E lang targetOs pick f herr] at h
    cases h

/-- reconciliation changes no definition (so the statements below, phrased for the reconciled items
the back end sees, speak about the parsed items of the parse half) -/
theorem defs_unchanged (c : Str) (r : Pipeline.Renames) (it : RustItem) :
    (∀ U, tsDefs U (recItem c r it) = tsDefs U it) ∧ (∀ cfg, ktDefs cfg (recItem c r it) = ktDefs cfg it) ∧
    (∀ cfg, swDefs cfg (recItem c r it) = swDefs cfg it) ∧ scDefs (recItem c r it) = scDefs it ∧
    (∀ U cfg, goDefs U cfg (recItem c r it) = goDefs U cfg it) ∧ (∀ E, pyDefs E (recItem c r it) = pyDefs E it) ∧
    isConst (recItem c r it) = isConst it :=
  ⟨fun U => tsDefs_rec U c r it, fun cfg => ktDefs_rec cfg c r it, fun cfg => swDefs_rec cfg c r it,
   scDefs_rec c r it, fun U cfg => goDefs_rec U cfg c r it, fun E => pyDefs_rec E c r it, isConst_rec c r it⟩

/-- the reconciled parsed items of the file: what the blocks are in one-to-one correspondence with -/
def emitted (E : Ext) (lang : LangCfg) (targetOs : List Str) (f : SourceFile) : List RustItem :=
  (parsedItems E (ctxOf lang targetOs) f.file).map
    (recItem f.crateName (renamesFor f.crateName (parsedItems E (ctxOf lang targetOs) f.file)))

theorem emitted_length (E : Ext) (lang : LangCfg) (targetOs : List Str) (f : SourceFile) :
    (emitted E lang targetOs f).length = (parsedItems E (ctxOf lang targetOs) f.file).length := by
  simp [emitted]

theorem emitted_eq_nil {E : Ext} {lang : LangCfg} {targetOs : List Str} {f : SourceFile} :
    emitted E lang targetOs f = [] ↔ parsedItems E (ctxOf lang targetOs) f.file = [] :=
  List.map_eq_nil_iff

/-! `emission_<lang>`: the blocks of a run that produces output — one per emitted item, written by the back
end's `writeItem`; unless there was nothing to print, the output is the one file made of these blocks, and
`d'` is the job the back end was called on (whose `generateOrder` is the order of the blocks). -/

theorem emission_typescript (E : Ext) (cfg : TypeScript.Cfg) (targetOs : List Str)
    (pick : List ImportedType → Option ImportedType) (f : SourceFile) (outs : List (Str × Str))
    (h : run E (.typescript cfg) false targetOs pick [f] = .ok (.outputs outs)) :
    ∃ (d' : ParsedData) (items : List RustItem) (blocks : List Str) (st' : TypeScript.CustomMap),
      items.Perm (emitted E (.typescript cfg) targetOs f) ∧
      Threaded (TypeScript.writeItem E.U cfg) items [] blocks st' ∧
      (emitted E (.typescript cfg) targetOs f ≠ [] →
        outs = [(f.crateName, TS.header cfg none ++ blocks.flatten ++ TypeScript.endFile st')] ∧
        (C12L.itemsOf d').Perm (emitted E (.typescript cfg) targetOs f) ∧ Pipeline.generateOrder d' = some items) := by
  obtain ⟨-, -, -, hcons⟩ := run_outputs E _ targetOs pick f outs h
  by_cases hP : parsedItems E (ctxOf (.typescript cfg) targetOs) f.file = []
  · exact ⟨default, [], [], [], by simp [emitted, hP], .nil _, fun hne => absurd (emitted_eq_nil.2 hP) hne⟩
  · obtain ⟨d', hperm, -, -, hg⟩ := hcons hP
    simp only [genAll, TS.generateAll_single] at hg
    obtain ⟨⟨text, st'⟩, hgen, hg⟩ := Outcome.of_bind_ok hg
    cases hg
    obtain ⟨items, blocks, ho, ht, htext⟩ := TS.generate_blocks E.U cfg d' none [] text st' hgen
    exact ⟨d', items, blocks, st', (C12L.generateOrder_perm d' items ho).trans hperm, ht,
      fun _ => ⟨by rw [htext], hperm, ho⟩⟩

theorem emission_kotlin (E : Ext) (cfg : Kotlin.Cfg) (targetOs : List Str)
    (pick : List ImportedType → Option ImportedType) (f : SourceFile) (outs : List (Str × Str))
    (h : run E (.kotlin cfg) false targetOs pick [f] = .ok (.outputs outs)) :
    ∃ (d' : ParsedData) (items : List RustItem) (blocks : List Str),
      items.Perm (emitted E (.kotlin cfg) targetOs f) ∧
      Paired (fun it b => Kt.writeItem cfg it = .ok b) items blocks ∧
      (emitted E (.kotlin cfg) targetOs f ≠ [] →
        (outs = [(f.crateName, Kt.header cfg d' none ++ blocks.flatten)] ∧ d'.multiFile = false) ∧
        (C12L.itemsOf d').Perm (emitted E (.kotlin cfg) targetOs f) ∧ Pipeline.generateOrder d' = some items) := by
  obtain ⟨-, -, -, hcons⟩ := run_outputs E _ targetOs pick f outs h
  by_cases hP : parsedItems E (ctxOf (.kotlin cfg) targetOs) f.file = []
  · exact ⟨default, [], [], by simp [emitted, hP], .nil, fun hne => absurd (emitted_eq_nil.2 hP) hne⟩
  · obtain ⟨d', hperm, hmf, -, hg⟩ := hcons hP
    simp only [genAll, Kt.generateAll_single] at hg
    obtain ⟨text, hgen, hg⟩ := Outcome.of_bind_ok hg
    cases hg
    obtain ⟨items, blocks, ho, hp, htext⟩ := Kt.generate_blocks cfg d' none text hgen
    exact ⟨d', items, blocks, (C12L.generateOrder_perm d' items ho).trans hperm, hp,
      fun _ => ⟨⟨by rw [htext], hmf⟩, hperm, ho⟩⟩

theorem emission_swift (E : Ext) (cfg : Swift.Cfg) (targetOs : List Str)
    (pick : List ImportedType → Option ImportedType) (f : SourceFile) (outs : List (Str × Str))
    (h : run E (.swift cfg) false targetOs pick [f] = .ok (.outputs outs)) :
    ∃ (d' : ParsedData) (items : List RustItem) (blocks : List Str) (st' : Swift.St),
      items.Perm (emitted E (.swift cfg) targetOs f) ∧
      Threaded (Swift.writeItem E.U cfg) items false blocks st' ∧
      (emitted E (.swift cfg) targetOs f ≠ [] →
        outs = [(f.crateName, Swift.beginFile cfg ++ blocks.flatten ++ Swift.endFile cfg false st')] ∧
        (C12L.itemsOf d').Perm (emitted E (.swift cfg) targetOs f) ∧ Pipeline.generateOrder d' = some items) := by
  obtain ⟨-, -, -, hcons⟩ := run_outputs E _ targetOs pick f outs h
  by_cases hP : parsedItems E (ctxOf (.swift cfg) targetOs) f.file = []
  · exact ⟨default, [], [], false, by simp [emitted, hP], .nil _, fun hne => absurd (emitted_eq_nil.2 hP) hne⟩
  · obtain ⟨d', hperm, -, -, hg⟩ := hcons hP
    simp only [genAll, Sw.generateAll_single] at hg
    obtain ⟨⟨text, st'⟩, hgen, hg⟩ := Outcome.of_bind_ok hg
    cases hg
    obtain ⟨items, blocks, ho, ht, htext⟩ := Sw.generate_blocks E.U cfg false d' false text st' hgen
    exact ⟨d', items, blocks, st', (C12L.generateOrder_perm d' items ho).trans hperm, ht,
      fun _ => ⟨by rw [htext], hperm, ho⟩⟩

/-- Scala: the blocks are in `ParsedData` order (aliases, structs, enums, each list sorted by Rust name by
`reconcile`) -/
theorem emission_scala (E : Ext) (cfg : Scala.Cfg) (targetOs : List Str)
    (pick : List ImportedType → Option ImportedType) (f : SourceFile) (outs : List (Str × Str))
    (h : run E (.scala cfg) false targetOs pick [f] = .ok (.outputs outs)) :
    ∃ (d' : ParsedData) (items : List RustItem) (blocks : List Str),
      items.Perm (emitted E (.scala cfg) targetOs f) ∧
      Paired (fun it b => Sc.writeItem cfg it = .ok b) items blocks ∧
      (emitted E (.scala cfg) targetOs f ≠ [] → items = C12L.itemsOf d' ∧
        outs = [(f.crateName, Sc.pre cfg d' ++ (blocks.take d'.aliases.length).flatten ++ Sc.mid cfg d' ++
          (blocks.drop d'.aliases.length).flatten ++ Sc.post d')]) := by
  obtain ⟨-, -, -, hcons⟩ := run_outputs E _ targetOs pick f outs h
  by_cases hP : parsedItems E (ctxOf (.scala cfg) targetOs) f.file = []
  · exact ⟨default, [], [], by simp [emitted, hP], .nil, fun hne => absurd (emitted_eq_nil.2 hP) hne⟩
  · obtain ⟨d', hperm, -, -, hg⟩ := hcons hP
    simp only [genAll, Sc.generateAll_single] at hg
    obtain ⟨text, hgen, hg⟩ := Outcome.of_bind_ok hg
    cases hg
    obtain ⟨-, blocks, hp, htext⟩ := Sc.generate_items cfg d' text hgen
    exact ⟨d', _, blocks, hperm, hp, fun _ => ⟨rfl, by rw [htext]⟩⟩

theorem emission_go (E : Ext) (cfg : Go.Cfg) (targetOs : List Str)
    (pick : List ImportedType → Option ImportedType) (f : SourceFile) (outs : List (Str × Str))
    (h : run E (.go cfg) false targetOs pick [f] = .ok (.outputs outs)) :
    ∃ (d' : ParsedData) (items : List RustItem) (blocks : List Str) (st' : Go.Imports),
      items.Perm (emitted E (.go cfg) targetOs f) ∧
      Threaded (Go.writeItem E.U cfg (Go.typesMappingToStruct items)) items (Go.addImport [] s%"encoding/json") blocks st' ∧
      (emitted E (.go cfg) targetOs f ≠ [] →
        outs = [(f.crateName, Go.beginFile cfg ++ Go.renderImports st' ++ blocks.flatten)] ∧
        (C12L.itemsOf d').Perm (emitted E (.go cfg) targetOs f) ∧ Pipeline.generateOrder d' = some items) := by
  obtain ⟨-, -, -, hcons⟩ := run_outputs E _ targetOs pick f outs h
  by_cases hP : parsedItems E (ctxOf (.go cfg) targetOs) f.file = []
  · exact ⟨default, [], [], _, by simp [emitted, hP], .nil _, fun hne => absurd (emitted_eq_nil.2 hP) hne⟩
  · obtain ⟨d', hperm, -, -, hg⟩ := hcons hP
    simp only [genAll, C03E.Go.generateAll_single] at hg
    obtain ⟨⟨text, st'⟩, hgen, hg⟩ := Outcome.of_bind_ok hg
    cases hg
    obtain ⟨items, blocks, ho, ht, htext⟩ := C03E.Go.generate_blocks E.U cfg d' [] text st' hgen
    exact ⟨d', items, blocks, st', (C12L.generateOrder_perm d' items ho).trans hperm, ht,
      fun _ => ⟨by rw [htext], hperm, ho⟩⟩

theorem emission_python (E : Ext) (cfg : Python.Cfg) (targetOs : List Str)
    (pick : List ImportedType → Option ImportedType) (f : SourceFile) (outs : List (Str × Str))
    (h : run E (.python cfg) false targetOs pick [f] = .ok (.outputs outs)) :
    ∃ (d' : ParsedData) (items : List RustItem) (blocks : List Str) (st1 : Python.St),
      items.Perm (emitted E (.python cfg) targetOs f) ∧
      Threaded (Python.writeItem E cfg) items {} blocks st1 ∧
      (emitted E (.python cfg) targetOs f ≠ [] →
        outs = [(f.crateName, Python.beginFile cfg ++ Python.writeAllImports (Python.addDatetimeImport st1) ++
          Python.writeCustomFns (Python.addDatetimeImport st1) ++ blocks.flatten)] ∧
        (C12L.itemsOf d').Perm (emitted E (.python cfg) targetOs f) ∧ Pipeline.generateOrder d' = some items) := by
  obtain ⟨-, -, -, hcons⟩ := run_outputs E _ targetOs pick f outs h
  by_cases hP : parsedItems E (ctxOf (.python cfg) targetOs) f.file = []
  · exact ⟨default, [], [], {}, by simp [emitted, hP], .nil _, fun hne => absurd (emitted_eq_nil.2 hP) hne⟩
  · obtain ⟨d', hperm, -, -, hg⟩ := hcons hP
    simp only [genAll, Py.generateAll_single] at hg
    obtain ⟨⟨text, st'⟩, hgen, hg⟩ := Outcome.of_bind_ok hg
    cases hg
    obtain ⟨items, blocks, st1, ho, ht, rfl, htext⟩ := Py.generate_blocks E cfg d' {} text st' hgen
    exact ⟨d', items, blocks, st1, (C12L.generateOrder_perm d' items ho).trans hperm, ht,
      fun _ => ⟨by rw [htext], hperm, ho⟩⟩

/-! ### consts: TypeScript, Go and Python print them; the other three fail the run -/

/-- if every item handed to the back end is printable only when it is no const, no parsed item is one
(`recItem` keeps the kind of an item) -/
theorem parsed_not_const {P items : List RustItem} {c : Str} {r : Pipeline.Renames}
    (hperm : items.Perm (P.map (recItem c r))) (h : ∀ x ∈ items, isConst x = false) :
    ∀ it ∈ P, isConst it = false := fun it hit => by
  rw [← isConst_rec c r it]
  exact h _ (hperm.symm.subset (List.mem_map.2 ⟨it, hit, rfl⟩))

theorem kotlin_no_const (E : Ext) (cfg : Kotlin.Cfg) (targetOs : List Str)
    (pick : List ImportedType → Option ImportedType) (f : SourceFile) (outs : List (Str × Str))
    (h : run E (.kotlin cfg) false targetOs pick [f] = .ok (.outputs outs)) :
    ∀ it ∈ parsedItems E (ctxOf (.kotlin cfg) targetOs) f.file, isConst it = false := by
  obtain ⟨_, items, blocks, hperm, hp, -⟩ := emission_kotlin E cfg targetOs pick f outs h
  refine parsed_not_const hperm fun x hx => ?_
  obtain ⟨b, _, hw⟩ := (paired_iff.1 hp).mem_left x hx
  cases x with
  | const c => rw [Kt.writeItem_not_const] at hw; cases hw
  | _ => rfl

theorem swift_no_const (E : Ext) (cfg : Swift.Cfg) (targetOs : List Str)
    (pick : List ImportedType → Option ImportedType) (f : SourceFile) (outs : List (Str × Str))
    (h : run E (.swift cfg) false targetOs pick [f] = .ok (.outputs outs)) :
    ∀ it ∈ parsedItems E (ctxOf (.swift cfg) targetOs) f.file, isConst it = false := by
  obtain ⟨_, items, blocks, st', hperm, ht, -⟩ := emission_swift E cfg targetOs pick f outs h
  refine parsed_not_const hperm fun x hx => ?_
  obtain ⟨b, _, s, s', hw⟩ := (paired_iff.1 ht.forall₂).mem_left x hx
  cases x with
  | const c => rw [Sw.writeItem_not_const] at hw; cases hw
  | _ => rfl

theorem scala_no_const (E : Ext) (cfg : Scala.Cfg) (targetOs : List Str)
    (pick : List ImportedType → Option ImportedType) (f : SourceFile) (outs : List (Str × Str))
    (h : run E (.scala cfg) false targetOs pick [f] = .ok (.outputs outs)) :
    ∀ it ∈ parsedItems E (ctxOf (.scala cfg) targetOs) f.file, isConst it = false := by
  obtain ⟨_, items, blocks, hperm, hp, -⟩ := emission_scala E cfg targetOs pick f outs h
  refine parsed_not_const hperm fun x hx => ?_
  obtain ⟨b, _, hw⟩ := (paired_iff.1 hp).mem_left x hx
  cases x with
  | const c => cases hw
  | _ => rfl

/-- Scala checks up front: with a package configured, any const is exactly this error -/
theorem scala_const_error (cfg : Scala.Cfg) (d : ParsedData) (hp : cfg.package.isEmpty = false) (hc : d.consts ≠ []) :
    Scala.generate cfg d = .err (.formatError s%"ConstUnsupported") := by
  have : d.consts.isEmpty = false := by cases h : d.consts <;> simp_all
  simp [Scala.generate, Scala.fileFacts, hp, this]

/-! ## the whole clause -/

/-- C03, emission clause, at full strength over the model: for every back end, configuration and
single source file, a run that produces output has parsed every annotated accepted item and
printed exactly one block for each, each block making exactly the definitions of its item -/
def C03_Emission_full : Prop :=
  ∀ (E : Ext) (lang : LangCfg) (targetOs : List Str) (pick : List ImportedType → Option ImportedType)
    (f : SourceFile) (outs : List (Str × Str)),
    run E lang false targetOs pick [f] = .ok (.outputs outs) →
    parseErrs E (ctxOf lang targetOs) f.file = [] ∧
    (emitted E lang targetOs f).length = (sourceItems (ctxOf lang targetOs) f.file).length ∧
    (emitted E lang targetOs f = [] → outs = []) ∧
    (emitted E lang targetOs f ≠ [] → ∃ (items : List RustItem) (blocks : List Str) (header mid footer text : Str) (n : Nat),
      outs = [(f.crateName, text)] ∧ items.Perm (emitted E lang targetOs f) ∧ blocks.length = items.length ∧
      text = header ++ (blocks.take n).flatten ++ mid ++ (blocks.drop n).flatten ++ footer ∧
      Paired (fun it b =>
        match lang with
        | .typescript _ => SplitsInto (tsDefs E.U it) b
        | .kotlin cfg => SplitsInto (ktDefs cfg it) b
        | .swift cfg => SplitsInto (swDefs cfg it) b
        | .scala _ => SplitsInto (scDefs it) b
        | .go cfg => ∃ defs, goDefs E.U cfg it = .ok defs ∧ SplitsInto defs b
        | .python _ => SplitsInto (pyDefs E it) b) items blocks)

theorem C03_Emission : C03_Emission_full := by
  intro E lang targetOs pick f outs h
  obtain ⟨herr, hlen, hnil, -⟩ := run_outputs E lang targetOs pick f outs h
  refine ⟨herr, by rw [emitted_length]; exact hlen, fun he => hnil (emitted_eq_nil.1 he), fun he => ?_⟩
  cases lang with
  | typescript cfg =>
    obtain ⟨_, items, blocks, st', hp, ht, hout⟩ := emission_typescript E cfg targetOs pick f outs h
    exact ⟨items, blocks, TS.header cfg none, [], TypeScript.endFile st', _, 0, (hout he).1, hp, ht.length, by simp,
      ht.forall₂.mono fun it b ⟨s, s', hw⟩ => TS.block_defines E.U cfg it s b s' hw⟩
  | kotlin cfg =>
    obtain ⟨d', items, blocks, hp, hpa, hout⟩ := emission_kotlin E cfg targetOs pick f outs h
    exact ⟨items, blocks, Kt.header cfg d' none, [], [], _, 0, (hout he).1.1, hp, hpa.length_eq.symm, by simp,
      hpa.mono fun it b hw => Kt.block_defines cfg it b hw⟩
  | swift cfg =>
    obtain ⟨_, items, blocks, st', hp, ht, hout⟩ := emission_swift E cfg targetOs pick f outs h
    exact ⟨items, blocks, Swift.beginFile cfg, [], Swift.endFile cfg false st', _, 0, (hout he).1, hp, ht.length, by simp,
      ht.forall₂.mono fun it b ⟨s, s', hw⟩ => Sw.block_defines E.U cfg it s b s' hw⟩
  | scala cfg =>
    obtain ⟨d', items, blocks, hp, hpa, hout⟩ := emission_scala E cfg targetOs pick f outs h
    exact ⟨items, blocks, Sc.pre cfg d', Sc.mid cfg d', Sc.post d', _, d'.aliases.length, (hout he).2, hp,
      hpa.length_eq.symm, rfl, hpa.mono fun it b hw => Sc.block_defines cfg it b hw⟩
  | go cfg =>
    obtain ⟨_, items, blocks, st', hp, ht, hout⟩ := emission_go E cfg targetOs pick f outs h
    exact ⟨items, blocks, Go.beginFile cfg ++ Go.renderImports st', [], [], _, 0, (hout he).1, hp, ht.length, by simp,
      ht.forall₂.mono fun it b ⟨s, s', hw⟩ => C03E.Go.block_defines E.U cfg _ it s b s' hw⟩
  | python cfg =>
    obtain ⟨_, items, blocks, st1, hp, ht, hout⟩ := emission_python E cfg targetOs pick f outs h
    exact ⟨items, blocks, Python.beginFile cfg ++ Python.writeAllImports (Python.addDatetimeImport st1) ++
      Python.writeCustomFns (Python.addDatetimeImport st1), [], [], _, 0, (hout he).1, hp, ht.length, by simp,
      ht.forall₂.mono fun it b ⟨s, s', hw⟩ => Py.block_defines E cfg it s b s' hw⟩

/-! ## non-vacuity: a file with an un-annotated struct and an annotated tagged enum that has a unit
variant and a struct variant with one kept and one skipped field -/
open TsV.Syn

def E0 : Ext := { U := .ascii, parseType := fun _ => none }

def tsAttr : Attr := ⟨.path [s%"typeshare"]⟩
def serdeTagged : Attr :=
  ⟨.list [s%"serde"] true [.nameValue [s%"tag"] (some (.str s%"type")), .nameValue [s%"content"] (some (.str s%"content"))]⟩

/-- `struct Plain;  #[typeshare] #[serde(tag = "type", content = "content")] enum E { A, V { x: u8, #[serde(skip)] y: u8 } }` -/
def exItems : List Item :=
  [.struct [] s%"Plain" [] .unit,
   .enum [tsAttr, serdeTagged] s%"E" []
     [⟨[], s%"A", .unit⟩,
      ⟨[], s%"V", .named [⟨[], some s%"x", .path [] s%"u8" []⟩,
                          ⟨[⟨.list [s%"serde"] true [.path [s%"skip"]]⟩], some s%"y", .path [] s%"u8" []⟩]⟩]]

def exSrc : SourceFile :=
  { crateName := [], fileName := s%"lib.rs", path := s%"lib.rs", file := { attrs := [], marker := true, items := exItems } }

def ctx0 : ParseContext := { ignoredTypes := [], multiFile := false, targetOs := [] }

example : (sourceItems ctx0 exSrc.file).length = 1 := by decide +kernel
example : parseErrs E0 ctx0 exSrc.file = [] := by decide +kernel
example : (parsedItems E0 ctx0 exSrc.file).map RustItem.originalName = [s%"E"] := by decide +kernel

def exItem : RustItem := (parsedItems E0 ctx0 exSrc.file).head!

theorem exParsed : parsedItems E0 ctx0 exSrc.file = [exItem] := by rfl


/-- the item the back ends receive -/
def exRec : RustItem := recItem [] (renamesFor [] [exItem]) exItem

theorem exOrder (d' : ParsedData) (h : C12L.itemsOf d' = [exRec]) : Pipeline.generateOrder d' = some [exRec] := by
  show Deps.topsort (C12L.itemsOf d') = _
  rw [h]
  exact C12L.topsort_single _ (by decide +kernel)

/-- TypeScript: the run of the example file produces one output file -/
example : ∃ outs, run E0 (.typescript {}) false [] (fun _ => none) [exSrc] = .ok (.outputs outs) ∧ outs.length = 1 := by
  rw [RunEval.run_eq]
  exact RunEval.outputs_length (by decide +kernel)


/-- what the blocks of the example have to define, per back end: the helper struct of the struct
variant `V` (TypeScript prints it inline) and the enum -/
example : tsDefs E0.U exRec = [(s%"export type ", s%"E")] := by decide +kernel
example : ktDefs {} exRec = [(s%"data class ", s%"EVInner"), (s%"sealed class ", s%"E")] := by decide +kernel
example : swDefs {} exRec = [(s%"public struct ", s%"EVInner"), (s%"public enum ", s%"E")] := by decide +kernel
example : scDefs exRec = [(s%"case class ", s%"EVInner"), (s%"sealed trait ", s%"E"), (s%"object ", s%"E")] := by
  decide +kernel
example : goDefs E0.U {} exRec = .ok [(s%"type ", s%"EVInner"), (s%"type ", s%"ETypes"), (s%"type ", s%"E")] := by
  decide +kernel
example : pyDefs E0 exRec = [(s%"class ", s%"EVInner"), (s%"class ", s%"ETypes"), (s%"class ", s%"EA"),
    (s%"class ", s%"EV"), ([], s%"E")] := by decide +kernel

/-- the hypotheses of `defines_*` are met: every back end writes the block of the example item -/
example : (TypeScript.writeItem E0.U {} exRec []).isOk = true := by decide +kernel
example : (Kt.writeItem {} exRec).isOk = true := by decide +kernel
example : (Swift.writeItem E0.U {} exRec false).isOk = true := by decide +kernel
example : (Sc.writeItem {} exRec).isOk = true := by decide +kernel
example : (Go.writeItem E0.U {} [] exRec []).isOk = true := by decide +kernel
example : (Python.writeItem E0 {} exRec {}).isOk = true := by decide +kernel

example : ∃ outs, run E0 (.kotlin {}) false [] (fun _ => none) [exSrc] = .ok (.outputs outs) ∧ outs.length = 1 := by
  rw [RunEval.run_eq]
  exact RunEval.outputs_length (by decide +kernel)

example : ∃ outs, run E0 (.swift {}) false [] (fun _ => none) [exSrc] = .ok (.outputs outs) ∧ outs.length = 1 := by
  rw [RunEval.run_eq]
  exact RunEval.outputs_length (by decide +kernel)

example : ∃ outs, run E0 (.go {}) false [] (fun _ => none) [exSrc] = .ok (.outputs outs) ∧ outs.length = 1 := by
  rw [RunEval.run_eq]
  exact RunEval.outputs_length (by decide +kernel)

example : ∃ outs, run E0 (.python {}) false [] (fun _ => none) [exSrc] = .ok (.outputs outs) ∧ outs.length = 1 := by
  rw [RunEval.run_eq]
  exact RunEval.outputs_length (by decide +kernel)


def exEnum : RustEnum := match exRec with | .enum e => e | _ => default
theorem exRec_eq : exRec = .enum exEnum := by rfl

example : ∃ outs, run E0 (.scala { package := s%"com.p" }) false [] (fun _ => none) [exSrc] = .ok (.outputs outs) ∧
    outs.length = 1 := by
  rw [RunEval.run_eq]
  exact RunEval.outputs_length (by decide +kernel)

/-- a const: TypeScript, Go and Python write a block for it, the other three refuse -/
def exConst : RustItem := .const { id := ⟨s%"MAX", s%"MAX", false⟩, ty := .prim .u32, expr := 7 }
example : tsDefs E0.U exConst = [(s%"export const ", s%"MAX")] := by decide +kernel
example : (TypeScript.writeItem E0.U {} exConst []).isOk = true ∧ (Go.writeItem E0.U {} [] exConst []).isOk = true ∧
    (Python.writeItem E0 {} exConst {}).isOk = true := by decide +kernel
example : (Kt.writeItem {} exConst).isOk = false ∧ (Swift.writeItem E0.U {} exConst false).isOk = false ∧
    (Sc.writeItem {} exConst).isOk = false := by decide +kernel

end TsV.C03_Emission
