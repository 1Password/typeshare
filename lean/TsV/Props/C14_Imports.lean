import TsV.Lemmas.C14_Imports_Text
import TsV.Lemmas.C14_Paths_Visit
import TsV.Lemmas.RunEval
/-!
# C14, import clause — completeness on the sub-language where it holds

"In multi-file mode … every reference from a type in crate A to a typeshared type of crate B produces an import
of that type from B's module in A's output (TypeScript, Kotlin), and nothing is imported that is not
used/defined there."

`TsV.Props.C14` proves the *soundness* half for `used_imports` (`usedImports_sound`).  This file proves the
*completeness* half

1. for `Pipeline.usedImports` (`usedImports_exact`: exact membership; `usedImports_complete_named` / `_glob` /
   `_fallback` / `_firstOther`; the monotonicity lemmas of the scoped map are in `Lemmas/C14_Imports_Used`),
2. for the visitor and `reconcile_referenced_types` (`visit_import_named` / `visit_import_glob`,
   `file_import_of_mem` / `file_import_glob`; the converse: `file_import_sound`),
3. composed through `parseAll` / `collect` / `reconcile` / the job list of a multi-file `Generate.run`
   (`importedInJob_iff`: exact membership in a job's scoped imports; `import_complete_of_mem` and its instance for
   a named `use`, `import_complete`; `import_complete_glob`; the converse: `import_explained`) and down to the text the
   TypeScript and Kotlin back ends write (`import_line_typescript`, `import_line_kotlin`),

on the sub-language `inScope` (decidable), and shows with kernel-checked witnesses that completeness fails on the
two known classes `Known_use_rename` (`use alpha::Target as Target;`) and `Known_serde_rename`
(`#[serde(rename = "Renamed")] struct Target` imported by name from another crate): `witness_use_rename`,
`witness_serde_rename`, `C14_imports_not_full`; outside them: `C14_imports_partial`.

What "a reference from crate A to a type of crate B" means here (`Resolves`, `CrossRef`): an identifier that a
generated item of a file mentions (`all_references`: first character upper-case, not `Option`/`String`/`Vec`/
`HashMap`/`T`/`I54`/`U53`) and that a `use B::…;` tree of the same file binds to an item of `B`.  Not covered by
these statements: `use` trees that do not start with a path segment (`use {a::X, b::Y};` — `ItemUseIter` keeps
one base crate per `use` item), and qualified paths written inside types (`alpha::Target`, handled by
`Visitor.importOfPath`).
-/
namespace TsV.C14
open TsV TsV.Syn TsV.Pipeline TsV.Visitor TsV.C06M TsV.C14I

/-! ## 1. `used_imports` is complete -/

/-- **exact membership** (completeness and soundness of the fold in one statement): `t` is imported from crate
`c` iff some import of a crate other than the current one contributes it, where the contribution of an import
(`C06M.contrib`) is: its own name if its crate's entry of `all_types` lists it; every name of that entry for a
glob; otherwise its name under the crate the re-export fallback `fo` answers with. -/
theorem usedImports_exact (d : ParsedData) (all : List (Str × List Str)) (imports : List ImportedType)
    (fo : Str → Option Str) (c t : Str) :
    (∃ tys, (c, tys) ∈ usedImports d all imports fo ∧ t ∈ tys) ↔
      ∃ i ∈ imports, i.baseCrate ≠ d.crateName ∧ ∃ x, contrib all fo i = some x ∧ c = x.1 ∧ t ∈ x.2 :=
  usedImports_smem_iff d all imports fo c t

/-- **named import**: an import of another crate whose `all_types` entry lists the name is in the result -/
theorem usedImports_complete_named (d : ParsedData) (all : List (Str × List Str)) (imports : List ImportedType)
    (fo : Str → Option Str) (imp : ImportedType) (k : Str) (ns : List Str)
    (hi : imp ∈ imports) (hne : imp.baseCrate ≠ d.crateName)
    (hall : all.find? (·.1 == imp.baseCrate) = some (k, ns)) (hn : imp.typeName ∈ ns) :
    ∃ tys, (imp.baseCrate, tys) ∈ usedImports d all imports fo ∧ imp.typeName ∈ tys := by
  obtain ⟨x, hx, h1, h2⟩ := contrib_direct all fo imp k ns hall hn
  exact (usedImports_smem_iff d all imports fo _ _).2 ⟨imp, hi, hne, x, hx, h1, h2⟩

/-- the same with the crate's entry given by membership in a map with distinct keys -/
theorem usedImports_complete_named' (d : ParsedData) (all : List (Str × List Str)) (imports : List ImportedType)
    (fo : Str → Option Str) (imp : ImportedType) (ns : List Str) (hkeys : (all.map (·.1)).Nodup)
    (hi : imp ∈ imports) (hne : imp.baseCrate ≠ d.crateName)
    (hall : (imp.baseCrate, ns) ∈ all) (hn : imp.typeName ∈ ns) :
    ∃ tys, (imp.baseCrate, tys) ∈ usedImports d all imports fo ∧ imp.typeName ∈ tys :=
  usedImports_complete_named d all imports fo imp _ ns hi hne (find?_key_of_mem all _ ns hkeys hall) hn

/-- **glob import**: the crate gets an import line and every name of its `all_types` entry is imported -/
theorem usedImports_complete_glob (d : ParsedData) (all : List (Str × List Str)) (imports : List ImportedType)
    (fo : Str → Option Str) (imp : ImportedType) (k : Str) (ns : List Str)
    (hi : imp ∈ imports) (hne : imp.baseCrate ≠ d.crateName)
    (hall : all.find? (·.1 == imp.baseCrate) = some (k, ns)) (hstar : imp.typeName = s%"*") :
    imp.baseCrate ∈ (usedImports d all imports fo).map (·.1) ∧
    ∀ n ∈ ns, ∃ tys, (imp.baseCrate, tys) ∈ usedImports d all imports fo ∧ n ∈ tys := by
  have hc := contrib_glob all fo imp k ns hall hstar
  refine ⟨(usedImports_keys_iff d all imports fo _).2 ⟨imp, hi, hne, _, hc, rfl⟩, ?_⟩
  intro n hn
  exact (usedImports_smem_iff d all imports fo _ _).2 ⟨imp, hi, hne, _, hc, rfl, hn⟩

/-- **fallback**: an import that does not resolve directly (`takesFallback`: its crate is not part of the run,
or does not list the name) is imported from the crate the fallback oracle answers with -/
theorem usedImports_complete_fallback (d : ParsedData) (all : List (Str × List Str)) (imports : List ImportedType)
    (fo : Str → Option Str) (imp : ImportedType) (c : Str)
    (hi : imp ∈ imports) (hne : imp.baseCrate ≠ d.crateName)
    (htf : takesFallback all imp = true) (hfo : fo imp.typeName = some c) :
    ∃ tys, (c, tys) ∈ usedImports d all imports fo ∧ imp.typeName ∈ tys := by
  have hc := contrib_fallback all fo imp htf
  rw [hfo] at hc
  exact (usedImports_smem_iff d all imports fo _ _).2 ⟨imp, hi, hne, _, hc, rfl, by simp⟩

/-- the fallback with the pipeline's oracle `Generate.firstOther`: if some other crate lists the name, the
name is imported from the crate `firstOther` returns — which is another crate that lists it -/
theorem usedImports_complete_firstOther (d : ParsedData) (all : List (Str × List Str))
    (imports : List ImportedType) (imp : ImportedType)
    (hi : imp ∈ imports) (hne : imp.baseCrate ≠ d.crateName) (htf : takesFallback all imp = true)
    (hex : ∃ p ∈ all, p.1 ≠ d.crateName ∧ imp.typeName ∈ p.2) :
    ∃ c, Generate.firstOther all d.crateName imp.typeName = some c ∧ c ≠ d.crateName ∧
      (∃ ns, (c, ns) ∈ all ∧ imp.typeName ∈ ns) ∧
      ∃ tys, (c, tys) ∈ usedImports d all imports (Generate.firstOther all d.crateName) ∧ imp.typeName ∈ tys := by
  obtain ⟨c, hc⟩ := firstOther_complete all d.crateName imp.typeName hex
  have hs := firstOther_spec all d.crateName imp.typeName c hc
  exact ⟨c, hc, hs.1, hs.2, usedImports_complete_fallback d all imports _ imp c hi hne htf hc⟩

/-! ## 2. the visitor and `reconcile_referenced_types` -/

/-- the `use` tree has the form `use c::…;` and lists the name `T` (`use c::T;`, `use c::{…, T, …};`,
`use c::m::T;` …; a leaf `X as T` does not count) -/
def ImportsNamed (tree : UseTree) (c T : Str) : Bool :=
  match tree with
  | .path b sub => b == c && (leafNames sub).contains T
  | _ => false

/-- the `use` tree has the form `use c::…;` and contains a glob (`use c::*;`, `use c::{A, m::*};` …) -/
def ImportsGlob (tree : UseTree) (c : Str) : Bool :=
  match tree with
  | .path b sub => b == c && hasGlob sub
  | _ => false

/-- some `use` item of the file (at any depth) brings `c`'s `T` into scope by name / by a glob -/
def FileImportsNamed (f : File) (c T : Str) : Bool := (useTreesList f.items).any (ImportsNamed · c T)
def FileImportsGlob (f : File) (c : Str) : Bool := (useTreesList f.items).any (ImportsGlob · c)

/-- what `accept_crate` demands of the crate name of a `use` path (first character lower-case, not one of the
24 well-known crates `std`, `serde`, `tokio` …), and: it is a crate name, not `crate` / `self` / `super` (those
are resolved to the current crate) -/
def CrateInScope (U : UnicodeOps) (c : Str) : Bool := acceptCrate U c && !isSelfish c

theorem importsNamed_iff (tree : UseTree) (c T : Str) :
    ImportsNamed tree c T = true ↔ ∃ sub, tree = .path c sub ∧ T ∈ leafNames sub := by
  cases tree <;> simp [ImportsNamed, and_assoc]

theorem importsGlob_iff (tree : UseTree) (c : Str) :
    ImportsGlob tree c = true ↔ ∃ sub, tree = .path c sub ∧ hasGlob sub = true := by
  cases tree <;> simp [ImportsGlob, and_assoc]

theorem importsNamed_plain (c T : Str) : ImportsNamed (.path c (.name T)) c T = true := by
  simp [ImportsNamed, leafNames]

theorem importsNamed_group (c T : Str) (ts : List UseTree) (h : UseTree.name T ∈ ts) :
    ImportsNamed (.path c (.group ts)) c T = true := by
  simp only [ImportsNamed, beq_self_eq_true, Bool.true_and, List.contains_iff_mem, leafNames]
  exact (mem_leafNamesList T ts).2 ⟨_, h, by simp [leafNames]⟩

theorem importsGlob_plain (c : Str) : ImportsGlob (.path c .glob) c = true := by
  simp [ImportsGlob, hasGlob]

/-- **one `use c::…;` item** of a visited file, `c` a crate in scope: every accepted leaf name of the subtree,
and `*` when the subtree has a glob, is in the file's `import_types` with base crate `c` — unless the language
configuration maps it (`ctx.ignoredTypes`) -/
theorem visit_import_path (E : Ext) (ctx : ParseContext) (hmf : ctx.multiFile = true) (cn fn fp : Str)
    (f : File) (d : ParsedData) (hv : visitFile E ctx cn fn fp f = .ok d) (hne : isEmpty d = false)
    (c : Str) (sub : UseTree) (htree : UseTree.path c sub ∈ useTreesList f.items)
    (hc : CrateInScope E.U c = true) (X : Str)
    (hX : (X ∈ leafNames sub ∧ acceptType E.U X = true) ∨ (hasGlob sub = true ∧ X = s%"*"))
    (hmap : X ∉ ctx.ignoredTypes) :
    ⟨c, X⟩ ∈ d.importTypes := by
  simp only [CrateInScope, Bool.and_eq_true, Bool.not_eq_true'] at hc
  have hr : resolveBase cn c = c := by simp [resolveBase, hc.2]
  refine (C14P.visitFile_imports E ctx hmf cn fn fp f d hv hne _).2 (Or.inr ⟨_, htree, ?_⟩)
  simp only [useImports, List.mem_filter, Bool.not_eq_true']
  refine ⟨(useIter_path E cn c sub _).2 ⟨by rw [hr]; exact hc.1, ?_⟩, by simpa using hmap⟩
  rw [hr]
  rcases hX with ⟨hl, ha⟩ | ⟨hg, rfl⟩
  · exact Or.inl ⟨X, hl, ha, rfl⟩
  · exact Or.inr ⟨hg, rfl⟩

/-- **named `use`**: `T` of crate `c`, brought in by `use c::T;` / `use c::{…, T, …};`, is in the file's
`import_types` with base crate `c` — provided `c` passes `accept_crate`, `T` passes `accept_type` (first
character upper-case, not `Option`/`String`/`Vec`/`HashMap`/`T`/`I54`/`U53`) and `T` has no type mapping in the
language configuration (`ctx.ignoredTypes`) -/
theorem visit_import_named (E : Ext) (ctx : ParseContext) (hmf : ctx.multiFile = true) (cn fn fp : Str)
    (f : File) (d : ParsedData) (hv : visitFile E ctx cn fn fp f = .ok d) (hne : isEmpty d = false)
    (c T : Str) (huse : FileImportsNamed f c T = true) (hc : CrateInScope E.U c = true)
    (hT : acceptType E.U T = true) (hmap : T ∉ ctx.ignoredTypes) :
    ⟨c, T⟩ ∈ d.importTypes := by
  simp only [FileImportsNamed, List.any_eq_true] at huse
  obtain ⟨tree, htree, hin⟩ := huse
  obtain ⟨sub, rfl, hleaf⟩ := (importsNamed_iff tree c T).1 hin
  exact visit_import_path E ctx hmf cn fn fp f d hv hne c sub htree hc T (Or.inl ⟨hleaf, hT⟩) hmap

/-- **glob `use`**: `use c::*;` puts `(c, *)` into the file's `import_types` -/
theorem visit_import_glob (E : Ext) (ctx : ParseContext) (hmf : ctx.multiFile = true) (cn fn fp : Str)
    (f : File) (d : ParsedData) (hv : visitFile E ctx cn fn fp f = .ok d) (hne : isEmpty d = false)
    (c : Str) (huse : FileImportsGlob f c = true) (hc : CrateInScope E.U c = true)
    (hmap : s%"*" ∉ ctx.ignoredTypes) :
    ⟨c, s%"*"⟩ ∈ d.importTypes := by
  simp only [FileImportsGlob, List.any_eq_true] at huse
  obtain ⟨tree, htree, hin⟩ := huse
  obtain ⟨sub, rfl, hg⟩ := (importsGlob_iff tree c).1 hin
  exact visit_import_path E ctx hmf cn fn fp f d hv hne c sub htree hc _ (Or.inr ⟨hg, rfl⟩) hmap

/-- **through `parser::parse`** (visitor + `reconcile_referenced_types`): an import `⟨c, T⟩` of the visit —
however it got there: `use` tree, qualified path in a type, attribute path — whose name `T` a generated item of
the file references (`all_references`), which the file does not define itself, and which no import of another
crate carries, is in the arrival's `import_types` -/
theorem file_import_of_mem (E : Ext) (ctx : ParseContext) (hmf : ctx.multiFile = true)
    (pick : List ImportedType → Option ImportedType) (hpick : ValidPick pick) (cn fn fp : Str)
    (f : File) (d : ParsedData) (hm : f.marker = true) (hv : visitFile E ctx cn fn fp f = .ok d)
    (c T : Str) (hmem : ⟨c, T⟩ ∈ d.importTypes)
    (href : T ∈ allReferences E.U d) (hloc : T ∉ d.typeNames)
    (huniq : ∀ j ∈ d.importTypes, j.typeName = T → j.baseCrate = c) :
    ∃ a, parseFile E ctx pick cn fn fp f = .ok (some a) ∧ a.crateName = cn ∧ a.typeNames = d.typeNames ∧
      ⟨c, T⟩ ∈ a.importTypes :=
  ⟨_, parseFile_of_visit E ctx hmf pick cn fn fp f d hm hv (isEmpty_false_of_ref E.U d T href),
    (reconcile_crateName E.U pick d).trans (Visit.visitFile_meta hv).1, reconcile_typeNames E.U pick d,
    reconcile_keeps_named E.U pick hpick d c T hmem href hloc huniq⟩

/-- the same for a glob: `(c, *)` survives whenever the file generates anything -/
theorem file_import_glob (E : Ext) (ctx : ParseContext) (hmf : ctx.multiFile = true)
    (pick : List ImportedType → Option ImportedType) (cn fn fp : Str)
    (f : File) (d : ParsedData) (hm : f.marker = true) (hv : visitFile E ctx cn fn fp f = .ok d)
    (hne : isEmpty d = false) (c : Str) (hmem : ⟨c, s%"*"⟩ ∈ d.importTypes) :
    ∃ a, parseFile E ctx pick cn fn fp f = .ok (some a) ∧ a.crateName = cn ∧ a.typeNames = d.typeNames ∧
      ⟨c, s%"*"⟩ ∈ a.importTypes :=
  ⟨_, parseFile_of_visit E ctx hmf pick cn fn fp f d hm hv hne,
    (reconcile_crateName E.U pick d).trans (Visit.visitFile_meta hv).1, reconcile_typeNames E.U pick d,
    reconcile_keeps_glob E.U pick d c hmem⟩

/-- **"nothing is imported that is not used", file level**: every import of an arrival was produced by the
file's visitor, and is a glob or names a type that a generated item of the file references and that the file
does not define -/
theorem file_import_sound (E : Ext) (ctx : ParseContext) (hmf : ctx.multiFile = true)
    (pick : List ImportedType → Option ImportedType) (hpick : ValidPick pick) (cn fn fp : Str)
    (f : File) (a : ParsedData) (h : parseFile E ctx pick cn fn fp f = .ok (some a)) (i : ImportedType)
    (hi : i ∈ a.importTypes) :
    ∃ d, visitFile E ctx cn fn fp f = .ok d ∧ i ∈ d.importTypes ∧
      (i.typeName = s%"*" ∨ (i.typeName ∈ allReferences E.U d ∧ i.typeName ∉ d.typeNames)) := by
  obtain ⟨d, hv, _, _, rfl⟩ := visit_of_parseFile E ctx hmf pick cn fn fp f a h
  exact ⟨d, hv, reconcile_sound E.U pick hpick d i hi⟩

/-- where the two premises "referenced" and "defined" come from at source level: an annotated, accepted item
of a visited file that parses is recorded, and its output name is in `type_names` … -/
theorem defined_of_item (E : Ext) (ctx : ParseContext) (cn fn fp : Str) (f : File) (d : ParsedData)
    (hv : visitFile E ctx cn fn fp f = .ok d) (hne : isEmpty d = false) (it : Item)
    (hit : it ∈ C03.annotatedList ctx f.items) (ri : RustItem) (hri : C03.parseItem E ctx it = .ok ri) :
    ItemIn ri d ∧ ri.renamedName ∈ d.typeNames :=
  visitItems_defines E ctx fp f.items _ d (visitFile_visited E ctx cn fn fp f d hv hne) it hit ri hri

/-- … and an identifier occurring in the type of a field of a recorded struct is referenced -/
theorem referenced_of_struct_field (U : UnicodeOps) (d : ParsedData) (s : RustStruct) (fl : RustField) (T : Str)
    (hs : s ∈ d.structs) (hf : fl ∈ s.fields) (hT : T ∈ fl.ty.allIds) (hacc : acceptType U T = true) :
    T ∈ allReferences U d := ref_of_struct_field U d s fl T hs hf hT hacc

/-! ## 3. composition: the job list of a multi-file run -/

/-- the parse context `Generate.run` uses in multi-file mode -/
def runCtx (lang : Generate.LangCfg) (targetOs : List Str) : ParseContext :=
  { ignoredTypes := Generate.ignoredTypes lang, multiFile := true, targetOs }

/-- the job of crate `A` (there is one) carries scoped imports that list `T` under crate `B`.
(`Run.run_eq`: `jobsWith id (collect arrivals)` *is* the job list `Generate.run` hands to the back end; `runJobs true (reconcile m)`
unfolds to it.) -/
def ImportedInJob (arrivals : List ParsedData) (A B T : Str) : Prop :=
  ∃ j ∈ jobsWith id (collect arrivals), j.1 = A ∧ ∃ imps, j.2.2 = some imps ∧ ∃ tys, (B, tys) ∈ imps ∧ T ∈ tys

/-- **exact membership, job level**: the scoped imports of crate `A`'s job list `T` under `B` iff an import of an
arrival of `A`, from another crate, contributes it (`C06M.contrib`: named / glob / fallback) -/
theorem importedInJob_iff (arrivals : List ParsedData) (A B T : Str) :
    ImportedInJob arrivals A B T ↔ ∃ d ∈ arrivals, d.crateName = A ∧ ∃ i ∈ d.importTypes, i.baseCrate ≠ A ∧
      ∃ x, contrib (allTypes (collect arrivals)) (Generate.firstOther (allTypes (collect arrivals)) A) i = some x ∧
        B = x.1 ∧ T ∈ x.2 := by
  constructor
  · rintro ⟨j, hj, rfl, imps, hji, h⟩
    obtain ⟨v, hv, hvi, hvc, hvu⟩ := job_inv (collect arrivals) j hj
    have hcn : j.2.1.crateName = j.1 := hvc.trans (entry_crateName arrivals j.1 v hv)
    obtain rfl := Option.some.inj (hvu.symm.trans hji)
    rw [hcn] at h
    obtain ⟨i, hi, hne, hx⟩ := (usedImports_smem_iff _ _ _ _ B T).1 h
    obtain ⟨d, hd, hdc, hid⟩ := entry_imports_inv arrivals j.1 v hv i (hvi ▸ hi)
    exact ⟨d, hd, hdc, i, hid, hcn ▸ hne, hx⟩
  · rintro ⟨d, hd, rfl, i, hi, hne, hx⟩
    obtain ⟨he, hc, him, _⟩ := entry_of_arrival arrivals d hd
    obtain ⟨v', hjob, hvi, hvc, _⟩ := job_of_entry (collect arrivals) _ _ he
    have hcn : v'.crateName = d.crateName := hvc.trans hc
    exact ⟨_, hjob, rfl, _, rfl, (usedImports_smem_iff v' _ _ _ B T).2
      ⟨i, hvi ▸ him i hi, hcn ▸ hne, hcn ▸ hx⟩⟩

/-- **from the arrivals to the job**: an arrival of crate `A` that imports `(B, X)`, `B ≠ A`, and an arrival
of crate `B`: a named import whose name `B` defines is in the scoped imports of `A`'s job; a glob import puts
every type name of `B`'s arrival there -/
theorem imported_of_arrivals (arrivals : List ParsedData) (dA dB : ParsedData) (hA : dA ∈ arrivals)
    (hB : dB ∈ arrivals) (X : Str) (himp : ⟨dB.crateName, X⟩ ∈ dA.importTypes)
    (hne : dB.crateName ≠ dA.crateName) :
    (X ∈ dB.typeNames → ImportedInJob arrivals dA.crateName dB.crateName X) ∧
    (X = s%"*" → ∀ n ∈ dB.typeNames, ImportedInJob arrivals dA.crateName dB.crateName n) := by
  obtain ⟨heB, _, _, htB⟩ := entry_of_arrival arrivals dB hB
  have hfind := allTypes_find (collect arrivals) (Collect.collect_sorted arrivals) _ _ heB
  refine ⟨fun hX => ?_, fun hX n hn => ?_⟩ <;> refine (importedInJob_iff arrivals _ _ _).2 ⟨dA, hA, rfl, _, himp, hne, ?_⟩
  · exact contrib_direct _ _ ⟨dB.crateName, X⟩ _ _ hfind (htB X hX)
  · exact ⟨_, contrib_glob _ _ ⟨dB.crateName, X⟩ _ _ hfind hX, rfl, htB n hn⟩

/-- **from the files to the job**: a file `f` whose arrival imports `(B, X)`, `B` another crate, and a file
`g` of crate `B` with arrival `dB` — the two conclusions of `imported_of_arrivals` for `f`'s crate and `B` -/
theorem imported_of_files (E : Ext) (ctx : ParseContext) (hmf : ctx.multiFile = true)
    (pick : List ImportedType → Option ImportedType)
    (files : List Generate.SourceFile) (arrivals : List ParsedData)
    (hparse : Generate.parseAll E ctx pick files = .ok arrivals)
    (f : Generate.SourceFile) (hf : f ∈ files) (a : ParsedData)
    (hfp : parseFile E ctx pick f.crateName f.fileName f.path f.file = .ok (some a))
    (B X : Str) (himp : ⟨B, X⟩ ∈ a.importTypes) (hne : B ≠ f.crateName)
    (g : Generate.SourceFile) (hg : g ∈ files) (hgB : g.crateName = B) (dB : ParsedData)
    (hgp : parseFile E ctx pick g.crateName g.fileName g.path g.file = .ok (some dB)) :
    (X ∈ dB.typeNames → ImportedInJob arrivals f.crateName B X) ∧
    (X = s%"*" → ∀ n ∈ dB.typeNames, ImportedInJob arrivals f.crateName B n) := by
  have hA := (mem_parseAll E ctx pick files arrivals hparse a).2 ⟨f, hf, hfp⟩
  have hBm := (mem_parseAll E ctx pick files arrivals hparse dB).2 ⟨g, hg, hgp⟩
  have hca : a.crateName = f.crateName := (Visit.parseFile_meta hfp).1
  have hcB : dB.crateName = B := (Visit.parseFile_meta hgp).1.trans hgB
  have := imported_of_arrivals arrivals a dB hA hBm X (by rw [hcB]; exact himp) (by rw [hcB, hca]; exact hne)
  rw [hcB, hca] at this
  exact this

/-- **C14, import clause, completeness, for an import of the visit however it got there**: in a multi-file run
whose files parse, a file `f` of crate `A` whose visit holds the import `⟨B, T⟩`, with `T` referenced by a
generated item of `f`, not defined in `f`, not imported under another crate in `f`, `B ≠ A`; and a file `g` of
crate `B` whose result defines the output name `T`.  Then `A`'s job lists `T` under `B` in its scoped imports. -/
theorem import_complete_of_mem (E : Ext) (lang : Generate.LangCfg) (targetOs : List Str)
    (pick : List ImportedType → Option ImportedType) (hpick : ValidPick pick)
    (files : List Generate.SourceFile) (arrivals : List ParsedData)
    (hparse : Generate.parseAll E (runCtx lang targetOs) pick files = .ok arrivals)
    (f : Generate.SourceFile) (hf : f ∈ files) (hm : f.file.marker = true) (dA : ParsedData)
    (hv : visitFile E (runCtx lang targetOs) f.crateName f.fileName f.path f.file = .ok dA)
    (B T : Str) (hmem : ⟨B, T⟩ ∈ dA.importTypes)
    (href : T ∈ allReferences E.U dA) (hloc : T ∉ dA.typeNames)
    (huniq : ∀ j ∈ dA.importTypes, j.typeName = T → j.baseCrate = B)
    (hne : B ≠ f.crateName)
    (g : Generate.SourceFile) (hg : g ∈ files) (hgB : g.crateName = B) (dB : ParsedData)
    (hgp : parseFile E (runCtx lang targetOs) pick g.crateName g.fileName g.path g.file = .ok (some dB))
    (hdef : T ∈ dB.typeNames) :
    ImportedInJob arrivals f.crateName B T := by
  obtain ⟨a, hpa, _, _, hai⟩ := file_import_of_mem E (runCtx lang targetOs) rfl pick hpick f.crateName f.fileName
    f.path f.file dA hm hv B T hmem href hloc huniq
  exact (imported_of_files E _ rfl pick files arrivals hparse f hf a hpa B T hai hne g hg hgB dB hgp).1 hdef

/-- **C14, import clause, completeness (named `use`).**  In a multi-file run whose files parse: a file `f` of
crate `A` with a generated item that references the type name `T` (`all_references`), where `T` is brought in
by `use B::T;` / `use B::{…, T, …};` (`FileImportsNamed`), `B ≠ A` a crate name `accept_crate` accepts, `T`
without a type mapping, not defined in `f` itself, no import of another crate in `f` with the same name; and a
file `g` of crate `B` whose result defines a type with *output* name `T` (`type_names` holds the renamed names:
for a type without `serde(rename)` that is its Rust name).  Then crate `A` has a job, and its scoped imports —
what the TypeScript / Kotlin back end prints as the import clause — list `T` under `B`. -/
theorem import_complete (E : Ext) (lang : Generate.LangCfg) (targetOs : List Str)
    (pick : List ImportedType → Option ImportedType) (hpick : ValidPick pick)
    (files : List Generate.SourceFile) (arrivals : List ParsedData)
    (hparse : Generate.parseAll E (runCtx lang targetOs) pick files = .ok arrivals)
    (f : Generate.SourceFile) (hf : f ∈ files) (hm : f.file.marker = true) (dA : ParsedData)
    (hv : visitFile E (runCtx lang targetOs) f.crateName f.fileName f.path f.file = .ok dA)
    (B T : Str) (huse : FileImportsNamed f.file B T = true) (hB : CrateInScope E.U B = true)
    (hmap : T ∉ Generate.ignoredTypes lang)
    (href : T ∈ allReferences E.U dA) (hloc : T ∉ dA.typeNames)
    (huniq : ∀ j ∈ dA.importTypes, j.typeName = T → j.baseCrate = B)
    (hne : B ≠ f.crateName)
    (g : Generate.SourceFile) (hg : g ∈ files) (hgB : g.crateName = B) (dB : ParsedData)
    (hgp : parseFile E (runCtx lang targetOs) pick g.crateName g.fileName g.path g.file = .ok (some dB))
    (hdef : T ∈ dB.typeNames) :
    ImportedInJob arrivals f.crateName B T :=
  import_complete_of_mem E lang targetOs pick hpick files arrivals hparse f hf hm dA hv B T
    (visit_import_named E (runCtx lang targetOs) rfl _ _ _ _ dA hv (isEmpty_false_of_ref E.U dA T href) B T huse hB
      ((mem_allReferences E.U dA T).1 href).1 hmap)
    href hloc huniq hne g hg hgB dB hgp hdef

/-- **C14, import clause, completeness (glob `use`).**  A file `f` of crate `A` that generates something and has
`use B::*;` (`FileImportsGlob`): every type name of every result of crate `B` — serde-renamed or not — is in
the scoped imports of `A`'s job under `B` (whether `f` references it or not). -/
theorem import_complete_glob (E : Ext) (lang : Generate.LangCfg) (targetOs : List Str)
    (pick : List ImportedType → Option ImportedType)
    (files : List Generate.SourceFile) (arrivals : List ParsedData)
    (hparse : Generate.parseAll E (runCtx lang targetOs) pick files = .ok arrivals)
    (f : Generate.SourceFile) (hf : f ∈ files) (hm : f.file.marker = true) (dA : ParsedData)
    (hv : visitFile E (runCtx lang targetOs) f.crateName f.fileName f.path f.file = .ok dA)
    (hnonempty : isEmpty dA = false)
    (B : Str) (huse : FileImportsGlob f.file B = true) (hB : CrateInScope E.U B = true)
    (hmap : s%"*" ∉ Generate.ignoredTypes lang) (hne : B ≠ f.crateName)
    (g : Generate.SourceFile) (hg : g ∈ files) (hgB : g.crateName = B) (dB : ParsedData)
    (hgp : parseFile E (runCtx lang targetOs) pick g.crateName g.fileName g.path g.file = .ok (some dB))
    (T : Str) (hdef : T ∈ dB.typeNames) :
    ImportedInJob arrivals f.crateName B T := by
  obtain ⟨a, hpa, _, _, hai⟩ := file_import_glob E (runCtx lang targetOs) rfl pick f.crateName f.fileName
    f.path f.file dA hm hv hnonempty B
    (visit_import_glob E (runCtx lang targetOs) rfl _ _ _ _ dA hv hnonempty B huse hB hmap)
  exact (imported_of_files E _ rfl pick files arrivals hparse f hf a hpa B _ hai hne g hg hgB dB hgp).2 rfl T hdef

/-- **"nothing is imported that is not used/defined there", whole run**: every `(B, T)` in the scoped imports
of a job is the contribution (`C06M.contrib`: named / glob / fallback) of an import `i` that the visitor produced
for some file of that crate, from a crate other than the job's, and `i` is a glob or names a type that a
generated item of that file references and that file does not define.  (With `TsV.C14.usedImports_sound`: `B`
is another crate of the run and defines `T`.) -/
theorem import_explained (E : Ext) (lang : Generate.LangCfg) (targetOs : List Str)
    (pick : List ImportedType → Option ImportedType) (hpick : ValidPick pick)
    (files : List Generate.SourceFile) (arrivals : List ParsedData)
    (hparse : Generate.parseAll E (runCtx lang targetOs) pick files = .ok arrivals)
    (j : Job) (hj : j ∈ jobsWith id (collect arrivals)) (imps : ScopedCrateTypes) (hji : j.2.2 = some imps)
    (B T : Str) (h : ∃ tys, (B, tys) ∈ imps ∧ T ∈ tys) :
    ∃ f ∈ files, f.crateName = j.1 ∧ ∃ dv,
      visitFile E (runCtx lang targetOs) f.crateName f.fileName f.path f.file = .ok dv ∧
      ∃ i ∈ dv.importTypes, i.baseCrate ≠ j.1 ∧
        (i.typeName = s%"*" ∨ (i.typeName ∈ allReferences E.U dv ∧ i.typeName ∉ dv.typeNames)) ∧
        ∃ x, contrib (allTypes (collect arrivals)) (Generate.firstOther (allTypes (collect arrivals)) j.1) i = some x ∧
          B = x.1 ∧ T ∈ x.2 := by
  obtain ⟨d, hd, hdc, i, hid, hne, hx⟩ := (importedInJob_iff arrivals j.1 B T).1 ⟨j, hj, rfl, imps, hji, h⟩
  obtain ⟨f, hf, hp⟩ := (mem_parseAll E _ pick files arrivals hparse d).1 hd
  obtain ⟨dv, hdv, hin, hor⟩ := file_import_sound E (runCtx lang targetOs) rfl pick hpick _ _ _ _ d hp i hid
  exact ⟨f, hf, (Visit.parseFile_meta hp).1.symm.trans hdc, dv, hdv, i, hin, hne, hor, hx⟩

/-! ### down to the generated text (TypeScript, Kotlin) -/

/-- **Kotlin**: when the run produces output, the file of crate `A` contains the line
`import <package>.<B>.<T>` for every `(B, T)` in the scoped imports of `A`'s job -/
theorem import_line_kotlin (E : Ext) (cfg : Lang.Kotlin.Cfg) (targetOs : List Str)
    (pick : List ImportedType → Option ImportedType) (files : List Generate.SourceFile)
    (arrivals : List ParsedData) (outs : List (Str × Str))
    (hparse : Generate.parseAll E (runCtx (.kotlin cfg) targetOs) pick files = .ok arrivals)
    (hrun : Generate.run E (.kotlin cfg) true targetOs pick files = .ok (.outputs outs))
    (A B T : Str) (himp : ImportedInJob arrivals A B T) :
    ∃ text, (A, text) ∈ outs ∧ ktImportLine cfg B T <:+: text := by
  obtain ⟨j, hj, rfl, imps, hji, tys, hm, ht⟩ := himp
  obtain ⟨text, hout, (hg : Lang.Kotlin.generate cfg j.2.1 j.2.2 = .ok text)⟩ := run_module hparse hrun hj
  rw [hji] at hg
  have hmf := job_multiFile arrivals (arrivals_multiFile E _ rfl pick files arrivals hparse) j hj
  exact ⟨text, hout, kt_generate_line cfg j.2.1 imps text hmf hg B T tys hm ht⟩

/-- **TypeScript**: when the run produces output, the file of crate `A` contains the line
`import { …, T, … } from "./B";` -/
theorem import_line_typescript (E : Ext) (cfg : Lang.TypeScript.Cfg) (targetOs : List Str)
    (pick : List ImportedType → Option ImportedType) (files : List Generate.SourceFile)
    (arrivals : List ParsedData) (outs : List (Str × Str))
    (hparse : Generate.parseAll E (runCtx (.typescript cfg) targetOs) pick files = .ok arrivals)
    (hrun : Generate.run E (.typescript cfg) true targetOs pick files = .ok (.outputs outs))
    (A B T : Str) (himp : ImportedInJob arrivals A B T) :
    ∃ text, (A, text) ∈ outs ∧ ∃ tys, T ∈ tys ∧ tsImportLine B tys <:+: text := by
  obtain ⟨j, hj, rfl, imps, hji, tys, hm, ht⟩ := himp
  obtain ⟨text, hout, st0, st1, hg⟩ := run_module hparse hrun hj
  rw [hji] at hg
  exact ⟨text, hout, tys, ht, ts_generate_line E.U cfg j.2.1 imps st0 st1 text hg B tys hm⟩

/-! ## 4. the statement at full strength, the two known classes, and what holds outside them -/

/-- Rust name resolution through `use` items, as far as `use` trees of the form `use c::…;` go: the identifier
`name` in file `f` denotes the item `orig` of crate `c` — by `use c::…::orig;` / `use c::{…, orig, …};` /
`use c::…::*;` (then `name = orig`) or by `use c::…::orig as name;` -/
def Resolves (f : File) (name c orig : Str) : Bool :=
  (useTreesList f.items).any fun t =>
    match t with
    | .path b sub =>
      b == c && ((name == orig && ((leafNames sub).contains orig || hasGlob sub)) ||
        (renameLeaves sub).contains (orig, name))
    | _ => false

/-- a generated item of file `f` (crate `A`) references, under the identifier `name`, the typeshared type
`tid` that file `g` of another crate `B` declares under the Rust name `orig` -/
structure CrossRef (E : Ext) (ctx : ParseContext) (files : List Generate.SourceFile)
    (f g : Generate.SourceFile) (dA dB : ParsedData) (name orig : Str) (tid : Id) : Prop where
  fIn : f ∈ files
  gIn : g ∈ files
  fMarker : f.file.marker = true
  gMarker : g.file.marker = true
  fVisit : visitFile E ctx f.crateName f.fileName f.path f.file = .ok dA
  gVisit : visitFile E ctx g.crateName g.fileName g.path g.file = .ok dB
  otherCrate : g.crateName ≠ f.crateName
  resolves : Resolves f.file name g.crateName orig = true
  referenced : name ∈ allReferences E.U dA
  notLocal : ∀ t ∈ typeIds dA, t.original ≠ name
  declared : tid ∈ typeIds dB
  declaredAs : tid.original = orig

/-- **C14, import clause, at full strength**: every such cross-crate reference yields an import of the type's
*output* name (`tid.renamed`: that is what `B`'s module exports) from `B` in the job of `A` -/
def C14_imports_full : Prop :=
  ∀ (E : Ext) (lang : Generate.LangCfg) (targetOs : List Str) (pick : List ImportedType → Option ImportedType)
    (files : List Generate.SourceFile) (arrivals : List ParsedData),
    ValidPick pick → Generate.parseAll E (runCtx lang targetOs) pick files = .ok arrivals →
    ∀ (f g : Generate.SourceFile) (dA dB : ParsedData) (name orig : Str) (tid : Id),
      CrossRef E (runCtx lang targetOs) files f g dA dB name orig tid →
      ImportedInJob arrivals f.crateName g.crateName tid.renamed

/-- known class 1 (`use alpha::Target as Target;`): the reference resolves through an `… as …` leaf, which
`ItemUseIter` skips -/
def Known_use_rename (f : File) (name c orig : Str) : Bool :=
  (useTreesList f.items).any fun t =>
    match t with
    | .path b sub => b == c && (renameLeaves sub).contains (orig, name)
    | _ => false

/-- known class 2 (`#[serde(rename = "Renamed")] struct Target` used from another crate by name): the type's
output name differs from its Rust name and no glob import of its crate rescues it (`used_imports` looks the
*Rust* name up among the crate's *output* names) -/
def Known_serde_rename (f : File) (c : Str) (tid : Id) : Bool :=
  tid.renamed != tid.original && !FileImportsGlob f c

/-- the sub-language: the crate name passes `accept_crate` and is not `crate`/`self`/`super`; neither the name
nor `*` has a type mapping in the language configuration; the file does not itself emit a type of that name;
no import of the file carries the name with another base crate -/
def inScope (E : Ext) (lang : Generate.LangCfg) (dA : ParsedData) (B name : Str) : Bool :=
  CrateInScope E.U B && !(Generate.ignoredTypes lang).contains name &&
  !(Generate.ignoredTypes lang).contains s%"*" && !dA.typeNames.contains name &&
  dA.importTypes.all fun j => j.typeName != name || j.baseCrate == B

theorem inScope_iff (E : Ext) (lang : Generate.LangCfg) (dA : ParsedData) (B name : Str) :
    inScope E lang dA B name = true ↔
      CrateInScope E.U B = true ∧ name ∉ Generate.ignoredTypes lang ∧ s%"*" ∉ Generate.ignoredTypes lang ∧
      name ∉ dA.typeNames ∧ ∀ j ∈ dA.importTypes, j.typeName = name → j.baseCrate = B := by
  simp only [inScope, Bool.and_eq_true, Bool.not_eq_true', List.all_eq_true, Bool.or_eq_true, bne_iff_ne, ne_eq,
    beq_iff_eq, and_assoc, ← Decidable.imp_iff_not_or, ← Bool.not_eq_true, List.contains_iff_mem]

/-- a `use` tree that resolves `name` to `c`'s `orig` lists `orig` by name, or has a glob, or renames -/
theorem resolves_cases (f : File) (name c orig : Str) (h : Resolves f name c orig = true) :
    (name = orig ∧ FileImportsNamed f c orig = true) ∨ (name = orig ∧ FileImportsGlob f c = true) ∨
      Known_use_rename f name c orig = true := by
  simp only [Resolves, List.any_eq_true] at h
  obtain ⟨tree, htree, hin⟩ := h
  simp only [FileImportsNamed, FileImportsGlob, Known_use_rename, List.any_eq_true]
  cases tree with
  | path b sub =>
    simp only [Bool.and_eq_true, beq_iff_eq, Bool.or_eq_true, List.contains_iff_mem] at hin
    obtain ⟨rfl, ⟨hno, hleaf | hg⟩ | hr⟩ := hin
    · exact Or.inl ⟨hno, _, htree, (importsNamed_iff _ _ _).2 ⟨sub, rfl, hleaf⟩⟩
    · exact Or.inr (Or.inl ⟨hno, _, htree, (importsGlob_iff _ _).2 ⟨sub, rfl, hg⟩⟩)
    · exact Or.inr (Or.inr ⟨_, htree, by simp [hr]⟩)
  | name _ | rename _ _ | glob | group _ => simp at hin

/-- **what the partial statements for `use` trees and for qualified paths share.**  A reference `name` in file
`f` to the type `tid` that file `g` of another crate declares, in scope and outside `Known_serde_rename`, is
imported under `tid`'s output name provided that — when no `use B::*;` covers it — `name` is `tid`'s Rust name
and the visit of `f` recorded the import `⟨B, name⟩`.  With a glob, `import_complete_glob` brings in every output
name of `B`; without, the type is not renamed and `import_complete_of_mem` applies. -/
theorem imported_of_recorded (E : Ext) (lang : Generate.LangCfg) (targetOs : List Str)
    (pick : List ImportedType → Option ImportedType) (hpick : ValidPick pick)
    (files : List Generate.SourceFile) (arrivals : List ParsedData)
    (hparse : Generate.parseAll E (runCtx lang targetOs) pick files = .ok arrivals)
    (f g : Generate.SourceFile) (dA dB : ParsedData) (name : Str) (tid : Id)
    (hf : f ∈ files) (hg : g ∈ files) (hfm : f.file.marker = true) (hgm : g.file.marker = true)
    (hfv : visitFile E (runCtx lang targetOs) f.crateName f.fileName f.path f.file = .ok dA)
    (hgv : visitFile E (runCtx lang targetOs) g.crateName g.fileName g.path g.file = .ok dB)
    (hne : g.crateName ≠ f.crateName) (href : name ∈ allReferences E.U dA) (hdecl : tid ∈ typeIds dB)
    (hs : inScope E lang dA g.crateName name = true)
    (k : Known_serde_rename f.file g.crateName tid = false)
    (hrec : FileImportsGlob f.file g.crateName = false →
      tid.original = name ∧ ⟨g.crateName, name⟩ ∈ dA.importTypes) :
    ImportedInJob arrivals f.crateName g.crateName tid.renamed := by
  obtain ⟨hcrate, _, hmapS, hloc, huniq⟩ := (inScope_iff E lang dA g.crateName name).1 hs
  have hgp := parseFile_of_visit E (runCtx lang targetOs) rfl pick g.crateName g.fileName g.path g.file dB
    hgm hgv (isEmpty_false_of_typeId dB tid hdecl)
  have hdef : tid.renamed ∈ (reconcileReferencedTypes E.U pick dB).typeNames := by
    rw [reconcile_typeNames]
    exact visitFile_namesRecorded E _ _ _ _ _ dB hgv tid hdecl
  cases hglob : FileImportsGlob f.file g.crateName with
  | true =>
    exact import_complete_glob E lang targetOs pick files arrivals hparse f hf hfm dA hfv
      (isEmpty_false_of_ref E.U dA name href) g.crateName hglob hcrate hmapS hne g hg rfl _ hgp tid.renamed hdef
  | false =>
    obtain ⟨horig, hmem⟩ := hrec hglob
    have hren : tid.renamed = name := by
      simp only [Known_serde_rename, hglob, Bool.not_false, Bool.and_true] at k
      rw [← horig]
      simpa using k
    rw [hren] at hdef ⊢
    exact import_complete_of_mem E lang targetOs pick hpick files arrivals hparse f hf hfm dA hfv g.crateName name
      hmem href hloc huniq hne g hg rfl _ hgp hdef

/-- **C14, import clause, partial**: the full statement holds for every cross-crate reference in scope that is
in neither known class -/
theorem C14_imports_partial (E : Ext) (lang : Generate.LangCfg) (targetOs : List Str)
    (pick : List ImportedType → Option ImportedType) (hpick : ValidPick pick)
    (files : List Generate.SourceFile) (arrivals : List ParsedData)
    (hparse : Generate.parseAll E (runCtx lang targetOs) pick files = .ok arrivals)
    (f g : Generate.SourceFile) (dA dB : ParsedData) (name orig : Str) (tid : Id)
    (h : CrossRef E (runCtx lang targetOs) files f g dA dB name orig tid)
    (hs : inScope E lang dA g.crateName name = true)
    (k1 : Known_use_rename f.file name g.crateName orig = false)
    (k2 : Known_serde_rename f.file g.crateName tid = false) :
    ImportedInJob arrivals f.crateName g.crateName tid.renamed := by
  refine imported_of_recorded E lang targetOs pick hpick files arrivals hparse f g dA dB name tid h.fIn h.gIn
    h.fMarker h.gMarker h.fVisit h.gVisit h.otherCrate h.referenced h.declared hs k2 fun hglob => ?_
  obtain ⟨hcrate, hmap, _⟩ := (inScope_iff E lang dA g.crateName name).1 hs
  rcases resolves_cases f.file name g.crateName orig h.resolves with ⟨rfl, huse⟩ | ⟨_, hg⟩ | hk
  · exact ⟨h.declaredAs, visit_import_named E (runCtx lang targetOs) rfl _ _ _ _ dA h.fVisit
      (isEmpty_false_of_ref E.U dA name h.referenced) g.crateName name huse hcrate
      ((mem_allReferences E.U dA name).1 h.referenced).1 hmap⟩
  · rw [hglob] at hg
    exact absurd hg (by decide)
  · rw [k1] at hk
    exact absurd hk (by decide)

/-! ## witnesses and non-vacuity -/

def wE : Ext := { U := UnicodeOps.ascii, parseType := fun _ => none }
def wLang : Generate.LangCfg := .typescript {}
def wPick : List ImportedType → Option ImportedType := fun l => l.head?
def tsAttr : Attr := ⟨.path [s%"typeshare"]⟩
def serdeRenameAttr (n : Str) : Attr := ⟨.list [s%"serde"] true [.nameValue [s%"rename"] (some (.str n))]⟩
def fld (n t : Str) : Field := ⟨[], some n, .path [] t []⟩
def mkSrc (crate : Str) (items : List Item) : Generate.SourceFile :=
  { crateName := crate, fileName := crate, path := crate ++ s%"/src/lib.rs",
    file := { attrs := [], marker := true, items := items } }
def visitOf (f : Generate.SourceFile) : ParsedData :=
  getOk (visitFile wE (runCtx wLang []) f.crateName f.fileName f.path f.file)
def arrivalsOf (files : List Generate.SourceFile) : List ParsedData :=
  getOk (Generate.parseAll wE (runCtx wLang []) wPick files)
/-- what the back end sees of the import clause of every crate -/
def importsOf (arrivals : List ParsedData) : List (Str × Option ScopedCrateTypes) :=
  (jobsWith id (collect arrivals)).map fun j => (j.1, j.2.2)

theorem not_imported_of_importsOf (arrivals : List ParsedData) (A B T : Str)
    (h : ∀ p ∈ importsOf arrivals, p.1 = A → p.2 = some []) : ¬ ImportedInJob arrivals A B T := by
  rintro ⟨j, hj, hA, imps, hji, tys, hm, _⟩
  have := h (j.1, j.2.2) (List.mem_map.2 ⟨j, hj, rfl⟩) hA
  rw [hji] at this
  simp only [Option.some.injEq] at this
  rw [this] at hm
  simp at hm

/-- a `CrossRef` between the two files of the run `[g, f]`, from one check the kernel can evaluate -/
theorem crossRef_of_eval (f g : Generate.SourceFile) (name orig : Str) (tid : Id)
    (h : ((visitFile wE (runCtx wLang []) f.crateName f.fileName f.path f.file).isOk &&
      (visitFile wE (runCtx wLang []) g.crateName g.fileName g.path g.file).isOk &&
      f.file.marker && g.file.marker && g.crateName != f.crateName && Resolves f.file name g.crateName orig &&
      (allReferences wE.U (visitOf f)).contains name && (typeIds (visitOf f)).all (·.original != name) &&
      (typeIds (visitOf g)).contains tid && tid.original == orig) = true) :
    CrossRef wE (runCtx wLang []) [g, f] f g (visitOf f) (visitOf g) name orig tid := by
  simp only [Bool.and_eq_true, bne_iff_ne, ne_eq, beq_iff_eq, List.contains_iff_mem, List.all_eq_true] at h
  obtain ⟨⟨⟨⟨⟨⟨⟨⟨⟨hf, hg⟩, hfm⟩, hgm⟩, hne⟩, hres⟩, href⟩, hloc⟩, hdecl⟩, horig⟩ := h
  exact ⟨by simp, by simp, hfm, hgm, eq_ok_getOk hf, eq_ok_getOk hg, hne, hres, href, hloc, hdecl, horig⟩

/-- crate `alpha`: `#[typeshare] struct Target { x: u8 }` -/
def srcAlpha : Generate.SourceFile :=
  mkSrc s%"alpha" [.struct [tsAttr] s%"Target" [] (.named [fld s%"x" s%"u8"])]

/-! ### in scope: the three `use` forms -/

/-- crate `beta`: `use alpha::Target; #[typeshare] struct Holder { t: Target }` -/
def srcBetaPlain : Generate.SourceFile :=
  mkSrc s%"beta" [.use (.path s%"alpha" (.name s%"Target")),
    .struct [tsAttr] s%"Holder" [] (.named [fld s%"t" s%"Target"])]
/-- `use alpha::{Other, Target};` -/
def srcBetaGroup : Generate.SourceFile :=
  mkSrc s%"beta" [.use (.path s%"alpha" (.group [.name s%"Other", .name s%"Target"])),
    .struct [tsAttr] s%"Holder" [] (.named [fld s%"t" s%"Target"])]
/-- `use alpha::*;` -/
def srcBetaGlob : Generate.SourceFile :=
  mkSrc s%"beta" [.use (.path s%"alpha" .glob),
    .struct [tsAttr] s%"Holder" [] (.named [fld s%"t" s%"Target"])]

theorem plain_parse : Generate.parseAll wE (runCtx wLang []) wPick [srcAlpha, srcBetaPlain] =
    .ok (arrivalsOf [srcAlpha, srcBetaPlain]) := eq_ok_getOk (by decide +kernel)
theorem plain_visit_alpha :
    visitFile wE (runCtx wLang []) srcAlpha.crateName srcAlpha.fileName srcAlpha.path srcAlpha.file =
      .ok (visitOf srcAlpha) := eq_ok_getOk (by decide +kernel)

/-- the hypotheses of `C14_imports_partial` are met by `use alpha::Target;` … -/
theorem plain_crossRef : CrossRef wE (runCtx wLang []) [srcAlpha, srcBetaPlain] srcBetaPlain srcAlpha
    (visitOf srcBetaPlain) (visitOf srcAlpha) s%"Target" s%"Target" ⟨s%"Target", s%"Target", false⟩ :=
  crossRef_of_eval _ _ _ _ _ (by decide +kernel)

/-- … so the theorem applies (and its conclusion is what the model computes) -/
theorem plain_imported : ImportedInJob (arrivalsOf [srcAlpha, srcBetaPlain]) s%"beta" s%"alpha" s%"Target" :=
  C14_imports_partial wE wLang [] wPick validPick_head _ _ plain_parse _ _ _ _ _ _ _ plain_crossRef
    (by decide +kernel) (by decide +kernel) (by decide +kernel)

example : ImportedInJob (arrivalsOf [srcAlpha, srcBetaPlain]) s%"beta" s%"alpha" s%"Target" := plain_imported

example : importsOf (arrivalsOf [srcAlpha, srcBetaPlain]) =
    [(s%"alpha", some []), (s%"beta", some [(s%"alpha", [s%"Target"])])] := by decide +kernel
example : importsOf (arrivalsOf [srcAlpha, srcBetaGroup]) =
    [(s%"alpha", some []), (s%"beta", some [(s%"alpha", [s%"Target"])])] := by decide +kernel
example : importsOf (arrivalsOf [srcAlpha, srcBetaGlob]) =
    [(s%"alpha", some []), (s%"beta", some [(s%"alpha", [s%"Target"])])] := by decide +kernel

example : FileImportsNamed srcBetaPlain.file s%"alpha" s%"Target" = true := by decide +kernel
example : FileImportsNamed srcBetaGroup.file s%"alpha" s%"Target" = true := by decide +kernel
example : FileImportsGlob srcBetaGlob.file s%"alpha" = true := by decide +kernel
example : CrateInScope wE.U s%"alpha" = true := by decide +kernel
/-- out of scope: well-known crates, `crate::`, upper-case "crates" -/
example : CrateInScope wE.U s%"std" = false ∧ CrateInScope wE.U s%"crate" = false ∧
    CrateInScope wE.U s%"Alpha" = false := by decide +kernel

/-! ### known class 1: `use alpha::Target as Target;` -/

def srcBetaAs : Generate.SourceFile :=
  mkSrc s%"beta" [.use (.path s%"alpha" (.rename s%"Target" s%"Target")),
    .struct [tsAttr] s%"Holder" [] (.named [fld s%"t" s%"Target"])]

theorem as_parse : Generate.parseAll wE (runCtx wLang []) wPick [srcAlpha, srcBetaAs] =
    .ok (arrivalsOf [srcAlpha, srcBetaAs]) := eq_ok_getOk (by decide +kernel)
theorem as_crossRef : CrossRef wE (runCtx wLang []) [srcAlpha, srcBetaAs] srcBetaAs srcAlpha
    (visitOf srcBetaAs) (visitOf srcAlpha) s%"Target" s%"Target" ⟨s%"Target", s%"Target", false⟩ :=
  crossRef_of_eval _ _ _ _ _ (by decide +kernel)

/-- the model imports nothing into `beta` … -/
theorem as_imports : importsOf (arrivalsOf [srcAlpha, srcBetaAs]) = [(s%"alpha", some []), (s%"beta", some [])] := by
  decide +kernel

/-- … although everything else is in scope: **completeness fails on `use … as …`** -/
theorem witness_use_rename :
    CrossRef wE (runCtx wLang []) [srcAlpha, srcBetaAs] srcBetaAs srcAlpha (visitOf srcBetaAs) (visitOf srcAlpha)
      s%"Target" s%"Target" ⟨s%"Target", s%"Target", false⟩ ∧
    inScope wE wLang (visitOf srcBetaAs) s%"alpha" s%"Target" = true ∧
    Known_use_rename srcBetaAs.file s%"Target" s%"alpha" s%"Target" = true ∧
    Known_serde_rename srcBetaAs.file s%"alpha" ⟨s%"Target", s%"Target", false⟩ = false ∧
    ¬ ImportedInJob (arrivalsOf [srcAlpha, srcBetaAs]) s%"beta" s%"alpha" s%"Target" := by
  refine ⟨as_crossRef, by decide +kernel, by decide +kernel, by decide +kernel, ?_⟩
  apply not_imported_of_importsOf
  rw [as_imports]
  decide +kernel

/-! ### known class 2: `#[serde(rename = "Renamed")] struct Target`, `use alpha::Target;` -/

def srcAlphaRenamed : Generate.SourceFile :=
  mkSrc s%"alpha" [.struct [tsAttr, serdeRenameAttr s%"Renamed"] s%"Target" [] (.named [fld s%"x" s%"u8"])]

theorem ren_parse : Generate.parseAll wE (runCtx wLang []) wPick [srcAlphaRenamed, srcBetaPlain] =
    .ok (arrivalsOf [srcAlphaRenamed, srcBetaPlain]) := eq_ok_getOk (by decide +kernel)
theorem ren_crossRef : CrossRef wE (runCtx wLang []) [srcAlphaRenamed, srcBetaPlain] srcBetaPlain srcAlphaRenamed
    (visitOf srcBetaPlain) (visitOf srcAlphaRenamed) s%"Target" s%"Target" ⟨s%"Target", s%"Renamed", true⟩ :=
  crossRef_of_eval _ _ _ _ _ (by decide +kernel)
theorem ren_visit_alpha :
    visitFile wE (runCtx wLang []) srcAlphaRenamed.crateName srcAlphaRenamed.fileName srcAlphaRenamed.path
      srcAlphaRenamed.file = .ok (visitOf srcAlphaRenamed) := ren_crossRef.gVisit

theorem ren_imports : importsOf (arrivalsOf [srcAlphaRenamed, srcBetaPlain]) =
    [(s%"alpha", some []), (s%"beta", some [])] := by decide +kernel

/-- the reference itself *is* rewritten to the output name by `reconcile_aliases` (so `beta`'s output mentions
`Renamed` without importing it) -/
example : (jobsWith id (collect (arrivalsOf [srcAlphaRenamed, srcBetaPlain]))).map
    (fun j => j.2.1.structs.map fun s => s.fields.map fun fl => fl.ty.allIds) =
    [[[[s%"u8"]]], [[[s%"Renamed"]]]] := by decide +kernel

/-- **completeness fails on a serde-renamed type imported by name** -/
theorem witness_serde_rename :
    CrossRef wE (runCtx wLang []) [srcAlphaRenamed, srcBetaPlain] srcBetaPlain srcAlphaRenamed
      (visitOf srcBetaPlain) (visitOf srcAlphaRenamed) s%"Target" s%"Target" ⟨s%"Target", s%"Renamed", true⟩ ∧
    inScope wE wLang (visitOf srcBetaPlain) s%"alpha" s%"Target" = true ∧
    Known_use_rename srcBetaPlain.file s%"Target" s%"alpha" s%"Target" = false ∧
    Known_serde_rename srcBetaPlain.file s%"alpha" ⟨s%"Target", s%"Renamed", true⟩ = true ∧
    ¬ ImportedInJob (arrivalsOf [srcAlphaRenamed, srcBetaPlain]) s%"beta" s%"alpha" s%"Renamed" := by
  refine ⟨ren_crossRef, by decide +kernel, by decide +kernel, by decide +kernel, ?_⟩
  apply not_imported_of_importsOf
  rw [ren_imports]
  decide +kernel

/-- with a glob the renamed type *is* imported (the glob branch copies the crate's output names) -/
example : importsOf (arrivalsOf [srcAlphaRenamed, srcBetaGlob]) =
    [(s%"alpha", some []), (s%"beta", some [(s%"alpha", [s%"Renamed"])])] := by decide +kernel

/-- **the statement at full strength is false on the model** -/
theorem C14_imports_not_full : ¬ C14_imports_full := by
  intro h
  exact witness_use_rename.2.2.2.2
    (h wE wLang [] wPick _ _ validPick_head as_parse _ _ _ _ _ _ _ as_crossRef)

/-! ### `used_imports` alone: the three branches on a concrete map -/

def exAll : List (Str × List Str) := [(s%"alpha", [s%"A1", s%"A2"]), (s%"gamma", [s%"G"])]
def exD : ParsedData := { crateName := s%"beta" }
/-- named, glob, fallback (crate `zeta` is not part of the run; `G` is found in `gamma`), own crate ignored -/
example : usedImports exD exAll [⟨s%"alpha", s%"A2"⟩, ⟨s%"zeta", s%"G"⟩, ⟨s%"beta", s%"B"⟩]
    (Generate.firstOther exAll s%"beta") = [(s%"alpha", [s%"A2"]), (s%"gamma", [s%"G"])] := by decide +kernel
example : usedImports exD exAll [⟨s%"alpha", s%"*"⟩] (Generate.firstOther exAll s%"beta") =
    [(s%"alpha", [s%"A1", s%"A2"])] := by decide +kernel
example : takesFallback exAll ⟨s%"zeta", s%"G"⟩ = true := by decide +kernel

/-! ### the glob form through `C14_imports_partial`, with the serde-renamed crate -/

theorem glob_parse : Generate.parseAll wE (runCtx wLang []) wPick [srcAlphaRenamed, srcBetaGlob] =
    .ok (arrivalsOf [srcAlphaRenamed, srcBetaGlob]) := eq_ok_getOk (by decide +kernel)
theorem glob_crossRef : CrossRef wE (runCtx wLang []) [srcAlphaRenamed, srcBetaGlob] srcBetaGlob srcAlphaRenamed
    (visitOf srcBetaGlob) (visitOf srcAlphaRenamed) s%"Target" s%"Target" ⟨s%"Target", s%"Renamed", true⟩ :=
  crossRef_of_eval _ _ _ _ _ (by decide +kernel)

/-- `use alpha::*;` with `alpha`'s `Target` serde-renamed: in scope, in neither known class, and imported
under its output name -/
example : ImportedInJob (arrivalsOf [srcAlphaRenamed, srcBetaGlob]) s%"beta" s%"alpha" s%"Renamed" :=
  C14_imports_partial wE wLang [] wPick validPick_head _ _ glob_parse _ _ _ _ _ _ _ glob_crossRef
    (by decide +kernel) (by decide +kernel) (by decide +kernel)

/-! ### the import line in the generated text -/

def outsOf : Outcome Generate.RunResult → List (Str × Str)
  | .ok (.outputs o) => o
  | _ => []
def isOutputs : Outcome Generate.RunResult → Bool
  | .ok (.outputs _) => true
  | _ => false
theorem eq_outputs {r : Outcome Generate.RunResult} (h : isOutputs r = true) : r = .ok (.outputs (outsOf r)) := by
  cases r with
  | ok x => cases x <;> simp_all [isOutputs, outsOf]
  | err e | panic s => simp [isOutputs] at h

/-- a run with a non-empty list of outputs has produced outputs -/
theorem outputs_of_outsOf {r : Outcome Generate.RunResult} {o : List (Str × Str)} (hne : o ≠ [])
    (h : outsOf r = o) : isOutputs r = true ∧ outsOf r = o := by
  refine ⟨?_, h⟩
  cases r with
  | ok x => cases x <;> first | rfl | exact absurd h.symm hne
  | err e | panic s => exact absurd h.symm hne

def wKt : Lang.Kotlin.Cfg := { package := s%"com.example" }

/- Kotlin's configuration `wKt` maps no type either, so the parse context is the TypeScript one -/
theorem kt_parse : Generate.parseAll wE (runCtx (.kotlin wKt) []) wPick [srcAlpha, srcBetaPlain] =
    .ok (arrivalsOf [srcAlpha, srcBetaPlain]) := plain_parse

/-- the Kotlin run succeeds and writes these two files -/
theorem kt_run : isOutputs (Generate.run wE (.kotlin wKt) true [] wPick [srcAlpha, srcBetaPlain]) = true ∧
    outsOf (Generate.run wE (.kotlin wKt) true [] wPick [srcAlpha, srcBetaPlain]) =
    [(s%"alpha", s%"package com.example.alpha\n\nimport kotlinx.serialization.Serializable\nimport kotlinx.serialization.SerialName\n\n\n@Serializable\ndata class Target (\n\tval x: UByte\n)\n\n"),
     (s%"beta", s%"package com.example.beta\n\nimport kotlinx.serialization.Serializable\nimport kotlinx.serialization.SerialName\n\nimport com.example.alpha.Target\n\n@Serializable\ndata class Holder (\n\tval t: Target\n)\n\n")] := by
  rw [RunEval.run_eq]
  exact outputs_of_outsOf (List.cons_ne_nil _ _) (by decide +kernel)

/-- the TypeScript run succeeds and writes these two files -/
theorem ts_run : isOutputs (Generate.run wE wLang true [] wPick [srcAlpha, srcBetaPlain]) = true ∧
    outsOf (Generate.run wE wLang true [] wPick [srcAlpha, srcBetaPlain]) =
    [(s%"alpha", s%"\nexport interface Target {\n\tx: number;\n}\n\n"),
     (s%"beta", s%"import { Target } from \"./alpha\";\n\nexport interface Holder {\n\tt: Target;\n}\n\n")] := by
  rw [RunEval.run_eq]
  exact outputs_of_outsOf (List.cons_ne_nil _ _) (by decide +kernel)

/-- `import_line_kotlin` applies to the two-crate run: `beta`'s file contains `import com.example.alpha.Target` -/
example : ∃ text, (s%"beta", text) ∈ outsOf (Generate.run wE (.kotlin wKt) true [] wPick [srcAlpha, srcBetaPlain]) ∧
    s%"import com.example.alpha.Target\n" <:+: text :=
  import_line_kotlin wE wKt [] wPick [srcAlpha, srcBetaPlain] _ _ kt_parse (eq_outputs kt_run.1)
    s%"beta" s%"alpha" s%"Target" plain_imported

/-- `import_line_typescript` applies: `beta`'s file contains `import { …, Target, … } from "./alpha";` -/
example : ∃ text, (s%"beta", text) ∈ outsOf (Generate.run wE wLang true [] wPick [srcAlpha, srcBetaPlain]) ∧
    ∃ tys, s%"Target" ∈ tys ∧ tsImportLine s%"alpha" tys <:+: text :=
  import_line_typescript wE {} [] wPick [srcAlpha, srcBetaPlain] _ _ plain_parse (eq_outputs ts_run.1)
    s%"beta" s%"alpha" s%"Target" plain_imported

end TsV.C14
