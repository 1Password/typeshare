import TsV.Model.Parser
/-!
# C15 — a doc attribute without text contributes nothing and removes nothing

`parse_comment_attrs` (model: `Parser.parseCommentAttrs`) keeps, of an attribute list, the `doc = "literal"`
name-values and nothing else; `expr_to_string` answers `None` for every other shape and `filter_map` drops it.
A parser in which one text-less doc attribute empties the whole documentation is excluded by:

* `carriesText a`: `a` is `#[doc = "<string literal>"]` (this includes `///` and `/** */` comments, which are
  that attribute).  `textOf a` is the literal.
* `C15_Textless : C15_Textless_full` — for every attribute list
  `parseCommentAttrs E attrs = parseCommentAttrs E (attrs.filter carriesText)`; two lists with the same
  text-carrying attributes in the same order have the same comments (`same_text_same_comments`); inserting any
  number of text-less attributes at any place leaves the comments unchanged (`insert_textless`, and
  `interleave_textless` for several places at once).
* "removes nothing": the comment list is the concatenation, in attribute order, of the lines of each
  text-carrying attribute (`comments_append`, `comments_cons_text`, `comments_eq_flatMap`): every doc line is
  there, whatever stands between the doc attributes.
* the forms `tools/c15.py` plants are text-less: `doc(hidden)`, `doc(alias = "x")`, `doc = include_str!(..)`
  (a non-literal value), `doc = 3`, `doc = 1.5`, a bare `doc`, `cfg_attr(all(), doc = "x")`, and a `doc`
  reached through a longer path (`a::doc = "x"`) — `textless_forms`, kernel-checked.
-/
namespace TsV.C15_Textless
open TsV TsV.Syn TsV.Parser

/-- the attribute is `#[doc = "<string literal>"]` -/
def carriesText (a : Attr) : Bool :=
  match a.val with
  | .nameValue segs (some (.str _)) => segs == [s%"doc"]
  | _ => false

/-- the literal of a text-carrying attribute -/
def textOf (a : Attr) : Option Str :=
  match a.val with
  | .nameValue segs (some (.str s)) => if segs == [s%"doc"] then some s else none
  | _ => none

/-- a `doc` attribute (any shape) that carries no string literal: `doc(hidden)`, `doc(alias = ..)`,
`doc = <non-literal>`, `doc = 3`, bare `doc` -/
def textlessDoc (a : Attr) : Bool := a.val.isIdent s%"doc" && !carriesText a

/-- **the statement**: the comments of an attribute list are those of its text-carrying attributes; and
text-less attributes inserted anywhere, in any number, change nothing -/
def C15_Textless_full : Prop :=
  ∀ (E : Ext),
    (∀ attrs : List Attr, parseCommentAttrs E attrs = parseCommentAttrs E (attrs.filter carriesText)) ∧
    (∀ pre ins post : List Attr, (∀ a ∈ ins, carriesText a = false) →
      parseCommentAttrs E (pre ++ ins ++ post) = parseCommentAttrs E (pre ++ post)) ∧
    (∀ attrs attrs' : List Attr, attrs'.filter carriesText = attrs.filter carriesText →
      parseCommentAttrs E attrs' = parseCommentAttrs E attrs)

theorem carriesText_iff (a : Attr) : carriesText a = true ↔ (textOf a).isSome = true := by
  unfold carriesText textOf
  split
  · split <;> simp_all
  · simp

theorem textOf_none (a : Attr) (h : carriesText a = false) : textOf a = none := by
  have := carriesText_iff a
  cases ht : textOf a with
  | none => rfl
  | some s => rw [ht] at this; simp [h] at this

theorem docStrings_eq (attrs : List Attr) : docStrings attrs = attrs.filterMap textOf := rfl

/-- the string literals read from a list are those of its text-carrying attributes -/
theorem docStrings_filter (attrs : List Attr) : docStrings (attrs.filter carriesText) = docStrings attrs := by
  simp only [docStrings_eq]
  induction attrs with
  | nil => rfl
  | cons a as ih =>
    cases hc : carriesText a with
    | true => simp only [List.filter_cons_of_pos hc, List.filterMap_cons, ih]
    | false =>
      have hcf : ¬ carriesText a = true := by simp [hc]
      simp only [List.filter_cons_of_neg hcf, List.filterMap_cons, textOf_none a hc, ih]

theorem docStrings_append (l₁ l₂ : List Attr) : docStrings (l₁ ++ l₂) = docStrings l₁ ++ docStrings l₂ := by
  simp [docStrings_eq, List.filterMap_append]

theorem docStrings_textless (ins : List Attr) (h : ∀ a ∈ ins, carriesText a = false) : docStrings ins = [] := by
  rw [docStrings_eq, List.filterMap_eq_nil_iff]
  intro a ha
  exact textOf_none a (h a ha)

/-- the comments of a list are those of its text-carrying attributes -/
theorem comments_filter (E : Ext) (attrs : List Attr) :
    parseCommentAttrs E attrs = parseCommentAttrs E (attrs.filter carriesText) := by
  unfold parseCommentAttrs
  rw [docStrings_filter]

/-- two lists with the same text-carrying attributes in the same order have the same comments -/
theorem same_text_same_comments (E : Ext) (attrs attrs' : List Attr)
    (h : attrs'.filter carriesText = attrs.filter carriesText) :
    parseCommentAttrs E attrs' = parseCommentAttrs E attrs := by
  rw [comments_filter E attrs', comments_filter E attrs, h]

/-- **nothing is removed**: the comment list of a concatenation is the concatenation of the comment lists -/
theorem comments_append (E : Ext) (l₁ l₂ : List Attr) :
    parseCommentAttrs E (l₁ ++ l₂) = parseCommentAttrs E l₁ ++ parseCommentAttrs E l₂ := by
  simp [parseCommentAttrs, docStrings_append, docEntries, List.flatMap_append]

/-- a text-less block contributes nothing -/
theorem comments_textless (E : Ext) (ins : List Attr) (h : ∀ a ∈ ins, carriesText a = false) :
    parseCommentAttrs E ins = [] := by
  simp [parseCommentAttrs, docStrings_textless ins h, docEntries]

/-- a text-carrying attribute contributes exactly the trimmed lines of its trimmed literal, in front of what
follows -/
theorem comments_cons_text (E : Ext) (a : Attr) (s : Str) (rest : List Attr) (h : textOf a = some s) :
    parseCommentAttrs E (a :: rest) = splitCommentLines E.U (E.U.trim s) ++ parseCommentAttrs E rest := by
  simp [parseCommentAttrs, docStrings_eq, h, docEntries]

/-- a text-less attribute in front contributes nothing -/
theorem comments_cons_textless (E : Ext) (a : Attr) (rest : List Attr) (h : textOf a = none) :
    parseCommentAttrs E (a :: rest) = parseCommentAttrs E rest := by
  simp [parseCommentAttrs, docStrings_eq, h]

/-- the whole comment list: per attribute, in order, the lines of its literal — or nothing -/
theorem comments_eq_flatMap (E : Ext) (attrs : List Attr) :
    parseCommentAttrs E attrs = attrs.flatMap fun a =>
      match textOf a with
      | some s => splitCommentLines E.U (E.U.trim s)
      | none => [] := by
  induction attrs with
  | nil => rfl
  | cons a as ih =>
    rw [List.flatMap_cons, ← ih]
    cases ht : textOf a with
    | some s => exact comments_cons_text E a s as ht
    | none => simpa using comments_cons_textless E a as ht

/-- **inserting text-less attributes** — any number, at any place — leaves the comment list unchanged -/
theorem insert_textless (E : Ext) (pre ins post : List Attr) (h : ∀ a ∈ ins, carriesText a = false) :
    parseCommentAttrs E (pre ++ ins ++ post) = parseCommentAttrs E (pre ++ post) := by
  rw [comments_append, comments_append, comments_textless E ins h, List.append_nil, ← comments_append]

/-- at several places at once: text-less blocks `gaps` before, between and after the attributes -/
def interleave : List (List Attr) → List Attr → List Attr
  | g :: gs, a :: as => g ++ a :: interleave gs as
  | g :: _, [] => g
  | [], as => as

theorem interleave_textless (E : Ext) : ∀ (gaps : List (List Attr)) (attrs : List Attr),
    (∀ g ∈ gaps, ∀ a ∈ g, carriesText a = false) →
    parseCommentAttrs E (interleave gaps attrs) = parseCommentAttrs E attrs := by
  intro gaps
  induction gaps with
  | nil => exact fun _ _ => rfl
  | cons g gs ih =>
    intro attrs h
    have hg := comments_textless E g (h g List.mem_cons_self)
    cases attrs with
    | nil => exact hg
    | cons a as =>
      show parseCommentAttrs E (g ++ ([a] ++ interleave gs as)) = _
      rw [comments_append, hg, List.nil_append, comments_append,
        ih as fun g' hg' => h g' (List.mem_cons_of_mem _ hg'), ← comments_append]
      rfl

/-- a text-less `doc` attribute is in particular text-less -/
theorem textlessDoc_textless (a : Attr) (h : textlessDoc a = true) : carriesText a = false := by
  simp only [textlessDoc, Bool.and_eq_true, Bool.not_eq_true'] at h
  exact h.2

/-- **C15_Textless.** -/
theorem C15_Textless : C15_Textless_full := fun E =>
  ⟨comments_filter E, insert_textless E, fun attrs attrs' h => same_text_same_comments E attrs attrs' h⟩

/-! ## the forms `tools/c15.py` plants, kernel-checked -/

def docHidden : Attr := ⟨.list [s%"doc"] true [.path [s%"hidden"]]⟩
def docAlias : Attr := ⟨.list [s%"doc"] true [.nameValue [s%"alias"] (some (.str s%"x"))]⟩
def docNonLiteral : Attr := ⟨.nameValue [s%"doc"] none⟩          -- `doc = include_str!("x.md")`, `doc = concat!(..)`
def docInt : Attr := ⟨.nameValue [s%"doc"] (some (.int 3 []))⟩
def docOtherLit : Attr := ⟨.nameValue [s%"doc"] (some .other)⟩    -- `doc = 1.5`, `doc = true`, `doc = b"x"`
def docBare : Attr := ⟨.path [s%"doc"]⟩
def docUnparsed : Attr := ⟨.list [s%"doc"] false []⟩
def cfgAttrDoc : Attr := ⟨.list [s%"cfg_attr"] true [.list [s%"all"] true [], .nameValue [s%"doc"] (some (.str s%"x"))]⟩
def longPathDoc : Attr := ⟨.nameValue [s%"a", s%"doc"] (some (.str s%"x"))⟩
def docText (s : Str) : Attr := ⟨.nameValue [s%"doc"] (some (.str s))⟩

def textlessForms : List Attr :=
  [docHidden, docAlias, docNonLiteral, docInt, docOtherLit, docBare, docUnparsed, cfgAttrDoc, longPathDoc]

theorem textless_forms : ∀ a ∈ textlessForms, carriesText a = false := by decide +kernel

/-- the first seven are `doc` attributes -/
theorem textless_doc_forms :
    ∀ a ∈ [docHidden, docAlias, docNonLiteral, docInt, docOtherLit, docBare, docUnparsed], textlessDoc a = true := by
  decide +kernel

theorem docText_carries (s : Str) : carriesText (docText s) = true ∧ textOf (docText s) = some s := by
  simp [carriesText, textOf, docText]

/-! ## non-vacuity -/

def wE : Ext := { U := .ascii, parseType := fun _ => none }

/-- `/// one` `#[doc(hidden)]` `/// two` `#[doc = include_str!(..)]` `#[doc(alias = "x")]` `/// three\n four` -/
def mixed : List Attr :=
  [docText s%" one", docHidden, docText s%" two", docNonLiteral, docAlias, docText s%" three\n four"]

example : parseCommentAttrs wE mixed = [s%"one", s%"two", s%"three", s%"four"] := by decide +kernel
example : (mixed.filter carriesText).length = 3 ∧ mixed.length = 6 := by decide +kernel
/-- the hypotheses of `insert_textless` / `interleave_textless` are met by the nine forms at once -/
example : parseCommentAttrs wE ([docText s%" one"] ++ textlessForms ++ [docText s%" two"]) = [s%"one", s%"two"] := by
  rw [insert_textless wE _ _ _ textless_forms]; decide +kernel
example : interleave [[docHidden], [docAlias, docInt], [docBare]] [docText s%"a", docText s%"b"] =
    [docHidden, docText s%"a", docAlias, docInt, docText s%"b", docBare] := rfl
/-- through the item parser: the struct's and the field's comments survive text-less attributes around them -/
example : (match parseStruct wE [] ([⟨.path [s%"typeshare"]⟩, docHidden, docText s%" top", docAlias]) s%"S" []
      (.named [⟨[docNonLiteral, docText s%" field", docHidden], some s%"x", .path [] s%"u8" []⟩]) with
    | .ok (.struct s) => (s.comments, s.fields.map (·.comments)) | _ => ([], [])) =
    ([s%"top"], [[s%"field"]]) := by decide +kernel

end TsV.C15_Textless
