import TsV.Model.Integer
/-!
# C18 — I54/U53 hold exactly the JavaScript-safe integers

The limits are written out as literals in the statements (not shared with the model's constants).
-/
namespace TsV.C18
open TsV.Integer

/-- the `truncated_type!` range check, with the limits as literals -/
theorem tryFrom_range (lo hi n : Int) :
    (if !(decide (lo ≤ n) && decide (n ≤ hi)) then none else some n) =
      if lo ≤ n ∧ n ≤ hi then some n else none := by
  by_cases h1 : lo ≤ n <;> by_cases h2 : n ≤ hi <;> simp [h1, h2]

theorem u53TryFrom_eq (n : Int) :
    u53TryFrom n = if 0 ≤ n ∧ n ≤ 9007199254740991 then some n else none := tryFrom_range 0 _ n

theorem i54TryFrom_eq (n : Int) :
    i54TryFrom n = if -9007199254740991 ≤ n ∧ n ≤ 9007199254740991 then some n else none :=
  tryFrom_range _ _ n

/-- acceptance: exactly `[0, 2^53-1]` -/
theorem u53_accept_iff (n : Int) :
    (u53TryFrom n).isSome ↔ (0 ≤ n ∧ n ≤ 9007199254740991) := by
  rw [u53TryFrom_eq]
  split <;> simp [*]

/-- acceptance: exactly `[-(2^53-1), 2^53-1]` -/
theorem i54_accept_iff (n : Int) :
    (i54TryFrom n).isSome ↔ (-9007199254740991 ≤ n ∧ n ≤ 9007199254740991) := by
  rw [i54TryFrom_eq]
  split <;> simp [*]

/-- the literal limits are the powers of two the property names -/
theorem limits : (9007199254740991 : Int) = 2 ^ 53 - 1 := by decide +kernel

/-- nothing is truncated: an accepted value is stored unchanged and converts back unchanged -/
theorem u53_roundtrip (n v : Int) (h : u53TryFrom n = some v) : intoWide v = n := by
  rw [u53TryFrom_eq] at h
  split at h
  · exact (Option.some.inj h).symm
  · cases h

theorem i54_roundtrip (n v : Int) (h : i54TryFrom n = some v) : intoWide v = n := by
  rw [i54TryFrom_eq] at h
  split at h
  · exact (Option.some.inj h).symm
  · cases h

/-- rejected rather than truncated -/
theorem u53_reject (n : Int) (h : n < 0 ∨ 9007199254740991 < n) : u53TryFrom n = none := by
  rw [u53TryFrom_eq, if_neg (by omega)]

theorem i54_reject (n : Int) (h : n < -9007199254740991 ∨ 9007199254740991 < n) :
    i54TryFrom n = none := by
  rw [i54TryFrom_eq, if_neg (by omega)]

/-- widening `From<u8|u16|u32>`: always inside the range, value kept -/
theorem u53_from_narrow (m : Int) (h : 0 ≤ m ∧ m < 4294967296) :
    u53TryFrom (fromNarrow m) = some m := by
  rw [fromNarrow, u53TryFrom_eq, if_pos (by omega)]

theorem i54_from_narrow (m : Int) (h : -2147483648 ≤ m ∧ m < 2147483648) :
    i54TryFrom (fromNarrow m) = some m := by
  rw [fromNarrow, i54TryFrom_eq, if_pos (by omega)]

/-- narrowing `TryFrom<U53> for u{8,16,32}` succeeds iff the value fits, and keeps the value -/
theorem u53_to_narrow (bits : Nat) (v : Int) (hv : 0 ≤ v) :
    u53ToNarrow bits v = (if v ≤ 2 ^ bits - 1 then some v else none) := by
  unfold u53ToNarrow
  by_cases h : v ≤ 2 ^ bits - 1
  · rw [if_pos h, Int.emod_eq_of_lt hv (by omega), if_neg]
    simp only [Bool.or_eq_true, decide_eq_true_eq]
    omega
  · rw [if_neg h, if_pos]
    simp only [Bool.or_eq_true, decide_eq_true_eq]
    omega

/-- `as i{bits}` keeps a value that is in the range of `i{bits}` -/
theorem wrapSigned_of_range (bits : Nat) (hb : 0 < bits) (v : Int)
    (h : -(2 ^ (bits - 1)) ≤ v ∧ v ≤ 2 ^ (bits - 1) - 1) : wrapSigned bits v = v := by
  have hp : (0 : Int) < 2 ^ (bits - 1) := Int.pow_pos (by decide)
  have hpow : (2 : Int) ^ bits = 2 * 2 ^ (bits - 1) := by
    have : bits = (bits - 1) + 1 := by omega
    conv => lhs; rw [this, Int.pow_succ]
    omega
  unfold wrapSigned
  by_cases hneg : v < 0
  · have hm : v % 2 ^ bits = v + 2 ^ bits := by
      rw [← Int.add_emod_right, Int.emod_eq_of_lt (by omega) (by omega)]
    simp only [hm]
    rw [if_pos (by omega)]
    omega
  · have hm : v % 2 ^ bits = v := Int.emod_eq_of_lt (by omega) (by omega)
    simp only [hm]
    rw [if_neg (by omega)]

/-- narrowing `TryFrom<I54> for i{8,16,32}` -/
theorem i54_to_narrow (bits : Nat) (hb : 0 < bits) (v : Int) :
    i54ToNarrow bits v =
      (if -(2 ^ (bits - 1)) ≤ v ∧ v ≤ 2 ^ (bits - 1) - 1 then some v else none) := by
  unfold i54ToNarrow
  by_cases h : -(2 ^ (bits - 1)) ≤ v ∧ v ≤ 2 ^ (bits - 1) - 1
  · rw [if_pos h, wrapSigned_of_range bits hb v h, if_neg]
    simp only [Bool.or_eq_true, decide_eq_true_eq]
    omega
  · rw [if_neg h, if_pos]
    simp only [Bool.or_eq_true, decide_eq_true_eq]
    omega

/-- `usize_from_u53_saturated` keeps every valid U53 -/
theorem usize_saturated (v : Int) (h : 0 ≤ v ∧ v ≤ 9007199254740991) :
    usizeFromU53Saturated v = v := by
  unfold usizeFromU53Saturated; omega

/-- serde_json deserialisation of an integer literal accepts exactly the same range -/
theorem u53_json_iff (k : Int) : (u53FromJson k).isSome ↔ (0 ≤ k ∧ k ≤ 9007199254740991) := by
  unfold u53FromJson
  split
  · rename_i h
    simp only [Bool.or_eq_true, decide_eq_true_eq] at h
    simp only [Option.isSome_none, Bool.false_eq_true, false_iff]
    omega
  · exact u53_accept_iff k

theorem i54_json_iff (k : Int) :
    (i54FromJson k).isSome ↔ (-9007199254740991 ≤ k ∧ k ≤ 9007199254740991) := by
  unfold i54FromJson
  split
  · rename_i h
    simp only [Bool.or_eq_true, decide_eq_true_eq] at h
    simp only [Option.isSome_none, Bool.false_eq_true, false_iff]
    omega
  · exact i54_accept_iff k

/-! ### through an IEEE-754 double -/

theorem bitLenAux_le (fuel n : Nat) : bitLenAux fuel n ≤ fuel := by
  induction fuel generalizing n with
  | zero => simp [bitLenAux]
  | succ f ih =>
    unfold bitLenAux
    split
    · omega
    · have := ih (n / 2); omega

theorem bitLenAux_small (k : Nat) : ∀ fuel n, n < 2 ^ k → bitLenAux fuel n ≤ k := by
  induction k with
  | zero =>
    intro fuel n h
    have : n = 0 := by simpa using h
    subst this
    cases fuel <;> simp [bitLenAux]
  | succ k ih =>
    intro fuel n h
    cases fuel with
    | zero => simp [bitLenAux]
    | succ f =>
      unfold bitLenAux
      split
      · omega
      · have : n / 2 < 2 ^ k := by
          rw [Nat.pow_succ] at h; omega
        have := ih f (n / 2) this
        omega

/-- every natural number below 2^53 is its own nearest double -/
theorem f64RoundNat_exact (n : Nat) (h : n < 2 ^ 53) : f64RoundNat n = n := by
  have hb : bitLen n ≤ 53 := bitLenAux_small 53 128 n h
  have he : bitLen n - 53 = 0 := by omega
  unfold f64RoundNat
  simp [he]

/-- conversion through a double leaves every accepted value unchanged -/
theorem f64_exact (n : Int) (h : -9007199254740991 ≤ n ∧ n ≤ 9007199254740991) :
    f64Round n = n := by
  unfold f64Round
  have hn : n.natAbs < 2 ^ 53 := by omega
  rw [f64RoundNat_exact _ hn]
  split <;> omega

/-- tightness: just outside the next power of two the double is no longer exact -/
theorem f64_tight : f64Round 9007199254740993 ≠ 9007199254740993 := by decide +kernel

theorem f64_tight_neg : f64Round (-9007199254740993) ≠ -9007199254740993 := by decide +kernel

/-- ordering and equality are those of the underlying integers (the representation is the integer;
`derive(PartialOrd, Ord, PartialEq, Eq)` on a one-field tuple struct compares that field) -/
theorem order_agrees (a b x y : Int) (ha : u53TryFrom a = some x) (hb : u53TryFrom b = some y) :
    (x < y ↔ a < b) ∧ (x = y ↔ a = b) := by
  have := u53_roundtrip a x ha
  have := u53_roundtrip b y hb
  simp [intoWide] at *
  subst_vars
  exact ⟨Iff.rfl, Iff.rfl⟩

/-! non-vacuity: concrete values at and next to the limits -/
example : u53TryFrom 9007199254740991 = some 9007199254740991 := by decide +kernel
example : u53TryFrom 9007199254740992 = none := by decide +kernel
example : i54TryFrom (-9007199254740991) = some (-9007199254740991) := by decide +kernel
example : i54TryFrom (-9007199254740992) = none := by decide +kernel
example : u53ToNarrow 32 4294967296 = none := by decide +kernel
example : i54ToNarrow 8 (-128) = some (-128) := by decide +kernel
example : f64Round 9007199254740993 = 9007199254740992 := by decide +kernel
example : f64Round 9007199254740995 = 9007199254740996 := by decide +kernel

end TsV.C18
