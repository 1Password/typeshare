import TsV.Lemmas.Capstone_Kotlin
import TsV.Lemmas.Capstone_TypeScript
import TsV.Lemmas.Capstone_Swift
import TsV.Lemmas.Capstone_Scala
import TsV.Lemmas.Capstone_Go
import TsV.Lemmas.Capstone_Python
import TsV.Lemmas.Capstone_Order
import TsV.Lemmas.RunEval
/-!
# Capstone — what one whole single-file run guarantees about every declaration it writes

The per-property theorems (C01, C02, C04, C05, C09, C11, C03_Emission) speak about one item or one back-end
function.  This file composes them: `run_guarantees_<lang>` starts from
`Generate.run E (.<lang> cfg) false targetOs pick [f] = .ok (.outputs outs)` for a single source file `f` and
concludes, for the text that is written:

1. (C03_Emission) every annotated accepted source item parsed (`sourceItems.map parseItem = parsed.map .ok`);
   the output is one text `header ++ blocks.flatten ++ footer` with one block per parsed item (`items` is a
   permutation of the reconciled parsed items, `Paired` / `Threaded` `writeItem` over it), each block making
   exactly the definitions `*Defs` lists (`SplitsInto`);
2. (C01) for every source struct with named fields — and every struct variant of every source enum — the
   block is the rendering of the back end's fact record(s), and under C01's scope (`C01.InScope`,
   `C01.Distinct`) the keys these records bind are serde's keys of the kept source fields, in order;
3. (C04 + C05) for every source struct: position by position, the source field, the field the back end
   received and its fact record; under C04's scope (`C04.InScope`, not `C04.Known_scalaDefaultNonOption`) the
   record is marked optional iff the written type (after `serialized_as`) is `Option<_>` or the field carries
   the bare `serde(default)`, and its type text without the marker is `show (translate …)` of the
   `Option`-stripped type (Go: followed by the acronym pass);
4. (C02) for every source enum in C02's scope (`C02.InScopeSrc`) outside `C02.Known`: the cases the
   declaration has are, in order, the kept source variants under serde's names, each a case of its own,
   and every printed tag / content key is the value of serde's `tag` / `content` attribute;
5. (C09) under C09's scope (crate name `""`, `C09.InScope`, `C09.CfgOk`, no shadowing) every reference
   (`C09.refs`) outside `C09.KnownRef` is spelled with the name its target is defined under — and that name
   (`C09.defName`) is the last definition the block of the target item makes (`SplitsInto` + `getLast?`);
6. (C11) for the five back ends that use `generateOrder`: if the reconciled items have distinct names,
   bounded depth, used alias parameters and an acyclic reference relation (`C11_order`'s hypotheses, stated
   on the items in *source* order), every block comes after the blocks of the items it mentions.

Level: clauses 2-4 are stated on the **fact records** of the back-end models (`KtDecl`, `TsField`,
`SwiftStruct`, `ScClass`, `GoStruct`, `PyClass`, C02's `EnumDecl`s) together with the equation
`block = render facts`; clause 5 on C09's binding semantics `refs` / `defName` plus the text-level
`SplitsInto`; clauses 1 and 6 on the text blocks.

Glue definitions (no new specification; each is a conjunction / packaging of predicates of the individual
property files): `Cap.StructClauses`, `Cap.EnumClauses`, `Cap.FieldsOK`, `Cap.FieldOK`, `Cap.FieldFrom`,
`Cap.Forall₃`, `Cap.acrOf`, `Cap.RefsClause`, `Cap.OrderClause`, `Cap.progOf`, `Cap.recStruct`, `Cap.recEnum`,
the per-language readings `Cap.*.Reads` and `Cap.Kt.innerKeys`, `Cap.Go.anonOf`, `Cap.Py.innerOf`.
-/
namespace TsV.Capstone
open TsV TsV.Syn TsV.Parser TsV.Pipeline TsV.Generate TsV.C03E TsV.Lang TsV.Cap

/-- **Kotlin.**  (`hcU`: the Unicode tables that `to_pascal_case` consults for the class names of sealed-class
cases travel in `Kotlin.Cfg.U`; like `E.U` they must be right about ASCII.) -/
theorem run_guarantees_kotlin (E : Ext) (hU : E.U.AsciiCorrect) (cfg : Kotlin.Cfg) (hcU : cfg.U.AsciiCorrect)
    (targetOs : List Str)
    (pick : List ImportedType → Option ImportedType) (f : SourceFile) (outs : List (Str × Str))
    (h : run E (.kotlin cfg) false targetOs pick [f] = .ok (.outputs outs)) :
    ∃ (parsed items : List RustItem) (blocks : List Str) (d' : ParsedData),
      parsed = parsedItems E (ctxOf (.kotlin cfg) targetOs) f.file ∧
      -- (1) every annotated accepted item parsed; one block per item, written by `writeItem` on the reconciled item
      (sourceItems (ctxOf (.kotlin cfg) targetOs) f.file).map (C03.parseItem E (ctxOf (.kotlin cfg) targetOs)) =
        parsed.map Outcome.ok ∧
      items.Perm (parsed.map (recItem f.crateName (renamesFor f.crateName parsed))) ∧
      Paired (fun it b => Kt.writeItem cfg it = .ok b ∧ SplitsInto (ktDefs cfg it) b) items blocks ∧
      (parsed = [] → outs = []) ∧
      (parsed ≠ [] → outs = [(f.crateName, Kt.header cfg d' none ++ blocks.flatten)] ∧ d'.multiFile = false) ∧
      -- (2) + (3) structs
      (∀ attrs ident gens fs rs,
        Item.struct attrs ident gens (.named fs) ∈ sourceItems (ctxOf (.kotlin cfg) targetOs) f.file →
        parseStruct E targetOs attrs ident gens (.named fs) = .ok (.struct rs) →
        ∃ (k : Nat) (d : Kotlin.KtDecl),
          items[k]? = some (.struct (recStruct f.crateName (renamesFor f.crateName parsed) rs)) ∧
          Kotlin.structFacts cfg (recStruct f.crateName (renamesFor f.crateName parsed) rs) = .ok d ∧
          blocks[k]? = some (Kotlin.renderDecl d) ∧
          StructClauses E .kotlin (.kotlin cfg) targetOs f.crateName (renamesFor f.crateName parsed) attrs fs
            (recStruct f.crateName (renamesFor f.crateName parsed) rs)
            ((C01.Kotlin.declParams d).map C01.Kotlin.boundKey) Cap.Kt.Reads (C04.Kt.params d)) ∧
      -- (2) + (4) enums
      (∀ attrs ident gens vs e,
        Item.enum attrs ident gens vs ∈ sourceItems (ctxOf (.kotlin cfg) targetOs) f.file →
        parseEnum E targetOs attrs ident gens vs = .ok (.enum e) →
        ∃ (k : Nat) (ds inners rest : List Kotlin.KtDecl),
          items[k]? = some (.enum (recEnum f.crateName (renamesFor f.crateName parsed) e)) ∧
          Kotlin.enumFacts cfg (recEnum f.crateName (renamesFor f.crateName parsed) e) = .ok ds ∧
          blocks[k]? = some (ds.flatMap Kotlin.renderDecl) ∧ ds = inners ++ rest ∧
          Kotlin.structsFacts cfg (Kotlin.innerStructs (recEnum f.crateName (renamesFor f.crateName parsed) e)) = .ok inners ∧
          EnumClauses E .kotlin targetOs attrs vs (recEnum f.crateName (renamesFor f.crateName parsed) e) []
            (Cap.Kt.innerKeys inners) (C02.Kt.wire ds)) ∧
      -- (5) references
      RefsClause (.kotlin cfg) f.crateName parsed ∧
      (∀ t ∈ parsed, ∃ (k : Nat) (b : Str),
        items[k]? = some (recItem f.crateName (renamesFor f.crateName parsed) t) ∧ blocks[k]? = some b ∧
        SplitsInto (ktDefs cfg t) b ∧ ((ktDefs cfg t).map (·.2)).getLast? = some (C09.defName (.kotlin cfg) t)) ∧
      -- (6) order
      OrderClause (parsed.map (recItem f.crateName (renamesFor f.crateName parsed))) items := by
  obtain ⟨hal, hnil⟩ := run_core E (.kotlin cfg) targetOs pick f outs h
  obtain ⟨d', items, blocks, hperm, hpair, hrun⟩ := C03_Emission.emission_kotlin E cfg targetOs pick f outs h
  have hout := fun hne => (hrun (mt C03_Emission.emitted_eq_nil.1 hne)).1
  have hord := orderClause_of_run d' hperm fun he => (hrun he).2
  refine ⟨_, items, blocks, d', rfl, hal, hperm, hpair.mono fun it b hw => ⟨hw, Kt.block_defines cfg it b hw⟩,
    hnil, hout, ?_, ?_, refsClause _ _ _, ?_, hord⟩
  · intro attrs ident gens fs rs hsrc hparse
    obtain ⟨k, b, hk, hb, hw⟩ := struct_block hperm hpair hsrc hparse
    obtain ⟨d, hd, rfl⟩ := Cap.Kt.writeItem_struct cfg _ b hw
    exact ⟨k, d, hk, hd, hb, Cap.Kt.struct_ok E hU cfg targetOs _ _ attrs ident gens fs rs d hparse hd⟩
  · intro attrs ident gens vs e hsrc hparse
    obtain ⟨k, b, hk, hb, hw⟩ := enum_block hperm hpair hsrc hparse
    obtain ⟨ds, hd, rfl⟩ := Cap.Kt.writeItem_enum cfg _ b hw
    obtain ⟨inners, rest, hds, hi, hcl⟩ := Cap.Kt.enum_ok E hU cfg hcU targetOs _ _ attrs ident gens vs e ds [] hparse hd
    exact ⟨k, ds, inners, rest, hk, hd, hb, hds, hi, hcl⟩
  · intro t ht
    obtain ⟨k, b, hk, hb, hw⟩ := block_of hperm hpair (List.mem_map.2 ⟨t, ht, rfl⟩)
    have hdef := Kt.block_defines cfg _ b hw
    rw [ktDefs_rec] at hdef
    refine ⟨k, b, hk, hb, hdef, C03_Emission.last_def_kotlin cfg t ?_⟩
    cases t with
    | const c => simp [recItem, Kt.writeItem_not_const] at hw
    | _ => rfl

/-- **TypeScript.** -/
theorem run_guarantees_typescript (E : Ext) (hU : E.U.AsciiCorrect) (cfg : TypeScript.Cfg) (targetOs : List Str)
    (pick : List ImportedType → Option ImportedType) (f : SourceFile) (outs : List (Str × Str))
    (h : run E (.typescript cfg) false targetOs pick [f] = .ok (.outputs outs)) :
    ∃ (parsed items : List RustItem) (blocks : List Str) (stN : TypeScript.CustomMap),
      parsed = parsedItems E (ctxOf (.typescript cfg) targetOs) f.file ∧
      -- (1) every annotated accepted item parsed; one block per item, written by `writeItem` on the reconciled
      -- item, the printer state threaded from block to block
      (sourceItems (ctxOf (.typescript cfg) targetOs) f.file).map (C03.parseItem E (ctxOf (.typescript cfg) targetOs)) =
        parsed.map Outcome.ok ∧
      items.Perm (parsed.map (recItem f.crateName (renamesFor f.crateName parsed))) ∧
      Threaded (TypeScript.writeItem E.U cfg) items [] blocks stN ∧
      Paired (fun it b => SplitsInto (tsDefs E.U it) b) items blocks ∧
      (parsed = [] → outs = []) ∧
      (parsed ≠ [] → outs = [(f.crateName, TS.header cfg none ++ blocks.flatten ++ TypeScript.endFile stN)]) ∧
      -- (2) + (3) structs
      (∀ attrs ident gens fs rs,
        Item.struct attrs ident gens (.named fs) ∈ sourceItems (ctxOf (.typescript cfg) targetOs) f.file →
        parseStruct E targetOs attrs ident gens (.named fs) = .ok (.struct rs) →
        ∃ (k : Nat) (tfs : List TypeScript.TsField) (st st' : TypeScript.CustomMap),
          items[k]? = some (.struct (recStruct f.crateName (renamesFor f.crateName parsed) rs)) ∧
          C01.TypeScript.fieldsFacts cfg rs.genericTypes
            (recStruct f.crateName (renamesFor f.crateName parsed) rs).fields st = .ok (tfs, st') ∧
          blocks[k]? = some (TypeScript.comments 0 rs.comments ++ s%"export interface " ++ rs.id.renamed ++
            genericSuffix rs.genericTypes ++ s%" {\n" ++ tfs.flatMap TypeScript.renderField ++ s%"}\n\n") ∧
          StructClauses E .typescript (.typescript cfg) targetOs f.crateName (renamesFor f.crateName parsed) attrs fs
            (recStruct f.crateName (renamesFor f.crateName parsed) rs)
            (tfs.map C01.TypeScript.boundKey) Cap.TS.Reads tfs) ∧
      -- (2) + (4) enums
      (∀ attrs ident gens vs e,
        Item.enum attrs ident gens vs ∈ sourceItems (ctxOf (.typescript cfg) targetOs) f.file →
        parseEnum E targetOs attrs ident gens vs = .ok (.enum e) →
        ∃ (k : Nat) (d : C02.TS.EnumDecl) (tfss : List (List TypeScript.TsField)) (st st' : TypeScript.CustomMap),
          items[k]? = some (.enum (recEnum f.crateName (renamesFor f.crateName parsed) e)) ∧
          C02.TS.enumFacts cfg (recEnum f.crateName (renamesFor f.crateName parsed) e) st = .ok (d, st') ∧
          blocks[k]? = some (C02.TS.renderEnumDecl d) ∧
          C01.TypeScript.variantsFacts cfg (recEnum f.crateName (renamesFor f.crateName parsed) e)
            (recEnum f.crateName (renamesFor f.crateName parsed) e).variants st = .ok (tfss, st') ∧
          EnumClauses E .typescript targetOs attrs vs (recEnum f.crateName (renamesFor f.crateName parsed) e) []
            (tfss.map (·.map C01.TypeScript.boundKey)) (C02.TS.wire d)) ∧
      -- (5) references
      RefsClause (.typescript cfg) f.crateName parsed ∧
      (∀ t ∈ parsed, ∃ (k : Nat) (b : Str),
        items[k]? = some (recItem f.crateName (renamesFor f.crateName parsed) t) ∧ blocks[k]? = some b ∧
        SplitsInto (tsDefs E.U t) b ∧
        (isConst t = false → ((tsDefs E.U t).map (·.2)).getLast? = some (C09.defName (.typescript cfg) t))) ∧
      -- (6) order
      OrderClause (parsed.map (recItem f.crateName (renamesFor f.crateName parsed))) items := by
  obtain ⟨hal, hnil⟩ := run_core E (.typescript cfg) targetOs pick f outs h
  obtain ⟨d', items, blocks, stN, hperm, hthr, hrun⟩ := C03_Emission.emission_typescript E cfg targetOs pick f outs h
  have hout := fun hne => (hrun (mt C03_Emission.emitted_eq_nil.1 hne)).1
  have hord := orderClause_of_run d' hperm fun he => (hrun he).2
  refine ⟨_, items, blocks, stN, rfl, hal, hperm, hthr,
    hthr.forall₂.mono fun it b ⟨s, s', hw⟩ => TS.block_defines E.U cfg it s b s' hw,
    hnil, hout, ?_, ?_, refsClause _ _ _, ?_, hord⟩
  · intro attrs ident gens fs rs hsrc hparse
    obtain ⟨k, b, hk, hb, st, st', hw⟩ := struct_block hperm hthr.forall₂ hsrc hparse
    obtain ⟨tfs, hd, rfl⟩ := Cap.TS.writeItem_struct E.U cfg _ st st' b hw
    exact ⟨k, tfs, st, st', hk, hd, hb,
      Cap.TS.struct_ok E hU cfg targetOs _ _ attrs ident gens fs rs st st' tfs hparse hd⟩
  · intro attrs ident gens vs e hsrc hparse
    obtain ⟨k, b, hk, hb, st, st', hw⟩ := enum_block hperm hthr.forall₂ hsrc hparse
    obtain ⟨d, tfss, hd, rfl, ht⟩ :=
      Cap.TS.writeItem_enum E cfg targetOs attrs ident gens vs e _ _ hparse st st' b hw
    exact ⟨k, d, tfss, st, st', hk, hd, hb, ht,
      Cap.TS.enum_ok E hU cfg targetOs _ _ attrs ident gens vs e st st' d tfss [] hparse hd ht⟩
  · intro t ht
    obtain ⟨k, b, hk, hb, st, st', hw⟩ := block_of hperm hthr.forall₂ (List.mem_map.2 ⟨t, ht, rfl⟩)
    have hdef := TS.block_defines E.U cfg _ st b st' hw
    rw [tsDefs_rec] at hdef
    exact ⟨k, b, hk, hb, hdef, C03_Emission.last_def_typescript E.U cfg t⟩

/-- **Swift.** -/
theorem run_guarantees_swift (E : Ext) (hU : E.U.AsciiCorrect) (cfg : Swift.Cfg) (targetOs : List Str)
    (pick : List ImportedType → Option ImportedType) (f : SourceFile) (outs : List (Str × Str))
    (h : run E (.swift cfg) false targetOs pick [f] = .ok (.outputs outs)) :
    ∃ (parsed items : List RustItem) (blocks : List Str) (stN : Swift.St),
      parsed = parsedItems E (ctxOf (.swift cfg) targetOs) f.file ∧
      -- (1)
      (sourceItems (ctxOf (.swift cfg) targetOs) f.file).map (C03.parseItem E (ctxOf (.swift cfg) targetOs)) =
        parsed.map Outcome.ok ∧
      items.Perm (parsed.map (recItem f.crateName (renamesFor f.crateName parsed))) ∧
      Threaded (Swift.writeItem E.U cfg) items false blocks stN ∧
      Paired (fun it b => SplitsInto (swDefs cfg it) b) items blocks ∧
      (parsed = [] → outs = []) ∧
      (parsed ≠ [] → outs = [(f.crateName, Swift.beginFile cfg ++ blocks.flatten ++ Swift.endFile cfg false stN)]) ∧
      -- (2) + (3) structs
      (∀ attrs ident gens fs rs,
        Item.struct attrs ident gens (.named fs) ∈ sourceItems (ctxOf (.swift cfg) targetOs) f.file →
        parseStruct E targetOs attrs ident gens (.named fs) = .ok (.struct rs) →
        ∃ (k : Nat) (s : Swift.SwiftStruct) (st st' : Swift.St),
          items[k]? = some (.struct (recStruct f.crateName (renamesFor f.crateName parsed) rs)) ∧
          Swift.structFacts E.U cfg (recStruct f.crateName (renamesFor f.crateName parsed) rs) st = .ok (s, st') ∧
          blocks[k]? = some (Swift.renderStruct E.U s) ∧
          StructClauses E .swift (.swift cfg) targetOs f.crateName (renamesFor f.crateName parsed) attrs fs
            (recStruct f.crateName (renamesFor f.crateName parsed) rs)
            (C01.Swift.structKeys s) Cap.Sw.Reads s.props) ∧
      -- (2) + (4) enums
      (∀ attrs ident gens vs e,
        Item.enum attrs ident gens vs ∈ sourceItems (ctxOf (.swift cfg) targetOs) f.file →
        parseEnum E targetOs attrs ident gens vs = .ok (.enum e) →
        ∃ (k : Nat) (ss : List Swift.SwiftStruct) (se : Swift.SwiftEnum) (st st' : Swift.St),
          items[k]? = some (.enum (recEnum f.crateName (renamesFor f.crateName parsed) e)) ∧
          Swift.enumFacts E.U cfg (recEnum f.crateName (renamesFor f.crateName parsed) e) st = .ok (ss, se, st') ∧
          blocks[k]? = some (nl ++ ss.flatMap (Swift.renderStruct E.U) ++ Swift.renderEnum E.U se) ∧
          EnumClauses E .swift targetOs attrs vs (recEnum f.crateName (renamesFor f.crateName parsed) e) []
            (ss.map C01.Swift.structKeys) (C02.Sw.wire se)) ∧
      -- (5) references
      RefsClause (.swift cfg) f.crateName parsed ∧
      (∀ t ∈ parsed, ∃ (k : Nat) (b : Str),
        items[k]? = some (recItem f.crateName (renamesFor f.crateName parsed) t) ∧ blocks[k]? = some b ∧
        SplitsInto (swDefs cfg t) b ∧
        ((swDefs cfg t).map (·.2)).getLast? = some (Swift.kw (C09.defName (.swift cfg) t))) ∧
      -- (6) order
      OrderClause (parsed.map (recItem f.crateName (renamesFor f.crateName parsed))) items := by
  obtain ⟨hal, hnil⟩ := run_core E (.swift cfg) targetOs pick f outs h
  obtain ⟨d', items, blocks, stN, hperm, hthr, hrun⟩ := C03_Emission.emission_swift E cfg targetOs pick f outs h
  have hout := fun hne => (hrun (mt C03_Emission.emitted_eq_nil.1 hne)).1
  have hord := orderClause_of_run d' hperm fun he => (hrun he).2
  refine ⟨_, items, blocks, stN, rfl, hal, hperm, hthr,
    hthr.forall₂.mono fun it b ⟨s, s', hw⟩ => Sw.block_defines E.U cfg it s b s' hw,
    hnil, hout, ?_, ?_, refsClause _ _ _, ?_, hord⟩
  · intro attrs ident gens fs rs hsrc hparse
    obtain ⟨k, b, hk, hb, st, st', hw⟩ := struct_block hperm hthr.forall₂ hsrc hparse
    obtain ⟨s, hd, rfl⟩ := Cap.Sw.writeItem_struct E.U cfg _ st st' b hw
    exact ⟨k, s, st, st', hk, hd, hb,
      Cap.Sw.struct_ok E hU cfg targetOs _ _ attrs ident gens fs rs st st' s hparse hd⟩
  · intro attrs ident gens vs e hsrc hparse
    obtain ⟨k, b, hk, hb, st, st', hw⟩ := enum_block hperm hthr.forall₂ hsrc hparse
    obtain ⟨ss, se, hd, rfl⟩ := Cap.Sw.writeItem_enum E.U cfg _ st st' b hw
    exact ⟨k, ss, se, st, st', hk, hd, hb,
      Cap.Sw.enum_ok E hU cfg targetOs _ _ attrs ident gens vs e st st' ss se [] hparse hd⟩
  · intro t ht
    obtain ⟨k, b, hk, hb, st, st', hw⟩ := block_of hperm hthr.forall₂ (List.mem_map.2 ⟨t, ht, rfl⟩)
    have hdef := Sw.block_defines E.U cfg _ st b st' hw
    rw [swDefs_rec] at hdef
    refine ⟨k, b, hk, hb, hdef, C03_Emission.last_def_swift cfg t ?_⟩
    cases t with
    | const c => simp [recItem, Sw.writeItem_not_const] at hw
    | _ => rfl

/-- **Scala.**  The blocks are in `ParsedData` order (aliases, structs, enums, each list sorted by Rust name
by `reconcile`): Scala does not use `generateOrder`, so there is no clause (6). -/
theorem run_guarantees_scala (E : Ext) (hU : E.U.AsciiCorrect) (cfg : Scala.Cfg) (targetOs : List Str)
    (pick : List ImportedType → Option ImportedType) (f : SourceFile) (outs : List (Str × Str))
    (h : run E (.scala cfg) false targetOs pick [f] = .ok (.outputs outs)) :
    ∃ (parsed items : List RustItem) (blocks : List Str) (d' : ParsedData),
      parsed = parsedItems E (ctxOf (.scala cfg) targetOs) f.file ∧
      -- (1)
      (sourceItems (ctxOf (.scala cfg) targetOs) f.file).map (C03.parseItem E (ctxOf (.scala cfg) targetOs)) =
        parsed.map Outcome.ok ∧
      items.Perm (parsed.map (recItem f.crateName (renamesFor f.crateName parsed))) ∧
      Paired (fun it b => Sc.writeItem cfg it = .ok b ∧ SplitsInto (scDefs it) b) items blocks ∧
      (parsed = [] → outs = []) ∧
      (parsed ≠ [] → items = C12L.itemsOf d' ∧
        outs = [(f.crateName, Sc.pre cfg d' ++ (blocks.take d'.aliases.length).flatten ++ Sc.mid cfg d' ++
          (blocks.drop d'.aliases.length).flatten ++ Sc.post d')]) ∧
      -- (2) + (3) structs
      (∀ attrs ident gens fs rs,
        Item.struct attrs ident gens (.named fs) ∈ sourceItems (ctxOf (.scala cfg) targetOs) f.file →
        parseStruct E targetOs attrs ident gens (.named fs) = .ok (.struct rs) →
        ∃ (k : Nat) (cl : Scala.ScClass),
          items[k]? = some (.struct (recStruct f.crateName (renamesFor f.crateName parsed) rs)) ∧
          Scala.classFacts cfg (recStruct f.crateName (renamesFor f.crateName parsed) rs) = .ok cl ∧
          blocks[k]? = some (Scala.renderClass cl) ∧
          StructClauses E .scala (.scala cfg) targetOs f.crateName (renamesFor f.crateName parsed) attrs fs
            (recStruct f.crateName (renamesFor f.crateName parsed) rs)
            (cl.params.map C01.Scala.boundKey) Cap.Sc.Reads cl.params) ∧
      -- (2) + (4) enums
      (∀ attrs ident gens vs e,
        Item.enum attrs ident gens vs ∈ sourceItems (ctxOf (.scala cfg) targetOs) f.file →
        parseEnum E targetOs attrs ident gens vs = .ok (.enum e) →
        ∃ (k : Nat) (se : Scala.ScEnum),
          items[k]? = some (.enum (recEnum f.crateName (renamesFor f.crateName parsed) e)) ∧
          Scala.enumFacts cfg (recEnum f.crateName (renamesFor f.crateName parsed) e) = .ok se ∧
          blocks[k]? = some (Scala.renderEnum se) ∧
          EnumClauses E .scala targetOs attrs vs (recEnum f.crateName (renamesFor f.crateName parsed) e) []
            (se.inner.map (·.params.map C01.Scala.boundKey)) (C02.Sc.wire se)) ∧
      -- (5) references
      RefsClause (.scala cfg) f.crateName parsed ∧
      (∀ t ∈ parsed, ∃ (k : Nat) (b : Str),
        items[k]? = some (recItem f.crateName (renamesFor f.crateName parsed) t) ∧ blocks[k]? = some b ∧
        SplitsInto (scDefs t) b ∧ ((scDefs t).map (·.2)).getLast? = some (C09.defName (.scala cfg) t)) := by
  obtain ⟨hal, hnil⟩ := run_core E (.scala cfg) targetOs pick f outs h
  obtain ⟨d', items, blocks, hperm, hpair, hrun⟩ := C03_Emission.emission_scala E cfg targetOs pick f outs h
  have hout := fun hne => hrun (mt C03_Emission.emitted_eq_nil.1 hne)
  refine ⟨_, items, blocks, d', rfl, hal, hperm, hpair.mono fun it b hw => ⟨hw, Sc.block_defines cfg it b hw⟩,
    hnil, hout, ?_, ?_, refsClause _ _ _, ?_⟩
  · intro attrs ident gens fs rs hsrc hparse
    obtain ⟨k, b, hk, hb, hw⟩ := struct_block hperm hpair hsrc hparse
    obtain ⟨cl, hd, rfl⟩ := Cap.Sc.writeItem_struct cfg _ b hw
    exact ⟨k, cl, hk, hd, hb, Cap.Sc.struct_ok E hU cfg targetOs _ _ attrs ident gens fs rs cl hparse hd⟩
  · intro attrs ident gens vs e hsrc hparse
    obtain ⟨k, b, hk, hb, hw⟩ := enum_block hperm hpair hsrc hparse
    obtain ⟨se, hd, rfl⟩ := Cap.Sc.writeItem_enum cfg _ b hw
    exact ⟨k, se, hk, hd, hb, Cap.Sc.enum_ok E hU cfg targetOs _ _ attrs ident gens vs e se [] hparse hd⟩
  · intro t ht
    obtain ⟨k, b, hk, hb, hw⟩ := block_of hperm hpair (List.mem_map.2 ⟨t, ht, rfl⟩)
    have hdef := Sc.block_defines cfg _ b hw
    rw [scDefs_rec] at hdef
    refine ⟨k, b, hk, hb, hdef, C03_Emission.last_def_scala cfg t ?_⟩
    cases t with
    | const c => simp [recItem, Sc.writeItem] at hw
    | _ => rfl

/-- **Go.**  `customStructs` (the names `types_mapping_to_struct` finds among the items) is the same for
every block; C02's known class is evaluated at the configured `uppercase_acronyms`. -/
theorem run_guarantees_go (E : Ext) (hU : E.U.AsciiCorrect) (cfg : Go.Cfg) (targetOs : List Str)
    (pick : List ImportedType → Option ImportedType) (f : SourceFile) (outs : List (Str × Str))
    (h : run E (.go cfg) false targetOs pick [f] = .ok (.outputs outs)) :
    ∃ (parsed items : List RustItem) (blocks : List Str) (stN : Go.Imports),
      parsed = parsedItems E (ctxOf (.go cfg) targetOs) f.file ∧
      -- (1)
      (sourceItems (ctxOf (.go cfg) targetOs) f.file).map (C03.parseItem E (ctxOf (.go cfg) targetOs)) =
        parsed.map Outcome.ok ∧
      items.Perm (parsed.map (recItem f.crateName (renamesFor f.crateName parsed))) ∧
      Threaded (Go.writeItem E.U cfg (Go.typesMappingToStruct items)) items (Go.addImport [] s%"encoding/json") blocks stN ∧
      Paired (fun it b => ∃ defs, goDefs E.U cfg it = .ok defs ∧ SplitsInto defs b) items blocks ∧
      (parsed = [] → outs = []) ∧
      (parsed ≠ [] → outs = [(f.crateName, Go.beginFile cfg ++ Go.renderImports stN ++ blocks.flatten)]) ∧
      -- (2) + (3) structs
      (∀ attrs ident gens fs rs,
        Item.struct attrs ident gens (.named fs) ∈ sourceItems (ctxOf (.go cfg) targetOs) f.file →
        parseStruct E targetOs attrs ident gens (.named fs) = .ok (.struct rs) →
        ∃ (k : Nat) (d : Go.GoStruct) (st st' : Go.Imports),
          items[k]? = some (.struct (recStruct f.crateName (renamesFor f.crateName parsed) rs)) ∧
          Go.structFacts E.U cfg (recStruct f.crateName (renamesFor f.crateName parsed) rs) st = .ok (d, st') ∧
          blocks[k]? = some (Go.renderStruct d) ∧
          StructClauses E .go (.go cfg) targetOs f.crateName (renamesFor f.crateName parsed) attrs fs
            (recStruct f.crateName (renamesFor f.crateName parsed) rs)
            (d.fields.map C01.Go.boundKey) (Cap.Go.Reads cfg) d.fields) ∧
      -- (2) + (4) enums
      (∀ attrs ident gens vs e,
        Item.enum attrs ident gens vs ∈ sourceItems (ctxOf (.go cfg) targetOs) f.file →
        parseEnum E targetOs attrs ident gens vs = .ok (.enum e) →
        ∃ (k : Nat) (d : C02.Go.EnumDecl) (st st' : Go.Imports),
          items[k]? = some (.enum (recEnum f.crateName (renamesFor f.crateName parsed) e)) ∧
          C02.Go.enumFacts E.U cfg (recEnum f.crateName (renamesFor f.crateName parsed) e)
            (Go.typesMappingToStruct items) st = .ok (d, st') ∧
          blocks[k]? = some (C02.Go.renderDecl d) ∧
          EnumClauses E .go targetOs attrs vs (recEnum f.crateName (renamesFor f.crateName parsed) e)
            cfg.uppercaseAcronyms ((Cap.Go.anonOf d).map (·.fields.map C01.Go.boundKey)) (C02.Go.wire d)) ∧
      -- (5) references
      RefsClause (.go cfg) f.crateName parsed ∧
      (∀ t ∈ parsed, ∃ (k : Nat) (b : Str) (defs : List (Str × Str)),
        items[k]? = some (recItem f.crateName (renamesFor f.crateName parsed) t) ∧ blocks[k]? = some b ∧
        goDefs E.U cfg t = .ok defs ∧ SplitsInto defs b ∧
        (cfg.uppercaseAcronyms = [] → isConst t = false →
          (defs.map (·.2)).getLast? = some (C09.defName (.go cfg) t))) ∧
      -- (6) order
      OrderClause (parsed.map (recItem f.crateName (renamesFor f.crateName parsed))) items := by
  obtain ⟨hal, hnil⟩ := run_core E (.go cfg) targetOs pick f outs h
  obtain ⟨d', items, blocks, stN, hperm, hthr, hrun⟩ := C03_Emission.emission_go E cfg targetOs pick f outs h
  have hout := fun hne => (hrun (mt C03_Emission.emitted_eq_nil.1 hne)).1
  have hord := orderClause_of_run d' hperm fun he => (hrun he).2
  refine ⟨_, items, blocks, stN, rfl, hal, hperm, hthr,
    hthr.forall₂.mono fun it b ⟨s, s', hw⟩ => C03E.Go.block_defines E.U cfg _ it s b s' hw,
    hnil, hout, ?_, ?_, refsClause _ _ _, ?_, hord⟩
  · intro attrs ident gens fs rs hsrc hparse
    obtain ⟨k, b, hk, hb, st, st', hw⟩ := struct_block hperm hthr.forall₂ hsrc hparse
    obtain ⟨d, hd, rfl⟩ := Outcome.bind_ret_ok.1 hw
    exact ⟨k, d, st, st', hk, hd, hb,
      Cap.Go.struct_ok E hU cfg targetOs _ _ attrs ident gens fs rs st st' d hparse hd⟩
  · intro attrs ident gens vs e hsrc hparse
    obtain ⟨k, b, hk, hb, st, st', hw⟩ := enum_block hperm hthr.forall₂ hsrc hparse
    obtain ⟨d, hd, rfl⟩ := C02.Go.writeEnum_inv hw
    exact ⟨k, d, st, st', hk, hd, hb,
      Cap.Go.enum_ok E hU cfg _ targetOs _ _ attrs ident gens vs e st st' d hparse hd⟩
  · intro t ht
    obtain ⟨k, b, hk, hb, st, st', hw⟩ := block_of hperm hthr.forall₂ (List.mem_map.2 ⟨t, ht, rfl⟩)
    obtain ⟨defs, hdefs, hsp⟩ := C03E.Go.block_defines E.U cfg _ _ st b st' hw
    rw [goDefs_rec] at hdefs
    exact ⟨k, b, defs, hk, hb, hdefs, hsp, fun hc hnc => C03_Emission.last_def_go E.U cfg hc t hnc defs hdefs⟩

/-- **Python.**  C04's reading of a field record is the relation `Py.Denotes`. -/
theorem run_guarantees_python (E : Ext) (hU : E.U.AsciiCorrect) (cfg : Python.Cfg) (targetOs : List Str)
    (pick : List ImportedType → Option ImportedType) (f : SourceFile) (outs : List (Str × Str))
    (h : run E (.python cfg) false targetOs pick [f] = .ok (.outputs outs)) :
    ∃ (parsed items : List RustItem) (blocks : List Str) (stN : Python.St),
      parsed = parsedItems E (ctxOf (.python cfg) targetOs) f.file ∧
      -- (1)
      (sourceItems (ctxOf (.python cfg) targetOs) f.file).map (C03.parseItem E (ctxOf (.python cfg) targetOs)) =
        parsed.map Outcome.ok ∧
      items.Perm (parsed.map (recItem f.crateName (renamesFor f.crateName parsed))) ∧
      Threaded (Python.writeItem E cfg) items {} blocks stN ∧
      Paired (fun it b => SplitsInto (pyDefs E it) b) items blocks ∧
      (parsed = [] → outs = []) ∧
      (parsed ≠ [] → outs = [(f.crateName, Python.beginFile cfg ++
        Python.writeAllImports (Python.addDatetimeImport stN) ++
        Python.writeCustomFns (Python.addDatetimeImport stN) ++ blocks.flatten)]) ∧
      -- (2) + (3) structs
      (∀ attrs ident gens fs rs,
        Item.struct attrs ident gens (.named fs) ∈ sourceItems (ctxOf (.python cfg) targetOs) f.file →
        parseStruct E targetOs attrs ident gens (.named fs) = .ok (.struct rs) →
        ∃ (k : Nat) (cl : Python.PyClass) (st st' : Python.St),
          items[k]? = some (.struct (recStruct f.crateName (renamesFor f.crateName parsed) rs)) ∧
          Python.structFacts E cfg (recStruct f.crateName (renamesFor f.crateName parsed) rs) st = .ok (cl, st') ∧
          blocks[k]? = some (Python.renderClass cl) ∧
          StructClauses E .python (.python cfg) targetOs f.crateName (renamesFor f.crateName parsed) attrs fs
            (recStruct f.crateName (renamesFor f.crateName parsed) rs)
            (cl.fields.map C01.Python.boundKey) C04.Py.Denotes cl.fields) ∧
      -- (2) + (4) enums
      (∀ attrs ident gens vs e,
        Item.enum attrs ident gens vs ∈ sourceItems (ctxOf (.python cfg) targetOs) f.file →
        parseEnum E targetOs attrs ident gens vs = .ok (.enum e) →
        ∃ (k : Nat) (d : C02.Py.EnumDecl) (st st' : Python.St),
          items[k]? = some (.enum (recEnum f.crateName (renamesFor f.crateName parsed) e)) ∧
          C02.Py.enumFacts E cfg (recEnum f.crateName (renamesFor f.crateName parsed) e) st = .ok (d, st') ∧
          blocks[k]? = some (C02.Py.renderDecl d) ∧
          EnumClauses E .python targetOs attrs vs (recEnum f.crateName (renamesFor f.crateName parsed) e) []
            ((Cap.Py.innerOf d).map (·.fields.map C01.Python.boundKey)) (C02.Py.wire d)) ∧
      -- (5) references
      RefsClause (.python cfg) f.crateName parsed ∧
      (∀ t ∈ parsed, ∃ (k : Nat) (b : Str),
        items[k]? = some (recItem f.crateName (renamesFor f.crateName parsed) t) ∧ blocks[k]? = some b ∧
        SplitsInto (pyDefs E t) b ∧
        (isConst t = false → ((pyDefs E t).map (·.2)).getLast? = some (C09.defName (.python cfg) t))) ∧
      -- (6) order
      OrderClause (parsed.map (recItem f.crateName (renamesFor f.crateName parsed))) items := by
  obtain ⟨hal, hnil⟩ := run_core E (.python cfg) targetOs pick f outs h
  obtain ⟨d', items, blocks, stN, hperm, hthr, hrun⟩ := C03_Emission.emission_python E cfg targetOs pick f outs h
  have hout := fun hne => (hrun (mt C03_Emission.emitted_eq_nil.1 hne)).1
  have hord := orderClause_of_run d' hperm fun he => (hrun he).2
  refine ⟨_, items, blocks, stN, rfl, hal, hperm, hthr,
    hthr.forall₂.mono fun it b ⟨s, s', hw⟩ => Py.block_defines E cfg it s b s' hw,
    hnil, hout, ?_, ?_, refsClause _ _ _, ?_, hord⟩
  · intro attrs ident gens fs rs hsrc hparse
    obtain ⟨k, b, hk, hb, st, st', hw⟩ := struct_block hperm hthr.forall₂ hsrc hparse
    obtain ⟨cl, hd, rfl⟩ := Outcome.bind_ret_ok.1 hw
    exact ⟨k, cl, st, st', hk, hd, hb,
      Cap.Py.struct_ok E hU cfg targetOs _ _ attrs ident gens fs rs st st' cl hparse hd⟩
  · intro attrs ident gens vs e hsrc hparse
    obtain ⟨k, b, hk, hb, st, st', hw⟩ := enum_block hperm hthr.forall₂ hsrc hparse
    obtain ⟨d, hd, rfl⟩ := C02.Py.writeEnum_inv hw
    exact ⟨k, d, st, st', hk, hd, hb,
      Cap.Py.enum_ok E hU cfg targetOs _ _ attrs ident gens vs e st st' d [] hparse hd⟩
  · intro t ht
    obtain ⟨k, b, hk, hb, st, st', hw⟩ := block_of hperm hthr.forall₂ (List.mem_map.2 ⟨t, ht, rfl⟩)
    have hdef := Py.block_defines E cfg _ st b st' hw
    rw [pyDefs_rec] at hdef
    exact ⟨k, b, hk, hb, hdef, C03_Emission.last_def_python E cfg t⟩

/-! ## non-vacuity

`#[typeshare] #[serde(tag = "type", content = "content")] enum Shape { Dot, Circle { center: Point } }`
`#[typeshare] struct Point { #[serde(rename = "xCoord")] x: u32, label: Option<String> }`
— the enum first, so that the dependency order has something to do.  The runs succeed (`exRun_*`; Scala is
left out: its type printer is defined by well-founded recursion, which `decide` does not unfold — see
`Props/C03_Emission.lean` for a Scala run), every scope hypothesis of the clauses holds, and the theorem is
applied to the Kotlin run to read off concrete facts. -/

def E0 : Ext := { U := .ascii, parseType := fun _ => none }
def tsAttr : Attr := ⟨.path [s%"typeshare"]⟩
def serdeTagged : Attr :=
  ⟨.list [s%"serde"] true [.nameValue [s%"tag"] (some (.str s%"type")), .nameValue [s%"content"] (some (.str s%"content"))]⟩

def exFields : List Field :=
  [⟨[⟨.list [s%"serde"] true [.nameValue [s%"rename"] (some (.str s%"xCoord"))]⟩], some s%"x", .path [] s%"u32" []⟩,
   ⟨[], some s%"label", .path [] s%"Option" [.path [] s%"String" []]⟩]
def exVariants : List Variant :=
  [⟨[], s%"Dot", .unit⟩, ⟨[], s%"Circle", .named [⟨[], some s%"center", .path [] s%"Point" []⟩]⟩]
def exStructSrc : Item := .struct [tsAttr] s%"Point" [] (.named exFields)
def exEnumSrc : Item := .enum [tsAttr, serdeTagged] s%"Shape" [] exVariants
def exSrc : SourceFile :=
  { crateName := [], fileName := s%"lib.rs", path := s%"lib.rs",
    file := { attrs := [], marker := true, items := [exEnumSrc, exStructSrc] } }

def ctx0 : ParseContext := { ignoredTypes := [], multiFile := false, targetOs := [] }

def exS : RustStruct := match parseStruct E0 [] [tsAttr] s%"Point" [] (.named exFields) with
  | .ok (.struct s) => s | _ => default
def exE : RustEnum := match parseEnum E0 [] [tsAttr, serdeTagged] s%"Shape" [] exVariants with
  | .ok (.enum e) => e | _ => default

theorem exSource : sourceItems ctx0 exSrc.file = [exEnumSrc, exStructSrc] := by rfl
theorem exParseS : parseStruct E0 [] [tsAttr] s%"Point" [] (.named exFields) = .ok (.struct exS) := by rfl
theorem exParseE : parseEnum E0 [] [tsAttr, serdeTagged] s%"Shape" [] exVariants = .ok (.enum exE) := by rfl
theorem exParsed : parsedItems E0 ctx0 exSrc.file = [.enum exE, .struct exS] := by rfl
def rn0 : Renames := renamesFor [] [.enum exE, .struct exS]
def exS' : RustStruct := recStruct [] rn0 exS
def exE' : RustEnum := recEnum [] rn0 exE

theorem exRun_kotlin : ∃ outs, run E0 (.kotlin {}) false [] (fun _ => none) [exSrc] = .ok (.outputs outs) ∧
    outs.length = 1 := by
  rw [RunEval.run_eq]
  exact RunEval.outputs_length (by decide +kernel)

theorem exRun_typescript : ∃ outs, run E0 (.typescript {}) false [] (fun _ => none) [exSrc] = .ok (.outputs outs) ∧
    outs.length = 1 := by
  rw [RunEval.run_eq]
  exact RunEval.outputs_length (by decide +kernel)

/-! ### the scope hypotheses of the clauses hold for the example -/

/-- the scope facts of C01 about the example, in the order struct fields in scope, struct fields distinct, variant
fields in scope, variant fields distinct (one evaluation per language) -/
theorem exC01 (L : TsV.Lang) :
    (C01.kept [] exFields).all (C01.inScopeB E0 L (serdeRenameAll E0 [tsAttr])) = true ∧ C01.Distinct L exS'.fields ∧
    C01.variantsInScopeB E0 L [] (exVariants.filter fun v => !isSkipped v.attrs []) = true ∧
    ∀ p ∈ structVariants exE', C01.Distinct L p.2 := by cases L <;> decide +kernel

/-- C01 (`InScope`, `Distinct`), for all six languages -/
example (L : TsV.Lang) : ∀ f ∈ C01.kept [] exFields, C01.InScope E0 L (serdeRenameAll E0 [tsAttr]) f :=
  have ⟨hfields, _, _, _⟩ := exC01 L
  C01.inScopeB_all _ _ _ _ hfields
example (L : TsV.Lang) : C01.Distinct L exS'.fields :=
  have ⟨_, hdistinct, _, _⟩ := exC01 L
  hdistinct
example (L : TsV.Lang) : ∀ v ∈ exVariants.filter (fun v => !isSkipped v.attrs []), ∀ fs, v.fields = .named fs →
    ∀ f ∈ C01.kept [] fs, C01.InScope E0 L (serdeRenameAll E0 v.attrs) f :=
  have ⟨_, _, hvariants, _⟩ := exC01 L
  C01.variantsInScopeB_sound _ _ _ _ hvariants
example (L : TsV.Lang) : ∀ p ∈ structVariants exE', C01.Distinct L p.2 :=
  have ⟨_, _, _, hvdistinct⟩ := exC01 L
  hvdistinct

/-- C04 (`InScope`, not in the Scala class), TypeScript and Kotlin -/
example : ∀ rf' ∈ exS'.fields, C04.InScope exS'.genericTypes rf' (.kotlin {}) ∧
    C04.Known_scalaDefaultNonOption (.kotlin {}) rf' = false := by
  intro rf' h
  exact ⟨⟨by revert rf' h; decide +kernel, trivial, trivial⟩, rfl⟩
example : ∀ rf' ∈ exS'.fields, C04.InScope exS'.genericTypes rf' (.typescript {}) ∧
    C04.Known_scalaDefaultNonOption (.typescript {}) rf' = false := by
  intro rf' h
  exact ⟨⟨by revert rf' h; decide +kernel, fun _ => rfl, trivial⟩, rfl⟩

/-- C02 (`InScopeSrc`, outside `Known` in all six languages) -/
theorem exInScopeSrc : C02.InScopeSrc exVariants := by
  constructor
  · intro v hv
    simp only [exVariants, List.mem_cons, List.not_mem_nil, or_false] at hv
    rcases hv with rfl | rfl
    · exact ⟨'D', s%"ot", rfl, by decide, by decide, Or.inl ⟨'o', by decide, by decide⟩⟩
    · exact ⟨'C', s%"ircle", rfl, by decide, by decide, Or.inl ⟨'i', by decide, by decide⟩⟩
  · decide +kernel
example (L : TsV.Lang) : ¬ C02.Known L E0 [] exE' := by cases L <;> decide +kernel

/-- C09 (`InScope`, `CfgOk`, no shadowing, no reference in `KnownRef` — even for Go) -/
theorem exC09 : C09.InScope (progOf [.enum exE, .struct exS]) :=
  C09.inScope_of _ (by decide +kernel) (by decide +kernel) (by decide +kernel) (by decide +kernel) rfl rfl
example : C09.CfgOk (.kotlin {}) ∧ C09.CfgOk (.typescript {}) ∧ C09.CfgOk (.go {}) := ⟨⟨rfl, trivial⟩, ⟨rfl, trivial⟩, ⟨rfl, rfl⟩⟩
theorem exNoShadow : C09.Known_shadow (progOf [.enum exE, .struct exS]) = false := by decide +kernel

/-- C11 (the four hypotheses of `C11_order`, on the reconciled items in *source* order: `Shape` first) -/
theorem exOrderHyps : Deps.NamesDistinct [.enum exE', .struct exS'] ∧ C11.DepthOk [.enum exE', .struct exS'] ∧
    C11.GenericsUsed [.enum exE', .struct exS'] ∧ C11.AcyclicRefs [.enum exE', .struct exS'] :=
  ⟨by decide +kernel, by decide +kernel, by decide +kernel, C11.acyclic_of_rank _ (fun i => 2 - i) (by decide +kernel)⟩
/-- and the reference is really there: `Shape` mentions `Point` -/
example : (RustItem.struct exS').originalName ∈ C11.refsItem (.enum exE') := by decide +kernel

theorem exMemS : Item.struct [tsAttr] s%"Point" [] (.named exFields) ∈ sourceItems ctx0 exSrc.file := by
  rw [exSource]; exact List.Mem.tail _ (List.Mem.head _)
theorem exMemE : Item.enum [tsAttr, serdeTagged] s%"Shape" [] exVariants ∈ sourceItems ctx0 exSrc.file := by
  rw [exSource]; exact List.Mem.head _

/-- **the theorem applied to the example run** (Kotlin): the data class written for `Point` binds serde's keys
of its two fields, the sealed class written for `Shape` has the cases `Dot`, `Circle` on the wire, and the
block of `Point` comes before the block of `Shape` although `Shape` comes first in the source -/
example : ∃ (items : List RustItem) (blocks : List Str) (k kE : Nat) (d : Kotlin.KtDecl) (ds : List Kotlin.KtDecl),
    items[k]? = some (.struct exS') ∧ blocks[k]? = some (Kotlin.renderDecl d) ∧
    C01.Forall₂ (C01.SerdeKey E0 (serdeRenameAll E0 [tsAttr])) (C01.kept [] exFields)
      ((C01.Kotlin.declParams d).map C01.Kotlin.boundKey) ∧
    items[kE]? = some (.enum exE') ∧ blocks[kE]? = some (ds.flatMap Kotlin.renderDecl) ∧
    (C02.Kt.wire ds).cases.map (·.wire) = [some s%"Dot", some s%"Circle"] ∧
    k < kE := by
  obtain ⟨outs, hrun, _⟩ := exRun_kotlin
  obtain ⟨parsed, items, blocks, d', hp, _, _, _, _, _, hstruct, henum, _, _, hord⟩ :=
    run_guarantees_kotlin E0 UnicodeOps.ascii_correct {} UnicodeOps.ascii_correct [] (fun _ => none) exSrc outs hrun
  have hp' : parsed = [.enum exE, .struct exS] := hp.trans exParsed
  subst hp'
  obtain ⟨k, d, hk, _, hb, hcl⟩ := hstruct [tsAttr] s%"Point" [] exFields exS exMemS exParseS
  obtain ⟨kE, ds, inners, rest, hkE, _, hbE, _, _, hclE⟩ :=
    henum [tsAttr, serdeTagged] s%"Shape" [] exVariants exE exMemE exParseE
  have ⟨hfields, hdistinct, _, _⟩ := exC01 .kotlin
  refine ⟨items, blocks, k, kE, d, ds, hk, hb, hcl.1 (C01.inScopeB_all _ _ _ _ hfields) hdistinct, hkE, hbE, ?_, ?_⟩
  · rw [(hclE.2 exInScopeSrc (by decide +kernel)).1]
    decide +kernel
  · exact hord exOrderHyps.1 exOrderHyps.2.1 exOrderHyps.2.2.1 exOrderHyps.2.2.2 kE k _ _ hkE hk (by decide +kernel)

/-- clause (3) on the example: the parameter written for `label: Option<String>` is marked optional and its
type without the marker is the translation of `String` -/
example : ∃ (d : Kotlin.KtDecl) (p : Kotlin.KtParam), (C04.Kt.params d)[1]? = some p ∧
    C04.Kt.isOptional p = true ∧ C04.Kt.stripOptional p = s%"String" := by
  obtain ⟨outs, hrun, _⟩ := exRun_kotlin
  obtain ⟨parsed, items, blocks, d', hp, _, _, _, _, _, hstruct, _⟩ :=
    run_guarantees_kotlin E0 UnicodeOps.ascii_correct {} UnicodeOps.ascii_correct [] (fun _ => none) exSrc outs hrun
  have hp' : parsed = [.enum exE, .struct exS] := hp.trans exParsed
  subst hp'
  obtain ⟨k, d, _, _, _, hcl⟩ := hstruct [tsAttr] s%"Point" [] exFields exS exMemS exParseS
  obtain ⟨hl1, hl2, hget⟩ := hcl.2.get
  have hlen : 1 < (C04.Kt.params d).length := by
    rw [← hl2, ← hl1]; decide +kernel
  obtain ⟨_, hfield⟩ := hget 1 _ _ _ (by rfl) (by rfl) (List.getElem?_eq_getElem hlen)
  obtain ⟨o, core, ⟨ho, hc⟩, t, het, hopt, raw, hraw, hacr⟩ := hfield ⟨rfl, trivial, trivial⟩ rfl
  cases het
  refine ⟨d, _, List.getElem?_eq_getElem hlen, ?_, ?_⟩
  · rw [← ho, hopt]; decide +kernel
  · rw [← hc]
    have h1 : raw = s%"String" := by
      have : (Outcome.ok raw : Outcome Str) = .ok s%"String" := by rw [← hraw]; decide +kernel
      cases this; rfl
    subst h1
    cases hacr
    rfl


/-- clause (5) on the example, Go included: every reference of every item is spelled with the defining name -/
example : ∀ it ∈ [RustItem.enum exE, .struct exS],
    ∀ ref ∈ C09.refs (.go {}) (renamesFor [] [.enum exE, .struct exS]) it,
    ∀ n, C09.Defines (.go {}) (progOf [.enum exE, .struct exS]) ref.target n → ref.spelling = n :=
  fun it hit ref href n hd =>
    refsClause (.go {}) [] _ rfl exC09 ⟨rfl, rfl⟩ exNoShadow it hit ref href
      (C09.knownRef_false_of_no_renamed_enum (.go {}) _ (by decide +kernel) ref) n hd
example : (C09.refs (.go {}) (renamesFor [] [.enum exE, .struct exS]) (.enum exE)).map (·.spelling) =
    [s%"ShapeCircleInner", s%"Point"] := by decide +kernel

theorem exRun_swift : ∃ outs, run E0 (.swift {}) false [] (fun _ => none) [exSrc] = .ok (.outputs outs) ∧
    outs.length = 1 := by
  rw [RunEval.run_eq]
  exact RunEval.outputs_length (by decide +kernel)

theorem exRun_go : ∃ outs, run E0 (.go {}) false [] (fun _ => none) [exSrc] = .ok (.outputs outs) ∧
    outs.length = 1 := by
  rw [RunEval.run_eq]
  exact RunEval.outputs_length (by decide +kernel)

theorem exRun_python : ∃ outs, run E0 (.python {}) false [] (fun _ => none) [exSrc] = .ok (.outputs outs) ∧
    outs.length = 1 := by
  rw [RunEval.run_eq]
  exact RunEval.outputs_length (by decide +kernel)

/-- **the theorem applied to the example run** (TypeScript): the interface written for `Point` binds serde's
keys, the union written for `Shape` has the members `Dot`, `Circle`, every tag key it prints is serde's
`tag = "type"`, and `Point` is written first -/
example : ∃ (items : List RustItem) (blocks : List Str) (k kE : Nat) (tfs : List TypeScript.TsField)
    (d : C02.TS.EnumDecl),
    items[k]? = some (.struct exS') ∧
    blocks[k]? = some (TypeScript.comments 0 exS.comments ++ s%"export interface " ++ exS.id.renamed ++
      genericSuffix exS.genericTypes ++ s%" {\n" ++ tfs.flatMap TypeScript.renderField ++ s%"}\n\n") ∧
    C01.Forall₂ (C01.SerdeKey E0 (serdeRenameAll E0 [tsAttr])) (C01.kept [] exFields)
      (tfs.map C01.TypeScript.boundKey) ∧
    items[kE]? = some (.enum exE') ∧ blocks[kE]? = some (C02.TS.renderEnumDecl d) ∧
    (C02.TS.wire d).cases.map (·.wire) = [some s%"Dot", some s%"Circle"] ∧
    (∀ key, (C02.Role.tag, key) ∈ (C02.TS.wire d).holes → key = s%"type") ∧
    k < kE := by
  obtain ⟨outs, hrun, _⟩ := exRun_typescript
  obtain ⟨parsed, items, blocks, stN, hp, _, _, _, _, _, _, hstruct, henum, _, _, hord⟩ :=
    run_guarantees_typescript E0 UnicodeOps.ascii_correct {} [] (fun _ => none) exSrc outs hrun
  have hp' : parsed = [.enum exE, .struct exS] := hp.trans exParsed
  subst hp'
  obtain ⟨k, tfs, st, st', hk, _, hb, hcl⟩ := hstruct [tsAttr] s%"Point" [] exFields exS exMemS exParseS
  obtain ⟨kE, d, tfss, stE, stE', hkE, _, hbE, _, hclE⟩ :=
    henum [tsAttr, serdeTagged] s%"Shape" [] exVariants exE exMemE exParseE
  obtain ⟨hnames, _, hholes⟩ := hclE.2 exInScopeSrc (by decide +kernel)
  have ⟨hfields, hdistinct, _, _⟩ := exC01 .typescript
  refine ⟨items, blocks, k, kE, tfs, d, hk, hb, hcl.1 (C01.inScopeB_all _ _ _ _ hfields) hdistinct, hkE, hbE, ?_, ?_, ?_⟩
  · rw [hnames]
    decide +kernel
  · intro key hkey
    have := (hholes key).1 hkey
    have h2 : getTagKey E0 [tsAttr, serdeTagged] = some s%"type" := by decide +kernel
    rw [h2] at this
    cases this
    rfl
  · exact hord exOrderHyps.1 exOrderHyps.2.1 exOrderHyps.2.2.1 exOrderHyps.2.2.2 kE k _ _ hkE hk (by decide +kernel)

end TsV.Capstone
