import TsV.Model.Writer
/-!
# C17 — re-running is idempotent and the output depends only on the latest inputs
-/
namespace TsV.C17
open TsV TsV.Writer

theorem get_set_same (fs : FS) (p : Str) (st : FileState) : (fs.set p st).get p = some st := by
  induction fs with
  | nil => simp [FS.set, FS.get]
  | cons h t ih =>
    obtain ⟨q, s⟩ := h
    simp only [FS.set]
    by_cases hq : (q == p) = true
    · simp [hq, FS.get]
    · simp only [hq, Bool.false_eq_true, if_false]
      simp only [FS.get, List.find?_cons, hq] at ih ⊢
      exact ih

theorem get_set_other (fs : FS) (p q : Str) (st : FileState) (h : (p == q) = false) :
    (fs.set p st).get q = fs.get q := by
  induction fs with
  | nil => simp [FS.set, FS.get, h]
  | cons hd t ih =>
    obtain ⟨r, s⟩ := hd
    simp only [FS.set]
    by_cases hr : (r == p) = true
    · have hrp : r = p := eq_of_beq hr
      subst hrp
      simp [hr, FS.get, List.find?_cons, h]
    · simp only [hr, Bool.false_eq_true, if_false]
      simp only [FS.get, List.find?_cons] at ih ⊢
      by_cases hrq : (r == q) = true
      · simp [hrq]
      · simp only [hrq]; exact ih

/-- the paths a run is given are pairwise distinct (one file per crate) -/
def DistinctPaths (outs : List (Str × Str)) : Prop := (outs.map (·.1)).Nodup

/-- `check_write_file` leaves every other path alone -/
theorem checkWriteFile_other (fs : FS) (now : Nat) (p q out : Str) (h : (p == q) = false) :
    (checkWriteFile fs now p out).1.get q = fs.get q := by
  unfold checkWriteFile
  cases fs.get p with
  | none => simp only; split <;> simp [get_set_other _ _ _ _ h]
  | some st =>
    simp only
    split
    · rfl
    · split <;> simp [get_set_other _ _ _ _ h]

/-- after `check_write_file` with a non-empty output the file holds exactly that output -/
theorem checkWriteFile_content (fs : FS) (now : Nat) (p out : Str) (hne : out ≠ []) :
    ((checkWriteFile fs now p out).1.get p).map (·.bytes) = some out := by
  unfold checkWriteFile
  have he : out.isEmpty = false := by cases out <;> simp_all
  cases h : fs.get p with
  | none => simp [he, get_set_same]
  | some st =>
    simp only
    by_cases hs : st.bytes = out
    · simp [hs, h]
    · simp [hs, he, get_set_same]

theorem run_other (now : Nat) : ∀ (outs : List (Str × Str)) (fs : FS) (q : Str),
    (∀ p ∈ outs.map (·.1), (p == q) = false) → (run fs now outs).1.get q = fs.get q := by
  intro outs
  induction outs with
  | nil => intro fs q _; rfl
  | cons hd tl ih =>
    intro fs q h
    obtain ⟨p, out⟩ := hd
    simp only [run]
    rw [ih _ q (fun p' hp' => h p' (by simp [hp'])), checkWriteFile_other _ _ _ _ _ (h p (by simp))]

/-- **latest inputs only**: after a run, every file it is responsible for (non-empty output) holds
exactly the bytes generated by this run — whatever the file system contained before -/
theorem run_content (now : Nat) : ∀ (outs : List (Str × Str)) (fs : FS), DistinctPaths outs →
    ∀ p out, (p, out) ∈ outs → out ≠ [] → ((run fs now outs).1.get p).map (·.bytes) = some out := by
  intro outs
  induction outs with
  | nil => intro fs _ p out h; simp at h
  | cons hd tl ih =>
    intro fs hd' p out hmem hne
    obtain ⟨p0, out0⟩ := hd
    have hnd : p0 ∉ tl.map (·.1) ∧ DistinctPaths tl := List.nodup_cons.1 hd'
    simp only [run]
    simp only [List.mem_cons, Prod.mk.injEq] at hmem
    rcases hmem with ⟨rfl, rfl⟩ | hmem
    · rw [run_other now tl _ p (fun p' hp' => by
        have : p' ≠ p := fun e => hnd.1 (e ▸ hp')
        simpa using this)]
      exact checkWriteFile_content fs now p out hne
    · exact ih _ hnd.2 p out hmem hne

/-- the result of a run into an empty location -/
def fresh (now : Nat) (outs : List (Str × Str)) : FS := (run [] now outs).1

/-- **nothing from earlier outputs leaks in**: after *any* history of runs, each file the last run
is responsible for has exactly the content a run into an empty location would produce -/
theorem history_content (fs : FS) (hist : List (Nat × List (Str × Str))) (t : Nat) (outs : List (Str × Str))
    (hd : DistinctPaths outs) (p out : Str) (hm : (p, out) ∈ outs) (hne : out ≠ []) :
    ((runs fs (hist ++ [(t, outs)])).get p).map (·.bytes) = ((fresh t outs).get p).map (·.bytes) := by
  have : ∀ (hist : List (Nat × List (Str × Str))) (fs : FS),
      runs fs (hist ++ [(t, outs)]) = (run (runs fs hist) t outs).1 := by
    intro hist
    induction hist with
    | nil => intro fs; simp [runs]
    | cons h tl ih => intro fs; obtain ⟨t', o'⟩ := h; simp [runs, ih]
  rw [this, run_content t outs _ hd p out hm hne]
  unfold fresh
  rw [run_content t outs _ hd p out hm hne]

/-- `check_write_file` on a file that already holds the output touches nothing -/
theorem checkWriteFile_same (fs : FS) (now : Nat) (p out : Str) (st : FileState)
    (h : fs.get p = some st) (hb : st.bytes = out) : checkWriteFile fs now p out = (fs, .skippedSame) := by
  simp [checkWriteFile, h, hb]

/-- **idempotence**: running again with the same outputs (at any later time) leaves the file
system — contents *and* modification times — exactly as it is, and writes nothing -/
theorem rerun_unchanged (t t' : Nat) : ∀ (outs : List (Str × Str)) (fs : FS), DistinctPaths outs →
    (∀ po ∈ outs, po.2 ≠ []) →
    run (run fs t outs).1 t' outs = ((run fs t outs).1, outs.map fun _ => Action.skippedSame) := by
  intro outs fs hd hne
  -- every path of `outs` holds its output after the first run
  have hall : ∀ p out, (p, out) ∈ outs → ∃ st, (run fs t outs).1.get p = some st ∧ st.bytes = out := by
    intro p out hm
    have := run_content t outs fs hd p out hm (hne (p, out) hm)
    cases hg : (run fs t outs).1.get p with
    | none => simp [hg] at this
    | some st => exact ⟨st, rfl, by simpa [hg] using this⟩
  generalize (run fs t outs).1 = fs1 at hall
  clear hd hne
  induction outs with
  | nil => rfl
  | cons hd' tl ih =>
    obtain ⟨p, out⟩ := hd'
    obtain ⟨st, hg, hb⟩ := hall p out (by simp)
    simp only [run, checkWriteFile_same fs1 t' p out st hg hb, List.map_cons]
    rw [ih (fun p' out' hm => hall p' out' (by simp [hm]))]

example : run [(s%"a.ts", ⟨s%"old", 1⟩)] 5 [(s%"a.ts", s%"new"), (s%"b.ts", s%"x")] =
    ([(s%"a.ts", ⟨s%"new", 5⟩), (s%"b.ts", ⟨s%"x", 5⟩)], [.wrote, .wrote]) := by decide +kernel
example : run [(s%"a.ts", ⟨s%"new", 5⟩)] 9 [(s%"a.ts", s%"new")] =
    ([(s%"a.ts", ⟨s%"new", 5⟩)], [.skippedSame]) := by decide +kernel
/-- the hole `skip when empty` leaves: an empty output keeps a stale file (excluded above by `out ≠ []`;
every back end writes a header or a declaration for a non-empty crate) -/
example : run [(s%"a.ts", ⟨s%"stale", 1⟩)] 5 [(s%"a.ts", [])] =
    ([(s%"a.ts", ⟨s%"stale", 1⟩)], [.skippedEmpty]) := by decide +kernel

end TsV.C17
