import TsV.Lemmas.C15
/-!
# C15 — documentation text is carried only inside comments of the generated code

The parser turns the `#[doc = ".."]` strings of an item (`///`, `/** */` and `#[doc]` all arrive in that
form) into comment entries: `Parser.parseCommentAttrs` = `entries` ∘ `Parser.docStrings` — each string
trimmed, split at `\n`, `\r\n` and lone `\r`, every line trimmed.  Every back end prints the entries of a
type, field, variant, struct-variant field or alias through one comment renderer (`TypeScript.comments`,
`Kotlin.comments`, `Swift.comments`, `Scala.comments`, `Go.comments`, `Python.docstring`,
`Python.hashComments`); TypeScript writes `*/` as `*\/`, the Python docstring writer `"""` as `\"\"\"`.
`Lemmas/C15_Spec.lean` gives the trusted side: the comment lexers of the six languages, the renderers
with the origin of every character (`renderT`), `contained` (the lexer, started in `code`, is in a comment
state before and after every character that stems from the doc text, and is back in `code` at the end of
the block), the decidable predicate `Bad` on one string handed to a renderer, and `KnownScalaSub`.

* `C15_full`: for every list of `#[doc]` strings as the parser receives them, for every renderer, at every
  indentation, the rendered block is contained.
* Six of the seven renderers have the property outright (`C15_all_but_scala`; TypeScript and the Python
  docstring even for arbitrary strings handed to the renderer: `C15_typescript`, `C15_pyDoc`).
* One residual class (`KnownScalaSub`): Scala's scanner also ends a `//` comment at U+001A, at which the
  parser does not split.  `C15_not_full` is the witness, `C15_exact` the exact characterisation
  (`C15_partial` / `C15_converse` its two directions), `C15_no_sub` the reading on the raw doc strings.
* `C15_iff` is the exact characterisation at renderer level (arbitrary strings handed to a renderer): a
  block is contained **iff** none of its strings is `Bad`; `C15_entries_single_line` (no entry produced by
  the parser contains `\n` or `\r`) is what discharges `Bad` for the line-comment renderers.
-/
namespace TsV.C15
open TsV TsV.Lang

/-- the property at full strength: whatever the `#[doc]` strings of an item contain, the block that the
parser's entries are rendered to is contained — in all seven renderers of the six back ends, at every
indentation -/
def C15_full : Prop :=
  ∀ (sty : Style) (U : UnicodeOps) (indent : Nat) (docs : List Str),
    contained sty U indent (entries U docs) = true

/-! ## the objects of the statement are the model's -/

/-- the comment entries of an item are `entries` of the string values of its `doc` attributes -/
theorem C15_parser (E : Ext) (attrs : List Syn.Attr) :
    Parser.parseCommentAttrs E attrs = entries E.U (Parser.docStrings attrs) := rfl

/-- forgetting the origin tags gives byte for byte the text the back-end model writes (which the
correspondence compares with the real generator) -/
theorem C15_render (sty : Style) (U : UnicodeOps) (indent : Nat) (docs : List Str) :
    erase (renderT sty U indent docs) = render sty U indent docs :=
  erase_renderT sty U indent docs

/-- … and the characters tagged "doc text" are exactly the entries as the printer writes them, in order
(Swift strips trailing white space; TypeScript writes `*/` as `*\/`, the Python docstring writer `\` as
`\\` and then `"""` as `\"\"\"` — the inserted backslashes count as doc text) -/
theorem C15_tags (sty : Style) (U : UnicodeOps) (indent : Nat) (docs : List Str) :
    docChars (renderT sty U indent docs) = docs.flatMap (written sty U) :=
  docChars_renderT sty U indent docs

/-- the escaping functions of the model are Rust's `str::replace`; Python (since the `fix:` commit
af54d85): `v.replace('\\', "\\\\").replace("\"\"\"", "\\\"\\\"\\\"")` — backslashes doubled first -/
theorem C15_escape_is_replace (c : Str) :
    TypeScript.escapeDoc c = Str.replaceSub c s%"*/" s%"*\\/" ∧
    Python.escapeDoc c =
      Str.replaceSub (Str.replaceSub c s%"\\" s%"\\\\") s%"\"\"\"" s%"\\\"\\\"\\\"" :=
  ⟨ts_escape_eq_replace c, py_escape_eq_replace c⟩

/-- splitting loses nothing but the line breaks -/
theorem C15_lines_keep_text (s : Str) :
    (Parser.docLines s).flatten = s.filter fun c => !(c = '\n' || c = '\r') := by
  induction s with
  | nil => rfl
  | cons c r ih =>
    rw [Parser.docLines]
    by_cases hb : c = '\n' ∨ c = '\r'
    · -- a line break is dropped by the filter, and by both branches of `docLines` that can take it
      have hf : (c :: r).filter (fun c => !(c = '\n' || c = '\r')) = (Parser.docLines r).flatten := by
        rw [ih]; rcases hb with hb | hb <;> simp [hb]
      rw [hf]
      by_cases h1 : c = '\r' ∧ r.head? = some '\n'
      · rw [if_pos h1]
      · rw [if_neg h1, if_pos hb]; rfl
    · rw [if_neg fun h => hb (Or.inr h.1), if_neg hb]
      simp only [not_or] at hb
      have hf : (c :: r).filter (fun c => !(c = '\n' || c = '\r')) = c :: (Parser.docLines r).flatten := by
        rw [ih]; simp [hb.1, hb.2]
      rw [hf]
      cases Parser.docLines r <;> rfl

/-! ## renderer level: exact characterisation for arbitrary strings handed to a renderer -/

/-- a block of strings is carried inside the comment **iff** none of the strings is `Bad` -/
theorem C15_iff (sty : Style) (U : UnicodeOps) (indent : Nat) (cs : List Str) :
    contained sty U indent cs = true ↔ ∀ c ∈ cs, Bad sty U c = false := by
  rw [contained_eq]; simp

theorem C15_renderer_partial (sty : Style) (U : UnicodeOps) (indent : Nat) (cs : List Str)
    (h : ∀ c ∈ cs, Bad sty U c = false) : contained sty U indent cs = true :=
  (C15_iff sty U indent cs).2 h

/-- one `Bad` string anywhere in the block breaks it -/
theorem C15_renderer_converse (sty : Style) (U : UnicodeOps) (indent : Nat) (cs : List Str) (c : Str)
    (hc : c ∈ cs) (hb : Bad sty U c = true) : contained sty U indent cs = false := by
  cases h : contained sty U indent cs with
  | false => rfl
  | true => have := (C15_iff sty U indent cs).1 h c hc; rw [hb] at this; exact Bool.noConfusion this

/-- the line-comment renderers: exactly the strings with a character that ends a line comment -/
theorem Bad_line_comment (U : UnicodeOps) (c : Str) :
    (Bad .kotlin U c = true ↔ ∃ x ∈ c, x = '\n' ∨ x = '\r') ∧
    (Bad .go U c = true ↔ '\n' ∈ c) ∧
    (Bad .pyHash U c = true ↔ ∃ x ∈ c, x = '\n' ∨ x = '\r') := by
  simp [Bad, kotlinSyntax, goSyntax, pyEol]

/-- the TypeScript renderer and the Python docstring renderer are safe for **every** list of strings -/
theorem C15_typescript (U : UnicodeOps) (indent : Nat) (cs : List Str) :
    contained .typescript U indent cs = true :=
  C15_renderer_partial _ U indent cs fun c _ => Bad_typescript U c

theorem C15_pyDoc (U : UnicodeOps) (indent : Nat) (cs : List Str) :
    contained .pyDoc U indent cs = true :=
  C15_renderer_partial _ U indent cs fun c _ => Bad_pyDoc U c

/-- the witnesses of the repaired defects, and text that would be dangerous without the escaping -/
example : contained .typescript UnicodeOps.ascii 0 [s%"a */ b"] = true := by decide +kernel
example : contained .typescript UnicodeOps.ascii 1 [s%"**/", s%"*/*/ /* x", s%"a\nb // c *", s%"/"] = true := by decide +kernel
example : render .typescript UnicodeOps.ascii 0 [s%"a */ b"] = s%"/** a *\\/ b */\n" := by decide +kernel
example : contained .pyDoc UnicodeOps.ascii 1 [s%"a \"\"\" b"] = true := by decide +kernel
example : contained .pyDoc UnicodeOps.ascii 1
    [s%"\"\"\"\"\"", s%"\\\"\"\"", s%"\\\\\"\"\"\"", s%"say \"hi\"", s%"a\\", s%"x */\ny", s%"\"\"\"\\"] = true := by
  decide +kernel
example : render .pyDoc UnicodeOps.ascii 0 [s%"a \"\"\" b"] = s%"\"\"\"\na \\\"\\\"\\\" b\n\"\"\"\n" := by decide +kernel
-- backslashes are doubled (the witnesses of the repaired finding `python-docstring-escape`: `\N`, `C:\Users\x`)
example : render .pyDoc UnicodeOps.ascii 0 [s%"\\N", s%"see C:\\Users\\x"] =
    s%"\"\"\"\n\\\\N\nsee C:\\\\Users\\\\x\n\"\"\"\n" := by decide +kernel
-- `\"""` is written `\\\"\"\"`: an escaped backslash, then three escaped quotes
example : Python.escapeDoc s%"\\\"\"\"" = s%"\\\\\\\"\\\"\\\"" := by decide +kernel

/-- the line-comment renderers themselves still rely on single-line input: handed a string with a line
break they are not contained — which is why the statement is about the parser's entries -/
theorem renderer_needs_single_lines :
    contained .kotlin UnicodeOps.ascii 0 [s%"a\nb"] = false ∧
    contained .swift UnicodeOps.ascii 0 [s%"a\nb"] = false ∧
    contained .scala UnicodeOps.ascii 0 [s%"a\nb"] = false ∧
    contained .go UnicodeOps.ascii 0 [s%"a\nb"] = false ∧
    contained .pyHash UnicodeOps.ascii 0 [s%"a\nb"] = false := by decide +kernel

/-- the hypotheses of `C15_renderer_partial` are met by text that is dangerous for the *other* languages:
`*/`, `/*`, `//`, `#`, back-ticks, quotes and a trailing backslash are harmless in `///` lines -/
example : ∀ c ∈ [s%"a */ b /* c // d", s%"# `x` \"\"\" ''' \\"], Bad .kotlin UnicodeOps.ascii c = false := by
  decide +kernel
/-- … and of `C15_renderer_converse`: the `Bad` string need not be the first one -/
example : s%"x\ny" ∈ [s%"fine", s%"x\ny"] ∧ Bad .go UnicodeOps.ascii s%"x\ny" = true := by decide +kernel

/-! ## parser level: the statement of the property -/

/-- no entry produced by the parser contains a line break -/
theorem C15_entries_single_line (U : UnicodeOps) (docs : List Str) :
    ∀ e ∈ entries U docs, ∀ x ∈ e, x ≠ '\n' ∧ x ≠ '\r' := by
  intro e he x hx
  have := entries_no_break U docs e he
  simp only [List.any_eq_false] at this
  simpa [isBreak] using this x hx

/-- … so on the parser's entries `Bad` is false except for U+001A under Scala -/
theorem C15_entries_Bad (sty : Style) (U : UnicodeOps) (docs : List Str) (e : Str) (he : e ∈ entries U docs) :
    Bad sty U e = (sty == .scala && e.any isSub) :=
  Bad_of_no_break sty U e (entries_no_break U docs e he)

/-- exact characterisation: the block is contained **iff** we are not in the residual class -/
theorem C15_exact (sty : Style) (U : UnicodeOps) (indent : Nat) (docs : List Str) :
    contained sty U indent (entries U docs) = true ↔ KnownScalaSub sty U docs = false := by
  rw [contained_entries]; simp

/-- outside the residual class the property holds -/
theorem C15_partial (sty : Style) (U : UnicodeOps) (indent : Nat) (docs : List Str)
    (h : KnownScalaSub sty U docs = false) : contained sty U indent (entries U docs) = true :=
  (C15_exact sty U indent docs).2 h

/-- … and inside it, it fails -/
theorem C15_converse (sty : Style) (U : UnicodeOps) (indent : Nat) (docs : List Str)
    (h : KnownScalaSub sty U docs = true) : contained sty U indent (entries U docs) = false := by
  rw [contained_entries, h]; rfl

/-- TypeScript, Kotlin, Swift, Go and both Python renderers have the property at full strength -/
theorem C15_all_but_scala (sty : Style) (hs : sty ≠ .scala) (U : UnicodeOps) (indent : Nat) (docs : List Str) :
    contained sty U indent (entries U docs) = true :=
  C15_partial sty U indent docs (by cases sty <;> first | exact absurd rfl hs | rfl)

/-- Scala has it for all doc strings without U+001A -/
theorem C15_no_sub (sty : Style) (U : UnicodeOps) (indent : Nat) (docs : List Str)
    (h : ∀ d ∈ docs, ∀ x ∈ d, x.toNat ≠ 0x1A) : contained sty U indent (entries U docs) = true := by
  apply C15_partial
  unfold KnownScalaSub
  rw [Bool.and_eq_false_iff]; right
  refine List.any_eq_false.mpr fun e he => ?_
  rw [Bool.not_eq_true]
  refine List.any_eq_false.mpr fun x hx => ?_
  obtain ⟨_, d, hd, hxd⟩ := entries_mem U docs e he x hx
  simpa [isSub] using h d hd x hxd

/-- the residual class is not empty: a doc string with U+001A in the middle, rendered by Scala -/
theorem witness_scala_sub : contained .scala UnicodeOps.ascii 0 (entries UnicodeOps.ascii [s%"a\x1ab"]) = false := by
  decide +kernel

theorem C15_not_full : ¬ C15_full := fun h => by
  have := h .scala UnicodeOps.ascii 0 [s%"a\x1ab"]
  rw [witness_scala_sub] at this
  exact Bool.noConfusion this

/-- the hypotheses of `C15_partial` / `C15_no_sub` are met by the witnesses of the three repaired defects
and by everything else the property lists -/
example : ∀ sty, KnownScalaSub sty UnicodeOps.ascii
    [s%"a\nb", s%" x\r\ny\rz ", s%"a */ b", s%"a \"\"\" b", s%"''' \\ # ` // /*"] = false := by
  intro sty; cases sty <;> decide +kernel
example : ∀ d ∈ [s%"a\nb", s%"a */ b", s%"a \"\"\" b"], ∀ x ∈ d, x.toNat ≠ 0x1A := by decide +kernel
/-- what the parser makes of them -/
example : entries UnicodeOps.ascii [s%" a\nb ", s%" x\r\n  y\rz ", s%"", s%"p\n\nq"]
    = [s%"a", s%"b", s%"x", s%"y", s%"z", s%"", s%"p", s%"", s%"q"] := by decide +kernel
example : contained .kotlin UnicodeOps.ascii 0 (entries UnicodeOps.ascii [s%"a\nb"]) = true := by decide +kernel
example : render .kotlin UnicodeOps.ascii 0 (entries UnicodeOps.ascii [s%"a\nb"]) = s%"/// a\n/// b\n" := by decide +kernel
example : contained .pyHash UnicodeOps.ascii 0 (entries UnicodeOps.ascii [s%"a\r\nb"]) = true := by decide +kernel
/-- … and of `C15_converse` -/
example : KnownScalaSub .scala UnicodeOps.ascii [s%"fine", s%"a\x1ab"] = true := by decide +kernel

/-! ## a contained block is invisible to the lexer -/

/-- after a contained block the lexer is back in `code`: the text that follows the block is lexed as
if the block were not there (TypeScript, Kotlin, Swift, Scala, Go) -/
theorem C15_transparent_c (S : CSyntax) (t : TStr)
    (h : containedIn (cStep S) CSt.inComment .code t = true) (post : Str) :
    (erase t ++ post).foldl (cStep S) .code = post.foldl (cStep S) .code := by
  rw [List.foldl_append, ← final_eq_foldl, containedIn_final _ _ _ _ h]

/-- the same for Python -/
theorem C15_transparent_py (t : TStr)
    (h : containedIn pyStep PSt.inComment .code t = true) (post : Str) :
    (erase t ++ post).foldl pyStep .code = post.foldl pyStep .code := by
  rw [List.foldl_append, ← final_eq_foldl, containedIn_final _ _ _ _ h]

example : containedIn (cStep goSyntax) CSt.inComment .code
    (renderT .go UnicodeOps.ascii 1 [s%"doc */ \"x\""]) = true := by decide +kernel

/-! ## every documentable position goes through these renderers

`EmbedsBlock blk r`: as a function of the doc strings `cs` of one position, the rendered declaration
`r cs` is `pre ++ blk cs ++ post` for fixed `pre`, `post` — the doc strings enter the text only as the
comment block, verbatim, at one place.  One lemma per fact record that has a `comments` field. -/

def EmbedsBlock (blk r : List Str → Str) : Prop := ∃ pre post, ∀ cs, r cs = pre ++ (blk cs ++ post)

theorem embeds_prefix (blk r : List Str → Str) (h : ∀ cs, r cs = blk cs ++ r []) : EmbedsBlock blk r :=
  ⟨[], r [], fun cs => by simpa using h cs⟩

/-- A renderer is a left-nested chain `x ++ a₁ ++ … ++ aₙ`, which is what the left fold of `++` over
`[a₁, …, aₙ]` from `x` unfolds to: a chain that starts at a block is the block followed by the same
chain from `[]`.  In the uses below the pieces `aᵢ` are left to unification with the renderer; there
must be exactly as many holes as pieces. -/
theorem foldl_append_init {α} (x : List α) (l : List (List α)) :
    l.foldl (· ++ ·) x = x ++ l.foldl (· ++ ·) [] := by
  induction l generalizing x with
  | nil => exact (List.append_nil x).symm
  | cons a l ih => rw [List.foldl_cons, List.foldl_cons, ih, ih ([] ++ a), List.nil_append, List.append_assoc]

/-- the block anywhere in the chain: what stands before it and the pieces after it are read off the
renderer with `cs` put into the record, and do not depend on `cs` -/
theorem embeds_mid (blk r : List Str → Str) (pre : List Str → Str) (l : List Str → List Str)
    (h : ∀ cs, r cs = (l cs).foldl (· ++ ·) (pre cs ++ blk cs))
    (hp : ∀ cs, pre cs = pre []) (hl : ∀ cs, l cs = l []) : EmbedsBlock blk r :=
  ⟨pre [], (l []).foldl (· ++ ·) [], fun cs => by rw [h, hp, hl, foldl_append_init, List.append_assoc]⟩

/-! ### TypeScript (`/** */`; type-level and variant-level positions are written by `writeStruct`,
`writeAlias`, `writeEnum`, `writeVariant` as `comments 0 x.comments ++ …` / `nl ++ comments 1 v.comments ++ …`) -/
theorem ts_field (f : TypeScript.TsField) :
    EmbedsBlock (TypeScript.comments 1) fun cs => TypeScript.renderField { f with comments := cs } :=
  embeds_prefix _ _ fun cs => foldl_append_init (TypeScript.comments 1 cs) [_, _, _, _, _, _, _, _]

/-! ### Kotlin (`///`) -/
theorem kt_param (p : Kotlin.KtParam) :
    EmbedsBlock (Kotlin.comments 1) fun cs => Kotlin.renderParam { p with comments := cs } :=
  embeds_prefix _ _ fun cs => foldl_append_init (Kotlin.comments 1 cs) [_, _, _, _, _, _]
theorem kt_entry (p : Kotlin.KtEntry) :
    EmbedsBlock (Kotlin.comments 1) fun cs => Kotlin.renderEntry { p with comments := cs } :=
  embeds_prefix _ _ fun cs => foldl_append_init (Kotlin.comments 1 cs) [_, _, _, _, _, _, _, _]
theorem kt_case (p : Kotlin.KtCase) :
    EmbedsBlock (Kotlin.comments 1) fun cs => Kotlin.renderCase { p with comments := cs } :=
  embeds_prefix _ _ fun cs => foldl_append_init (Kotlin.comments 1 cs) [_, _, _, _, _, _, _, _, _]
/-- all six kinds of Kotlin declarations start with the comment block of the type -/
theorem kt_decl (d : Kotlin.KtDecl) : ∃ cs post, Kotlin.renderDecl d = Kotlin.comments 0 cs ++ post := by
  cases d with
  | typeAlias cs => exact ⟨cs, _, foldl_append_init _ [_, _, _, _, _, _]⟩
  | valueClass cs => exact ⟨cs, _, foldl_append_init _ [_, _, _, _, _, _, _]⟩
  | object cs => exact ⟨cs, _, foldl_append_init _ [_, _, _, _]⟩
  | dataClass cs | enumClass cs | sealedClass cs => exact ⟨cs, _, foldl_append_init _ [_, _, _, _, _, _, _, _]⟩

/-! ### Swift (`///`, trailing white space stripped) -/
theorem sw_prop (U : UnicodeOps) (p : Swift.StoredProp) :
    EmbedsBlock (Swift.comments U 1) fun cs => Swift.renderProp U { p with comments := cs } :=
  embeds_prefix _ _ fun cs => foldl_append_init (Swift.comments U 1 cs) [_, _, _, _, _, _]
theorem sw_struct (U : UnicodeOps) (s : Swift.SwiftStruct) :
    EmbedsBlock (Swift.comments U 0) fun cs => Swift.renderStruct U { s with comments := cs } :=
  embeds_mid _ _ (fun _ => nl) (fun _ => [_, _, _, _, _, _, _, _, _, _, _, _, _, _, _, _]) (fun _ => rfl) (fun _ => rfl) (fun _ => rfl)
theorem sw_unit_case (U : UnicodeOps) (c : Swift.EnumCase) :
    EmbedsBlock (Swift.comments U 1) fun cs => Swift.renderUnitCase U { c with comments := cs } :=
  embeds_prefix _ _ fun cs => foldl_append_init (Swift.comments U 1 cs) [_, _, _, _]
theorem sw_algebraic_case (U : UnicodeOps) (c : Swift.EnumCase) :
    EmbedsBlock (Swift.comments U 1) fun cs => Swift.renderAlgebraicCase U { c with comments := cs } :=
  embeds_prefix _ _ fun cs => foldl_append_init (Swift.comments U 1 cs) [_, _, _, _]
theorem sw_enum (U : UnicodeOps) (e : Swift.SwiftEnum) :
    EmbedsBlock (Swift.comments U 0) fun cs => Swift.renderEnum U { e with comments := cs } :=
  embeds_prefix _ _ fun cs => foldl_append_init (Swift.comments U 0 cs) [_, _, _, _, _, _, _, _, _, _, _, _]

/-! ### Scala (`//`) -/
theorem sc_param (p : Scala.ScParam) :
    EmbedsBlock (Scala.comments 1) fun cs => Scala.renderParam { p with comments := cs } :=
  embeds_prefix _ _ fun cs => foldl_append_init (Scala.comments 1 cs) [_, _, _, _, _]
theorem sc_class (c : Scala.ScClass) :
    EmbedsBlock (Scala.comments 0) fun cs => Scala.renderClass { c with comments := cs } :=
  embeds_prefix _ _ fun cs => foldl_append_init (Scala.comments 0 cs) [_]
theorem sc_alias (a : Scala.ScAlias) :
    EmbedsBlock (Scala.comments 0) fun cs => Scala.renderAlias { a with comments := cs } :=
  embeds_prefix _ _ fun cs => foldl_append_init (Scala.comments 0 cs) [_, _, _, _, _, _]
theorem sc_case (c : Scala.ScCase) :
    EmbedsBlock (Scala.comments 1) fun cs => Scala.renderCase { c with comments := cs } :=
  embeds_prefix _ _ fun cs => foldl_append_init (Scala.comments 1 cs) [_, _, _, _, _, _, _, _]
theorem sc_enum (e : Scala.ScEnum) :
    EmbedsBlock (Scala.comments 0) fun cs => Scala.renderEnum { e with comments := cs } :=
  embeds_mid _ _ (fun _ => _) (fun _ => [_, _, _, _, _, _, _, _, _, _, _]) (fun _ => rfl) (fun _ => rfl) (fun _ => rfl)

/-! ### Go (`//`; the algebraic enum `renderAlgEnum` writes `comments 0 e.comments` after the structs of the
struct variants and `comments 1 v.comments` in front of every constant, `renderUnitEnum` likewise) -/
theorem go_field (f : Go.GoField) :
    EmbedsBlock (Go.comments 1) fun cs => Go.renderField { f with comments := cs } :=
  embeds_prefix _ _ fun cs => foldl_append_init (Go.comments 1 cs) [_, _, _, _, _, _, _, _]
theorem go_struct (d : Go.GoStruct) :
    EmbedsBlock (Go.comments 0) fun cs => Go.renderStruct { d with comments := cs } :=
  embeds_prefix _ _ fun cs => foldl_append_init (Go.comments 0 cs) [_, _, _, _, _, _]
theorem go_alias (a : Go.GoAlias) :
    EmbedsBlock (Go.comments 0) fun cs => Go.renderAlias { a with comments := cs } :=
  embeds_prefix _ _ fun cs => foldl_append_init (Go.comments 0 cs) [_, _, _, _, _]
theorem go_unit_enum (e : Go.GoUnitEnum) :
    EmbedsBlock (Go.comments 0) fun cs => Go.renderUnitEnum { e with comments := cs } :=
  embeds_prefix _ _ fun cs => foldl_append_init (Go.comments 0 cs) [_, _, _, _, _, _]

/-! ### Python (docstrings after the declaration line; `#` lines in front of a union alias) -/
theorem py_field (f : Python.PyField) :
    EmbedsBlock (Python.docstring 1) fun cs => Python.renderField { f with comments := cs } :=
  embeds_mid _ _ (fun _ => _) (fun _ => []) (fun _ => rfl) (fun _ => rfl) (fun _ => rfl)
theorem py_alias (a : Python.PyAlias) :
    EmbedsBlock (Python.docstring 0) fun cs => Python.renderAlias { a with comments := cs } :=
  embeds_mid _ _ (fun _ => _) (fun _ => []) (fun _ => rfl) (fun _ => rfl) (fun _ => rfl)
theorem py_class (c : Python.PyClass) :
    EmbedsBlock (Python.docstring 1) fun cs => Python.renderClass { c with comments := cs } :=
  embeds_mid _ _ (fun _ => _) (fun _ => [_, _, _, _]) (fun _ => rfl) (fun _ => rfl) (fun _ => rfl)
theorem py_enum_class (c : Python.PyEnumClass) :
    EmbedsBlock (Python.docstring 1) fun cs => Python.renderEnumClass { c with comments := cs } :=
  embeds_mid _ _ (fun _ => _) (fun _ => [_]) (fun _ => rfl) (fun _ => rfl) (fun _ => rfl)
theorem py_variant (v : Python.PyVariant) :
    EmbedsBlock (Python.docstring 1) fun cs => Python.renderVariant { v with comments := cs } :=
  embeds_mid _ _ (fun _ => _) (fun _ => [_, _, _, _, _, _, _, _, _]) (fun _ => rfl) (fun _ => rfl) (fun _ => rfl)
theorem py_union (u : Python.PyUnion) :
    EmbedsBlock (Python.hashComments 0) fun cs => Python.renderUnion { u with comments := cs } :=
  embeds_mid _ _ (fun _ => _) (fun _ => [_]) (fun _ => rfl) (fun _ => rfl) (fun _ => rfl)
/-! the members of a unit enum (`PyMember`) get `docstring 1 m.comments` after their line inside
`renderEnumClass`; `tags` of a union carry no doc strings -/

end TsV.C15
