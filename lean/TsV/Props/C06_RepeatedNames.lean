import TsV.Lemmas.C06_RepeatedNames
import TsV.Props.C06_Multi
/-!
# C06_RepeatedNames — single-file mode: how the items are split over source files does not matter, also when names repeat

C06: "output is a deterministic function of the inputs".  `Props/C06.lean` (`C06_arrival_order`) and
`Props/C06_Multi.lean` need *unique* type and const names per crate (`WF`, `WFm`).  Legal Rust repeats
names — one definition per `cfg` branch, the same name in two modules, and nothing stops the same item
from being written twice — and typeshare reads the text and sees all of them.  This module has **no
hypothesis on names**:

* `visit_split`, `visitFile_split`: visiting the items `xs ++ ys` of a file equals visiting `xs` and `ys`
  separately and merging with `ParsedData`'s `AddAssign` (`Pipeline.addAssign`) — equality of the whole
  record (structs, enums, aliases, consts, errors, type names, meta data), for every outcome;
* `parse_split`: the same for `parser::parse` (`Visitor.parseFile`) when both parts have something
  annotated; `split_paths`: each part parsed under its own path — the paths only label the errors;
* `collect_split`, `run_split`: `AddAssign` is associative (`addAssign_assoc`), so the collector's map and
  hence the whole run (all six back ends, errors included) on a file holding `xs ++ ys` equal those on
  two files holding `xs` and `ys` delivered one after the other — among any files before and after;
* `repeated_names_example`, `collected_example`: `cfg` twins, the same name in a module, the same item
  twice and a user of the name — one file, and one file per item in that order: the same run result
  (`run_split` four times, hypotheses kernel-checked), and kernel-checked what both collect to;
* when the parts arrive in *another* order: `C06.C06_multi_collect` (which needs no unique
  names): per crate the same parsed definitions up to order; `reconciled_multiset`: the
  same *reconciled* definitions up to order provided the `serde(rename)` table is consistent (`Agree`:
  equally named types of a crate are not renamed to different names) — and **without that proviso the
  multiset statement is false on the model** (`ArrivalMultiset_not_full`: twins `Handle` renamed `H1` /
  `H2` and `Other { h: Handle }`; `Other`'s field is `H2` or `H1` depending on which twin arrives
  last).  That is inside the recorded finding `duplicate-type-names-arrival-order`.
* `C06_RepeatedNames : C06_RepeatedNames_full`.
-/
namespace TsV.C06_RepeatedNames
open TsV TsV.Pipeline TsV.Visitor TsV.Collect TsV.C06M TsV.Generate

/-! ## 1. the visitor -/

/-- **visiting `xs ++ ys` = visiting `xs`, visiting `ys`, merging** (single-file mode; any items, any
names; a panic in the first part wins as it does in one go) -/
theorem visit_split (E : Ext) (ctx : ParseContext) (h : ctx.multiFile = false) (p c fn : Str) (xs ys : List Syn.Item) :
    visitItems E ctx p (fresh c fn) (xs ++ ys) =
      (visitItems E ctx p (fresh c fn) xs).bind fun a =>
        (visitItems E ctx p (fresh c fn) ys).bind fun b => .ok (addAssign a b) := by
  rw [C03.visitItems_collects E ctx h, C03.visitItems_collects E ctx h, C03.visitItems_collects E ctx h,
    annotatedList_append, List.map_append, collectAll_split]

theorem visitFile_eq (E : Ext) (ctx : ParseContext) (h : ctx.multiFile = false) (p c fn : Str) (f : Syn.File) :
    visitFile E ctx c fn p f = C03.collectAll p (fresh c fn)
      (if (TargetOs.accept f.attrs ctx.targetOs).getD true then Visit.outcomes E ctx f.items else []) := by
  rw [← Visit.view_id (visitFile E ctx c fn p f), Visit.visitFile_view (Visit.blind_id h), Visit.d0, h]
  rfl

/-- the same for a file: same inner attributes, the items split (the `marker` is not looked at here) -/
theorem visitFile_split (E : Ext) (ctx : ParseContext) (h : ctx.multiFile = false) (p c fn : Str) (attrs : List Syn.Attr)
    (xs ys : List Syn.Item) (m m1 m2 : Bool) :
    visitFile E ctx c fn p ⟨attrs, xs ++ ys, m⟩ =
      (visitFile E ctx c fn p ⟨attrs, xs, m1⟩).bind fun a =>
        (visitFile E ctx c fn p ⟨attrs, ys, m2⟩).bind fun b => .ok (addAssign a b) := by
  rw [visitFile_eq E ctx h, visitFile_eq E ctx h, visitFile_eq E ctx h]
  by_cases ha : (TargetOs.accept attrs ctx.targetOs).getD true = true
  · simp only [ha, if_true, Visit.outcomes, annotatedList_append, List.map_append]
    exact collectAll_split p c fn _ _
  · simp only [ha, Bool.false_eq_true, if_false]
    exact (collectAll_split p c fn [] []).trans rfl

/-- what a visit leaves untouched, and the type-name set stays duplicate-free -/
theorem visitFile_meta (E : Ext) (ctx : ParseContext) (h : ctx.multiFile = false) (p c fn : Str) (f : Syn.File)
    (d : ParsedData) (hv : visitFile E ctx c fn p f = .ok d) : Meta (fresh c fn) d ∧ d.typeNames.Nodup := by
  rw [visitFile_eq E ctx h] at hv
  obtain ⟨hm, hn⟩ := collectAll_meta p _ _ d hv
  exact ⟨hm, hn List.nodup_nil⟩

/-! ## 2. `parser::parse` -/

theorem isEmpty_addAssign (a b : ParsedData) (h : Visitor.isEmpty a = false) : Visitor.isEmpty (addAssign a b) = false := by
  cases hb : Visitor.isEmpty (addAssign a b) with
  | false => rfl
  | true =>
    have : Visitor.isEmpty a = true := by
      simp only [Visitor.isEmpty, addAssign, Bool.and_eq_true, List.isEmpty_iff, List.append_eq_nil_iff] at hb ⊢
      exact ⟨⟨⟨⟨hb.1.1.1.1.1, hb.1.1.1.2.1⟩, hb.1.1.2.1⟩, hb.1.2.1⟩, hb.2.1⟩
    rw [this] at h
    cases h

/-- what `parser::parse` returned, in terms of the visit (single-file mode, marker set) -/
theorem parseFile_some (E : Ext) (ctx : ParseContext) (h : ctx.multiFile = false)
    (pick : List ImportedType → Option ImportedType) (p c fn : Str) (attrs : List Syn.Attr) (xs : List Syn.Item)
    (d : ParsedData) (hp : parseFile E ctx pick c fn p ⟨attrs, xs, true⟩ = .ok (some d)) :
    visitFile E ctx c fn p ⟨attrs, xs, true⟩ = .ok d ∧ Visitor.isEmpty d = false := by
  obtain ⟨_, a, ha, he, rfl⟩ := Visit.parseFile_some hp
  rw [h]
  exact ⟨ha, he⟩

/-- **`parse` on the whole file = merge of `parse` on the parts** (each part contains something annotated) -/
theorem parse_split (E : Ext) (ctx : ParseContext) (h : ctx.multiFile = false)
    (pick : List ImportedType → Option ImportedType) (p c fn : Str) (attrs : List Syn.Attr) (xs ys : List Syn.Item)
    (d1 d2 : ParsedData)
    (h1 : parseFile E ctx pick c fn p ⟨attrs, xs, true⟩ = .ok (some d1))
    (h2 : parseFile E ctx pick c fn p ⟨attrs, ys, true⟩ = .ok (some d2)) :
    parseFile E ctx pick c fn p ⟨attrs, xs ++ ys, true⟩ = .ok (some (addAssign d1 d2)) := by
  obtain ⟨v1, e1⟩ := parseFile_some E ctx h pick p c fn attrs xs d1 h1
  obtain ⟨v2, _⟩ := parseFile_some E ctx h pick p c fn attrs ys d2 h2
  have hv : visitFile E ctx c fn p ⟨attrs, xs ++ ys, true⟩ = .ok (addAssign d1 d2) := by
    rw [visitFile_split E ctx h p c fn attrs xs ys true true true, v1, v2]
    rfl
  rw [Visit.parseFile_of_visit rfl hv, isEmpty_addAssign d1 d2 e1, h]
  rfl

/-- **each part under its own path**: the path is only the label of the errors — the one-go result is the
merge of the parts' results with the errors attributed to the one file -/
theorem split_paths (E : Ext) (ctx : ParseContext) (h : ctx.multiFile = false) (p p1 p2 c fn : Str) (xs ys : List Syn.Item)
    (a b : ParsedData) (ha : visitItems E ctx p1 (fresh c fn) xs = .ok a) (hb : visitItems E ctx p2 (fresh c fn) ys = .ok b) :
    visitItems E ctx p (fresh c fn) (xs ++ ys) = .ok (relabel p (addAssign a b)) := by
  rw [C03.visitItems_collects E ctx h] at ha hb
  have e : relabel p (fresh c fn) = fresh c fn := rfl
  have ha' := collectAll_relabel p1 p ((C03.annotatedList ctx xs).map (C03.parseItem E ctx)) (fresh c fn)
  have hb' := collectAll_relabel p2 p ((C03.annotatedList ctx ys).map (C03.parseItem E ctx)) (fresh c fn)
  rw [ha, e] at ha'
  rw [hb, e] at hb'
  rw [visit_split E ctx h, C03.visitItems_collects E ctx h, C03.visitItems_collects E ctx h, ha', hb']
  simp [relabel, addAssign]

/-! ## 3. the collector and the run -/

/-- **the collector**: the merged result delivered once, or the two parts delivered one after the other —
anywhere among the other arrivals (`AddAssign` is associative: `addAssign_assoc`) -/
theorem collect_split (pre post : List ParsedData) (d1 d2 : ParsedData) (hc : d2.crateName = d1.crateName) :
    collect (pre ++ addAssign d1 d2 :: post) = collect (pre ++ d1 :: d2 :: post) := by
  simp only [collect, List.foldl_append, List.foldl_cons, upsert_split d1 d2 hc]

/-- "`parser::parse` returned a result" (the file was not dropped as empty, nothing panicked) -/
def arrives (o : Outcome (Option ParsedData)) : Bool :=
  match o with
  | .ok (some _) => true
  | _ => false

theorem arrives_iff {o : Outcome (Option ParsedData)} (h : arrives o = true) : ∃ d, o = .ok (some d) := by
  cases o with
  | ok r => cases r with
    | none => cases h
    | some d => exact ⟨d, rfl⟩
  | err e => cases h
  | panic s => cases h

theorem parseAll_append (E : Ext) (ctx : ParseContext) (pick : List ImportedType → Option ImportedType) :
    ∀ xs ys : List SourceFile, parseAll E ctx pick (xs ++ ys) =
      (parseAll E ctx pick xs).bind fun A => (parseAll E ctx pick ys).bind fun B => .ok (A ++ B) := by
  intro xs ys
  induction xs with
  | nil => exact (Outcome.bind_pure _).symm
  | cons f t ih =>
    simp only [List.cons_append, parseAll, ih]
    cases Visitor.parseFile E ctx pick f.crateName f.fileName f.path f.file with
    | ok r =>
      cases parseAll E ctx pick t with
      | ok A =>
        cases parseAll E ctx pick ys with
        | ok B => cases r <;> simp
        | err e => rfl
        | panic s => rfl
      | err e => rfl
      | panic s => rfl
    | err e => rfl
    | panic s => rfl

/-- **the whole run**: a file holding `xs ++ ys`, or two files holding `xs` and `ys` delivered one after
the other — among any other files before and after — give the same result: the texts of every back end,
or the same errors.  No hypothesis on the names of the items. -/
theorem run_split (E : Ext) (lang : LangCfg) (targetOs : List Str) (pick : List ImportedType → Option ImportedType)
    (p c fn : Str) (attrs : List Syn.Attr) (xs ys : List Syn.Item) (pre post : List SourceFile)
    (h1 : arrives (parseFile E { ignoredTypes := ignoredTypes lang, multiFile := false, targetOs } pick c fn p
      ⟨attrs, xs, true⟩) = true)
    (h2 : arrives (parseFile E { ignoredTypes := ignoredTypes lang, multiFile := false, targetOs } pick c fn p
      ⟨attrs, ys, true⟩) = true) :
    run E lang false targetOs pick (pre ++ ⟨c, fn, p, ⟨attrs, xs ++ ys, true⟩⟩ :: post) =
      run E lang false targetOs pick (pre ++ ⟨c, fn, p, ⟨attrs, xs, true⟩⟩ :: ⟨c, fn, p, ⟨attrs, ys, true⟩⟩ :: post) := by
  obtain ⟨d1, h1⟩ := arrives_iff h1
  obtain ⟨d2, h2⟩ := arrives_iff h2
  have h3 := parse_split E _ rfl pick p c fn attrs xs ys d1 d2 h1 h2
  obtain ⟨v1, _⟩ := parseFile_some E _ rfl pick p c fn attrs xs d1 h1
  obtain ⟨v2, _⟩ := parseFile_some E _ rfl pick p c fn attrs ys d2 h2
  obtain ⟨m1, _⟩ := visitFile_meta E _ rfl p c fn _ d1 v1
  obtain ⟨m2, _⟩ := visitFile_meta E _ rfl p c fn _ d2 v2
  have hcol := fun A B => collect_split A B d1 d2 (m2.crateName.trans m1.crateName.symm)
  rw [Run.run_eq, Run.run_eq, parseAll_append, parseAll_append]
  cases parseAll E { ignoredTypes := ignoredTypes lang, multiFile := false, targetOs } pick pre with
  | ok A =>
    simp only [parseAll, h1, h2, h3, Outcome.bind_ok]
    cases parseAll E { ignoredTypes := ignoredTypes lang, multiFile := false, targetOs } pick post with
    | ok B => simp only [Outcome.bind_ok, Run.finish, hcol]
    | err e => rfl
    | panic s => rfl
  | err e => rfl
  | panic s => rfl

/-! ## 4. another arrival order: multisets -/

/-- **the reconciled definitions as multisets** do not depend on the arrival order when the rename table
is consistent (no two equally named types of one crate renamed differently) — names may repeat -/
theorem reconciled_multiset (a b : List ParsedData) (hp : a.Perm b) (hu : UniformPerCrate a)
    (hr : Agree (collectSerdeRenames (collect a))) : MapEq (reconcile (collect a)) (reconcile (collect b)) :=
  reconcile_mapEq' (C06.C06_multi_collect a b hp hu)
    (renEquiv_of_agree _ _ (collectSerdeRenames_perm (C06.C06_multi_collect a b hp hu)) hr)

/-- the multiset statement at full strength (no proviso on the rename table) -/
def ArrivalMultiset_full : Prop :=
  ∀ a b : List ParsedData, a.Perm b → UniformPerCrate a → MapEq (reconcile (collect a)) (reconcile (collect b))

def twin (renamed : Str) : ParsedData :=
  { structs := [{ id := ⟨s%"Handle", renamed, true⟩, genericTypes := [], fields := [], comments := [], decorators := {},
                  isRedacted := false }] }
def user : ParsedData :=
  { structs := [{ id := ⟨s%"Other", s%"Other", false⟩, genericTypes := [],
                  fields := [⟨⟨s%"h", s%"h", false⟩, .simple s%"Handle", [], false, []⟩], comments := [], decorators := {},
                  isRedacted := false }] }

/-- the field types (head identifiers) of every struct of every crate -/
def fieldIds (m : List (Str × ParsedData)) : List (List Str) :=
  m.flatMap fun p => p.2.structs.map fun s => s.fields.map (·.ty.id)

theorem fieldIds_perm {m m' : List (Str × ParsedData)} (h : MapEq m m') : (fieldIds m).Perm (fieldIds m') :=
  (rel₂_iff.1 h).flatMap_perm fun _ _ _ _ hpq => hpq.2.structs.map _

/-- `fieldIds (reconcile m)` without the sorting pass (which the kernel does not unfold) -/
def fieldIdsRec (m : List (Str × ParsedData)) : List (List Str) :=
  m.flatMap fun p => p.2.structs.map fun s =>
    (s.fields.map (checkField p.1 (collectSerdeRenames m) p.2.importTypes)).map (·.ty.id)

theorem fieldIds_reconcile (m : List (Str × ParsedData)) : (fieldIds (reconcile m)).Perm (fieldIdsRec m) := by
  unfold fieldIds fieldIdsRec
  rw [reconcile_eq, List.flatMap_map]
  refine C01.Forall₂.flatMap_perm (R := Eq) (.refl fun _ _ => rfl) ?_
  rintro p _ _ _ rfl
  simp only [reconcileOne]
  refine ((sortBy_perm _ _).map _).trans ?_
  rw [List.map_map]
  exact .refl _

/-- `#[serde(rename = "H1")] struct Handle {}` and `#[serde(rename = "H2")] struct Handle {}` (two `cfg`
branches) and `struct Other { h: Handle }`: `Other.h` is reconciled to the rename of the twin that
arrived last -/
theorem witness :
    fieldIdsRec (collect [twin s%"H1", twin s%"H2", user]) = [[], [], [s%"H2"]] ∧
    fieldIdsRec (collect [twin s%"H2", twin s%"H1", user]) = [[], [], [s%"H1"]] := by
  decide +kernel

/-- **false on the model**: with differently renamed twins the reconciled definitions depend on the
arrival order even as a multiset -/
theorem ArrivalMultiset_not_full : ¬ ArrivalMultiset_full := by
  intro h
  have hp : [twin s%"H1", twin s%"H2", user].Perm [twin s%"H2", twin s%"H1", user] := List.Perm.swap _ _ _
  have := fieldIds_perm (h _ _ hp (fun d _ d' _ _ => by
    have e : ∀ x ∈ [twin s%"H1", twin s%"H2", user], x.fileName = [] ∧ x.multiFile = false := by
      intro x hx
      simp only [List.mem_cons, List.not_mem_nil, or_false] at hx
      rcases hx with rfl | rfl | rfl <;> exact ⟨rfl, rfl⟩
    rw [(e d ‹_›).1, (e d ‹_›).2, (e d' ‹_›).1, (e d' ‹_›).2]
    exact ⟨rfl, rfl⟩))
  have this := (fieldIds_reconcile _).symm.trans (this.trans (fieldIds_reconcile _))
  rw [witness.1, witness.2] at this
  have hm : [s%"H2"] ∈ [[], [], [s%"H1"]] := this.subset (by simp)
  revert hm
  decide +kernel

/-- the proviso of `reconciled_multiset` fails on the witness and holds when the twins agree -/
example : ¬ Agree (collectSerdeRenames (collect [twin s%"H1", twin s%"H2", user])) := by
  intro h
  have := h (s%"Handle", [], s%"H1") (by decide +kernel) (s%"Handle", [], s%"H2") (by decide +kernel) rfl rfl
  revert this
  decide +kernel

/-! ## the statement at full strength -/

/-- **C06_RepeatedNames**: no hypothesis on names.  (1) visitor, `parse`, collector and run commute with
splitting a file's items over files delivered in order; (2) in any arrival order the parsed definitions
per crate are the same multiset, and the reconciled ones too when the rename table is consistent. -/
def C06_RepeatedNames_full : Prop :=
  (∀ (E : Ext) (ctx : ParseContext), ctx.multiFile = false → ∀ (p c fn : Str) (attrs : List Syn.Attr) (xs ys : List Syn.Item),
    (visitItems E ctx p (fresh c fn) (xs ++ ys) =
      (visitItems E ctx p (fresh c fn) xs).bind fun a =>
        (visitItems E ctx p (fresh c fn) ys).bind fun b => .ok (addAssign a b)) ∧
    (∀ m m1 m2 : Bool, visitFile E ctx c fn p ⟨attrs, xs ++ ys, m⟩ =
      (visitFile E ctx c fn p ⟨attrs, xs, m1⟩).bind fun a =>
        (visitFile E ctx c fn p ⟨attrs, ys, m2⟩).bind fun b => .ok (addAssign a b)) ∧
    (∀ (pick : List ImportedType → Option ImportedType) (d1 d2 : ParsedData),
      parseFile E ctx pick c fn p ⟨attrs, xs, true⟩ = .ok (some d1) →
      parseFile E ctx pick c fn p ⟨attrs, ys, true⟩ = .ok (some d2) →
      parseFile E ctx pick c fn p ⟨attrs, xs ++ ys, true⟩ = .ok (some (addAssign d1 d2))) ∧
    (∀ (p1 p2 : Str) (a b : ParsedData), visitItems E ctx p1 (fresh c fn) xs = .ok a →
      visitItems E ctx p2 (fresh c fn) ys = .ok b →
      visitItems E ctx p (fresh c fn) (xs ++ ys) = .ok (relabel p (addAssign a b)))) ∧
  (∀ (pre post : List ParsedData) (d1 d2 : ParsedData), d2.crateName = d1.crateName →
    collect (pre ++ addAssign d1 d2 :: post) = collect (pre ++ d1 :: d2 :: post)) ∧
  (∀ (E : Ext) (lang : LangCfg) (targetOs : List Str) (pick : List ImportedType → Option ImportedType) (p c fn : Str)
    (attrs : List Syn.Attr) (xs ys : List Syn.Item) (pre post : List SourceFile),
    arrives (parseFile E { ignoredTypes := ignoredTypes lang, multiFile := false, targetOs } pick c fn p ⟨attrs, xs, true⟩) = true →
    arrives (parseFile E { ignoredTypes := ignoredTypes lang, multiFile := false, targetOs } pick c fn p ⟨attrs, ys, true⟩) = true →
    run E lang false targetOs pick (pre ++ ⟨c, fn, p, ⟨attrs, xs ++ ys, true⟩⟩ :: post) =
      run E lang false targetOs pick (pre ++ ⟨c, fn, p, ⟨attrs, xs, true⟩⟩ :: ⟨c, fn, p, ⟨attrs, ys, true⟩⟩ :: post)) ∧
  (∀ a b : List ParsedData, a.Perm b → UniformPerCrate a →
    MapEq (collect a) (collect b) ∧
    (Agree (collectSerdeRenames (collect a)) → MapEq (reconcile (collect a)) (reconcile (collect b))))

theorem C06_RepeatedNames : C06_RepeatedNames_full :=
  ⟨fun E ctx h p c fn attrs xs ys =>
      ⟨visit_split E ctx h p c fn xs ys, fun m m1 m2 => visitFile_split E ctx h p c fn attrs xs ys m m1 m2,
       fun pick d1 d2 h1 h2 => parse_split E ctx h pick p c fn attrs xs ys d1 d2 h1 h2,
       fun p1 p2 a b ha hb => split_paths E ctx h p p1 p2 c fn xs ys a b ha hb⟩,
   fun pre post d1 d2 hc => collect_split pre post d1 d2 hc,
   fun E lang os pick p c fn attrs xs ys pre post h1 h2 => run_split E lang os pick p c fn attrs xs ys pre post h1 h2,
   fun a b hp hu => ⟨C06.C06_multi_collect a b hp hu, fun hr => reconciled_multiset a b hp hu hr⟩⟩

/-! ## non-vacuity: repeated names, kernel-checked -/

def wE : Ext := { U := .ascii, parseType := fun _ => none }
def tsAttr : Syn.Attr := ⟨.path [s%"typeshare"]⟩
def cfgAttr (neg : Bool) : Syn.Attr :=
  ⟨.list [s%"cfg"] true [if neg then .list [s%"not"] true [.nameValue [s%"feature"] (some (.str s%"fast"))]
                         else .nameValue [s%"feature"] (some (.str s%"fast"))]⟩
def fieldOf (n t : Str) : Syn.Field := ⟨[], some n, .path [] t []⟩

/-- `#[cfg(feature = "fast")] #[typeshare] pub struct Handle { pub fd: u32 }` -/
def twinA : Syn.Item := .struct [cfgAttr false, tsAttr] s%"Handle" [] (.named [fieldOf s%"fd" s%"u32"])
/-- `#[cfg(not(feature = "fast"))] #[typeshare] pub struct Handle { pub name: String }` -/
def twinB : Syn.Item := .struct [cfgAttr true, tsAttr] s%"Handle" [] (.named [fieldOf s%"name" s%"String"])
/-- `pub mod v2 { #[typeshare] pub enum Handle { Open, Closed } }` -/
def modTwin : Syn.Item := .mod [] s%"v2" [.enum [tsAttr] s%"Handle" [] [⟨[], s%"Open", .unit⟩, ⟨[], s%"Closed", .unit⟩]]
/-- `#[typeshare] pub struct Other { pub h: Handle }` -/
def other : Syn.Item := .struct [tsAttr] s%"Other" [] (.named [fieldOf s%"h" s%"Handle"])

def src (items : List Syn.Item) : SourceFile := ⟨[], s%"out.ts", s%"src/lib.rs", ⟨[], items, true⟩⟩

def ctx0 (lang : LangCfg) : ParseContext := { ignoredTypes := ignoredTypes lang, multiFile := false, targetOs := [] }

/-- every part — each single item and each tail of the item list — parses to something (the hypotheses of
`run_split` on the witness) -/
theorem parts_arrive :
    ([[twinA], [twinB], [modTwin], [twinA], [other], [twinB, modTwin, twinA, other], [modTwin, twinA, other],
      [twinA, other]].all fun items =>
      arrives (parseFile wE (ctx0 (.typescript {})) List.head? [] s%"out.ts" s%"src/lib.rs" ⟨[], items, true⟩)) = true := by
  decide +kernel

/-- **the repeated-name cases** — `cfg` twins, the same name in a module, the same item twice, then a user
of the name — written into one file, or one file per item delivered in that order: the same run result
(`run_split`, four times) -/
theorem repeated_names_example (lang : LangCfg) (hl : ignoredTypes lang = ignoredTypes (.typescript {})) :
    run wE lang false [] List.head? [src [twinA, twinB, modTwin, twinA, other]] =
      run wE lang false [] List.head? [src [twinA], src [twinB], src [modTwin], src [twinA], src [other]] := by
  have hp := parts_arrive
  simp only [List.all_cons, List.all_nil, Bool.and_true, Bool.and_eq_true, ctx0, ← hl] at hp
  obtain ⟨a1, a2, a3, _, a5, t1, t2, t3⟩ := hp
  have s1 := run_split wE lang [] List.head? s%"src/lib.rs" [] s%"out.ts" [] [twinA] [twinB, modTwin, twinA, other] [] [] a1 t1
  have s2 := run_split wE lang [] List.head? s%"src/lib.rs" [] s%"out.ts" [] [twinB] [modTwin, twinA, other] [src [twinA]] [] a2 t2
  have s3 := run_split wE lang [] List.head? s%"src/lib.rs" [] s%"out.ts" [] [modTwin] [twinA, other] [src [twinA], src [twinB]] []
    a3 t3
  have s4 := run_split wE lang [] List.head? s%"src/lib.rs" [] s%"out.ts" [] [twinA] [other]
    [src [twinA], src [twinB], src [modTwin]] [] a1 a5
  exact s1.trans (s2.trans (s3.trans s4))

/-- what the one file and the five files parse and collect to, kernel-checked on a projection: the three
`Handle`s and `Other` in source order (names, field names), the enum, the type-name set -/
def proj (o : Outcome (List ParsedData)) : List (List (List Str)) :=
  match o with
  | .ok arr => (collect arr).map fun p =>
      (p.2.structs.map fun s => s.id.original :: s.fields.map (·.id.original)) ++
        [p.2.enums.map (·.id.original), p.2.typeNames, p.2.errors.map (·.2)]
  | _ => []

theorem collected_example :
    proj (parseAll wE (ctx0 (.typescript {})) List.head? [src [twinA, twinB, modTwin, twinA, other]]) =
      proj (parseAll wE (ctx0 (.typescript {})) List.head? [src [twinA], src [twinB], src [modTwin], src [twinA], src [other]]) ∧
    proj (parseAll wE (ctx0 (.typescript {})) List.head? [src [twinA, twinB, modTwin, twinA, other]]) =
      [[[s%"Handle", s%"fd"], [s%"Handle", s%"name"], [s%"Handle", s%"fd"], [s%"Other", s%"h"], [s%"Handle"],
        [s%"Handle", s%"Other"], []]] := by
  decide +kernel

end TsV.C06_RepeatedNames
