import TsV.Lemmas.C12_ScalaMapped
import TsV.Props.C12
/-!
# C12_ScalaMapped — Scala's unsigned aliases and `type_mappings` entries keyed by built-in types

C12: "helper definitions are emitted when the generated code uses them".  Scala prints `UByte` / `UShort` / `UInt` /
`ULong` for the unsigned primitives and must then write `type UByte = Byte …` into the package object
(`unsigned_integer_used`).  `format_special_type` of Scala never consults `type_mappings`, so a table entry whose key
is a built-in type (`"u8" = "Long"`, `"Vec<u8>" = "…"`) changes nothing in the text: the field is still printed `UByte`.
A scan that *did* consult the table ("`u8` is mapped, so no alias is needed") would drop the alias block while the text
still uses the aliases.

`Props/C12.lean: C12_scala` already quantifies over **every** configuration, tables with such keys included
(`C12_scala_any_table` spells the instance out).  What this module adds:

* `table_seen_at_names_only`: the only keys `format_type` looks up for a type expression are the names of the user
  types in it (`names t`: `Simple` ids and `Generic` heads) — two tables that agree on them give the same text and the
  same "prints an alias name" answer; `special_ignores_table`: an expression without names (primitives, `Vec`, `Option`,
  `HashMap`, arrays, slices, to any depth) is printed the same under every table, and prints an alias name iff the scan
  finds an unsigned primitive in it.
* `scan_ignores_table`: whether the alias block is written is the same under every two configurations.
* `C12_ScalaMapped : C12_ScalaMapped_full`: under every configuration, if a formatted type of the module is built from
  special types only and contains an unsigned primitive, then (a) every text printed for it mentions an alias name —
  the same text as under the empty table — and (b) the alias block is in the file record and in the rendered text.
* `mapped_u8_example` (kernel-checked): `[scala.type_mappings] "u8" = "Long"`, `struct St { f0: u8 }` — the parameter is
  printed `f0: UByte`, the package object starts with the alias block; same file as without the entry.

Nothing is false on the model.  `tools/c12.py: mapped_builtin_part` checks the implementation on the named case (the real
generator gives the same text with and without the entry: `f0: UByte`, alias block present).
-/
namespace TsV.C12_ScalaMapped
open TsV TsV.Lang TsV.C12L TsV.C12

/-- the table is consulted at the names of user types only -/
theorem table_seen_at_names_only (cfg cfg' : Lang.Scala.Cfg) (gens gens' : List Str) (t : RustType)
    (h : ∀ n ∈ names t, mapGet cfg.typeMappings n = mapGet cfg'.typeMappings n) :
    Lang.Scala.formatType cfg gens t = Lang.Scala.formatType cfg' gens' t ∧ Scala.unsignedIn cfg t = Scala.unsignedIn cfg' t :=
  ⟨formatType_agree cfg cfg' gens gens' t h, unsignedIn_agree cfg cfg' t h⟩

/-- an expression built from special types only: same text under every table (and every generic context), and it
prints an alias name exactly when the scan finds an unsigned primitive -/
theorem special_ignores_table (cfg cfg' : Lang.Scala.Cfg) (gens gens' : List Str) (t : RustType) (h : names t = []) :
    Lang.Scala.formatType cfg gens t = Lang.Scala.formatType cfg' gens' t ∧
    Scala.unsignedIn cfg t = Lang.Scala.usesUnsigned t :=
  ⟨formatType_agree cfg cfg' gens gens' t (by rw [h]; intro n hn; cases hn), unsignedIn_of_no_names cfg t h⟩

/-- the leaf itself: whatever the table says about `"u8"`, `u8` is printed `UByte` -/
theorem prim_ignores_table (cfg : Lang.Scala.Cfg) (gens : List Str) (p : Prim) :
    Lang.Scala.formatType cfg gens (.prim p) = Lang.Scala.formatType {} [] (.prim p) :=
  (special_ignores_table cfg {} gens [] (.prim p) rfl).1

/-- whether the alias block is written does not depend on the configuration at all -/
theorem scan_ignores_table (cfg cfg' : Lang.Scala.Cfg) (d : ParsedData) (f f' : Lang.Scala.ScFile)
    (h : Lang.Scala.fileFacts cfg d = .ok f) (h' : Lang.Scala.fileFacts cfg' d = .ok f') :
    Scala.definesUnsigned f = Scala.definesUnsigned f' := by
  rw [Scala.fileFacts_defines cfg d f h, Scala.fileFacts_defines cfg' d f' h']

/-- `C12_scala` at a table extended by any entries (keys that are built-in types included): an instance of `C12_scala` -/
theorem C12_scala_any_table (cfg : Lang.Scala.Cfg) (extra : List (Str × Str)) (d : ParsedData) (f : Lang.Scala.ScFile)
    (hf : Lang.Scala.fileFacts { cfg with typeMappings := extra ++ cfg.typeMappings } d = .ok f)
    (hu : Scala.used { cfg with typeMappings := extra ++ cfg.typeMappings } d = true) :
    Scala.definesUnsigned f = true ∧ Lang.Scala.unsignedAliases <:+: Lang.Scala.renderFile f :=
  C12_scala_text _ d f hf hu

def C12_ScalaMapped_full : Prop :=
  ∀ (cfg : Lang.Scala.Cfg) (d : ParsedData) (f : Lang.Scala.ScFile), Lang.Scala.fileFacts cfg d = .ok f →
    ∀ t ∈ Scala.formatted d, names t = [] → Lang.Scala.usesUnsigned t = true →
      (∀ gens s, Lang.Scala.formatType cfg gens t = .ok s →
        Lang.Scala.formatType {} [] t = .ok s ∧ ∃ n ∈ Scala.aliasNames, n <:+: s) ∧
      Scala.definesUnsigned f = true ∧ Lang.Scala.unsignedAliases <:+: Lang.Scala.renderFile f

/-- **the alias block is written whenever a printed built-in type text uses an alias, under every table** -/
theorem C12_ScalaMapped : C12_ScalaMapped_full := by
  intro cfg d f hf t ht hn hu
  have hin : Scala.unsignedIn cfg t = true := by rw [unsignedIn_of_no_names cfg t hn]; exact hu
  refine ⟨?_, ?_⟩
  · intro gens s hs
    refine ⟨?_, Scala.formatType_mentions cfg gens t s hs hin⟩
    rw [← (special_ignores_table cfg {} gens [] t hn).1]; exact hs
  · refine C12_scala_text cfg d f hf ?_
    simp only [Scala.used, List.any_eq_true]
    exact ⟨t, ht, hin⟩

/-! ## the named case: `[scala.type_mappings] "u8" = "Long"`, `struct St { f0: u8 }` -/

def mappedCfg : Lang.Scala.Cfg := { package := s%"com.example", typeMappings := [(s%"u8", s%"Long")] }
def mappedData : ParsedData := { structs := [mkStruct s%"St" [mkField s%"f0" (.prim .u8)]] }

/-- the file, field by field: the parameter is `f0: UByte`, the package object starts with the alias block; the very
same record as without the table entry -/
theorem mapped_u8_example :
    Lang.Scala.fileFacts mappedCfg mappedData = .ok
      { header := none, parent := some s%"com", last := s%"example",
        packageObject := some (true, []),
        packageBody := some ([{ comments := [], name := s%"St", generics := [],
                                params := [{ comments := [], name := s%"f0", ty := s%"UByte", default := [] }] }], []) } ∧
    Lang.Scala.fileFacts mappedCfg mappedData = Lang.Scala.fileFacts { mappedCfg with typeMappings := [] } mappedData := by
  constructor <;> decide +kernel

/-- the hypotheses of `C12_ScalaMapped` are met by it, and the conclusion read on the text -/
theorem mapped_mem : (RustType.prim .u8) ∈ Scala.formatted mappedData := by
  show RustType.prim .u8 ∈ [RustType.prim .u8]
  exact List.mem_singleton.2 rfl

example : (RustType.prim .u8) ∈ Scala.formatted mappedData ∧ names (.prim .u8) = [] ∧
    Lang.Scala.usesUnsigned (.prim .u8) = true := ⟨mapped_mem, rfl, rfl⟩

example (f : Lang.Scala.ScFile) (h : Lang.Scala.fileFacts mappedCfg mappedData = .ok f) :
    Lang.Scala.unsignedAliases <:+: Lang.Scala.renderFile f :=
  (C12_ScalaMapped mappedCfg mappedData f h (.prim .u8) mapped_mem rfl rfl).2.2

/-- a deeper one: `Option<HashMap<String, Vec<u16>>>` with `"Vec<u16>"`, `"u16"` and `"Option<HashMap>"` all in the table -/
example : Lang.Scala.formatType { typeMappings := [(s%"Vec<u16>", s%"Seq[Int]"), (s%"u16", s%"Int"), (s%"Option<HashMap>", s%"X")] } []
      (.option (.hashMap (.prim .string) (.vec (.prim .u16)))) = .ok s%"Option[Map[String, Vector[UShort]]]" := by
  decide +kernel

/-- contrast (why the statement is about *built-in* keys): a key that is a user type's name is consulted, the whole
application is replaced and its arguments are never printed -/
example : Lang.Scala.formatType { typeMappings := [(s%"Foo", s%"Bar")] } [] (.generic s%"Foo" [.prim .u8]) = .ok s%"Bar" ∧
    names (.generic s%"Foo" [.prim .u8]) = [s%"Foo"] := by decide +kernel

end TsV.C12_ScalaMapped
