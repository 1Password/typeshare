import TsV.Lemmas.C02_Parse
import TsV.Lemmas.C02_TypeScript
import TsV.Lemmas.C02_Kotlin
import TsV.Lemmas.C02_Swift
import TsV.Lemmas.C02_Scala
import TsV.Lemmas.C02_Go
import TsV.Lemmas.C02_Python
/-!
# C02 — enum wire encoding (variant names, tag and content keys) equals serde's

*Specification*: `variantName?` (serde's name of a variant: `serde(rename)`, else the container's
`rename_all` rule applied by `RenameRule::apply_to_variant`, else the identifier) and the values of
`serde(tag = …)`, `serde(content = …)` (`Parser.getTagKey` / `getContentKey`).

*Parse half* (`ParseOK`): a parsed enum carries, per non-skipped source variant in source order,
exactly serde's name, and exactly serde's keys (none for a unit enum).

*Back-end half* (`LangOK`): each of the six back ends is read through its binding semantics
(`TS.wire`, `Kt.wire`, `Sw.wire`, `Sc.wire`, `Go.wire`, `Py.wire`: the cases the output declares with
the string each is serialised as, and every place a tag / content key is printed — for the
synthesised Swift and Go codecs via templates proved equal to the rendered text) and must be
`EnumWire.Correct`: one case per variant in order under `id.renamed` (`Names`), each variant a case
of its own (`Distinct`), every printed key the right one (`Keys`).

The pinned tree does not satisfy the back-end half at full strength: Python derives member names by
upper-casing (`FooBar`, `Foobar` ↦ `FOOBAR`), Go applies the configured acronym conversion to variant
identifiers (`UserId`, `UserID` ↦ `UserID` under `uppercase_acronyms = ["id"]`); two variants then
share one member / constant.  `Known` describes exactly those inputs.

Since the `fix:` commit 8290303 (`to_pascal_case`'s "all uppercase" test is `char::is_lowercase` of every
character) the Kotlin class name and the Swift case name of a variant depend on the Unicode tables of Rust
`std`; the back-end half therefore carries the hypothesis of the parse half, that the tables are right
about ASCII (`AsciiCorrect`; for Kotlin the tables travel in `Kotlin.Cfg.U`).  Without it a table that calls
`o` a capital would make `FooBar` and `Foobar` one Kotlin class.
-/
namespace TsV.C02
open TsV TsV.Str TsV.Syn TsV.Parser TsV.Serde TsV.Lang

/-! ## the property -/

/-- the property's quantifier on a source enum: UpperCamelCase variant identifiers (pairwise
distinct, as rustc demands); any attributes, rules, renames, keys, payloads, generics -/
structure InScopeSrc (vs : List Variant) : Prop where
  camel : ∀ v ∈ vs, C16.UpperCamel v.ident
  distinct : (vs.map (·.ident)).Nodup

/-- **parse half**: names and keys of a parsed enum are serde's -/
def ParseOK (E : Ext) (T : List Str) (attrs : List Attr) (ident : Str) (gens : List GenericParam)
    (vs : List Variant) : Prop :=
  ∀ e, parseEnum E T attrs ident gens vs = .ok (.enum e) →
    -- one parsed variant per non-skipped source variant, in order, under serde's name
    ((e.variants.map fun v => some v.id.renamed) =
      (vs.filter fun v => !isSkipped v.attrs T).map (variantName? E (serdeRenameAll E attrs))) ∧
    -- a unit enum carries no keys, a data-carrying enum exactly serde's
    (e.variants.all variantIsUnit = true → e.keys = none) ∧
    (e.variants.all variantIsUnit = false →
      ∃ t c, getTagKey E attrs = some t ∧ getContentKey E attrs = some c ∧ e.keys = some (t, c))

/-- **back-end half**, one language: every output of `write_enum` is correct on the wire.
(`acronyms`: Go's `uppercase_acronyms`, the one configuration value the property depends on.) -/
def LangOK (L : TsV.Lang) (E : Ext) (acronyms : List Str) (e : RustEnum) : Prop :=
  match L with
  | .typescript => ∀ cfg st d st', TS.enumFacts cfg e st = .ok (d, st') → (TS.wire d).Correct e
  | .kotlin => ∀ cfg ds, cfg.U.AsciiCorrect → Kotlin.enumFacts cfg e = .ok ds → (Kt.wire ds).Correct e
  | .swift => ∀ cfg st structs se st',
      Swift.enumFacts E.U cfg e st = .ok (structs, se, st') → (Sw.wire se).Correct e
  | .scala => ∀ cfg se, Scala.enumFacts cfg e = .ok se → (Sc.wire se).Correct e
  | .go => ∀ (cfg : Go.Cfg) customStructs st d st', cfg.uppercaseAcronyms = acronyms →
      Go.enumFacts E.U cfg e customStructs st = .ok (d, st') → (Go.wire d).Correct e
  | .python => ∀ cfg st d st', Py.enumFacts E cfg e st = .ok (d, st') → (Py.wire d).Correct e

/-- the property at full strength -/
def C02_full : Prop :=
  (∀ (E : Ext), E.U.AsciiCorrect → ∀ T attrs ident gens vs, InScopeSrc vs → ParseOK E T attrs ident gens vs) ∧
  (∀ (E : Ext), E.U.AsciiCorrect → ∀ (acronyms : List Str) (e : RustEnum), InScopeEnum e → ∀ L, LangOK L E acronyms e)

/-! ## the known classes -/

/-- the inputs on which the pinned tree fails: two variants share one Python member name / one Go
constant name -/
def Known (L : TsV.Lang) (E : Ext) (acronyms : List Str) (e : RustEnum) : Prop :=
  match L with
  | .python => ¬ (Py.memberNames E e).Nodup
  | .go => ¬ (e.variants.map fun v => Go.convertAcronyms E.U acronyms v.id.original).Nodup
  | _ => False

instance (L : TsV.Lang) (E : Ext) (acronyms : List Str) (e : RustEnum) : Decidable (Known L E acronyms e) := by
  unfold Known; cases L <;> infer_instance

/-! ## parse half -/

/-- **the parser gives every variant serde's name and the enum serde's keys** -/
theorem C02_parse (E : Ext) (hU : E.U.AsciiCorrect) (T : List Str) (attrs : List Attr) (ident : Str)
    (gens : List GenericParam) (vs : List Variant) (hs : InScopeSrc vs) : ParseOK E T attrs ident gens vs := by
  intro e h
  have hsa := (parseEnum_enum_ok h).1
  obtain ⟨k1, k2⟩ := C08.parseEnum_keys E T attrs ident gens vs hsa e h
  exact ⟨parseEnum_names E hU T attrs ident gens vs e hs.camel h, fun hu => (k1 hu).2.2, k2⟩

/-- and hands the back ends an enum in their scope -/
theorem C02_parse_inScope (E : Ext) (hU : E.U.AsciiCorrect) (T : List Str) (attrs : List Attr) (ident : Str)
    (gens : List GenericParam) (vs : List Variant) (hs : InScopeSrc vs) (e : RustEnum)
    (h : parseEnum E T attrs ident gens vs = .ok (.enum e)) : InScopeEnum e :=
  parseEnum_inScope E hU T attrs ident gens vs e hs.camel hs.distinct h

/-! ## back-end half -/

/-- **outside the known classes every back end is correct on the wire** -/
theorem C02_backend (L : TsV.Lang) (E : Ext) (hU : E.U.AsciiCorrect) (acronyms : List Str) (e : RustEnum) (hs : InScopeEnum e)
    (hk : ¬ Known L E acronyms e) : LangOK L E acronyms e := by
  cases L with
  | typescript => intro cfg st d st' h; exact TS.correct cfg e hs st st' d h
  | kotlin => intro cfg ds hcU h; exact Kt.correct cfg hcU e hs ds h
  | swift => intro cfg st structs se st' h; exact Sw.correct E.U hU cfg e hs st st' structs se h
  | scala => intro cfg se h; exact Sc.correct cfg e hs se h
  | go =>
    intro cfg cs st d st' hac h
    simp only [Known, Classical.not_not] at hk
    exact Go.correct E.U cfg e cs st st' d (by rw [hac]; exact hk) h
  | python =>
    intro cfg st d st' h
    simp only [Known, Classical.not_not] at hk
    exact Py.correct E cfg e st st' d hk h

/-- **exact characterisation**: inside a known class *every* output fails the property (two cases
carry the same identifier) -/
theorem C02_known_fails_python (E : Ext) (e : RustEnum) (acronyms : List Str) (hk : Known .python E acronyms e)
    (cfg : Python.Cfg) (st st' : Python.St) (d : Py.EnumDecl) (h : Py.enumFacts E cfg e st = .ok (d, st')) :
    ¬ (Py.wire d).Correct e :=
  fun hc => Py.collide E cfg e st st' d hk h hc.distinct

theorem C02_known_fails_go (E : Ext) (e : RustEnum) (cfg : Go.Cfg) (hk : Known .go E cfg.uppercaseAcronyms e)
    (customStructs : List Str) (st st' : Go.Imports) (d : Go.EnumDecl)
    (h : Go.enumFacts E.U cfg e customStructs st = .ok (d, st')) : ¬ (Go.wire d).Correct e :=
  fun hc => Go.collide E.U cfg e customStructs st st' d hk h hc.distinct

/-- without `uppercase_acronyms` Go is never in its known class -/
theorem C02_go_no_acronyms (E : Ext) (e : RustEnum) (hs : InScopeEnum e) : ¬ Known .go E [] e := by
  simp only [Known, Classical.not_not]
  exact nodup_map_of_factors hs.distinct fun a _ b _ hab => Outcome.ok.inj hab

/-- Go inside its known class: names, order, number of cases and keys are still right — only
`Distinct` fails, and it fails exactly there -/
theorem C02_go_names_keys (E : Ext) (cfg : Go.Cfg) (e : RustEnum) (customStructs : List Str) (st st' : Go.Imports)
    (d : Go.EnumDecl) (h : Go.enumFacts E.U cfg e customStructs st = .ok (d, st')) :
    (Go.wire d).Names e ∧ (Go.wire d).Keys e ∧
      ((Go.wire d).Distinct ↔ ¬ Known .go E cfg.uppercaseAcronyms e) := by
  have f := Go.facts E.U cfg e customStructs st st' d h
  refine ⟨f.1, f.2.1, ?_⟩
  rw [Go.distinct_iff E.U cfg e customStructs st st' d h]
  simp [Known]

/-! ## the pinned tree does not satisfy the property at full strength -/

def exE : Ext := { U := .ascii, parseType := fun _ => none }

/-- `enum E { FooBar, Foobar }` as parsed -/
def pyWitness : RustEnum :=
  { keys := none, id := ⟨s%"E", s%"E", false⟩, genericTypes := [], comments := [],
    variants := [.unit ⟨s%"FooBar", s%"FooBar", false⟩ [], .unit ⟨s%"Foobar", s%"Foobar", false⟩ []],
    decorators := {}, isRecursive := false, isRedacted := false }

theorem pyWitness_inScope : InScopeEnum pyWitness := ⟨by decide +kernel, by decide +kernel⟩

theorem pyWitness_known : Known .python exE [] pyWitness := by decide +kernel

/-- Python writes `FOOBAR = "FooBar"` and `FOOBAR = "Foobar"`: two variants, one member -/
theorem pyWitness_output : ∃ d st', Py.enumFacts exE {} pyWitness {} = .ok (d, st') ∧
    (Py.wire d).cases = [⟨some s%"FOOBAR", some s%"FooBar"⟩, ⟨some s%"FOOBAR", some s%"Foobar"⟩] :=
  ⟨_, _, rfl, rfl⟩

theorem C02_not_full : ¬ C02_full := by
  intro h
  obtain ⟨d, st', hd, _⟩ := pyWitness_output
  exact C02_known_fails_python exE pyWitness [] pyWitness_known {} {} st' d hd
    (h.2 exE UnicodeOps.ascii_correct [] pyWitness pyWitness_inScope .python {} {} d st' hd)

/-- `enum E { UserId, UserID }` under `uppercase_acronyms = ["id"]`: one Go constant `EUserID` -/
def goWitness : RustEnum :=
  { pyWitness with
    variants := [.unit ⟨s%"UserId", s%"UserId", false⟩ [], .unit ⟨s%"UserID", s%"UserID", false⟩ []] }

theorem goWitness_known : Known .go exE [s%"id"] goWitness := by decide +kernel

theorem goWitness_output : ∃ d st', Go.enumFacts exE.U { uppercaseAcronyms := [s%"id"] } goWitness [] [] = .ok (d, st') ∧
    (Go.wire d).cases = [⟨some s%"EUserID", some s%"UserId"⟩, ⟨some s%"EUserID", some s%"UserID"⟩] :=
  ⟨_, _, rfl, rfl⟩

/-! ## the partial theorem -/

/-- **C02 outside the known classes**: the parser gives serde's names and keys, and every back end
whose input is not in its known class writes them correctly, one case per variant -/
theorem C02_partial :
    (∀ (E : Ext), E.U.AsciiCorrect → ∀ T attrs ident gens vs, InScopeSrc vs → ParseOK E T attrs ident gens vs) ∧
    (∀ (E : Ext), E.U.AsciiCorrect → ∀ (acronyms : List Str) (e : RustEnum), InScopeEnum e →
      ∀ L, ¬ Known L E acronyms e → LangOK L E acronyms e) :=
  ⟨fun E hU T attrs ident gens vs hs => C02_parse E hU T attrs ident gens vs hs,
   fun E hU acronyms e hs L hk => C02_backend L E hU acronyms e hs hk⟩

/-- **end to end**: whatever a back end's output says for an enum parsed from an in-scope source —
if it is `Correct` for the parsed enum (`C02_backend`) — its cases are, in order, the non-skipped
source variants under serde's names, and every key it prints is the value of serde's `tag` /
`content` attribute -/
theorem C02_end_to_end (E : Ext) (hU : E.U.AsciiCorrect) (T : List Str) (attrs : List Attr) (ident : Str)
    (gens : List GenericParam) (vs : List Variant) (hs : InScopeSrc vs) (e : RustEnum)
    (h : parseEnum E T attrs ident gens vs = .ok (.enum e)) (w : EnumWire) (hw : w.Correct e) :
    w.cases.map (·.wire) = (vs.filter fun v => !isSkipped v.attrs T).map (variantName? E (serdeRenameAll E attrs)) ∧
    ∀ k, ((Role.tag, k) ∈ w.holes → getTagKey E attrs = some k) ∧
         ((Role.content, k) ∈ w.holes → getContentKey E attrs = some k) := by
  obtain ⟨hn, hu, hd⟩ := C02_parse E hU T attrs ident gens vs hs e h
  refine ⟨hw.names.trans hn, ?_⟩
  intro k
  have hkeys := hw.keys
  unfold EnumWire.Keys at hkeys
  cases hall : e.variants.all variantIsUnit with
  | true =>
    rw [hu hall] at hkeys
    simp only at hkeys
    rw [hkeys]
    simp
  | false =>
    obtain ⟨t, c, ht, hc, hk⟩ := hd hall
    rw [hk] at hkeys
    simp only at hkeys
    constructor
    · intro hm
      rcases hkeys _ hm with h1 | h1
      · cases h1; exact ht
      · cases h1
    · intro hm
      rcases hkeys _ hm with h1 | h1
      · cases h1
      · cases h1; exact hc

/-! ## the ties between facts, templates and the text the model writes -/

/-- TypeScript / Go / Python: the fact records defined for this property render to exactly what the
model's `write_enum` writes (Kotlin, Swift and Scala models are defined through their fact records) -/
theorem ts_facts_render (cfg : TypeScript.Cfg) (e : RustEnum) (st : TypeScript.CustomMap) :
    TypeScript.writeEnum cfg e st = (TS.enumFacts cfg e st).bind fun (d, st) => .ok (TS.renderEnumDecl d, st) :=
  TS.writeEnum_eq cfg e st

theorem go_facts_render (U : UnicodeOps) (cfg : Go.Cfg) (e : RustEnum) (cs : List Str) (st : Go.Imports) :
    Go.writeEnum U cfg e cs st = (Go.enumFacts U cfg e cs st).bind fun (d, st) => .ok (Go.renderDecl d, st) :=
  Go.writeEnum_eq U cfg e cs st

theorem py_facts_render (E : Ext) (cfg : Python.Cfg) (e : RustEnum) (st : Python.St) :
    Python.writeEnum E cfg e st = (Py.enumFacts E cfg e st).bind fun (d, st) => .ok (Py.renderDecl d, st) :=
  Py.writeEnum_eq E cfg e st

/-- Swift: the `Codable` conformance (`ContainerCodingKeys`, `init(from:)`, `encode(to:)`) is the
template, and every one of its holes — `case tag, content`, `forKey: .tag` of the decoder, one or two
`forKey: .content` per payload decode arm, `forKey: .tag` (+ `forKey: .content`) per encode arm — is
filled from the record's two key fields -/
theorem swift_codec_template (a : Swift.AlgebraicCodable) :
    flat (Sw.codableSegs a) = Swift.renderCodable a ∧
    ∀ h ∈ holesOf (Sw.codableSegs a), h = (.tag, a.tagKey) ∨ h = (.content, a.contentKey) :=
  ⟨Sw.codable_flat a, Sw.codable_holes a⟩

/-- Go: the whole output for an algebraic enum is the template, whose holes are exactly these five -/
theorem go_codec_template (d : Go.GoAlgEnum) :
    flat (Go.algSegs d) = Go.renderAlgEnum d ∧
    holesOf (Go.algSegs d) =
      [(.tag, d.tagKey), (.tag, d.tagKey), (.content, d.contentKey), (.tag, d.tagKey), (.content, d.contentKey)] :=
  ⟨Go.alg_flat d, Go.alg_holes d⟩

/-- on the property's key alphabet a `{:?}` hole prints the key between plain double quotes -/
theorem debug_hole_plain (k : Str) (h : ∀ c ∈ k, plainChar c = true) :
    (Seg.hole .tag .debug k).text = ['"'] ++ k ++ ['"'] := debugStr_plain k h

/-! ## non-vacuity -/

/-- `#[serde(tag = "type", content = "content", rename_all = "camelCase")]
    enum E<T> { FooBar, #[serde(rename = "b-x")] Baz(Option<T>), Q1 { a: u8 }, #[serde(skip)] Gone }` -/
def exAttrs : List Attr :=
  [⟨.path [s%"typeshare"]⟩,
   ⟨.list [s%"serde"] true [.nameValue [s%"tag"] (some (.str s%"type")), .nameValue [s%"content"] (some (.str s%"content"))]⟩,
   ⟨.list [s%"serde"] true [.nameValue [s%"rename_all"] (some (.str s%"camelCase"))]⟩]

def exVs : List Variant :=
  [⟨[], s%"FooBar", .unit⟩,
   ⟨[⟨.list [s%"serde"] true [.nameValue [s%"rename"] (some (.str s%"b-x"))]⟩], s%"Baz",
     .unnamed [⟨[], none, .path [] s%"Option" [.path [] s%"T" []]⟩]⟩,
   ⟨[], s%"Q1", .named [⟨[], some s%"a", .path [] s%"u8" []⟩]⟩,
   ⟨[⟨.list [s%"serde"] true [.path [s%"skip"]]⟩], s%"Gone", .unit⟩]

example : InScopeSrc exVs := ⟨by decide +kernel, by decide +kernel⟩

/-- serde's names of the three non-skipped variants -/
example : ((exVs.filter fun v => !isSkipped v.attrs []).map (variantName? exE (serdeRenameAll exE exAttrs))) =
    [some s%"fooBar", some s%"b-x", some s%"q1"] := by decide +kernel

/-- … and the parser's -/
example : (match parseEnum exE [] exAttrs s%"E" [.type s%"T"] exVs with
    | .ok (.enum e) => some (e.variants.map (·.id.renamed), e.keys)
    | _ => none) = some ([s%"fooBar", s%"b-x", s%"q1"], some (s%"type", s%"content")) := by decide +kernel

/-- the same enum as parsed -/
def exEnum : RustEnum :=
  { keys := some (s%"type", s%"content"), id := ⟨s%"E", s%"E", false⟩, genericTypes := [s%"T"], comments := [],
    variants := [.unit ⟨s%"FooBar", s%"fooBar", false⟩ [],
                 .tuple ⟨s%"Baz", s%"b-x", true⟩ [] (.option (.simple s%"T")),
                 .anonymousStruct ⟨s%"Q1", s%"q1", false⟩ []
                   [{ id := ⟨s%"a", s%"a", false⟩, ty := .prim .u8, comments := [], hasDefault := false, decorators := [] }]],
    decorators := {}, isRecursive := false, isRedacted := false }

theorem exEnum_inScope : InScopeEnum exEnum := ⟨by decide +kernel, by decide +kernel⟩

example : ¬ Known .python exE [] exEnum := by decide +kernel
example : ¬ Known .go exE [s%"id", s%"q"] exEnum := by decide +kernel

/-- what each back end's output says for `exEnum` (the cases and, in order, every key hole) -/
example : ∃ d st', TS.enumFacts {} exEnum [] = .ok (d, st') ∧ TS.wire d =
    { cases := [⟨none, some s%"fooBar"⟩, ⟨none, some s%"b-x"⟩, ⟨none, some s%"q1"⟩],
      holes := [(.tag, s%"type"), (.content, s%"content"), (.tag, s%"type"), (.content, s%"content"),
                (.tag, s%"type"), (.content, s%"content")] } := ⟨_, _, rfl, rfl⟩

example : ∃ ds, Kotlin.enumFacts {} exEnum = .ok ds ∧ Kt.wire ds =
    { cases := [⟨some s%"FooBar", some s%"fooBar"⟩, ⟨some s%"Baz", some s%"b-x"⟩, ⟨some s%"Q1", some s%"q1"⟩],
      holes := [(.content, s%"content"), (.content, s%"content")] } := ⟨_, rfl, rfl⟩

example : ∃ se, Scala.enumFacts {} exEnum = .ok se ∧ Sc.wire se =
    { cases := [⟨some s%"FooBar", some s%"fooBar"⟩, ⟨some s%"Baz", some s%"b-x"⟩, ⟨some s%"Q1", some s%"q1"⟩],
      holes := [(.content, s%"content"), (.content, s%"content")] } := ⟨_, rfl, rfl⟩

/-- Swift: `ContainerCodingKeys` (tag, content), `forKey: .type` in `init(from:)`, the decode arms of
the two payload cases (`Baz` is an `Option`: two content holes), then tag / content per encode arm -/
example : ∃ ss se st', Swift.enumFacts .ascii {} exEnum false = .ok (ss, se, st') ∧ Sw.wire se =
    { cases := [⟨some s%"fooBar", some s%"fooBar"⟩, ⟨some s%"baz", some s%"b-x"⟩, ⟨some s%"q1", some s%"q1"⟩],
      holes := [(.tag, s%"type"), (.content, s%"content"), (.tag, s%"type"),
                (.content, s%"content"), (.content, s%"content"), (.content, s%"content"),
                (.tag, s%"type"), (.tag, s%"type"), (.content, s%"content"), (.tag, s%"type"), (.content, s%"content")] } :=
  ⟨_, _, _, rfl, rfl⟩

example : ∃ d st', Go.enumFacts .ascii { uppercaseAcronyms := [s%"id", s%"q"] } exEnum [] [] = .ok (d, st') ∧ Go.wire d =
    { cases := [⟨some s%"ETypeVariantFooBar", some s%"fooBar"⟩, ⟨some s%"ETypeVariantBaz", some s%"b-x"⟩,
                ⟨some s%"ETypeVariantQ1", some s%"q1"⟩],
      holes := [(.tag, s%"type"), (.tag, s%"type"), (.content, s%"content"), (.tag, s%"type"), (.content, s%"content")] } :=
  ⟨_, _, rfl, rfl⟩

example : ∃ d st', Py.enumFacts exE {} exEnum {} = .ok (d, st') ∧ Py.wire d =
    { cases := [⟨some s%"ETypes.FOOBAR", some s%"fooBar"⟩, ⟨some s%"ETypes.B-X", some s%"b-x"⟩,
                ⟨some s%"ETypes.Q1", some s%"q1"⟩],
      holes := [(.tag, s%"type"), (.tag, s%"type"), (.content, s%"content"), (.tag, s%"type"), (.content, s%"content")] } :=
  ⟨_, _, rfl, rfl⟩

/-- a unit enum in Swift: the raw value is printed only where it differs from the case name -/
example : Sw.wire (match Swift.enumFacts .ascii {} pyWitness false with | .ok (_, se, _) => se | _ => default) =
    { cases := [⟨some s%"fooBar", some s%"FooBar"⟩, ⟨some s%"foobar", some s%"Foobar"⟩], holes := [] } := by
  decide +kernel

end TsV.C02
