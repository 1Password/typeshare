import TsV.Lemmas.C20_Folder
import TsV.Lemmas.RunEval
/-!
# C20, folder output — the configured package reaches every module unchanged

In a folder run (`-d`, `Generate.run … (multiFile := true)`) one back-end value is built from the effective
configuration (`TsV.C20.precedence`) and reused for every crate.  The statements say that the package the
*k*-th module declares is a function of the configured package (and, for Kotlin, of that module's crate
name) only — not of the position of the module in the run, not of what was printed before:

* `C20_Folder` (`C20_Folder_full`), over every folder run that produces output:
  - **Kotlin**, package `P ≠ ""`: the module of crate `c` is
    `<version header>? package P.c ⏎ <the two kotlinx imports> <import lines> ⏎ <declarations>` and every import
    line is `C14I.ktImportLine cfg b t` = `import P.b.<prefix>t` for an entry `(b, t)` of the scoped imports of
    that crate's job (the lines `TsV.C14.import_line_kotlin` finds in the text): the same `P` everywhere;
    with `P = ""` the module has no package line (and no import block) at all;
  - **Scala**: the module is `renderFile` of facts whose `parent` / `last` are the configured package split
    at its last dot (`rsplitOnceDot_spec`), so it starts `<version header>? package <parent> ⏎ ⏎` (when there
    is a dot) and its package object / package block are named `<last>`;
  - **Go**: the module starts `<version header>? package P ⏎ ⏎`.
* `module_alone_kotlin` / `module_alone_scala`: the *k*-th module of `generateAll cfg jobs` is literally what
  `generateAll cfg [job k]` writes — the earlier jobs leave nothing behind.  Go threads its import set
  through the jobs (a fact about imports, not the package): `module_go_any_state` — whatever state the earlier
  jobs left, the module starts with the same package line.

Trusted reading (binding semantics): "the module declares package `X`" = the text is the optional version
comment followed by the line `package X` (`ktVersion`/`goVersion`/`scVersion`).
-/
namespace TsV.C20_Folder
open TsV TsV.Lang TsV.Generate TsV.Pipeline TsV.C06M TsV.C11M TsV.C14I TsV.C20F

/-- **independence of the earlier jobs, Kotlin**: module `k` is what a run of job `k` alone writes -/
theorem module_alone_kotlin (E : Ext) (cfg : Kotlin.Cfg) (mf : Bool) (jobs : List Job) (outs : List (Str × Str))
    (h : Kotlin.generateAll E cfg mf jobs = .ok outs) (k : Nat) (j : Job) (hk : jobs[k]? = some j) :
    ∃ text, outs[k]? = some (j.1, text) ∧ Kotlin.generateAll E cfg mf [j] = .ok [(j.1, text)] := by
  obtain ⟨text, ho, hm⟩ := (kotlin_mods E cfg jobs outs h).get k j hk
  refine ⟨text, ho, ?_⟩
  obtain ⟨c, d, imps⟩ := j
  have hm' : Kotlin.generate cfg d imps = .ok text := hm
  simp [Kotlin.generateAll, Kotlin.generateFrom, hm']

/-- **independence of the earlier jobs, Scala** -/
theorem module_alone_scala (E : Ext) (cfg : Scala.Cfg) (mf : Bool) (jobs : List Job) (outs : List (Str × Str))
    (h : Scala.generateAll E cfg mf jobs = .ok outs) (k : Nat) (j : Job) (hk : jobs[k]? = some j) :
    ∃ text, outs[k]? = some (j.1, text) ∧ Scala.generateAll E cfg mf [j] = .ok [(j.1, text)] := by
  obtain ⟨text, ho, hm⟩ := (scala_mods E cfg jobs outs h).get k j hk
  refine ⟨text, ho, ?_⟩
  obtain ⟨c, d, imps⟩ := j
  have hm' : Scala.generate cfg d = .ok text := hm
  simp [Scala.generateAll, Scala.generateFrom, hm']

/-- **Go, whatever the printer state**: module `k` is `generate_types` of job `k` in the import set the
earlier jobs left, and in *every* state that text starts with the configured package line -/
theorem module_go_any_state (E : Ext) (cfg : Go.Cfg) (mf : Bool) (jobs : List Job) (outs : List (Str × Str))
    (h : Go.generateAll E cfg mf jobs = .ok outs) (k : Nat) (j : Job) (hk : jobs[k]? = some j) :
    ∃ text, outs[k]? = some (j.1, text) ∧ (∃ st st', Go.generate E.U cfg j.2.1 st = .ok (text, st')) ∧
      ∃ rest, text = goVersion cfg ++ s%"package " ++ cfg.package ++ s%"\n\n" ++ rest := by
  obtain ⟨text, ho, st, st', hm⟩ := (go_mods E cfg jobs [] outs h).get k j hk
  exact ⟨text, ho, ⟨st, st', hm⟩, go_generate_package E.U cfg j.2.1 st text st' hm⟩

/-- **C20_Folder at full strength**: every folder run that produces output, Kotlin / Scala / Go -/
def C20_Folder_full : Prop :=
  (∀ (E : Ext) (cfg : Kotlin.Cfg) (targetOs : List Str) (pick : List ImportedType → Option ImportedType)
      (files : List SourceFile) (outs : List (Str × Str)),
      Generate.run E (.kotlin cfg) true targetOs pick files = .ok (.outputs outs) →
      ∀ p ∈ outs, ∃ (imps : ScopedCrateTypes) (body : Str),
        (cfg.package ≠ [] →
          p.2 = ktVersion cfg ++ s%"package " ++ cfg.package ++ s%"." ++ p.1 ++ s%"\n" ++ ktStdImports ++
            (imps.flatMap fun ct => ct.2.flatMap fun t => ktImportLine cfg ct.1 t) ++ s%"\n" ++ body) ∧
        (cfg.package = [] →
          p.2 = (imps.flatMap fun ct => ct.2.flatMap fun t => ktImportLine cfg ct.1 t) ++ s%"\n" ++ body)) ∧
  (∀ (E : Ext) (cfg : Scala.Cfg) (targetOs : List Str) (pick : List ImportedType → Option ImportedType)
      (files : List SourceFile) (outs : List (Str × Str)),
      Generate.run E (.scala cfg) true targetOs pick files = .ok (.outputs outs) →
      ∀ p ∈ outs, ∃ (f : Scala.ScFile) (rest : Str),
        p.2 = Scala.renderFile f ∧ f.parent = (Scala.rsplitOnceDot cfg.package).map (·.1) ∧
        f.last = Scala.lastPackageSegment cfg.package ∧
        p.2 = scVersion cfg ++ scParentLine cfg.package ++ rest) ∧
  (∀ (E : Ext) (cfg : Go.Cfg) (targetOs : List Str) (pick : List ImportedType → Option ImportedType)
      (files : List SourceFile) (outs : List (Str × Str)),
      Generate.run E (.go cfg) true targetOs pick files = .ok (.outputs outs) →
      ∀ p ∈ outs, ∃ rest, p.2 = goVersion cfg ++ s%"package " ++ cfg.package ++ s%"\n\n" ++ rest)

/-- **C20_Folder.**  The model satisfies the statement. -/
theorem C20_Folder : C20_Folder_full := by
  refine ⟨?_, ?_, ?_⟩
  · intro E cfg targetOs pick files outs h p hp
    obtain ⟨arrivals, ha, j, hj, hj1, hmod⟩ :=
      folder_out_module E (.kotlin cfg) (fun _ _ h => h) targetOs pick files outs h p hp
    obtain ⟨v, hv, _, hvc, hvu⟩ := job_inv (collect arrivals) j hj
    have hcn : j.2.1.crateName = p.1 := by rw [← hj1]; exact hvc.trans (entry_crateName arrivals j.1 v hv)
    have hmf := job_multiFile arrivals (arrivals_multiFile E _ rfl pick files arrivals ha) j hj
    have hmod' : Kotlin.generate cfg j.2.1 j.2.2 = .ok p.2 := hmod
    obtain ⟨imps, hvu'⟩ : ∃ imps, j.2.2 = some imps := ⟨_, hvu⟩
    rw [hvu'] at hmod'
    obtain ⟨body, hb⟩ := kt_generate_shape cfg j.2.1 imps p.2 hmf hmod'
    refine ⟨imps, body, fun hne => ?_, fun he => ?_⟩
    · rw [hb, kt_beginFile_package cfg j.2.1 hmf hne, hcn]
      simp only [writeImports_lines, List.append_assoc]
    · rw [hb, kt_beginFile_empty cfg j.2.1 he]
      simp only [writeImports_lines, List.nil_append, List.append_assoc]
  · intro E cfg targetOs pick files outs h p hp
    obtain ⟨arrivals, ha, j, hj, hj1, hmod⟩ :=
      folder_out_module E (.scala cfg) (fun _ _ h => h) targetOs pick files outs h p hp
    have hmod' : Scala.generate cfg j.2.1 = .ok p.2 := hmod
    exact sc_generate_package cfg j.2.1 p.2 hmod'
  · intro E cfg targetOs pick files outs h p hp
    obtain ⟨arrivals, ha, j, hj, hj1, st, st', hmod⟩ :=
      folder_out_module E (.go cfg) (fun _ _ h => h) targetOs pick files outs h p hp
    exact go_generate_package E.U cfg j.2.1 st p.2 st' hmod

/-- **the Kotlin import lines use the same package as the package line** (tie to
`TsV.C14.import_line_kotlin`): the line that theorem finds in the module of crate `A` for an imported
`(B, T)`, and the package line of the module of crate `B` that defines `T`, are built from the one `cfg.package` -/
theorem kotlin_import_matches_package (E : Ext) (cfg : Kotlin.Cfg) (targetOs : List Str)
    (pick : List ImportedType → Option ImportedType) (files : List SourceFile)
    (arrivals : List ParsedData) (outs : List (Str × Str))
    (hparse : Generate.parseAll E (C14.runCtx (.kotlin cfg) targetOs) pick files = .ok arrivals)
    (hrun : Generate.run E (.kotlin cfg) true targetOs pick files = .ok (.outputs outs))
    (hpkg : cfg.package ≠ [])
    (A B T : Str) (himp : C14.ImportedInJob arrivals A B T) (textB : Str) (hB : (B, textB) ∈ outs) :
    (∃ textA, (A, textA) ∈ outs ∧
      (s%"import " ++ (cfg.package ++ s%"." ++ B) ++ s%"." ++ cfg.pfx ++ T ++ s%"\n") <:+: textA) ∧
    ∃ rest, textB = ktVersion cfg ++ s%"package " ++ (cfg.package ++ s%"." ++ B) ++ s%"\n" ++ rest := by
  constructor
  · obtain ⟨textA, hA, hl⟩ := C14.import_line_kotlin E cfg targetOs pick files arrivals outs hparse hrun A B T himp
    refine ⟨textA, hA, ?_⟩
    rw [← List.append_assoc (s%"import "), ← List.append_assoc (s%"import ")]
    exact hl
  · obtain ⟨imps, body, h1, _⟩ := C20_Folder.1 E cfg targetOs pick files outs hrun (B, textB) hB
    refine ⟨ktStdImports ++ (imps.flatMap fun ct => ct.2.flatMap fun t => ktImportLine cfg ct.1 t) ++ s%"\n" ++ body, ?_⟩
    have := h1 hpkg
    simp only [List.append_assoc] at this ⊢
    exact this

/-! ## non-vacuity: three crates, package `com.cli`, in two different arrival orders -/

def mkField (name : Str) (ty : RustType) : RustField :=
  { id := ⟨name, name, false⟩, ty, comments := [], hasDefault := false, decorators := [] }
def mkStruct (name : Str) (fields : List RustField) : RustStruct :=
  { id := ⟨name, name, false⟩, genericTypes := [], fields, comments := [], decorators := {}, isRedacted := false }

def jobA : Job := (s%"alpha", { structs := [mkStruct s%"A" [mkField s%"n" (.prim .u8)]], crateName := s%"alpha", multiFile := true }, some [])
def jobB : Job := (s%"beta", { structs := [mkStruct s%"B" [mkField s%"a" (.simple s%"A")]], crateName := s%"beta", multiFile := true },
  some [(s%"alpha", [s%"A"])])
def jobC : Job := (s%"gamma", { structs := [mkStruct s%"C" [mkField s%"s" (.prim .string)]], crateName := s%"gamma", multiFile := true }, some [])

def exE : Ext := { U := .ascii, parseType := fun _ => none }
def ktCfg : Kotlin.Cfg := { package := s%"com.cli" }


/-- the third module of the run `[alpha, beta, gamma]` declares `com.cli.gamma` — not `com.cli.alpha.beta.gamma` —
and `beta` imports from `com.cli.alpha` -/
example : Kotlin.generateAll exE ktCfg true [jobA, jobB, jobC] = .ok
    [(s%"alpha", s%"package com.cli.alpha\n\nimport kotlinx.serialization.Serializable\nimport kotlinx.serialization.SerialName\n\n\n@Serializable\ndata class A (\n\tval n: UByte\n)\n\n"),
     (s%"beta", s%"package com.cli.beta\n\nimport kotlinx.serialization.Serializable\nimport kotlinx.serialization.SerialName\n\nimport com.cli.alpha.A\n\n@Serializable\ndata class B (\n\tval a: A\n)\n\n"),
     (s%"gamma", s%"package com.cli.gamma\n\nimport kotlinx.serialization.Serializable\nimport kotlinx.serialization.SerialName\n\n\n@Serializable\ndata class C (\n\tval s: String\n)\n\n")] := by
  rw [Kotlin.generateAll, RunEval.Kotlin.generateFrom_eq]
  decide +kernel

/-- the hypothesis of `module_alone_kotlin` for the last job -/
example : [jobA, jobB, jobC][2]? = some jobC := rfl

/-- Scala: `com.cli.types` splits into `com.cli` and `types`; a name without a dot has no parent line -/
example : Scala.rsplitOnceDot s%"com.cli.types" = some (s%"com.cli", s%"types") ∧
    Scala.lastPackageSegment s%"com.cli.types" = s%"types" ∧
    Scala.rsplitOnceDot s%"types" = none ∧ Scala.lastPackageSegment s%"types" = s%"types" := by decide +kernel

end TsV.C20_Folder
