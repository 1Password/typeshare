import TsV.Model.Generate
import TsV.Lemmas.C04_Parse
import TsV.Lemmas.C04_TypeScript
import TsV.Lemmas.C04_Kotlin
import TsV.Lemmas.C04_Swift
import TsV.Lemmas.C04_Scala
import TsV.Lemmas.C04_Go
import TsV.Lemmas.C04_GoAcr
import TsV.Lemmas.C04_Python
/-!
# C04 — a generated field is optional iff the Rust field is `Option<T>` or `serde(default)`

STATEMENT (given): a field (or newtype-variant payload) is marked optional/nullable in the generated
definition, using the target language's idiom, exactly when its Rust type is `Option<T>` or the
field carries the bare `serde(default)` attribute; otherwise it is required.  The optional marker
never changes the underlying translated type, and `Option<Option<T>>` stays distinguishable from
`Option<T>` where the back end supports it (TypeScript `?` plus `| null`).

Layout of the formal statement (`C04_full`):

* `ParseClause` — the two sources of optionality as the parser computes them are exactly the
  specification on the source (`bareDefault`, `isOptionSyn`, `isDoubleOptionSyn`, all defined in
  `Lemmas/C04_Parse.lean` without reference to the parser model), for named fields, newtype
  payloads, newtype structs and aliases.
* `FieldClause` — for every back end and configuration and every field in the property's
  quantifier (`InScope`): the declaration generated for the field *means* (binding semantics
  `Declares`) "optional" exactly when `opt f`, and its type without the marker is the translation
  (`Translates`) of the `Option`-stripped Rust type.
* `DoubleOptionClause` — TypeScript prints ` | null` exactly for `Option<Option<_>>`.
* `OptionTypeClause` — where the marker lives in the type (payloads, aliases, nested positions):
  the translation of `Option<r>` is the language's optional-type constructor applied to the
  translation of `r`.
* `PayloadClause`, `AliasClause` — newtype payloads and aliases print the translation of their
  type (TypeScript additionally `content?:` / ` | undefined` exactly for `Option<_>`).

The model (= the current code) violates `FieldClause` in one class: Scala prints `name: T = _` for
a non-`Option` field with `serde(default)`.  Hence `C04_not_full`, `Known_scalaDefaultNonOption`,
`C04_partial` (everything else holds) and `C04_known_exact` (inside the class it always fails).

Trusted specification (binding semantics) — small functions in the `Lemmas/C04_*.lean` files:
`Ts.isOptional/stripOptional/orNull`, `Kt.isOptional/stripOptional`, `Sw.isOptional/stripOptional`,
`Sc.isOptional/stripOptional`, `Go.isOptional/stripOptional`, `Py.Denotes` (relation, because of the
`Annotated[…]` wrapper), and on the source side `bareDefault`, `peel`, `isOptionSyn`,
`isDoubleOptionSyn`, `effectiveType`; in this file `Declares`, `Translates`, `optionalType`.
-/
namespace TsV.C04
open TsV TsV.Syn TsV.Parser TsV.RustTypes TsV.Lang TsV.Generate

/-! ## the statement -/

/-- **binding semantics of one generated field declaration**: the declaration back end `B`
generates for field `f` (of a struct or struct variant with generic parameters `gens`) says
"optional" iff `o`, and `core` is its type text without the optional marker.  (Swift: the stored
property and the initialiser parameter carry the same pair; `Sw.field` is stated on it.) -/
def Declares (E : Ext) (gens : List Str) (f : RustField) : LangCfg → Bool → Str → Prop
  | .typescript cfg, o, core =>
    ∃ st st' tf, TypeScript.fieldFacts cfg gens f st = .ok (tf, st') ∧
      Ts.isOptional tf = o ∧ Ts.stripOptional tf = core
  | .kotlin cfg, o, core =>
    ∃ rsn priv p, Kotlin.paramFacts cfg gens rsn priv f = .ok p ∧
      Kt.isOptional p = o ∧ Kt.stripOptional p = core
  | .swift cfg, o, core =>
    ∃ st st' ty, Swift.fieldType cfg gens f st = .ok (ty, st') ∧
      Sw.isOptional ty (Swift.fieldOptional f) = o ∧ Sw.stripOptional ty (Swift.fieldOptional f) = core
  | .scala cfg, o, core =>
    ∃ p, Scala.paramFacts cfg gens f = .ok p ∧ Sc.isOptional p = o ∧ Sc.stripOptional p = core
  | .go cfg, o, core =>
    ∃ st st' g, Go.fieldFacts E.U cfg f st = .ok (g, st') ∧
      Go.isOptional cfg g = o ∧ Go.stripOptional g = core
  | .python cfg, o, core =>
    ∃ st st' p, Python.fieldFacts E cfg gens f st = .ok (p, st') ∧ Py.Denotes p o core

/-- `s` is back end `B`'s translation of the Rust type `t` (`Language::format_type`, for some
printer state — the state only collects imports; for Go followed by the acronym pass that
`write_field` applies to type texts) -/
def Translates (E : Ext) (gens : List Str) (t : RustType) : LangCfg → Str → Prop
  | .typescript cfg, s => ∃ st st', TypeScript.formatType cfg gens t st = .ok (s, st')
  | .kotlin cfg, s => Kotlin.formatType cfg gens t = .ok s
  | .swift cfg, s => ∃ st st', Swift.formatType cfg gens t st = .ok (s, st')
  | .scala cfg, s => Scala.formatType cfg gens t = .ok s
  | .go cfg, s => ∃ st st' raw, Go.formatType cfg t st = .ok (raw, st') ∧ Go.acr E.U cfg raw = .ok s
  | .python cfg, s => ∃ st st', Python.formatType cfg gens t st = .ok (s, st')

/-- the configured type mappings do not replace the `Option<…>` type `t` itself (only the back
ends whose `format_special_type` consults the mappings are concerned) -/
def NoOptionMapping (t : RustType) : LangCfg → Prop
  | .typescript cfg => NoOptionKey cfg.typeMappings t
  | .go cfg => NoOptionKey cfg.typeMappings t
  | .python cfg => NoOptionKey cfg.typeMappings t
  | _ => True

/-- the per-language field decorator `#[typeshare(<lang>(type = "…"))]` -/
def overrideOf (f : RustField) : LangCfg → Option Str
  | .typescript _ => typeOverride f .typescript
  | .kotlin _ => typeOverride f .kotlin
  | .swift _ => typeOverride f .swift
  | .scala _ => typeOverride f .scala
  | .go _ => typeOverride f .go
  | .python _ => none            -- the Python back end never reads type overrides

/-- **the property's quantifier** over fields and configurations: every field type, with or
without `serde(default)`, every configuration (prefix, package, type mappings, `no_pointer_slice`,
acronyms …) except
* a per-language `type = "…"` override on the field (the user's text replaces the translated type
  altogether; the property's quantifier has no such dimension — what happens then is described by
  the `*.field_override` lemmas),
* a type mapping keyed by the field's own `Option<…>` type (replaces the optional type by
  configuration), and for Go with `no_pointer_slice` one keyed by the `Vec<…>` under the `Option`,
* Swift: a head identifier whose translation itself ends in `?` (`Sw.HeadNoQ`; never the case for
  Rust identifiers with mappings/prefixes that do not end in `?`, see `Sw.formatSimple_noQ`),
* Go: an acronym whose Pascal-cased pattern is empty or begins with `*`, `[` or `]`
  (`Go.SaneAcronyms`; never the case for alphanumeric acronyms). -/
def InScope (gens : List Str) (f : RustField) (B : LangCfg) : Prop :=
  overrideOf f B = none ∧ NoOptionMapping f.ty B ∧
  (match B with
   | .swift cfg => f.ty.isOptional = false → Sw.HeadNoQ cfg gens f.ty
   | .go cfg => Go.SliceUnmapped cfg f.ty ∧ Go.SaneAcronyms cfg
   | _ => True)

/-- what C04 demands of one field in one back end: every reading of the generated declaration
says "optional" exactly when `opt f`, and the declaration reads with the translation of the
`Option`-stripped Rust type as its type without the marker.  (For the five back ends whose
semantics is a function the reading is unique, so `core' = core`: `C04_partial_functional`.
For Python the same text reads bare or as `Annotated[…]`, hence the existential.) -/
def FieldSpec (E : Ext) (B : LangCfg) (gens : List Str) (f : RustField) : Prop :=
  ∀ o core, Declares E gens f B o core →
    o = opt f ∧ ∃ core', Declares E gens f B o core' ∧ Translates E gens (stripOption f.ty) B core'

/-- source side: `has_default`, `is_optional`, `is_double_optional` are the specification -/
def ParseClause : Prop :=
  (∀ (E : Ext) (cf : Bool) (ra : Option Str) (f : Field) (rf : RustField),
    parseField E cf ra f = .ok rf →
      rf.hasDefault = bareDefault f.attrs ∧
      ∃ t, effectiveType E f.attrs f.ty = some t ∧
        rf.ty.isOptional = isOptionSyn t ∧ rf.ty.isDoubleOptional = isDoubleOptionSyn t) ∧
  -- newtype payloads, newtype structs, aliases: only the type matters
  (∀ (E : Ext) (attrs : List Attr) (ty : SynType) (r : RustType),
    fieldType E attrs ty = .ok r →
      ∃ t, effectiveType E attrs ty = some t ∧
        r.isOptional = isOptionSyn t ∧ r.isDoubleOptional = isDoubleOptionSyn t)

def FieldClause : Prop :=
  ∀ (E : Ext) (B : LangCfg) (gens : List Str) (f : RustField), InScope gens f B → FieldSpec E B gens f

def DoubleOptionClause : Prop :=
  ∀ (cfg : TypeScript.Cfg) (gens : List Str) (f : RustField) (st st' : TypeScript.CustomMap)
    (tf : TypeScript.TsField),
    TypeScript.fieldFacts cfg gens f st = .ok (tf, st') → Ts.orNull tf = f.ty.isDoubleOptional

/-- each language's optional *type* constructor, applied to the translation `s` of `r` -/
def optionalType (r : RustType) (s : Str) : LangCfg → Str
  | .typescript _ => s                       -- erased; the marker goes on the key (`?`, `| undefined`)
  | .kotlin _ => s ++ s%"?"
  | .swift _ => s ++ s%"?"
  | .scala _ => s%"Option[" ++ s ++ s%"]"
  | .go cfg => Go.ptr cfg r ++ s             -- `*`, or nothing for a slice under `no_pointer_slice`
  | .python _ => s%"Optional[" ++ s ++ s%"]"

def OptionTypeClause : Prop :=
  ∀ (E : Ext) (B : LangCfg) (gens : List Str) (r : RustType) (s : Str),
    NoOptionMapping (.option r) B →
    (match B with | .go cfg => Go.SaneAcronyms cfg | _ => True) →
    Translates E gens (.option r) B s →
      ∃ s0, Translates E gens r B s0 ∧ s = optionalType r s0 B

/-- newtype-variant payloads: the translation of the payload type is what is printed
(TypeScript: and `content?:` exactly for `Option<_>`) -/
def PayloadClause : Prop :=
  (∀ cfg e tag content id cs ty st st' text,
    TypeScript.writeVariant cfg e tag content (.tuple id cs ty) st = .ok (text, st') →
    ∃ t, TypeScript.formatType cfg e.genericTypes ty st = .ok (t, st') ∧
      text = nl ++ TypeScript.comments 1 cs ++ s%"\t| { " ++ tag ++ s%": " ++ debugStr id.renamed ++ s%", " ++
        content ++ (if ty.isOptional then s%"?" else []) ++ s%": " ++ t ++ s%" }") ∧
  (∀ cfg e ck id cs ty c, Kotlin.caseFacts cfg e ck (.tuple id cs ty) = .ok c →
    ∃ t, c.payload = .content ck t ∧ Kotlin.formatType cfg e.genericTypes ty = .ok t) ∧
  (∀ U cfg e id cs ty st st' c, Swift.algebraicCase U cfg e (.tuple id cs ty) st = .ok (c, st') →
    ∃ t, c.payload = some ⟨Swift.kw t, ty.isOptional⟩ ∧
      Swift.formatType cfg e.genericTypes ty st = .ok (t, st')) ∧
  (∀ cfg e tag ck id cs ty c, e.keys = some (tag, ck) → Scala.caseFacts cfg e (.tuple id cs ty) = .ok c →
    ∃ t, c.content = some (e.genericTypes, ck, t) ∧ Scala.formatType cfg e.genericTypes ty = .ok t) ∧
  (∀ U cfg e sn tag cstructs id cs ty st st' v,
    Go.algVariant U cfg e sn tag cstructs (.tuple id cs ty) st = .ok (v, st') →
    ∃ t p, Go.formatType cfg ty st = .ok (t, st') ∧ Go.acr U cfg t = .ok p.ty ∧ v.payload = some p) ∧
  (∀ E cfg e tag content id cs ty st st' v,
    Python.variantFacts E cfg e tag content (.tuple id cs ty) st = .ok (v, st') →
    ∃ t st1, v.contentType = some t ∧ Python.formatType cfg e.genericTypes ty st = .ok (t, st1))

/-- aliases (`type X = …`, newtype structs): the translation of the aliased type is what is
printed (TypeScript: and ` | undefined` exactly for `Option<_>`; Kotlin `JvmInline` value classes
follow the field rule) -/
def AliasClause : Prop :=
  (∀ cfg a st st' text, TypeScript.writeAlias cfg a st = .ok (text, st') →
    ∃ ty, TypeScript.formatType cfg a.genericTypes a.ty st = .ok (ty, st') ∧
      text = TypeScript.comments 0 a.comments ++ s%"export type " ++ a.id.renamed ++
        genericSuffix a.genericTypes ++ s%" = " ++ ty ++
        (if a.ty.isOptional then s%" | undefined" else []) ++ s%";\n\n") ∧
  (∀ cfg a d, Kotlin.aliasFacts cfg a = .ok d →
    (Kotlin.isInline a.decorators = false ∧ ∃ ty, d = .typeAlias a.comments (cfg.pfx ++ a.id.renamed)
        (genericSuffix a.genericTypes) ty ∧ Kotlin.formatType cfg a.genericTypes a.ty = .ok ty) ∨
    (Kotlin.isInline a.decorators = true ∧ ∃ p, Kt.params d = [p] ∧ Kt.isOptional p = a.ty.isOptional ∧
        Kotlin.formatType cfg [] (stripOption a.ty) = .ok (Kt.stripOptional p))) ∧
  (∀ U cfg a st st' text, Swift.writeAlias U cfg a st = .ok (text, st') →
    ∃ ty, Swift.formatType cfg a.genericTypes a.ty st = .ok (ty, st') ∧
      text = nl ++ Swift.comments U 0 a.comments ++ s%"public typealias " ++ Swift.kw (cfg.pfx ++ a.id.renamed) ++
        genericSuffix a.genericTypes ++ s%" = " ++ ty ++ nl) ∧
  (∀ cfg a sa, Scala.aliasFacts cfg a = .ok sa → Scala.formatType cfg a.genericTypes a.ty = .ok sa.ty) ∧
  (∀ U cfg a st st' ga, Go.aliasFacts U cfg a st = .ok (ga, st') → Go.formatType cfg a.ty st = .ok (ga.ty, st')) ∧
  (∀ cfg a st st' pa, Python.aliasFacts cfg a st = .ok (pa, st') →
    ∃ st1, Python.formatType cfg a.genericTypes a.ty st = .ok (pa.ty, st1) ∧
      st' = a.genericTypes.foldl Python.addTypeVar st1)

/-- **C04 at full strength over the model** -/
def C04_full : Prop :=
  ParseClause ∧ FieldClause ∧ DoubleOptionClause ∧ OptionTypeClause ∧ PayloadClause ∧ AliasClause

/-! ## the known class -/

/-- Scala, a field with `serde(default)` whose type is not `Option<_>` -/
def Known_scalaDefaultNonOption (B : LangCfg) (f : RustField) : Bool :=
  match B with
  | .scala _ => f.hasDefault && !f.ty.isOptional
  | _ => false

/-! ## the clauses that hold -/

theorem parseClause : ParseClause := by
  refine ⟨?_, ?_⟩
  · intro E cf ra f rf h
    have hf := parseField_ok h
    obtain ⟨t, het, htf⟩ := fieldType_spec E f.attrs f.ty rf.ty hf.ty
    exact ⟨by rw [hf.hasDefault, serdeDefault_eq], t, het, isOptional_spec t _ htf, isDoubleOptional_spec t _ htf⟩
  · intro E attrs ty r h
    obtain ⟨t, het, htf⟩ := fieldType_spec E attrs ty r h
    exact ⟨t, het, isOptional_spec t _ htf, isDoubleOptional_spec t _ htf⟩

theorem doubleOptionClause : DoubleOptionClause := by
  intro cfg gens f st st' tf h
  exact (Ts.field h).2.1

theorem payloadClause : PayloadClause :=
  ⟨fun _ _ _ _ _ _ _ _ _ _ h => Ts.payload h,
   fun _ _ _ _ _ _ _ h => Kt.payload h,
   fun _ _ _ _ _ _ _ _ _ h => Sw.payload h,
   fun _ _ _ _ _ _ _ _ hk h => Sc.payload hk h,
   fun _ _ _ _ _ _ _ _ _ _ _ _ h => Go.payload h,
   fun _ _ _ _ _ _ _ _ _ _ _ h => Py.payload h⟩

theorem aliasClause : AliasClause :=
  ⟨fun _ _ _ _ _ h => Ts.alias h,
   fun _ _ _ h => Kt.alias h,
   fun _ _ _ _ _ _ h => Sw.alias h,
   fun _ _ _ h => Sc.alias h,
   fun _ _ _ _ _ _ h => Go.alias h,
   fun _ _ _ _ _ h => Py.alias h⟩

theorem optionTypeClause : OptionTypeClause := by
  intro E B gens r s hk hsane h
  cases B with
  | typescript cfg =>
    obtain ⟨st, st', h⟩ := h
    rw [Ts.formatType_option st hk] at h
    exact ⟨s, ⟨st, st', h⟩, rfl⟩
  | kotlin cfg =>
    obtain ⟨s0, h0, hs⟩ := Kt.formatType_option_ok h
    exact ⟨s0, h0, hs⟩
  | swift cfg =>
    obtain ⟨st, st', h⟩ := h
    obtain ⟨s0, h0, hs⟩ := Sw.formatType_option_ok h
    exact ⟨s0, ⟨st, st', h0⟩, hs⟩
  | scala cfg =>
    obtain ⟨s0, h0, hs⟩ := Sc.formatType_option_ok h
    exact ⟨s0, h0, hs⟩
  | go cfg =>
    obtain ⟨st, st', raw, h, hacr⟩ := h
    obtain ⟨raw0, h0, hraw⟩ := Go.formatType_option_ok hk h
    subst hraw
    have ha := Go.acrTransparent_of_sane E.U cfg hsane
    by_cases hv : (r.isVec && cfg.noPointerSlice) = true
    · have hp : Go.ptr cfg r = [] := by simp [Go.ptr, hv]
      rw [hp, List.nil_append] at hacr
      exact ⟨s, ⟨st, st', raw0, h0, hacr⟩, by simp [optionalType, hp]⟩
    · have hp : Go.ptr cfg r = s%"*" := by simp [Go.ptr, hv]
      rw [hp] at hacr
      obtain ⟨s0, hs0, rfl⟩ := ha.cons_ok (c := '*') (by simp) hacr
      exact ⟨s0, ⟨st, st', raw0, h0, hs0⟩, by simp [optionalType, hp]⟩
  | python cfg =>
    obtain ⟨st, st', h⟩ := h
    obtain ⟨s0, h0, hs⟩ := Py.formatType_option_ok hk h
    exact ⟨s0, ⟨_, st', h0⟩, hs⟩

/-! ## the field clause: partial, exact, not full -/

/-- Scala's half of the field clause that holds for every field: the marker follows `Option`
only, and never changes the type -/
theorem scala_field (E : Ext) (cfg : Scala.Cfg) (gens : List Str) (f : RustField)
    (hov : typeOverride f .scala = none) :
    ∀ o core, Declares E gens f (.scala cfg) o core →
      o = f.ty.isOptional ∧ Translates E gens (stripOption f.ty) (.scala cfg) core := by
  rintro o core ⟨p, hp, ho, hc⟩
  obtain ⟨h1, h2⟩ := Sc.field hov hp
  exact ⟨by rw [← ho, h1], by rw [← hc]; exact h2⟩

/-- the strong, reading-independent form for the back ends whose binding semantics is a function -/
def FieldSpecFunctional (E : Ext) (B : LangCfg) (gens : List Str) (f : RustField) : Prop :=
  ∀ o core, Declares E gens f B o core →
    o = opt f ∧ Translates E gens (stripOption f.ty) B core

def isPython : LangCfg → Bool
  | .python _ => true
  | _ => false

/-- **C04 for the five back ends with functional semantics**: every in-scope field outside the
known class, every configuration -/
theorem C04_partial_functional (E : Ext) (B : LangCfg) (gens : List Str) (f : RustField)
    (hpy : isPython B = false)
    (hs : InScope gens f B) (hk : Known_scalaDefaultNonOption B f = false) :
    FieldSpecFunctional E B gens f := by
  obtain ⟨hov, hmap, hextra⟩ := hs
  cases B with
  | typescript cfg =>
    rintro o core ⟨st, st', tf, h, ho, hc⟩
    obtain ⟨h1, _, h3⟩ := Ts.field h
    obtain ⟨st1, h3⟩ := h3 hov hmap
    exact ⟨by rw [← ho, h1], ⟨st, st1, by rw [← hc]; exact h3⟩⟩
  | kotlin cfg =>
    rintro o core ⟨rsn, priv, p, h, ho, hc⟩
    obtain ⟨h1, h2⟩ := Kt.field hov h
    exact ⟨by rw [← ho, h1], by rw [← hc]; exact h2⟩
  | swift cfg =>
    rintro o core ⟨st, st', ty, h, ho, hc⟩
    obtain ⟨h1, h2⟩ := Sw.field hov hextra h
    exact ⟨by rw [← ho, h1], ⟨st, st', by rw [← hc]; exact h2⟩⟩
  | scala cfg =>
    intro o core hd
    obtain ⟨h1, h2⟩ := scala_field E cfg gens f hov o core hd
    exact ⟨by rw [h1, opt_eq_isOptional f hk], h2⟩
  | go cfg =>
    rintro o core ⟨st, st', g, h, ho, hc⟩
    obtain ⟨h1, inner, h2, h3⟩ :=
      Go.field hov hmap hextra.1 (Go.acrTransparent_of_sane E.U cfg hextra.2) h
    exact ⟨by rw [← ho, h1], ⟨st, st', inner, h2, by rw [← hc]; exact h3⟩⟩
  | python cfg => simp [isPython] at hpy

/-- **C04 holds for every in-scope field outside the known class**: every back end, every
configuration, every field type, with and without `serde(default)` -/
theorem C04_partial (E : Ext) (B : LangCfg) (gens : List Str) (f : RustField)
    (hs : InScope gens f B) (hk : Known_scalaDefaultNonOption B f = false) : FieldSpec E B gens f := by
  cases hpy : isPython B with
  | false =>
    intro o core hd
    obtain ⟨h1, h2⟩ := C04_partial_functional E B gens f hpy hs hk o core hd
    exact ⟨h1, core, hd, h2⟩
  | true =>
    cases B with
    | python cfg =>
      obtain ⟨_, hmap, _⟩ := hs
      rintro o core ⟨st, st', p, h, hden⟩
      obtain ⟨core', st0, st1, hf, hden'⟩ := Py.field hmap h
      -- the default (`None` or absent) fixes `o`
      have ho : o = opt f := by
        have h1 := hden.1
        rw [hden'.1] at h1
        cases o <;> cases hopt : opt f <;> simp_all
      subst ho
      exact ⟨rfl, core', ⟨st, st', p, h, hden'⟩, ⟨st0, st1, hf⟩⟩
    | _ => simp [isPython] at hpy

/-- **exact characterisation**: inside the known class the property always fails — the generated
Scala parameter is never optional although the field has `serde(default)` -/
theorem C04_known_exact (E : Ext) (B : LangCfg) (gens : List Str) (f : RustField)
    (hk : Known_scalaDefaultNonOption B f = true) :
    ∀ o core, Declares E gens f B o core → o = false ∧ opt f = true := by
  cases B with
  | scala cfg =>
    simp only [Known_scalaDefaultNonOption, Bool.and_eq_true, Bool.not_eq_true'] at hk
    rintro o core ⟨p, hp, ho, _⟩
    obtain ⟨_, h2, h3⟩ := Sc.field_default_non_option hk.1 hk.2 hp
    exact ⟨by rw [← ho, h2], h3⟩
  | _ => simp [Known_scalaDefaultNonOption] at hk

/-! ## the witness -/

def asciiExt : Ext := { U := UnicodeOps.ascii, parseType := fun _ => none }

/-- `#[serde(default)] pub bar: bool` -/
def witnessField : RustField :=
  { id := ⟨s%"bar", s%"bar", false⟩, ty := .prim .bool, comments := [], hasDefault := true, decorators := [] }

def witnessScala : LangCfg := .scala { package := s%"com.example" }

theorem witness_inScope : InScope [] witnessField witnessScala := ⟨rfl, trivial, trivial⟩

/-- what the Scala model prints for the witness: `bar: Boolean = _` -/
theorem witness_declares : Declares asciiExt [] witnessField witnessScala false s%"Boolean" :=
  ⟨{ comments := [], name := s%"bar", ty := s%"Boolean", default := s%" = _" }, rfl, by decide, by decide⟩

theorem witness_rendered :
    Scala.renderParam { comments := [], name := s%"bar", ty := s%"Boolean", default := s%" = _" } =
      s%"\tbar: Boolean = _" := by decide +kernel

/-- **the property does not hold at full strength** -/
theorem C04_not_full : ¬ C04_full := by
  rintro ⟨_, hfield, _⟩
  have := (hfield asciiExt witnessScala [] witnessField witness_inScope false _ witness_declares).1
  exact absurd this (by decide)

/-! ## every field of every struct and of every struct variant

The field clause speaks about one field; the struct-level models build one fact record per field,
in order (`*.struct_fields`, `*.variant_fields`), so the clause holds position by position. -/

theorem typescript_of_gen {cfg : TypeScript.Cfg} {gens : List Str} {f : RustField} {tf : TypeScript.TsField}
    (h : Ts.FieldGen cfg gens f tf) :
    Ts.isOptional tf = opt f ∧ Ts.orNull tf = f.ty.isDoubleOptional ∧
      (typeOverride f .typescript = none → NoOptionKey cfg.typeMappings f.ty →
        Translates asciiExt gens (stripOption f.ty) (.typescript cfg) (Ts.stripOptional tf)) := by
  obtain ⟨st0, st1, hf⟩ := h
  obtain ⟨h1, h2, h3⟩ := Ts.field hf
  exact ⟨h1, h2, fun hov hk => by obtain ⟨st2, h3⟩ := h3 hov hk; exact ⟨st0, st2, h3⟩⟩

/-- TypeScript: every field of every struct (the interface body is exactly the rendering of the
records) -/
theorem typescript_struct {cfg : TypeScript.Cfg} {rs : RustStruct} {st st' : TypeScript.CustomMap} {text : Str}
    (h : TypeScript.writeStruct cfg rs st = .ok (text, st')) :
    ∃ tfs, text = TypeScript.comments 0 rs.comments ++ s%"export interface " ++ rs.id.renamed ++
        genericSuffix rs.genericTypes ++ s%" {\n" ++ tfs.flatMap TypeScript.renderField ++ s%"}\n\n" ∧
      Pointwise (fun f tf => Ts.isOptional tf = opt f ∧ Ts.orNull tf = f.ty.isDoubleOptional ∧
        (typeOverride f .typescript = none → NoOptionKey cfg.typeMappings f.ty →
          Translates asciiExt rs.genericTypes (stripOption f.ty) (.typescript cfg) (Ts.stripOptional tf)))
        rs.fields tfs := by
  obtain ⟨tfs, hpw, htext⟩ := Ts.struct_fields h
  exact ⟨tfs, htext, hpw.imp fun _ _ => typescript_of_gen⟩

/-- TypeScript: every field of every struct variant -/
theorem typescript_variant {cfg : TypeScript.Cfg} {e : RustEnum} {tag content : Str} {id : Id} {cs : List Str}
    {fs : List RustField} {st st' : TypeScript.CustomMap} {text : Str}
    (h : TypeScript.writeVariant cfg e tag content (.anonymousStruct id cs fs) st = .ok (text, st')) :
    ∃ tfs, Pointwise (fun f tf => Ts.isOptional tf = opt f ∧ Ts.orNull tf = f.ty.isDoubleOptional ∧
        (typeOverride f .typescript = none → NoOptionKey cfg.typeMappings f.ty →
          Translates asciiExt e.genericTypes (stripOption f.ty) (.typescript cfg) (Ts.stripOptional tf)))
        fs tfs := by
  obtain ⟨tfs, hpw, _⟩ := Ts.variant_fields h
  exact ⟨tfs, hpw.imp fun _ _ => typescript_of_gen⟩

/-- the Kotlin clause for one (field, parameter) pair -/
def KotlinOK (cfg : Kotlin.Cfg) (gens : List Str) (f : RustField) (p : Kotlin.KtParam) : Prop :=
  typeOverride f .kotlin = none →
    Kt.isOptional p = opt f ∧ Kotlin.formatType cfg gens (stripOption f.ty) = .ok (Kt.stripOptional p)

/-- Kotlin: every field of every struct -/
theorem kotlin_struct {cfg : Kotlin.Cfg} {rs : RustStruct} {d : Kotlin.KtDecl}
    (h : Kotlin.structFacts cfg rs = .ok d) :
    Pointwise (KotlinOK cfg rs.genericTypes) rs.fields (Kt.params d) :=
  (Kt.struct_fields h).imp fun _ _ ⟨_, _, hp⟩ hov => Kt.field hov hp

/-- Kotlin: every field of every struct variant -/
theorem kotlin_variants {cfg : Kotlin.Cfg} {e : RustEnum} {ds : List Kotlin.KtDecl}
    (h : Kotlin.enumFacts cfg e = .ok ds) :
    ∃ inners last, ds = inners ++ [last] ∧
      Pointwise (fun (v : Id × List RustField) d => ∃ gens, Pointwise (KotlinOK cfg gens) v.2 (Kt.params d))
        (structVariants e) inners := by
  obtain ⟨inners, last, hds, hpw⟩ := Kt.variant_fields h
  refine ⟨inners, last, hds, hpw.imp ?_⟩
  rintro v d ⟨gens, hg⟩
  exact ⟨gens, hg.imp fun _ _ ⟨_, _, hp⟩ hov => Kt.field hov hp⟩

/-- the Swift clause for one field and the (printed type, flag) pair of its stored property or
initialiser parameter -/
def SwiftOK (cfg : Swift.Cfg) (gens : List Str) (f : RustField) (ty : Str) (flag : Bool) : Prop :=
  typeOverride f .swift = none → (f.ty.isOptional = false → Sw.HeadNoQ cfg gens f.ty) →
    Sw.isOptional ty flag = opt f ∧
    Translates asciiExt gens (stripOption f.ty) (.swift cfg) (Sw.stripOptional ty flag)

theorem swift_of_gen {cfg : Swift.Cfg} {gens : List Str} {f : RustField} {ty : Str} {flag : Bool}
    (hflag : flag = Swift.fieldOptional f) (h : ∃ st st', Swift.fieldType cfg gens f st = .ok (ty, st')) :
    SwiftOK cfg gens f ty flag := by
  obtain ⟨st, st', h⟩ := h
  intro hov hq
  subst hflag
  obtain ⟨h1, h2⟩ := Sw.field hov hq h
  exact ⟨h1, st, st', h2⟩

/-- Swift: every field of every struct — the stored property *and* the initialiser parameter -/
theorem swift_struct {U : UnicodeOps} {cfg : Swift.Cfg} {rs : RustStruct} {st st' : Swift.St} {s : Swift.SwiftStruct}
    (h : Swift.structFacts U cfg rs st = .ok (s, st')) :
    Pointwise (fun f p => SwiftOK cfg rs.genericTypes f p.ty p.optional) rs.fields s.props ∧
    Pointwise (fun f p => SwiftOK cfg rs.genericTypes f p.ty p.optional) rs.fields s.initParams := by
  obtain ⟨h1, h2⟩ := Sw.struct_fields h
  exact ⟨h1.imp fun _ _ ⟨hfl, hg⟩ => swift_of_gen hfl hg, h2.imp fun _ _ ⟨hfl, hg⟩ => swift_of_gen hfl hg⟩

/-- Swift: every field of every struct variant -/
theorem swift_variants {U : UnicodeOps} {cfg : Swift.Cfg} {e : RustEnum} {st st' : Swift.St}
    {structs : List Swift.SwiftStruct} {se : Swift.SwiftEnum}
    (h : Swift.enumFacts U cfg e st = .ok (structs, se, st')) :
    Pointwise (fun (v : Id × List RustField) s => ∃ gens,
      Pointwise (fun f p => SwiftOK cfg gens f p.ty p.optional) v.2 s.props ∧
      Pointwise (fun f p => SwiftOK cfg gens f p.ty p.optional) v.2 s.initParams)
      (structVariants e) structs :=
  (Sw.variant_fields h).imp fun _ _ ⟨gens, h1, h2⟩ =>
    ⟨gens, h1.imp fun _ _ ⟨hfl, hg⟩ => swift_of_gen hfl hg, h2.imp fun _ _ ⟨hfl, hg⟩ => swift_of_gen hfl hg⟩

/-- the Scala clause for one (field, parameter) pair: optional iff `Option<_>`, hence iff `opt f`
outside the known class; the type is never changed -/
def ScalaOK (cfg : Scala.Cfg) (gens : List Str) (f : RustField) (p : Scala.ScParam) : Prop :=
  typeOverride f .scala = none →
    Sc.isOptional p = f.ty.isOptional ∧
    ((f.hasDefault && !f.ty.isOptional) = false → Sc.isOptional p = opt f) ∧
    Scala.formatType cfg gens (stripOption f.ty) = .ok (Sc.stripOptional p)

theorem scala_of_gen {cfg : Scala.Cfg} {gens : List Str} {f : RustField} {p : Scala.ScParam}
    (h : Scala.paramFacts cfg gens f = .ok p) : ScalaOK cfg gens f p := by
  intro hov
  obtain ⟨h1, h2⟩ := Sc.field hov h
  exact ⟨h1, fun hk => by rw [h1, opt_eq_isOptional f hk], h2⟩

/-- Scala: every field of every struct -/
theorem scala_struct {cfg : Scala.Cfg} {rs : RustStruct} {c : Scala.ScClass}
    (h : Scala.classFacts cfg rs = .ok c) : Pointwise (ScalaOK cfg rs.genericTypes) rs.fields c.params :=
  (Sc.struct_fields h).imp fun _ _ hp => scala_of_gen hp

/-- Scala: every field of every struct variant -/
theorem scala_variants {cfg : Scala.Cfg} {e : RustEnum} {se : Scala.ScEnum}
    (h : Scala.enumFacts cfg e = .ok se) :
    Pointwise (fun (v : Id × List RustField) c => ∃ gens, Pointwise (ScalaOK cfg gens) v.2 c.params)
      (structVariants e) se.inner :=
  (Sc.variant_fields h).imp fun _ _ ⟨gens, hg⟩ => ⟨gens, hg.imp fun _ _ hp => scala_of_gen hp⟩

/-- the Go clause for one (field, Go field) pair -/
def GoOK (U : UnicodeOps) (cfg : Go.Cfg) (f : RustField) (g : Go.GoField) : Prop :=
  typeOverride f .go = none → NoOptionKey cfg.typeMappings f.ty → Go.SliceUnmapped cfg f.ty →
    Go.SaneAcronyms cfg →
    Go.isOptional cfg g = opt f ∧
    ∃ st st' raw, Go.formatType cfg (stripOption f.ty) st = .ok (raw, st') ∧
      Go.acr U cfg raw = .ok (Go.stripOptional g)

theorem go_of_gen {U : UnicodeOps} {cfg : Go.Cfg} {f : RustField} {g : Go.GoField}
    (h : Go.FieldGen U cfg f g) : GoOK U cfg f g := by
  obtain ⟨st, st', h⟩ := h
  intro hov hk hs ha
  obtain ⟨h1, inner, h2, h3⟩ := Go.field hov hk hs (Go.acrTransparent_of_sane U cfg ha) h
  exact ⟨h1, st, st', inner, h2, h3⟩

/-- Go: every field of every struct -/
theorem go_struct {U : UnicodeOps} {cfg : Go.Cfg} {rs : RustStruct} {st st' : Go.Imports} {d : Go.GoStruct}
    (h : Go.structFacts U cfg rs st = .ok (d, st')) : Pointwise (GoOK U cfg) rs.fields d.fields :=
  (Go.struct_fields h).imp fun _ _ hg => go_of_gen hg

/-- Go: every field of every struct variant -/
theorem go_variants {U : UnicodeOps} {cfg : Go.Cfg} {e : RustEnum} {tag content : Str} {cs : List Str}
    {st st' : Go.Imports} {d : Go.GoAlgEnum}
    (h : Go.algEnumFacts U cfg e tag content cs st = .ok (d, st')) :
    Pointwise (fun (v : Id × List RustField) s => Pointwise (GoOK U cfg) v.2 s.fields)
      (structVariants e) d.anonymous :=
  (Go.variant_fields h).imp fun _ _ hp => hp.imp fun _ _ hg => go_of_gen hg

/-- the Python clause for one (field, pydantic field) pair -/
def PythonOK (cfg : Python.Cfg) (gens : List Str) (f : RustField) (p : Python.PyField) : Prop :=
  NoOptionKey cfg.typeMappings f.ty →
    ∃ core st0 st1, Python.formatType cfg gens (stripOption f.ty) st0 = .ok (core, st1) ∧
      Py.Denotes p (opt f) core

/-- Python: every field of every struct -/
theorem python_struct {E : Ext} {cfg : Python.Cfg} {rs : RustStruct} {st st' : Python.St} {c : Python.PyClass}
    (h : Python.structFacts E cfg rs st = .ok (c, st')) :
    Pointwise (PythonOK cfg rs.genericTypes) rs.fields c.fields :=
  (Py.struct_fields h).imp fun _ _ ⟨_, _, hf⟩ hk => Py.field hk hf

/-- Python: every field of every struct variant -/
theorem python_variants {E : Ext} {cfg : Python.Cfg} {e : RustEnum} {tag content : Str}
    {st st' : Python.St} {u : Python.PyUnion}
    (h : Python.unionFacts E cfg e tag content st = .ok (u, st')) :
    Pointwise (fun (v : Id × List RustField) c => ∃ gens, Pointwise (PythonOK cfg gens) v.2 c.fields)
      (structVariants e) u.inner :=
  (Py.variant_fields h).imp fun _ _ ⟨gens, hg⟩ =>
    ⟨gens, hg.imp fun _ _ ⟨_, _, hf⟩ hk => Py.field hk hf⟩

/-- everything except the Scala class: all six clauses with the field clause restricted -/
theorem C04_all_but_known :
    ParseClause ∧
    (∀ (E : Ext) (B : LangCfg) (gens : List Str) (f : RustField), InScope gens f B →
      Known_scalaDefaultNonOption B f = false → FieldSpec E B gens f) ∧
    DoubleOptionClause ∧ OptionTypeClause ∧ PayloadClause ∧ AliasClause :=
  ⟨parseClause, C04_partial, doubleOptionClause, optionTypeClause, payloadClause, aliasClause⟩

/-! ## non-vacuity: concrete inputs meet the hypotheses of the theorems above -/

/-- `#[serde(rename = "x", default)] a: Box<Option<u32>>` — `default` merged with another argument,
`Option` under a smart pointer -/
def exSynField : Field :=
  { attrs := [⟨.list [s%"serde"] true [.nameValue [s%"rename"] (some (.str s%"x")), .path [s%"default"]]⟩],
    ident := some s%"a",
    ty := .path [] s%"Box" [.path [] s%"Option" [.path [] s%"u32" []]] }

example : bareDefault exSynField.attrs = true := by decide +kernel
/-- `default = "path"` is not the bare form -/
example : bareDefault [⟨.list [s%"serde"] true [.nameValue [s%"default"] (some (.str s%"path"))]⟩] = false := by
  decide
example : isOptionSyn exSynField.ty = true ∧ isDoubleOptionSyn exSynField.ty = false := by decide +kernel
example : isDoubleOptionSyn (.path [] s%"Option" [.reference (.path [] s%"Arc" [.path [] s%"Option" [.path [] s%"u8" []]])]) = true := by
  decide
/-- `parseClause` is not vacuous: the parser accepts the field, with both sources of optionality -/
example : ∃ rf, parseField asciiExt true none exSynField = .ok rf ∧ rf.hasDefault = true ∧
    rf.ty.isOptional = true := ⟨_, rfl, rfl, rfl⟩

/-- `a: Option<u32>` -/
def exOpt : RustField :=
  { id := ⟨s%"a", s%"a", false⟩, ty := .option (.prim .u32), comments := [], hasDefault := false, decorators := [] }
/-- `#[serde(default)] a: Vec<String>` -/
def exDef : RustField :=
  { id := ⟨s%"a", s%"a", false⟩, ty := .vec (.prim .string), comments := [], hasDefault := true, decorators := [] }
/-- `a: Option<Option<u32>>` -/
def exOptOpt : RustField :=
  { id := ⟨s%"a", s%"a", false⟩, ty := .option (.option (.prim .u32)), comments := [], hasDefault := false,
    decorators := [] }

def exGo : LangCfg := .go { package := s%"p", uppercaseAcronyms := [s%"id", s%"url"], noPointerSlice := true }

theorem exGo_sane : Go.SaneAcronyms { package := s%"p", uppercaseAcronyms := [s%"id", s%"url"], noPointerSlice := true } := by
  intro a ha c hc
  simp only [List.mem_cons, List.not_mem_nil, or_false] at ha hc
  rcases ha with rfl | rfl <;> rcases hc with rfl | rfl | rfl <;> decide

-- the scope predicate is met by ordinary fields in every back end
example : InScope [] exOpt (.typescript {}) := ⟨rfl, fun _ => rfl, trivial⟩
example : InScope [] exDef (.kotlin { package := s%"p" }) := ⟨rfl, trivial, trivial⟩
example : InScope [] exDef (.swift { pfx := s%"OP" }) := ⟨rfl, trivial, fun _ => trivial⟩
example : InScope [] exOpt (.scala { package := s%"p" }) := ⟨rfl, trivial, trivial⟩
example : InScope [] exOpt exGo :=
  ⟨rfl, fun _ => rfl, by
    show Go.SliceUnmapped _ _ ∧ Go.SaneAcronyms _
    exact ⟨fun r h => by simp [exOpt] at h, exGo_sane⟩⟩
example : InScope [] exDef (.python {}) := ⟨rfl, fun _ => rfl, trivial⟩
example : Known_scalaDefaultNonOption (.scala { package := s%"p" }) exOpt = false := rfl
example : Known_scalaDefaultNonOption witnessScala witnessField = true := rfl

-- … and the back ends do generate declarations for them (hypothesis `Declares` of `FieldSpec`)
example : Declares asciiExt [] exOpt (.typescript {}) true s%"number" := ⟨[], _, _, rfl, rfl, rfl⟩
example : Declares asciiExt [] exOptOpt (.typescript {}) true s%"number" := ⟨[], _, _, rfl, rfl, rfl⟩
example : Declares asciiExt [] exDef (.kotlin { package := s%"p" }) true s%"List<String>" :=
  ⟨false, false, _, rfl, by decide, by decide⟩
example : Declares asciiExt [] exOpt (.kotlin { package := s%"p" }) true s%"UInt" :=
  ⟨false, false, _, rfl, by decide, by decide⟩
example : Declares asciiExt [] exDef (.swift { pfx := s%"OP" }) true s%"[String]" :=
  ⟨false, _, _, rfl, by decide, by decide⟩
example : Declares asciiExt [] exOpt (.scala { package := s%"p" }) true s%"UInt" :=
  ⟨_, rfl, by decide, by decide⟩
example : Declares asciiExt [] exOpt exGo true s%"uint32" := ⟨[], _, _, rfl, by decide, by decide⟩
example : Declares asciiExt [] exDef (.python {}) true s%"List[str]" :=
  ⟨{}, _, _, rfl, rfl, Or.inl rfl⟩
/-- the double-option clause on a concrete field: `a?: number | null` -/
example : ∃ tf st', TypeScript.fieldFacts {} [] exOptOpt [] = .ok (tf, st') ∧ Ts.orNull tf = true ∧
    TypeScript.renderField tf = s%"\ta?: number | null;\n" := ⟨_, _, rfl, rfl, by decide⟩
/-- the option-type clause on concrete types -/
example : Translates asciiExt [] (.option (.prim .u32)) (.kotlin {}) s%"UInt?" := rfl
example : Translates asciiExt [] (.option (.vec (.prim .u8))) exGo s%"[]int" := ⟨[], _, _, rfl, rfl⟩

end TsV.C04
