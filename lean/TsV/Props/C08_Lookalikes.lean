import TsV.Props.C08
import TsV.Lemmas.TargetOs
/-!
# C08, skip look-alikes — only `serde(skip)` / `typeshare(skip)` take a member out of the rejection

C08 rejects an unsupported construct in a *non-skipped* member.  This module pins down what "skipped" is and
shows that nothing that merely looks like a skip marker changes the verdict.

* `IsSkipMarker a` (trusted reading of the property's "serde(skip)/typeshare(skip)"): the attribute is a list
  attribute `serde(..)` or `typeshare(..)` whose arguments parse and one of whose *direct* arguments is the bare
  path `skip`.
* `skipMarked_iff`, `isSkipped_iff`: the model's `is_skipped` is true exactly when some attribute of the member
  is such a marker, or `accept_target_os` rejects the member (`TsV.C13.member_level`).
* what is **not** a marker (`not_marker_*`): a name-value or bare-path attribute; a list attribute of any other
  path (`other(skip)`, `serde::x(skip)`); an unparsable argument list; and `serde(..)` / `typeshare(..)` none of
  whose direct arguments is the path `skip` — `skip_serializing`, `skip_deserializing`, `skipped` (other paths),
  `skip_serializing_if = ".."`, `skip = ".."` (name-values), `rename(skip)` (the path sits one level down).
* **monotonicity**: inserting, anywhere in a member's attribute list, an attribute that is not a marker and is
  not a `cfg(..)` attribute (`Neutral`; with no `--target-os` the second condition is void) leaves `isSkipped`
  unchanged (`isSkipped_insert`); a field that C08 holds responsible for a rejection (`Culprit`: not skipped, and
  unsupported type or `serde(flatten)`) stays responsible (`culprit_insert`; `culprit_insert_iff` when the
  attribute is not itself `serde(flatten)`), so the struct / struct variant / enum around it is still rejected
  (`struct_rejected_with_lookalike`, `variant_field_rejected_with_lookalike`, `variant_rejected_with_lookalike`).
-/
namespace TsV.C08_Lookalikes
open TsV TsV.Syn TsV.Parser TsV.C08

def kSkip : Str := s%"skip"

/-- **the skip marker**: `#[serde(.., skip, ..)]` or `#[typeshare(.., skip, ..)]` -/
def IsSkipMarker (a : Attr) : Prop :=
  ∃ segs args, a.val = .list segs true args ∧ (segs = [kSerde] ∨ segs = [kTypeshare]) ∧ Meta.path [kSkip] ∈ args

/-! ## `is_skipped` is exactly "has a marker, or excluded by the target list" -/

theorem hasPathArg_iff (a : Attr) (ident name : Str) :
    hasPathArg a ident name = true ↔ ∃ segs args, a.val = .list segs true args ∧ segs = [ident] ∧ Meta.path [name] ∈ args := by
  unfold hasPathArg getMetaItems
  obtain ⟨v⟩ := a
  cases v with
  | path s => simp
  | nameValue s l => simp
  | list segs parsed args =>
    cases parsed with
    | false => simp
    | true =>
      by_cases hs : segs = [ident]
      · subst hs
        simp only [beq_self_eq_true, if_true, List.any_eq_true, Meta.list.injEq, true_and]
        constructor
        · rintro ⟨m, hm, h⟩
          cases m with
          | path p => simp only [beq_iff_eq] at h; subst h; exact ⟨_, _, ⟨rfl, rfl⟩, rfl, hm⟩
          | nameValue _ _ => simp at h
          | list _ _ _ => simp at h
        · rintro ⟨_, _, ⟨rfl, rfl⟩, _, hm⟩
          exact ⟨_, hm, by simp⟩
      · have : (segs == [ident]) = false := by simpa using hs
        simp only [this, Bool.false_eq_true, if_false, List.any_nil, Meta.list.injEq, true_and]
        constructor
        · intro h; cases h
        · rintro ⟨_, _, ⟨rfl, _⟩, h, _⟩; exact absurd h hs

theorem isSkipMarker_iff (a : Attr) :
    (hasPathArg a kSerde kSkip || hasPathArg a kTypeshare kSkip) = true ↔ IsSkipMarker a := by
  rw [Bool.or_eq_true, hasPathArg_iff, hasPathArg_iff]
  constructor
  · rintro (⟨s, ar, h1, h2, h3⟩ | ⟨s, ar, h1, h2, h3⟩)
    · exact ⟨s, ar, h1, .inl h2, h3⟩
    · exact ⟨s, ar, h1, .inr h2, h3⟩
  · rintro ⟨s, ar, h1, h2 | h2, h3⟩
    · exact .inl ⟨s, ar, h1, h2, h3⟩
    · exact .inr ⟨s, ar, h1, h2, h3⟩

/-- the `skip` half of `is_skipped` -/
theorem skipMarked_iff (attrs : List Attr) : skipMarked attrs = true ↔ ∃ a ∈ attrs, IsSkipMarker a := by
  unfold skipMarked
  simp only [List.any_eq_true]
  constructor
  · rintro ⟨a, ha, h⟩; exact ⟨a, ha, (isSkipMarker_iff a).1 h⟩
  · rintro ⟨a, ha, h⟩; exact ⟨a, ha, (isSkipMarker_iff a).2 h⟩

/-- **`is_skipped`, exactly** -/
theorem isSkipped_iff (attrs : List Attr) (T : List Str) :
    isSkipped attrs T = true ↔ (∃ a ∈ attrs, IsSkipMarker a) ∨ TargetOs.accept attrs T = some false := by
  unfold isSkipped
  rw [Bool.or_eq_true, skipMarked_iff, TargetOs.accept_eq_some, Bool.not_eq_true']

/-- without `--target-os`, a member is skipped iff it carries a marker -/
theorem isSkipped_no_targets (attrs : List Attr) : isSkipped attrs [] = true ↔ ∃ a ∈ attrs, IsSkipMarker a := by
  rw [isSkipped_iff]; simp [TargetOs.accept]

theorem not_marker_path (segs : List Str) : ¬ IsSkipMarker ⟨.path segs⟩ := by
  rintro ⟨_, _, h, _⟩; cases h

/-- `#[skip = ".."]`, `#[serde = ".."]` … -/
theorem not_marker_nameValue (segs : List Str) (v : Option Lit) : ¬ IsSkipMarker ⟨.nameValue segs v⟩ := by
  rintro ⟨_, _, h, _⟩; cases h

/-- `skip` as the argument of another attribute: `#[other(skip)]`, `#[serde::x(skip)]`, `#[cfg_attr(x, skip)]` -/
theorem not_marker_other_attribute (segs : List Str) (p : Bool) (args : List Meta)
    (h1 : segs ≠ [kSerde]) (h2 : segs ≠ [kTypeshare]) : ¬ IsSkipMarker ⟨.list segs p args⟩ := by
  rintro ⟨_, _, h, hs, _⟩
  cases h
  rcases hs with hs | hs
  · exact h1 hs
  · exact h2 hs

/-- arguments that are not a comma-separated meta list -/
theorem not_marker_unparsed (segs : List Str) (args : List Meta) : ¬ IsSkipMarker ⟨.list segs false args⟩ := by
  rintro ⟨_, _, h, _⟩; cases h

/-- `serde(..)` / `typeshare(..)` without the bare path `skip` among its direct arguments -/
theorem not_marker_without_skip_path (segs : List Str) (p : Bool) (args : List Meta)
    (h : ∀ m ∈ args, m.segs ≠ [kSkip] ∨ (∃ s v, m = .nameValue s v) ∨ (∃ s q l, m = .list s q l)) :
    ¬ IsSkipMarker ⟨.list segs p args⟩ := by
  rintro ⟨_, _, he, _, hm⟩
  cases he
  rcases h _ hm with h | ⟨_, _, h⟩ | ⟨_, _, _, h⟩
  · exact h rfl
  · cases h
  · cases h

/-- the exact form for a parsed `serde` / `typeshare` list -/
theorem marker_list_iff (segs : List Str) (args : List Meta) :
    IsSkipMarker ⟨.list segs true args⟩ ↔ (segs = [kSerde] ∨ segs = [kTypeshare]) ∧ Meta.path [kSkip] ∈ args := by
  constructor
  · rintro ⟨_, _, he, hs, hm⟩; cases he; exact ⟨hs, hm⟩
  · rintro ⟨hs, hm⟩; exact ⟨_, _, rfl, hs, hm⟩

/-- the look-alikes the check plants, none of which skips (kernel-checked on the model's `is_skipped`) -/
def serdeList (args : List Meta) : Attr := ⟨.list [kSerde] true args⟩
def lookalikes : List Attr :=
  [serdeList [.path [s%"skip_serializing"]],
   serdeList [.path [s%"skip_deserializing"]],
   serdeList [.path [s%"skip_serializing"], .path [s%"skip_deserializing"]],
   serdeList [.nameValue [s%"skip_serializing_if"] (some (.str s%"Option::is_none"))],
   serdeList [.nameValue [s%"skip"] (some (.str s%"yes"))],
   serdeList [.path [s%"skipped"]],
   serdeList [.path [s%"serde", s%"skip"]],
   serdeList [.list [s%"rename"] true [.path [s%"skip"]]],
   ⟨.list [s%"typeshare"] true [.path [s%"skip_serializing"]]⟩,
   ⟨.list [s%"other"] true [.path [s%"skip"]]⟩,
   ⟨.list [s%"serde", s%"x"] true [.path [s%"skip"]]⟩,
   ⟨.list [kSerde] false []⟩,
   ⟨.path [s%"skip"]⟩,
   ⟨.nameValue [s%"skip"] none⟩]

theorem lookalikes_do_not_skip : lookalikes.all (fun a => !isSkipped [a] []) = true := by decide +kernel

/-- and the two markers do, alone or among other arguments -/
theorem markers_skip :
    isSkipped [serdeList [.path [kSkip]]] [] = true ∧
    isSkipped [⟨.list [kTypeshare] true [.path [kSkip]]⟩] [] = true ∧
    isSkipped [serdeList [.path [s%"default"], .path [kSkip], .nameValue [s%"rename"] (some (.str s%"x"))]] [] = true := by
  decide +kernel

/-- an attribute that cannot change whether a member is skipped: not a marker, and not a `cfg(..)` attribute
(irrelevant without `--target-os`) -/
structure Neutral (T : List Str) (a : Attr) : Prop where
  notMarker : ¬ IsSkipMarker a
  notCfg : T = [] ∨ TargetOs.cfgItems a = []

theorem skipMarked_insert (pre post : List Attr) (a : Attr) (h : ¬ IsSkipMarker a) :
    skipMarked (pre ++ a :: post) = skipMarked (pre ++ post) := by
  have ha : (hasPathArg a kSerde kSkip || hasPathArg a kTypeshare kSkip) = false := by
    cases hb : (hasPathArg a kSerde kSkip || hasPathArg a kTypeshare kSkip) with
    | false => rfl
    | true => exact absurd ((isSkipMarker_iff a).1 hb) h
  unfold skipMarked
  simp only [List.any_append, List.any_cons]
  have ha' : (hasPathArg a kSerde s%"skip" || hasPathArg a kTypeshare s%"skip") = false := ha
  rw [ha', Bool.false_or]

theorem accept_insert (pre post : List Attr) (a : Attr) (T : List Str) (h : T = [] ∨ TargetOs.cfgItems a = []) :
    TargetOs.accept (pre ++ a :: post) T = TargetOs.accept (pre ++ post) T := by
  rcases h with rfl | h
  · simp [TargetOs.accept]
  · unfold TargetOs.accept TargetOs.yielded
    simp [List.flatMap_append, h]

/-- **adding a neutral attribute anywhere does not change `is_skipped`** -/
theorem isSkipped_insert (pre post : List Attr) (a : Attr) (T : List Str) (h : Neutral T a) :
    isSkipped (pre ++ a :: post) T = isSkipped (pre ++ post) T := by
  unfold isSkipped
  rw [skipMarked_insert pre post a h.notMarker, accept_insert pre post a T h.notCfg]

/-- the field C08 holds responsible: not skipped, and of unsupported (effective) type or flattened -/
def Culprit (E : Ext) (T : List Str) (f : Field) : Prop :=
  isSkipped f.attrs T = false ∧ (BadType E f.attrs f.ty ∨ serdeFlatten f.attrs = true)

/-- the attribute does not override the member's type (`typeshare(serialized_as = "..")`) -/
def NoOverride (E : Ext) (a : Attr) : Prop := getNameValueMetaItems E [a] s%"serialized_as" kTypeshare = []

/-- the field with one more attribute -/
def withAttr (f : Field) (pre post : List Attr) (a : Attr) : Field := { f with attrs := pre ++ a :: post }

theorem getSerializedAsType_insert (E : Ext) (pre post : List Attr) (a : Attr) (h : NoOverride E a) :
    getSerializedAsType E (pre ++ a :: post) = getSerializedAsType E (pre ++ post) := by
  unfold NoOverride getNameValueMetaItems at h
  simp only [List.flatMap_cons, List.flatMap_nil, List.append_nil] at h
  unfold getSerializedAsType getNameValueMetaItems
  simp only [List.flatMap_append, List.flatMap_cons, h, List.nil_append]

theorem serdeFlatten_insert (pre post : List Attr) (a : Attr) :
    serdeFlatten (pre ++ a :: post) = (serdeFlatten (pre ++ post) || hasPathArg a kSerde s%"flatten") := by
  unfold serdeFlatten serdeAttr
  simp only [List.any_append, List.any_cons]
  cases List.any pre _ <;> cases List.any post _ <;> cases hasPathArg a kSerde s%"flatten" <;> rfl

theorem badType_insert (E : Ext) (pre post : List Attr) (a : Attr) (ty : SynType) (h : NoOverride E a) :
    BadType E (pre ++ a :: post) ty ↔ BadType E (pre ++ post) ty := by
  unfold BadType effectiveType
  rw [getSerializedAsType_insert E pre post a h]

/-- **a culprit stays a culprit** when a neutral, non-overriding attribute is added to it -/
theorem culprit_insert (E : Ext) (T : List Str) (f : Field) (pre post : List Attr) (a : Attr)
    (hf : f.attrs = pre ++ post) (hn : Neutral T a) (ho : NoOverride E a) (h : Culprit E T f) :
    Culprit E T (withAttr f pre post a) := by
  obtain ⟨hs, hb⟩ := h
  rw [hf] at hs hb
  refine ⟨by simpa [withAttr, isSkipped_insert pre post a T hn] using hs, ?_⟩
  rcases hb with hb | hb
  · exact .inl ((badType_insert E pre post a f.ty ho).2 hb)
  · exact .inr (by simp [withAttr, serdeFlatten_insert, hb])

/-- … and nothing becomes a culprit by it, unless the added attribute is `serde(flatten)` itself -/
theorem culprit_insert_iff (E : Ext) (T : List Str) (f : Field) (pre post : List Attr) (a : Attr)
    (hf : f.attrs = pre ++ post) (hn : Neutral T a) (ho : NoOverride E a)
    (hfl : hasPathArg a kSerde s%"flatten" = false) :
    Culprit E T (withAttr f pre post a) ↔ Culprit E T f := by
  unfold Culprit
  simp only [withAttr, isSkipped_insert pre post a T hn, badType_insert E pre post a f.ty ho, serdeFlatten_insert, hfl,
    Bool.or_false, hf]

/-- C08's rejection of a struct, in terms of the culprit -/
theorem culprit_rejects_struct (E : Ext) (T : List Str) (attrs : List Attr) (ident : Str)
    (gens : List GenericParam) (fs : List Field) (hsa : getSerializedAsType E attrs = none)
    (f : Field) (hf : f ∈ fs) (h : Culprit E T f) :
    (parseStruct E T attrs ident gens (.named fs)).isOk = false :=
  parseStruct_rejects_field E T attrs ident gens fs hsa f hf h.1 h.2

/-- **the struct is still rejected** with a look-alike on the offending field -/
theorem struct_rejected_with_lookalike (E : Ext) (T : List Str) (attrs : List Attr) (ident : Str)
    (gens : List GenericParam) (before after : List Field) (f : Field) (pre post : List Attr) (a : Attr)
    (hsa : getSerializedAsType E attrs = none) (hf : f.attrs = pre ++ post)
    (hn : Neutral T a) (ho : NoOverride E a) (h : Culprit E T f) :
    (parseStruct E T attrs ident gens (.named (before ++ withAttr f pre post a :: after))).isOk = false :=
  culprit_rejects_struct E T attrs ident gens _ hsa _ (by simp) (culprit_insert E T f pre post a hf hn ho h)

/-- **the struct variant is still rejected** with a look-alike on the offending field -/
theorem variant_field_rejected_with_lookalike (E : Ext) (T : List Str) (ra : Option Str) (va : List Attr) (vi : Str)
    (before after : List Field) (f : Field) (pre post : List Attr) (a : Attr)
    (hf : f.attrs = pre ++ post) (hn : Neutral T a) (ho : NoOverride E a) (h : Culprit E T f) :
    (parseEnumVariant E T ra ⟨va, vi, .named (before ++ withAttr f pre post a :: after)⟩).isOk = false := by
  have hc := culprit_insert E T f pre post a hf hn ho h
  exact parseVariant_rejects E T ra _ (.inr ⟨_, withAttr f pre post a, rfl, by simp, hc.1, hc.2⟩)

/-- **the enum is still rejected** with a look-alike on the offending variant: whatever C08 rejects a
non-skipped variant for (several payloads, an unsupported payload, an unsupported or flattened field) is
independent of the variant's own attributes, and the variant is as little skipped as before -/
theorem variant_rejected_with_lookalike (E : Ext) (T : List Str) (attrs : List Attr) (ident : Str)
    (gens : List GenericParam) (before after : List Variant) (vpre vpost : List Attr) (vi : Str) (vf : Fields)
    (a : Attr) (hsa : getSerializedAsType E attrs = none) (hn : Neutral T a)
    (hskip : isSkipped (vpre ++ vpost) T = false)
    (h : (∃ fs, vf = .unnamed fs ∧ (fs.length > 1 ∨ ∃ f rest, fs = f :: rest ∧ BadType E f.attrs f.ty)) ∨
         (∃ fs f, vf = .named fs ∧ f ∈ fs ∧ Culprit E T f)) :
    (parseEnum E T attrs ident gens (before ++ ⟨vpre ++ a :: vpost, vi, vf⟩ :: after)).isOk = false := by
  refine parseEnum_rejects_variant E T attrs ident gens _ hsa ⟨vpre ++ a :: vpost, vi, vf⟩ (by simp) ?_ ?_
  · simpa [isSkipped_insert vpre vpost a T hn] using hskip
  · rcases h with h | ⟨fs, f, h1, h2, h3⟩
    · exact .inl h
    · exact .inr ⟨fs, f, h1, h2, h3.1, h3.2⟩

def exE : Ext := { U := .ascii, parseType := fun _ => none }
/-- `pub big: u64` -/
def bigField : Field := ⟨[], some s%"big", .path [] s%"u64" []⟩
/-- `#[serde(skip_serializing_if = "Option::is_none")]` -/
def sif : Attr := serdeList [.nameValue [s%"skip_serializing_if"] (some (.str s%"Option::is_none"))]

example : Culprit exE [] bigField := ⟨by decide +kernel, .inl (.int64 _ _ _ (by decide))⟩
example : Neutral [] sif :=
  ⟨not_marker_without_skip_path _ _ _ (by intro m hm; simp at hm; subst hm; exact .inr (.inl ⟨_, _, rfl⟩)), .inl rfl⟩
example : Neutral [s%"ios"] sif :=
  ⟨not_marker_without_skip_path _ _ _ (by intro m hm; simp at hm; subst hm; exact .inr (.inl ⟨_, _, rfl⟩)), .inr rfl⟩
example : NoOverride exE sif := by unfold NoOverride; decide +kernel
/-- the conclusion of `struct_rejected_with_lookalike` on the witness, and the contrast with the real marker -/
example : (parseStruct exE [] [] s%"S" [] (.named [withAttr bigField [] [] sif])).isOk = false := by decide +kernel
example : (parseStruct exE [] [] s%"S" [] (.named [withAttr bigField [] [] (serdeList [.path [kSkip]])])).isOk = true := by
  decide +kernel

end TsV.C08_Lookalikes
