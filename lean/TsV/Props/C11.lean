import TsV.Lemmas.Topsort
import TsV.Lemmas.TopsortOrder
import TsV.Lemmas.SortByIndices
import TsV.Lemmas.C11_Coverage
/-!
# C11 — each definition once, after the definitions it uses

Statements about the model of `topsort.rs` (`toposort`, `sortByIndices`).
-/
namespace TsV.C11
open TsV.Topsort

theorem wfGraph_iff (g : List (List Nat)) :
    wfGraph g = true ↔ ∀ deps ∈ g, ∀ d ∈ deps, d < g.length := by
  simp [wfGraph, List.all_eq_true]

/-- **No panic, no divergence**: on every graph whose adjacency entries are nodes — cycles, self
loops and duplicate edges included — `toposort_impl` returns (the recursion-depth fuel handed in by
the caller suffices and `graph[d]` is never out of range). -/
theorem toposort_total (g : List (List Nat)) (hg : wfGraph g = true) : (toposort g).isSome := by
  unfold toposort
  rw [Option.isSome_map]
  apply inner_isSome g ((wfGraph_iff g).1 hg)
  · intro x hx; simpa using hx
  · simp
  · simp
  · simp

/-- **Permutation**: the order computed for *any* graph (cyclic or not) lists every node exactly
once — the early `return` on a cycle only abandons a nested adjacency list. -/
theorem toposort_perm (g : List (List Nat)) (hg : wfGraph g = true) (r : List Nat)
    (h : toposort g = some r) : r.Perm (List.range g.length) := by
  unfold toposort at h
  rw [Option.map_eq_some_iff] at h
  obtain ⟨st', hst, rfl⟩ := h
  obtain ⟨_, ⟨new, hr, hnd, hx⟩, hc⟩ := inner_dfs g _ _ _ _ hst
  have hr : st'.res = new := by simpa using hr
  rw [hr] at hc ⊢
  rw [List.perm_ext_iff_of_nodup hnd List.nodup_range]
  intro a
  refine ⟨fun ha => ?_, hc.resolve_right (fun ⟨_, _, h⟩ => nomatch h) a⟩
  rcases (hx a ha).2.2 with h1 | ⟨deps, hd, hx⟩
  · exact h1
  · simpa using (wfGraph_iff g).1 hg deps hd a hx

/-- `slice::swap` permutes -/
theorem swap_perm {α} (l l' : List α) (i j : Nat) (h : swap l i j = some l') : l'.Perm l := by
  unfold swap at h
  split at h
  · rename_i a b ha hb
    simp only [Option.some.injEq] at h
    subst h
    have hi : i < l.length := (List.getElem?_eq_some_iff.1 ha).1
    have hj : j < l.length := (List.getElem?_eq_some_iff.1 hb).1
    have ha' : l[i] = a := (List.getElem?_eq_some_iff.1 ha).2
    have hb' : l[j] = b := (List.getElem?_eq_some_iff.1 hb).2
    subst ha' hb'
    exact List.set_set_perm hi hj
  · simp at h

theorem cycleLoop_perm {α} : ∀ fuel (data : List α) ind cur data' ind',
    cycleLoop fuel data ind cur = some (data', ind') → data'.Perm data := by
  intro fuel
  induction fuel with
  | zero => intro data ind cur data' ind' h; simp [cycleLoop] at h
  | succ fuel ih =>
    intro data ind cur data' ind' h
    simp only [cycleLoop] at h
    split at h
    · simp at h
    · split at h
      · simp at h
      · split at h
        · simp only [Option.some.injEq, Prod.mk.injEq] at h; rw [← h.1]
        · split at h
          · simp at h
          · rename_i d2 hsw
            exact (ih _ _ _ _ _ h).trans (swap_perm _ _ _ _ hsw)

theorem outerLoop_perm {α} : ∀ (idxs : List Nat) (data : List α) ind data' ind',
    outerLoop idxs data ind = some (data', ind') → data'.Perm data := by
  intro idxs
  induction idxs with
  | nil => intro data ind data' ind' h; simp [outerLoop] at h; rw [← h.1]
  | cons i rest ih =>
    intro data ind data' ind' h
    simp only [outerLoop] at h
    split at h
    · simp at h
    · split at h
      · split at h
        · simp at h
        · rename_i d2 i2 hc
          exact (ih _ _ _ _ h).trans (cycleLoop_perm _ _ _ _ _ _ hc)
      · exact ih _ _ _ _ h

/-- **Nothing lost or duplicated by the in-place reordering**: whatever index vector it is given,
`sort_by_indices` only swaps, so its result is a permutation of its input. -/
theorem sortByIndices_perm {α} (data : List α) (idx : List Nat) (r : List α)
    (h : sortByIndices data idx = some r) : r.Perm data := by
  unfold sortByIndices at h
  rw [Option.map_eq_some_iff] at h
  obtain ⟨⟨d, i⟩, hd, rfl⟩ := h
  exact outerLoop_perm _ _ _ _ _ hd

/-! ### non-vacuity: the unit tests of `topsort.rs`, a self loop, a 3-cycle, a gather -/
example : toposort [[], [0], [0, 1]] = some [0, 1, 2] := by
  rw [toposort_eq_innerFuel]
  decide +kernel
example : toposort [[1], [0], [1]] = some [1, 0, 2] := by
  rw [toposort_eq_innerFuel]
  decide +kernel
example : wfGraph [[1], [0], [1]] = true := by decide +kernel
example : toposort [[0], [2], [1]] = some [0, 2, 1] := by
  rw [toposort_eq_innerFuel]
  decide +kernel
example : sortByIndices [10, 11, 12] [1, 2, 0] = some [11, 12, 10] := by decide +kernel

end TsV.C11

namespace TsV.C11
open TsV.Topsort

/-- `j` is emitted before `i` -/
def Before (res : List Nat) (j i : Nat) : Prop := ∃ pre post, res = pre ++ i :: post ∧ j ∈ pre

/-- **Topological order**: when the dependency graph is acyclic, every node is emitted after all
the nodes it depends on (so that eagerly evaluated targets such as Python aliases and unions load). -/
theorem toposort_topological (g : List (List Nat)) (hac : Acyclic g) (r : List Nat)
    (h : toposort g = some r) : ∀ i j, i < g.length → Edge g i j → Before r j i := by
  unfold toposort at h
  rw [Option.map_eq_some_iff] at h
  obtain ⟨st', hst, rfl⟩ := h
  have ho := inner_ord g hac _ _ _ _ hst (fun s hs => nomatch hs) (by intro pre i post h; simp at h)
  intro i j hi ⟨deps, hd, hj⟩
  obtain ⟨pre, post, hsplit⟩ := List.append_of_mem (inner_complete g _ _ _ _ hst rfl i (by simpa using hi))
  exact ⟨pre, post, hsplit, ho pre i post hsplit deps hd j hj⟩

/-- with the permutation theorem: each node exactly once *and* after its dependencies -/
theorem toposort_acyclic_spec (g : List (List Nat)) (hg : wfGraph g = true) (hac : Acyclic g) :
    ∃ r, toposort g = some r ∧ r.Perm (List.range g.length) ∧
      ∀ i j, i < g.length → Edge g i j → Before r j i := by
  obtain ⟨r, hr⟩ := Option.isSome_iff_exists.mp (toposort_total g hg)
  exact ⟨r, hr, toposort_perm g hg r hr, toposort_topological g hac r hr⟩

/-- non-vacuity: the diamond 3 → {1,2} → 0 is acyclic and sorted dependencies-first -/
example : toposort [[], [0], [0], [1, 2]] = some [0, 1, 2, 3] := by
  rw [toposort_eq_innerFuel]
  decide +kernel

end TsV.C11

namespace TsV.C11
open TsV.Topsort

/-- **`sort_by_indices` is a gather** (and hence loses or duplicates nothing): for every index vector
that is a permutation of the positions the in-place cycle-following loop terminates without an
index panic, and position `i` of the result holds `data[indices[i]]`. -/
theorem sortByIndices_gather {α} (data : List α) (idx : List Nat)
    (hperm : idx.Perm (List.range data.length)) :
    ∃ r, sortByIndices data idx = some r ∧ r.length = data.length ∧
      ∀ i : Nat, r[i]? = (idx[i]?).bind fun v => data[v]? :=
  Topsort.sortByIndices_gather data idx hperm

/-- **the ordering pass end to end**: whenever the dependency graph built from the items is acyclic,
`topsort` returns the items rearranged by an order that lists every item exactly once and every
item after all items it depends on. -/
theorem topsort_items (items : List RustItem) (g : List (List Nat)) (hg : Deps.graph items = some g)
    (hwf : wfGraph g = true) (hac : Acyclic g) :
    ∃ out order, Deps.topsort items = some out ∧ order.Perm (List.range items.length) ∧
      out.length = items.length ∧ (∀ k : Nat, out[k]? = (order[k]?).bind fun v => items[v]?) ∧
      ∀ i j, i < items.length → Edge g i j → Before order j i := by
  have hlen : g.length = items.length := by
    unfold Deps.graph at hg; exact (Deps.mapM_forall₂ hg).length_eq.symm
  obtain ⟨order, ho, hperm, htop⟩ := toposort_acyclic_spec g hwf hac
  rw [hlen] at hperm
  obtain ⟨out, hs, hl, hget⟩ := sortByIndices_gather items order hperm
  refine ⟨out, order, ?_, hperm, hl, hget, fun i j hi he => htop i j (by omega) he⟩
  simp [Deps.topsort, hg, ho, hs]

/-- and for *every* graph (cycles included) nothing is lost or duplicated -/
theorem topsort_perm (items : List RustItem) (g : List (List Nat)) (hg : Deps.graph items = some g)
    (hwf : wfGraph g = true) : ∃ out, Deps.topsort items = some out ∧ out.Perm items := by
  have hlen : g.length = items.length := by
    unfold Deps.graph at hg; exact (Deps.mapM_forall₂ hg).length_eq.symm
  obtain ⟨order, ho⟩ := Option.isSome_iff_exists.mp (toposort_total g hwf)
  have hperm := toposort_perm g hwf order ho
  rw [hlen] at hperm
  obtain ⟨out, hs, _, _⟩ := sortByIndices_gather items order hperm
  exact ⟨out, by simp [Deps.topsort, hg, ho, hs], sortByIndices_perm items order out hs⟩

end TsV.C11

namespace TsV.C11
open TsV.Topsort

/-- the graph `topsort` builds only mentions positions of the item list (`get_index` found them
there), so the two theorems above apply to every item list for which the graph exists -/
theorem graph_wf (items : List RustItem) (g : List (List Nat)) (hg : Deps.graph items = some g) :
    wfGraph g = true := by
  have hlen : g.length = items.length := by
    unfold Deps.graph at hg; exact (Deps.mapM_forall₂ hg).length_eq.symm
  rw [wfGraph_iff]
  intro deps hdeps d hd
  unfold Deps.graph at hg
  obtain ⟨it, _, hit⟩ := (Deps.mapM_forall₂ hg).mem_right deps hdeps
  obtain ⟨dep, _, hdep⟩ := (Deps.mapM_forall₂ hit).mem_right d hd
  cases hl : Deps.lookup items dep with
  | none => simp [hl] at hdep
  | some thing =>
    simp only [hl, Option.bind_some, Deps.getIndex] at hdep
    have := (List.findIdx?_eq_some_iff_findIdx_eq.1 hdep).1
    omega

end TsV.C11
