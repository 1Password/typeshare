import TsV.Model.Annotation
/-!
# C19 — `#[typeshare]` is transparent to the Rust compiler and to serde

What is proved: the expansion is syntactically the item with exactly the `typeshare` helper
attributes removed from variants, variant fields, struct fields and union fields — all other
attributes (serde, derive, cfg, doc), their order, and every other token untouched; identity on
items that are not struct/enum/union.  "Compiles exactly when the stripped twin does and behaves
identically" follows because rustc (and every derive macro) is a function of the token stream it
is given; that step is trusted, not proved.
-/
namespace TsV.C19
open TsV TsV.Annotation

/-- the un-annotated twin: the same item with every `typeshare` helper attribute deleted -/
def twin : AItem → AItem := expand

theorem stripAttrs_no_config (as : List AAttr) : ∀ a ∈ stripAttrs as, isConfig a = false := by
  intro a ha
  simp only [stripAttrs, List.mem_filter, Bool.not_eq_true'] at ha
  exact ha.2

/-- other attributes are kept, in order: the result is the sub-list of non-`typeshare` attributes -/
theorem stripAttrs_keeps (as : List AAttr) (a : AAttr) (h : isConfig a = false) :
    a ∈ stripAttrs as ↔ a ∈ as := by
  simp [stripAttrs, List.mem_filter, h]

theorem stripAttrs_sublist (as : List AAttr) : (stripAttrs as).Sublist as := List.filter_sublist

theorem stripAttrs_id (as : List AAttr) (h : ∀ a ∈ as, isConfig a = false) : stripAttrs as = as := by
  unfold stripAttrs
  rw [List.filter_eq_self]
  intro a ha; simp [h a ha]

theorem stripAttrs_idem (as : List AAttr) : stripAttrs (stripAttrs as) = stripAttrs as :=
  stripAttrs_id _ (stripAttrs_no_config as)

/-- helper attributes placed anywhere among other attributes are removed and nothing else is -/
theorem stripAttrs_interleave (xs : List AAttr) (hx : ∀ a ∈ xs, isConfig a = false) :
    ∀ (ys : List AAttr), (∀ a ∈ ys, isConfig a = true) → ∀ zs, zs.Perm (xs ++ ys) → xs.Sublist zs →
      stripAttrs zs = xs := by
  intro ys hy zs hp hs
  -- the non-config elements of zs are exactly xs, in the order of zs, which contains xs as a sublist
  have h1 : stripAttrs xs = xs := stripAttrs_id xs hx
  have hfil : (stripAttrs zs).Perm xs := by
    have := hp.filter (fun a => !isConfig a)
    rw [List.filter_append] at this
    have h2 : ys.filter (fun a => !isConfig a) = [] := by
      rw [List.filter_eq_nil_iff]; intro a ha; simp [hy a ha]
    rw [h2, List.append_nil] at this
    exact this.trans (.of_eq h1)
  have hsub : xs.Sublist (stripAttrs zs) := by
    have := hs.filter (fun a => !isConfig a)
    rwa [← stripAttrs, ← stripAttrs, h1] at this
  exact (hsub.eq_of_length_le (by rw [hfil.length_eq]; exact Nat.le_refl _)).symm

/-- no helper attribute in any of the four positions -/
def Clean : AItem → Prop
  | .struct _ _ fs => ∀ f ∈ fs, ∀ a ∈ f.attrs, isConfig a = false
  | .enum _ _ vs => ∀ v ∈ vs, (∀ a ∈ v.attrs, isConfig a = false) ∧ ∀ f ∈ v.fields, ∀ a ∈ f.attrs, isConfig a = false
  | .union _ _ fs => ∀ f ∈ fs, ∀ a ∈ f.attrs, isConfig a = false
  | .other _ => True

theorem stripField_id (f : AField) (h : ∀ a ∈ f.attrs, isConfig a = false) : stripField f = f := by
  cases f; simp [stripField, stripAttrs_id _ h]

theorem map_id_of {α} (g : α → α) (l : List α) (h : ∀ x ∈ l, g x = x) : l.map g = l :=
  (List.map_congr_left h).trans (List.map_id l)

/-- **the expansion of an item without helper attributes is the item itself** -/
theorem expand_clean (it : AItem) (h : Clean it) : expand it = it := by
  cases it with
  | struct a hd fs | union a hd fs =>
    simp only [expand]; rw [map_id_of _ _ (fun f hf => stripField_id f (h f hf))]
  | enum a hd vs =>
    simp only [expand]
    rw [map_id_of _ _ (fun v hv => by
      obtain ⟨h1, h2⟩ := h v hv
      cases v with
      | mk attrs name fields rest =>
        simp only [stripVariant, stripAttrs_id _ h1]
        rw [map_id_of _ _ (fun f hf => stripField_id f (h2 f hf))])]
  | other t => rfl

/-- the expansion never contains a helper attribute in the four positions -/
theorem expand_clean_result (it : AItem) : Clean (expand it) := by
  cases it with
  | struct a hd fs | union a hd fs =>
    intro f hf a' ha'
    simp only [List.mem_map] at hf
    obtain ⟨f0, _, rfl⟩ := hf
    exact stripAttrs_no_config _ a' ha'
  | enum a hd vs =>
    intro v hv
    simp only [List.mem_map] at hv
    obtain ⟨v0, _, rfl⟩ := hv
    refine ⟨fun a' ha' => stripAttrs_no_config _ a' ha', fun f hf a' ha' => ?_⟩
    simp only [stripVariant, List.mem_map] at hf
    obtain ⟨f0, _, rfl⟩ := hf
    exact stripAttrs_no_config _ a' ha'
  | other t => trivial

/-- **idempotent**: applying `#[typeshare]` twice is the same as once -/
theorem expand_idem (it : AItem) : expand (expand it) = expand it :=
  expand_clean _ (expand_clean_result it)

/-- item-level attributes, the item head (visibility, name, generics, where-clause), field / variant
bodies and the *number and order* of fields and variants are never touched -/
theorem expand_struct_shape (a : List AAttr) (h : Str) (fs : List AField) :
    ∃ fs', expand (.struct a h fs) = .struct a h fs' ∧ fs'.map (·.rest) = fs.map (·.rest) ∧
      fs'.length = fs.length := by
  exact ⟨fs.map stripField, rfl, by simp [stripField], by simp⟩

theorem expand_enum_shape (a : List AAttr) (h : Str) (vs : List AVariant) :
    ∃ vs', expand (.enum a h vs) = .enum a h vs' ∧ vs'.map (·.name) = vs.map (·.name) ∧
      vs'.map (·.rest) = vs.map (·.rest) ∧
      vs'.map (fun v => v.fields.map (·.rest)) = vs.map (fun v => v.fields.map (·.rest)) := by
  refine ⟨vs.map stripVariant, rfl, by simp [stripVariant], by simp [stripVariant], ?_⟩
  simp [stripVariant, stripField, Function.comp_def]

/-- items that are not struct / enum / union (type aliases, consts, functions, …) pass through -/
theorem expand_other (t : Str) : expand (.other t) = .other t := rfl

def ts : AAttr := ⟨[s%"typeshare"], s%"(skip)"⟩
def sd : AAttr := ⟨[s%"serde"], s%"(rename = \"x\")"⟩
def qualified : AAttr := ⟨[s%"typeshare", s%"typeshare"], []⟩
example : expand (.struct [sd] s%"pub struct S" [⟨[sd, ts, sd], s%"pub a : u8"⟩, ⟨[ts], s%"b : u8"⟩]) =
    .struct [sd] s%"pub struct S" [⟨[sd, sd], s%"pub a : u8"⟩, ⟨[], s%"b : u8"⟩] := by decide +kernel
/-- a *qualified* helper path is not recognised and stays (then rustc rejects it: outside the property's grammar) -/
example : stripAttrs [qualified, ts] = [qualified] := by decide +kernel

end TsV.C19
