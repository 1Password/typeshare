import TsV.Lemmas.C12_Swift
import TsV.Lemmas.C12_Scala
import TsV.Lemmas.C12_Python
import TsV.Lemmas.C12_Go
import TsV.Lemmas.C12_TypeScript
import TsV.Lemmas.C12_Kotlin
/-!
# C12 — every helper name typeshare introduces into a file is defined or imported there

For each back end `L`: the helper names used (`C12L.L.used`: the names the text generated for one output
file uses *on typeshare's account* — user-written type overrides and type-mapping targets are the
user's names and are not counted), the helper names provided (what the same output defines or imports),
and `used ⊆ provided`, for every `ParsedData`, every configuration and every printer state left
behind by the files generated earlier in the run (that covers multi-file mode).

* Swift, Go, TypeScript, Scala, Python: the statement holds (`C12_swift`, `C12_go`,
  `C12_typescript`, `C12_scala`, `C12_python`; Scala since the `fix:` commit 37c1b68 made the
  unsigned-integer scan recursive; Python since the `fix:` commits f8d1040 (generic aliases),
  0d6268d (`py-default-custom-fns`) and bfc37c3 (`py-mapped-datetime-import`)).
* Kotlin: it does not (`C12_not_full`, `kotlin_not_full`); the failing inputs are characterised
  exactly (`Known_kotlin`: no package configured) and the statement is proved for all others —
  `C12_full` fails for Kotlin without a package and for nothing else (`C12_all_but_kotlin`,
  `C12_full_iff_kotlin`).
-/
namespace TsV.C12
open TsV TsV.C12L

abbrev Job := Str × ParsedData × Option Pipeline.ScopedCrateTypes

/-! ## Swift: `CodableVoid` -/

/-- where the definition of `CodableVoid` has to be for an output file that uses it: in the shared
`Codable.swift` in multi-file mode, at the end of the file itself otherwise -/
def SwiftProvided (cfg : Lang.Swift.Cfg) (multi : Bool) (res : List (Str × Str)) (text : Str) : Prop :=
  if multi then (s%"<post>/Codable.swift", Lang.Swift.writeCodable cfg) ∈ res else Swift.EndsWithCodable cfg text

/-- a whole run: `res` starts with one text per job (same crate names, same order); every one whose
data uses `CodableVoid` finds the definition -/
def Swift_full : Prop :=
  ∀ (E : Ext) (cfg : Lang.Swift.Cfg) (multi : Bool) (jobs : List Job) (res : List (Str × Str)),
    Lang.Swift.generateAll E cfg multi jobs = .ok res →
    ∃ outs, outs <+: res ∧ outs.length = jobs.length ∧
      ∀ p ∈ jobs.zip outs, p.2.1 = p.1.1 ∧ (Swift.used cfg p.1.2.1 = true → SwiftProvided cfg multi res p.2.2)

theorem C12_swift : Swift_full := by
  intro E cfg multi jobs res h
  obtain ⟨outs, hres, hlen, hall⟩ := Swift.generateAll_spec E cfg multi jobs res h
  refine ⟨outs, ⟨_, hres.symm⟩, hlen, ?_⟩
  intro p hp
  refine ⟨(hall p hp).1, ?_⟩
  intro hu
  unfold SwiftProvided
  cases multi with
  | false => exact (hall p hp).2 hu rfl
  | true =>
    have hany : (jobs.any fun j => Swift.used cfg j.2.1) = true :=
      List.any_eq_true.2 ⟨p.1, (List.of_mem_zip hp).1, hu⟩
    simp [hres, hany, Lang.Swift.postGeneration]

/-- the flag is set by formatting `()` at any depth and nowhere else: after one file it is
"before ∨ used", whatever the items, positions and nesting -/
theorem swift_flag_exact (U : UnicodeOps) (cfg : Lang.Swift.Cfg) (multi : Bool) (d : ParsedData)
    (st0 : Bool) (text : Str) (st : Bool) (h : Lang.Swift.generate U cfg multi d st0 = .ok (text, st)) :
    st = (st0 || Swift.used cfg d) := (Swift.generate_spec U cfg multi d st0 text st h).1

/-- single-file mode: provided ⇔ used -/
theorem swift_single_file_iff (U : UnicodeOps) (cfg : Lang.Swift.Cfg) (d : ParsedData) (text : Str) (st : Bool)
    (h : Lang.Swift.generate U cfg false d false = .ok (text, st)) :
    ∃ body, text = Lang.Swift.beginFile cfg ++ body ++
      (if Swift.used cfg d then Lang.Swift.writeCodable cfg else []) := by
  obtain ⟨hst, body, ht⟩ := Swift.generate_spec U cfg false d false text st h
  refine ⟨body, ?_⟩
  rw [ht, hst]
  simp [Lang.Swift.endFile]

/-- what is written defines the name -/
theorem swift_codable_defines (cfg : Lang.Swift.Cfg) :
    s%"public struct CodableVoid: " <:+: Lang.Swift.writeCodable cfg := Swift.writeCodable_defines cfg

/-! non-vacuity: `()` three levels down in a field, in a payload, in a generic argument -/
example : Swift.unitIn {} (.vec (.hashMap (.prim .string) (.option (.prim .unit)))) = true := by decide +kernel
example : Swift.unitIn {} (.generic s%"Foo" [.vec (.prim .unit)]) = true := by decide +kernel
example : Swift.unitIn { typeMappings := [(s%"Foo", s%"Bar")] } (.generic s%"Foo" [.prim .unit]) = false := by decide +kernel

/-! ## Go: imported packages -/

/-- every package the text refers to on typeshare's account (`time` for `time.Time`,
`encoding/json` for the `json.` calls of algebraic enums) is in the import set `st` that the same
file's import block lists -/
def Go_full : Prop :=
  ∀ (U : UnicodeOps) (cfg : Lang.Go.Cfg) (d : ParsedData) (st0 : Lang.Go.Imports) (text : Str) (st : Lang.Go.Imports),
    Lang.Go.generate U cfg d st0 = .ok (text, st) →
    (∃ body, text = Lang.Go.beginFile cfg ++ Lang.Go.renderImports st ++ body) ∧ ∀ p ∈ Go.used cfg d, p ∈ st

theorem C12_go : Go_full := by
  intro U cfg d st0 text st h
  obtain ⟨h1, _, h3⟩ := Go.generate_spec U cfg d st0 text st h
  exact ⟨h3, h1⟩

/-- … and the import block names each package of the set -/
theorem go_import_block (st : Lang.Go.Imports) (p : Str) (hp : p ∈ st) :
    (s%"\"" ++ p ++ s%"\"") <:+: Lang.Go.renderImports st := by
  unfold Lang.Go.renderImports
  match st, hp with
  | [i], hp =>
    simp only [List.mem_singleton] at hp
    subst hp
    exact ⟨s%"import ", s%"\n" ++ Lang.nl, by simp only [List.append_assoc]; rfl⟩
  | a :: b :: rest, hp =>
    have hq : (s%"\"" ++ p ++ s%"\"") <:+: s%"\t\"" ++ p ++ s%"\"\n" :=
      ⟨s%"\t", s%"\n", by simp only [List.append_assoc]; rfl⟩
    obtain ⟨l1, l2, hl⟩ := List.append_of_mem hp
    -- the line of `p` lies in the block of lines, the block between the opening and the closing text
    refine (hq.trans ?_).trans ((List.suffix_append _ _).isInfix.trans
      ((List.prefix_append _ _).isInfix.trans (List.prefix_append _ _).isInfix))
    rw [hl, List.flatMap_append, List.flatMap_cons]
    exact (List.prefix_append _ _).isInfix.trans (List.suffix_append _ _).isInfix

example : Go.timeIn {} (.option (.vec (.hashMap (.prim .string) (.prim .dateTime)))) = true := by decide +kernel
example : Go.timeIn { typeMappings := [(s%"OffsetDateTime", s%"time.Time")] } (.prim .dateTime) = false := by decide +kernel

/-! ## TypeScript: the reviver / replacer footer -/

/-- every custom-translated type (`Uint8Array`, `Date`) a field of the file is printed with has its
clause in `ReviverFunc` / `ReplacerFunc`, and the footer defining both is the end of the file -/
def TypeScript_full : Prop :=
  ∀ (U : UnicodeOps) (cfg : Lang.TypeScript.Cfg) (d : ParsedData) (imps : Option Pipeline.ScopedCrateTypes)
    (st0 : Lang.TypeScript.CustomMap) (text : Str) (st : Lang.TypeScript.CustomMap),
    Lang.TypeScript.generate U cfg d imps st0 = .ok (text, st) →
    (∃ pre, text = pre ++ Lang.TypeScript.endFile st) ∧
    ∀ t ∈ TypeScript.used cfg d, TypeScript.clauseFor st t ∈ TypeScript.clauses st ∧
      ∃ pre, Lang.TypeScript.endFile st = pre ++
        s%"export const ReviverFunc = (key: string, value: unknown): unknown => {\n    " ++
        Str.intercalate s%"\n    " ((TypeScript.clauses st).map (·.1)) ++
        s%"\n    return value;\n};\n\nexport const ReplacerFunc = (key: string, value: unknown): unknown => {\n    " ++
        Str.intercalate s%"\n    " ((TypeScript.clauses st).map (·.2)) ++ s%"\n    return value;\n};\n"

theorem C12_typescript : TypeScript_full := by
  intro U cfg d imps st0 text st h
  obtain ⟨h1, _, h3⟩ := TypeScript.generate_spec U cfg d imps st0 text st h
  refine ⟨h3, ?_⟩
  intro t ht
  exact TypeScript.endFile_provides st t (h1 t ht) (TypeScript.used_custom cfg d t ht)

example : TypeScript.fieldNeeds { typeMappings := [(s%"Vec<u8>", s%"Uint8Array")] } []
    { id := ⟨s%"a", s%"a", false⟩, ty := .vec (.prim .u8), comments := [], hasDefault := false, decorators := [] }
    = [s%"Uint8Array"] := by decide +kernel


/-! ## witnesses shared below -/

def mkField (name : Str) (ty : RustType) (hasDefault : Bool := false) : RustField :=
  { id := ⟨name, name, false⟩, ty, comments := [], hasDefault, decorators := [] }

def mkStruct (name : Str) (fields : List RustField) (gens : List Str := []) : RustStruct :=
  { id := ⟨name, name, false⟩, genericTypes := gens, fields, comments := [], decorators := {}, isRedacted := false }

def mkAlias (name : Str) (ty : RustType) (gens : List Str := []) : RustTypeAlias :=
  { id := ⟨name, name, false⟩, genericTypes := gens, ty, comments := [], decorators := {}, isRedacted := false }

def exE : Ext := { U := .ascii, parseType := fun _ => none }

/-! ## Scala: the unsigned aliases -/

/-- whenever a formatted type prints `UByte` / `UShort` / `UInt` / `ULong`, the package object of the
same file starts with the alias block -/
def Scala_full : Prop :=
  ∀ (cfg : Lang.Scala.Cfg) (d : ParsedData) (f : Lang.Scala.ScFile), Lang.Scala.fileFacts cfg d = .ok f →
    Scala.used cfg d = true → Scala.definesUnsigned f = true

def scalaCfg : Lang.Scala.Cfg := { package := s%"com.example" }

/-- **C12 for Scala** (a full theorem since the `fix:` commit 37c1b68: `uses_unsigned` descends to
any depth, under arrays, slices and generic arguments too) -/
theorem C12_scala : Scala_full := by
  intro cfg d f hf hu
  rw [Scala.fileFacts_defines cfg d f hf]
  exact Scala.used_provided cfg d hu

/-- … and the rendered file then contains the four alias definitions -/
theorem C12_scala_text (cfg : Lang.Scala.Cfg) (d : ParsedData) (f : Lang.Scala.ScFile)
    (hf : Lang.Scala.fileFacts cfg d = .ok f) (hu : Scala.used cfg d = true) :
    Scala.definesUnsigned f = true ∧ Lang.Scala.unsignedAliases <:+: Lang.Scala.renderFile f := by
  have := C12_scala cfg d f hf hu
  exact ⟨this, Scala.renderFile_defines f this⟩

/-- the scan finds every unsigned integer the formatter prints, type by type -/
theorem scala_scan_complete (cfg : Lang.Scala.Cfg) (t : RustType) (hu : Scala.unsignedIn cfg t = true) :
    Lang.Scala.usesUnsigned t = true := Scala.usesUnsigned_of_unsignedIn cfg t hu

/-- without type mappings the scan is exact (with them it may also see an unsigned integer in the
argument of a type-mapped generic, which is never printed: a spare alias block, not a missing one) -/
theorem scala_scan_exact (cfg : Lang.Scala.Cfg) (hm : cfg.typeMappings = []) (t : RustType) :
    Lang.Scala.usesUnsigned t = Scala.unsignedIn cfg t := Scala.usesUnsigned_eq_unsignedIn cfg hm t

/-- what `fileFacts` says about the alias block of a file -/
def scalaDefines (cfg : Lang.Scala.Cfg) (d : ParsedData) : Option Bool :=
  match Lang.Scala.fileFacts cfg d with
  | .ok f => some (Scala.definesUnsigned f)
  | _ => none

/-! regression examples: the witnesses of the repaired class `scala-unsigned-scan-depth`
(`struct S { a: Vec<Vec<u8>> }`, arrays, slices, `Option<Vec<_>>`, map values, generic arguments)
use the aliases *and* get them -/
/-- `struct S { a: Vec<Vec<u8>> }` -/
def scalaWitness : ParsedData := { structs := [mkStruct s%"S" [mkField s%"a" (.vec (.vec (.prim .u8)))]] }
example : Scala.used scalaCfg scalaWitness = true ∧ scalaDefines scalaCfg scalaWitness = some true := by
  decide +kernel
example : scalaDefines scalaCfg { structs := [mkStruct s%"S" [mkField s%"a" (.array (.prim .u16) 2)]] } = some true := by
  decide +kernel
example : scalaDefines scalaCfg { aliases := [mkAlias s%"A" (.option (.vec (.prim .u32)))] } = some true := by
  decide +kernel
example : Lang.Scala.usesUnsigned (.array (.prim .u16) 2) = true ∧ Lang.Scala.usesUnsigned (.slice (.prim .u16)) = true ∧
    Lang.Scala.usesUnsigned (.option (.vec (.prim .u32))) = true ∧
    Lang.Scala.usesUnsigned (.hashMap (.prim .string) (.vec (.prim .u8))) = true ∧
    Lang.Scala.usesUnsigned (.generic s%"Foo" [.vec (.prim .u8)]) = true := by decide +kernel
-- no unsigned integer anywhere: no alias block
example : scalaDefines scalaCfg { structs := [mkStruct s%"S" [mkField s%"a" (.vec (.vec (.prim .i32)))]] } = some false := by
  decide +kernel
-- the argument of a type-mapped generic is scanned though never printed
example : Scala.unsignedIn { typeMappings := [(s%"Foo", s%"Bar")] } (.generic s%"Foo" [.prim .u8]) = false ∧
    Lang.Scala.usesUnsigned (.generic s%"Foo" [.prim .u8]) = true := by decide +kernel

/-! ## Kotlin: the serialization imports -/

/-- every `kotlinx.serialization` name the declarations of a file mention is imported by its header -/
def Kotlin_full : Prop :=
  ∀ (cfg : Lang.Kotlin.Cfg) (d : ParsedData) (items : List RustItem) (decls : List Lang.Kotlin.KtDecl),
    Pipeline.generateOrder d = some items → Lang.Kotlin.itemsFacts cfg items = .ok decls →
    ∀ n ∈ decls.flatMap Kotlin.declUses, n ∈ Kotlin.provided cfg

/-- **Known (Kotlin)**: no package is configured (`begin_file` then writes nothing, imports included)
and the file has a declaration that carries an annotation (anything but a `typealias`) -/
def Known_kotlin (cfg : Lang.Kotlin.Cfg) (decls : List Lang.Kotlin.KtDecl) : Prop :=
  cfg.package.isEmpty = true ∧ decls.flatMap Kotlin.declUses ≠ []
instance (cfg : Lang.Kotlin.Cfg) (decls : List Lang.Kotlin.KtDecl) : Decidable (Known_kotlin cfg decls) := by
  unfold Known_kotlin; infer_instance

/-- the statement holds exactly outside `Known_kotlin` -/
theorem C12_kotlin_exact (cfg : Lang.Kotlin.Cfg) (decls : List Lang.Kotlin.KtDecl) :
    (∀ n ∈ decls.flatMap Kotlin.declUses, n ∈ Kotlin.provided cfg) ↔ ¬ Known_kotlin cfg decls := by
  unfold Known_kotlin
  cases hp : cfg.package.isEmpty with
  | true =>
    simp only [Kotlin.provided, hp, if_true, List.not_mem_nil, true_and, ne_eq, Decidable.not_not]
    constructor
    · intro h
      cases hl : decls.flatMap Kotlin.declUses with
      | nil => rfl
      | cons x xs => exact absurd (h x (by simp [hl])) (by simp)
    · intro h n hn; rw [h] at hn; cases hn
  | false =>
    simp only [Bool.false_eq_true, false_and, not_false_eq_true, iff_true]
    intro n hn
    simp only [List.mem_flatMap] at hn
    obtain ⟨dc, _, hdc⟩ := hn
    simp only [Kotlin.provided, hp, Bool.false_eq_true, if_false, List.mem_cons, List.mem_nil_iff, or_false]
    exact Kotlin.declUses_sub dc n hdc

theorem C12_kotlin_partial (cfg : Lang.Kotlin.Cfg) (d : ParsedData)
    (items : List RustItem) (decls : List Lang.Kotlin.KtDecl)
    (_ : Pipeline.generateOrder d = some items) (_ : Lang.Kotlin.itemsFacts cfg items = .ok decls)
    (hk : ¬ Known_kotlin cfg decls) :
    ∀ n ∈ decls.flatMap Kotlin.declUses, n ∈ Kotlin.provided cfg := (C12_kotlin_exact cfg decls).2 hk

/-- inside `Known_kotlin` the file consists of the declarations only -/
theorem known_kotlin_no_header (cfg : Lang.Kotlin.Cfg) (hk : cfg.package.isEmpty = true) (d : ParsedData)
    (imps : Option Pipeline.ScopedCrateTypes) (text : Str) (h : Lang.Kotlin.generate cfg d imps = .ok text) :
    Kotlin.provided cfg = [] ∧
    ∃ decls : List Lang.Kotlin.KtDecl,
      text = (if d.multiFile then Lang.Kotlin.writeImports cfg (imps.getD []) else []) ++
        decls.flatMap Lang.Kotlin.renderDecl := by
  have hk' : cfg.package.isEmpty = true := hk
  obtain ⟨items, decls, _, _, rfl⟩ := Lang.Kotlin.generate_inv h
  refine ⟨by simp [Kotlin.provided, hk'], decls, ?_⟩
  rw [Kotlin.beginFile_empty cfg d hk']; simp

/-- `struct S { a: u8 }` with the default (empty) package -/
def kotlinItem : RustItem := .struct (mkStruct s%"S" [mkField s%"a" (.prim .u8)])
def kotlinWitness : ParsedData := { structs := [mkStruct s%"S" [mkField s%"a" (.prim .u8)]] }

def kotlinUses (cfg : Lang.Kotlin.Cfg) (items : List RustItem) : Option (List Str) :=
  match Lang.Kotlin.itemsFacts cfg items with
  | .ok decls => some (decls.flatMap Kotlin.declUses)
  | _ => none

theorem kotlin_not_full : ¬ Kotlin_full := by
  intro h
  have ho : Pipeline.generateOrder kotlinWitness = some [kotlinItem] :=
    topsort_single kotlinItem (by decide +kernel)
  have hu : kotlinUses {} [kotlinItem] = some [Kotlin.kSerializable] := by decide +kernel
  unfold kotlinUses at hu
  cases hf : Lang.Kotlin.itemsFacts {} [kotlinItem] with
  | ok decls =>
    rw [hf] at hu
    simp only [Option.some.injEq] at hu
    have := h {} kotlinWitness _ decls ho hf Kotlin.kSerializable (by rw [hu]; simp)
    simp [Kotlin.provided] at this
  | err e => rw [hf] at hu; cases hu
  | panic e => rw [hf] at hu; cases hu

example : Known_kotlin {} [.object [] s%"S"] := by decide +kernel
example : ¬ Known_kotlin {} [.typeAlias [] s%"A" [] s%"UByte"] := by decide +kernel
example : ¬ Known_kotlin { package := s%"com.example" } [.object [] s%"S"] := by decide +kernel


/-! ## Python: imports, `TypeVar`s, custom (de)serialiser functions -/

/-- every name the text generated for `d` uses on typeshare's account (`C12L.Python.used`: imports
from `typing` / `pydantic` / `enum` / `datetime`, `TypeVar`s, translation functions) is provided by
the printer state `st` that `write_all_imports` and the custom-function loop write before the body -/
def Python_full : Prop :=
  ∀ (E : Ext) (cfg : Lang.Python.Cfg) (d : ParsedData) (st0 : Lang.Python.St) (text : Str) (st : Lang.Python.St),
    Lang.Python.generate E cfg d st0 = .ok (text, st) →
    (∃ body, text = Lang.Python.beginFile cfg ++ Lang.Python.writeAllImports st ++ Lang.Python.writeCustomFns st ++ body) ∧
    ∀ n ∈ Python.used E cfg d st, Python.Provides st n

/-- **C12 for Python** (a full theorem since the `fix:` commits 0d6268d and bfc37c3): every import,
every `TypeVar` and every translation function the text of a file uses — at any depth and position,
for every type mapping, whatever printer state the earlier files of the run left behind — is in
the state the header and the function block of the same file are written from -/
theorem C12_python : Python_full := by
  intro E cfg d st0 text st h
  obtain ⟨_, hused, hbody⟩ := Python.generate_spec E cfg d st0 text st h
  exact ⟨hbody, hused⟩

/-- … and the printer state only grows along a run -/
theorem C12_python_mono (E : Ext) (cfg : Lang.Python.Cfg) (d : ParsedData) (st0 : Lang.Python.St) (text : Str)
    (st : Lang.Python.St) (h : Lang.Python.generate E cfg d st0 = .ok (text, st)) : Python.Mono st0 st :=
  (Python.generate_spec E cfg d st0 text st h).1

/-- the two repaired classes in terms of the names used:
* `py-default-custom-fns` — a custom-translated field (`bytes` / `datetime`) uses its translation
  functions whether or not it is a `#[serde(default)]` non-`Option` field (`Python.nod`);
* `py-mapped-datetime-import` — whenever `datetime` is registered for custom translation the name
  `datetime` (inside the functions' text) is used.
Both are members of `Python.used`, so `C12_python` covers them. -/
theorem python_repaired_kinds (E : Ext) (cfg : Lang.Python.Cfg) :
    (∀ gens (f : RustField) t, Python.customTy cfg gens f = some t → Python.Need.fns t ∈ Python.fieldSafe E cfg gens f) ∧
    (∀ d (st : Lang.Python.St), s%"datetime" ∈ st.customJson → Python.impDatetime ∈ Python.used E cfg d st) := by
  constructor
  · intro gens f t h
    simp [Python.fieldSafe, h]
  · intro d st h
    simp [Python.used, Python.fnsNeeds, h]

/-- the translation functions of a registered type are written before the body -/
theorem python_fns_written (st : Lang.Python.St) (t : Str) (c : Lang.Python.CustomFns)
    (ht : Python.Provides st (.fns t)) (hc : Lang.Python.jsonTranslation t = some c) :
    c.serializationContent <:+: Lang.Python.writeCustomFns st ∧
    c.deserializationContent <:+: Lang.Python.writeCustomFns st := Python.writeCustomFns_defines st t c ht hc

/-- an import of the state is a line of the header, a type variable is declared there -/
theorem python_header_written (st : Lang.Python.St) :
    (∀ m i, Python.Provides st (.imp m i) → ∃ ids, i ∈ ids ∧
      (s%"from " ++ m ++ s%" import " ++ Str.intercalate s%", " ids) <:+: Lang.Python.writeAllImports st) ∧
    (∀ n, Python.Provides st (.typeVar n) →
      (n ++ s%" = TypeVar(\"" ++ n ++ s%"\")") <:+: Lang.Python.writeAllImports st) :=
  ⟨Python.writeAllImports_import st, Python.writeAllImports_typeVar st⟩

/-- the final printer state of a list of items -/
def pyFinal (E : Ext) (cfg : Lang.Python.Cfg) (items : List RustItem) : Option Lang.Python.St :=
  match Lang.Python.writeItems E cfg items {} with
  | .ok (_, st) => some st
  | _ => none

/-- `struct S { #[serde(default)] t: OffsetDateTime }`, the witness of `py-default-custom-fns`:
`parse_rfc3339` / `serialize_datetime_data` are named in the `Annotated[..]` of the field; before the
`fix:` commit 0d6268d they were registered (and so not written) for `Optional[datetime]` -/
def pyDefaultItem : RustItem := .struct (mkStruct s%"S" [mkField s%"t" (.prim .dateTime) true])
def pyDefaultWitness : ParsedData := { structs := [mkStruct s%"S" [mkField s%"t" (.prim .dateTime) true]] }

/-- `C12_python` is not vacuous on that witness: the run succeeds, `datetime` is registered and
imported, and everything the file uses is provided -/
example : ∃ text st, Lang.Python.generate exE {} pyDefaultWitness {} = .ok (text, st) ∧
    st.customJson = [s%"datetime"] ∧ Python.Provides st Python.impDatetime ∧
    ∀ n ∈ Python.used exE {} pyDefaultWitness st, Python.Provides st n := by
  have ho : Pipeline.generateOrder pyDefaultWitness = some [pyDefaultItem] :=
    topsort_single pyDefaultItem (by decide +kernel)
  have hw : (pyFinal exE {} [pyDefaultItem]).map
      (fun st => (st.customJson, decide (Python.Provides (Lang.Python.addDatetimeImport st) Python.impDatetime))) =
      some ([s%"datetime"], true) := by decide +kernel
  unfold pyFinal at hw
  cases hwi : Lang.Python.writeItems exE {} [pyDefaultItem] {} with
  | ok r =>
    obtain ⟨body, st⟩ := r
    rw [hwi] at hw
    simp only [Option.map_some, Option.some.injEq, Prod.mk.injEq, decide_eq_true_eq] at hw
    have hg : Lang.Python.generate exE {} pyDefaultWitness {} =
        .ok (Lang.Python.beginFile {} ++ Lang.Python.writeAllImports (Lang.Python.addDatetimeImport st) ++
          Lang.Python.writeCustomFns (Lang.Python.addDatetimeImport st) ++ body, Lang.Python.addDatetimeImport st) := by
      simp [Lang.Python.generate, ho, hwi]
    exact ⟨_, _, hg, by rw [Python.addDatetimeImport_customJson]; exact hw.1, hw.2, (C12_python _ _ _ _ _ _ hg).2⟩
  | err e => rw [hwi] at hw; cases hw
  | panic e => rw [hwi] at hw; cases hw

/-! regression example: the witness of the repaired class `py-alias-typevar`, `type G<T> = Vec<T>` —
`T` is used by the alias, and declared (with `TypeVar` imported) -/
def pyAliasItem : RustItem := .alias (mkAlias s%"G" (.vec (.simple s%"T")) [s%"T"])
example : Python.itemSafe exE {} pyAliasItem =
    [.typeVar s%"T", Python.impTypeVar, Python.impList, .typeVar s%"T"] := by
  decide +kernel
example : (pyFinal exE {} [pyAliasItem]).map (fun st => (st.typeVars,
    decide (Python.Provides st (.typeVar s%"T") ∧ Python.Provides st Python.impTypeVar))) = some ([s%"T"], true) := by
  decide +kernel
example : (match Lang.Python.writeItems exE {} [pyAliasItem] {} with | .ok (t, _) => some t | _ => none) =
    some s%"G = List[T]\n\n" := by decide +kernel

/-! regression examples: the witnesses of the repaired classes `py-default-custom-fns` and
`py-mapped-datetime-import` -/
-- `struct S { #[serde(default)] t: OffsetDateTime }`: `datetime` is registered (was `Optional[datetime]`), so the
-- functions the field names are provided
theorem repaired_py_default_custom_fns :
    (pyFinal exE {} [pyDefaultItem]).map
      (fun st => (decide (Python.Provides st (.fns s%"datetime")), st.customJson)) = some (true, [s%"datetime"]) ∧
    Python.fieldSafe exE {} [] (mkField s%"t" (.prim .dateTime) true) =
      [Python.impDatetime, Python.impOptional, Python.impField, Python.impAnnotated, Python.impBefore, Python.impPlain,
       .fns s%"datetime"] := by decide +kernel
-- the same with a mapped `bytes` field: `#[serde(default)] t: Foo`, `Foo -> bytes`
example : (pyFinal exE { typeMappings := [(s%"Foo", s%"bytes")] }
      [.struct (mkStruct s%"S" [mkField s%"t" (.simple s%"Foo") true])]).map
    (fun st => (decide (Python.Provides st (.fns s%"bytes")), st.customJson)) = some (true, [s%"bytes"]) := by decide +kernel
-- … and the field line still wraps the type: `Annotated[Optional[datetime], BeforeValidator(parse_rfc3339), …]`
example : (match Lang.Python.fieldFacts exE {} [] (mkField s%"t" (.prim .dateTime) true) {} with
    | .ok (pf, _) => some pf.ty | _ => none) =
    some s%"Annotated[Optional[datetime], BeforeValidator(parse_rfc3339), PlainSerializer(serialize_datetime_data)]" := by
  decide +kernel
-- without the default: registered and imported as well
example : (pyFinal exE {} [.struct (mkStruct s%"S" [mkField s%"t" (.prim .dateTime)])]).map
    (fun st => decide (Python.Provides st (.fns s%"datetime") ∧ Python.Provides st Python.impDatetime)) =
    some true := by decide +kernel
-- `struct S { t: Foo }` with the mapping `Foo -> datetime`: after the items the functions are registered and `datetime`
-- is not imported; `generate_types` adds the import before the header is written (was missing)
theorem repaired_py_mapped_datetime_import :
    (pyFinal exE { typeMappings := [(s%"Foo", s%"datetime")] }
      [.struct (mkStruct s%"S" [mkField s%"t" (.simple s%"Foo")])]).map
    (fun st => (decide (Python.Provides st (.fns s%"datetime")), decide (Python.Provides st Python.impDatetime),
      decide (Python.Provides (Lang.Python.addDatetimeImport st) Python.impDatetime))) =
    some (true, false, true) := by decide +kernel
-- a mapped `Vec<u8>` with `#[serde(default)]` is fine: `format_special_type` registers `bytes` itself
example : (pyFinal exE { typeMappings := [(s%"Vec<u8>", s%"bytes")] }
      [.struct (mkStruct s%"S" [mkField s%"t" (.vec (.prim .u8)) true])]).map
    (fun st => decide (Python.Provides st (.fns s%"bytes"))) = some true := by decide +kernel
-- names at depth: `HashMap<String, Vec<Option<OffsetDateTime>>>` in an alias
example : Python.typeNeeds {} [] (.hashMap (.prim .string) (.vec (.option (.prim .dateTime)))) =
    [Python.impDict, Python.impList, Python.impOptional, Python.impDatetime] := by decide +kernel

/-! ## the property -/

/-- **C12 at full strength**: for every back end, every name typeshare brings into an output file
is defined or imported by the same output (Swift in multi-file mode: by the shared `Codable.swift`) -/
def C12_full : Prop :=
  Swift_full ∧ Scala_full ∧ Python_full ∧ Go_full ∧ TypeScript_full ∧ Kotlin_full

theorem C12_not_full : ¬ C12_full := fun h => kotlin_not_full h.2.2.2.2.2

/-- five of the six back ends satisfy the statement in full -/
theorem C12_all_but_kotlin : Swift_full ∧ Scala_full ∧ Python_full ∧ Go_full ∧ TypeScript_full :=
  ⟨C12_swift, C12_scala, C12_python, C12_go, C12_typescript⟩

/-- `C12_full` fails for Kotlin and for nothing else -/
theorem C12_full_iff_kotlin : C12_full ↔ Kotlin_full :=
  ⟨fun h => h.2.2.2.2.2, fun h => ⟨C12_swift, C12_scala, C12_python, C12_go, C12_typescript, h⟩⟩

/-- **C12 outside the known class**: Swift, Go, TypeScript, Scala and Python unconditionally; Kotlin
for every input that is not in `Known_kotlin` (no package configured) -/
theorem C12_partial :
    Swift_full ∧ Go_full ∧ TypeScript_full ∧ Scala_full ∧ Python_full ∧
    (∀ (cfg : Lang.Kotlin.Cfg) (d : ParsedData) (items : List RustItem) (decls : List Lang.Kotlin.KtDecl),
      Pipeline.generateOrder d = some items → Lang.Kotlin.itemsFacts cfg items = .ok decls →
      ¬ Known_kotlin cfg decls → ∀ n ∈ decls.flatMap Kotlin.declUses, n ∈ Kotlin.provided cfg) :=
  ⟨C12_swift, C12_go, C12_typescript, C12_scala, C12_python,
   fun cfg d items decls ho hf hk => C12_kotlin_partial cfg d items decls ho hf hk⟩

/-- `C12_full` fails exactly on the Kotlin inputs of `Known_kotlin`: for every configuration and
declaration list, the Kotlin clause holds iff the input is outside the class -/
theorem C12_failures_are_kotlin_without_package (cfg : Lang.Kotlin.Cfg) (decls : List Lang.Kotlin.KtDecl) :
    (¬ ∀ n ∈ decls.flatMap Kotlin.declUses, n ∈ Kotlin.provided cfg) ↔ Known_kotlin cfg decls := by
  rw [C12_kotlin_exact]; exact Decidable.not_not

end TsV.C12
