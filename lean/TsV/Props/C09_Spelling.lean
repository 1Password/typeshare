import TsV.Props.C09
/-!
# C09_Spelling — a type-level `serde(rename)` value that is *any* string is spelled the same where the
type is defined and wherever it is referred to

`#[serde(rename = "line-item")]`, `"gift.marker"`, `"2nd"`, `"with space"`: wire names that are not
identifiers.  C09 does not ask the back ends to make identifiers of them (that is C10's
`dashed-type-name`); it asks that *whatever* a back end writes for the definition, it writes for every
reference.  `C09.InScope` puts no condition on the characters of `id.renamed`, so `C09_partial` /
`C09_exact` already quantify over arbitrary strings; this module states the consequence in terms of
the string itself:

* `def_spelling` — every back end defines an item under `prefix ++ <the rename string>`, byte for byte
  (no `remove_dash`, no escaping, no re-casing) — except Go for enums (Rust name: the open finding
  `definition-under-original-name`);
* `C09_Spelling : C09_Spelling_full` — in a program in scope without shadowing, for **every** string
  `s` an item is renamed to: its definition is `prefix ++ s` and every reference to it, in all the
  positions of `C09.refs` (field, payload, generic argument / head, alias target, at any depth), is
  spelled `prefix ++ s` too (all back ends; Go for structs and aliases);
* `scala_dash_fields_only`, `kotlin_dash_fields_only`, `swift_dash_fields_only` — `remove_dash` (`-` to
  `_`) is applied to *field* names only: the class / struct name of the record is the rename string
  with its dashes.

Nothing is false on the model.
-/
namespace TsV.C09_Spelling
open TsV TsV.Pipeline TsV.Generate TsV.Lang TsV.C09

/-- **the definition carries the rename string verbatim behind the prefix** -/
theorem def_spelling (lc : LangCfg) (t : RustItem) (h : defUsesOriginal lc t = false) :
    defName lc t = pfxOf lc ++ (itemId t).renamed := by
  rw [defName_eq, baseName, h]
  rfl

/-- C09_Spelling at full strength: every string, every program in scope, every back end, every
reference position -/
def C09_Spelling_full : Prop :=
  ∀ (s : Str) (P : ParsedData), InScope P → ∀ lc : LangCfg, CfgOk lc → Known_shadow P = false →
    ∀ t ∈ typeItems P, (itemId t).renamed = s → defUsesOriginal lc t = false →
      defName lc t = pfxOf lc ++ s ∧
      ∀ it ∈ typeItems P, ∀ ref ∈ refs lc (renamesOf P) it, ref.target = .type (itemId t).original →
        ref.spelling = pfxOf lc ++ s

theorem C09_Spelling : C09_Spelling_full := by
  intro s P hs lc hc hsh t ht hren hdo
  have hdef : defName lc t = pfxOf lc ++ s := by rw [def_spelling lc t hdo, hren]
  refine ⟨hdef, ?_⟩
  intro it hit ref href htg
  have hd : Defines lc P ref.target (defName lc t) := by
    rw [htg]; exact ⟨t, ht, rfl, rfl⟩
  have hk : KnownRef lc P ref = false := by
    rw [knownRef_type hs.distinct lc ht htg, hdo, Bool.and_false]
  rw [← hdef]
  exact C09_partial P hs lc hc hsh it hit ref href hk _ hd

/-- … the exact form for Go enums (the known class): the definition is the Rust name, the references
are the rename string — they agree only if the enum is not renamed -/
theorem go_enum_spelling (s : Str) (P : ParsedData) (hs : InScope P) (c : Go.Cfg) (hc : CfgOk (.go c))
    (hsh : Known_shadow P = false) (e : RustEnum) (he : RustItem.enum e ∈ typeItems P) (hren : e.id.renamed = s)
    (it : RustItem) (hit : it ∈ typeItems P) (ref : Ref) (href : ref ∈ refs (.go c) (renamesOf P) it)
    (htg : ref.target = .type e.id.original) :
    defName (.go c) (.enum e) = e.id.original ∧ (ref.spelling = e.id.original ↔ s = e.id.original) := by
  refine ⟨rfl, ?_⟩
  have hd : Defines (.go c) P ref.target (defName (.go c) (.enum e)) := by
    rw [htg]; exact ⟨.enum e, he, rfl, rfl⟩
  have hex := C09_exact P hs (.go c) hc hsh it hit ref href _ hd
  have hk : KnownRef (.go c) P ref = (e.id.renamed != e.id.original) := by
    rw [knownRef_type hs.distinct (.go c) he htg]
    exact Bool.and_true _
  rw [show defName (.go c) (.enum e) = e.id.original from rfl] at hex
  rw [hex, hk, ← hren]
  simp

/-! ## `remove_dash` is for field names -/

/-- **Scala**: the class is named by the rename string with its dashes; only the parameter (field)
names have `-` replaced by `_` -/
theorem scala_dash_fields_only (c : Scala.Cfg) (rs : RustStruct) (d : Scala.ScClass) (h : Scala.classFacts c rs = .ok d) :
    d.name = rs.id.renamed ∧ d.params.map (·.name) = rs.fields.map fun f => Str.replaceChar f.id.renamed '-' s%"_" := by
  unfold Scala.classFacts at h
  obtain ⟨ps, hps, h⟩ := Outcome.of_bind_ok h
  cases h
  refine ⟨rfl, ?_⟩
  refine Outcome.mapM'_map (Scala.paramFacts c rs.genericTypes) (·.name) (fun f => Str.replaceChar f.id.renamed '-' s%"_") ?_ _ _ hps
  intro f p hp
  unfold Scala.paramFacts at hp
  obtain ⟨ty, _, hp⟩ := Outcome.of_bind_ok hp
  cases hp; rfl

/-- **Kotlin**: class name `prefix ++ renamed` with its dashes -/
theorem kotlin_dash_fields_only (c : Kotlin.Cfg) (rs : RustStruct) (d : Kotlin.KtDecl) (h : Kotlin.structFacts c rs = .ok d) :
    ktName d = c.pfx ++ rs.id.renamed := tie_kotlin_struct c rs d h

/-- **Swift**: struct name `prefix ++ renamed` with its dashes (inside back-ticks if a keyword) -/
theorem swift_dash_fields_only (U : UnicodeOps) (c : Swift.Cfg) (rs : RustStruct) (st st' : Swift.St) (d : Swift.SwiftStruct)
    (h : Swift.structFacts U c rs st = .ok (d, st')) : d.name = Swift.kw (c.pfx ++ rs.id.renamed) :=
  tie_swift_struct U c rs st st' d h

/-! ## non-vacuity: rename values with a dash, a dot, a blank, a leading digit -/

/-- `#[serde(rename = "line-item")] struct Li { #[serde(rename = "a-b")] a: u8 }` (the field is modelled under the name `a-b`), `#[serde(rename = "2nd thing.x", tag = "t", content = "c")] enum En { A(u8) }`,
`#[serde(rename = "al ias")] type Al = String;`,
`struct User { f0: Li, f1: Vec<En>, f2: Option<Al>, f3: HashMap<String, Li> }` -/
def wLi : RustStruct := mkStruct s%"Li" (some s%"line-item") [] [fld s%"a-b" (.prim .u8)]
def wEn : RustEnum :=
  { keys := some (s%"t", s%"c"), id := mkId s%"En" (some s%"2nd thing.x"), genericTypes := [], comments := [],
    variants := [.tuple (mkId s%"A" none) [] (.prim .u8)], decorators := {}, isRecursive := false, isRedacted := false }
def wAl : RustTypeAlias :=
  { id := mkId s%"Al" (some s%"al ias"), genericTypes := [], ty := .prim .string, comments := [], decorators := {}, isRedacted := false }
def wUser : RustStruct :=
  mkStruct s%"User" none []
    [fld s%"f0" (.simple s%"Li"), fld s%"f1" (.vec (.simple s%"En")), fld s%"f2" (.option (.simple s%"Al")),
     fld s%"f3" (.hashMap (.prim .string) (.simple s%"Li"))]
def W_odd : ParsedData := { structs := [wLi, wUser], enums := [wEn], aliases := [wAl] }

theorem W_odd_inScope : InScope W_odd := inScope_of _ (by decide) (by decide) (by decide) (by decide) rfl rfl

/-- the hypotheses of `C09_Spelling` are met by `W_odd`, all eight configurations -/
example : InScope W_odd ∧ (∀ lc ∈ allLangs, CfgOk lc) ∧ Known_shadow W_odd = false ∧
    RustItem.struct wLi ∈ typeItems W_odd ∧ (itemId (.struct wLi)).renamed = s%"line-item" ∧
    (∀ lc ∈ allLangs, defUsesOriginal lc (.struct wLi) = false) :=
  ⟨W_odd_inScope, cfgOk_all, by decide +kernel, by simp [typeItems, W_odd], rfl, by decide⟩

/-- … and the reference semantics evaluated: in every configuration the four references of `User` are
spelled with the rename strings, verbatim, behind the prefix -/
theorem odd_refs_example :
    (allLangs.all fun lc =>
      (refs lc (renamesOf W_odd) (.struct wUser)).map (fun r => (r.spelling, r.target)) ==
        [(pfxOf lc ++ s%"line-item", .type s%"Li"), (pfxOf lc ++ s%"2nd thing.x", .type s%"En"),
         (pfxOf lc ++ s%"al ias", .type s%"Al"), (pfxOf lc ++ s%"line-item", .type s%"Li")]) = true ∧
    (allLangs.map fun lc => defName lc (.struct wLi)) =
      [s%"line-item", s%"line-item", s%"OPline-item", s%"line-item", s%"OPline-item", s%"line-item", s%"line-item", s%"line-item"] := by
  decide +kernel

/-- `scala_dash_fields_only` on the witness: class `line-item`, parameter `a_b` -/
example : ((Scala.classFacts { package := s%"com.example" } wLi).bind fun d => .ok (d.name, d.params.map (·.name))) =
    .ok (s%"line-item", [s%"a_b"]) := by decide +kernel

end TsV.C09_Spelling
