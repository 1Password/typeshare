import TsV.Lemmas.C20_FolderMappings
import TsV.Props.C14_Imports
/-!
# C20_FolderMappings — in a folder run each language reads its own `type_mappings` table

C20: "file-only settings are applied unchanged".  `typeshare.toml` holds one `type_mappings` table per
language; `cli/src/main.rs::language()` gives the back end of the language under generation *its*
table (modelled in `Lemmas/C20_FolderMappings.lean`: `Tables`, `language` — `Model/Config.lean` keeps
the file-only part abstract).  The table is read in three places: the type printer (mapped name), and —
TypeScript and Kotlin only — `ignored_reference_types()`, which the parser uses to keep mapped names out
of the import set.

* `language_reads_own_table`: two configuration files that agree on language `L`'s table give the same
  back-end value, hence the same run (`run_other_tables_irrelevant`) and the same ignore list — whatever
  the five other tables say.  `ignored_own_keys`: the ignore list is the key list of `L`'s own table
  (TypeScript, Kotlin) or empty (the four others, which write no per-type import lines:
  `no_import_lines_elsewhere`).
* (a) `mapped_name_written`: a type `L`'s table maps is printed under the mapped name by `L`'s printer.
* (b) `mapped_not_imported`: in a folder run no import *recorded by the parser* names a type of the
  ignore list (`Clean`), for every file, every crate entry; and the scoped imports handed to the back
  end list an ignored name under crate `b` only if the crate glob-imports `b` (`use b::*;`).
  `mapped_not_imported_named`: without a glob import of `b`, no import line of `b` names a mapped type.
* **false on the model** (`NoImportOfMapped_not_full`): "a mapped type never produces an import line" —
  `use alpha::*;` expands to *every* type of `alpha`, mapped ones included (the expansion is done by
  `used_imports` from `all_types`, after the parser's filter).  The line is harmless (the name exists in
  `alpha`'s module) but contradicts the doc comment of `ignored_reference_types`.
* a type only *another* language's table maps: `run_other_tables_irrelevant` — the run is literally the
  run in which the other tables are empty, so it is imported as usual (`C14.import_complete`).
* `C20_FolderMappings : C20_FolderMappings_full`.
-/
namespace TsV.C20_FolderMappings
open TsV TsV.Syn TsV.Visitor TsV.Pipeline TsV.Collect TsV.C06M TsV.C14I TsV.Generate TsV.Lang

/-! ## 1. its own table -/

theorem language_table (base : LangCfg) (t : Tables) :
    mappingsOf (language base t) = t.of (langOf base) ∧ langOf (language base t) = langOf base := by
  cases base <;> exact ⟨rfl, rfl⟩

/-- **the back end of `L` is a function of `L`'s table only** -/
theorem language_reads_own_table (base : LangCfg) (t t' : Tables) (h : t.of (langOf base) = t'.of (langOf base)) :
    language base t = language base t' := by
  cases base <;> simp only [language, Tables.of, langOf] at h ⊢ <;> rw [h]

/-- … so the whole run is: the five other tables are never read -/
theorem run_other_tables_irrelevant (E : Ext) (base : LangCfg) (t t' : Tables) (h : t.of (langOf base) = t'.of (langOf base))
    (multiFile : Bool) (targetOs : List Str) (pick : List ImportedType → Option ImportedType) (files : List SourceFile) :
    run E (language base t) multiFile targetOs pick files = run E (language base t') multiFile targetOs pick files := by
  rw [language_reads_own_table base t t' h]

/-- the tables in which only `L`'s own table is kept -/
def Tables.only (t : Tables) : TsV.Lang → Tables
  | .typescript => { typescript := t.typescript } | .kotlin => { kotlin := t.kotlin } | .swift => { swift := t.swift }
  | .scala => { scala := t.scala } | .go => { go := t.go } | .python => { python := t.python }

theorem language_only (base : LangCfg) (t : Tables) : language base t = language base (t.only (langOf base)) :=
  language_reads_own_table base t _ (by cases base <;> rfl)

/-- **the ignore list (`ignored_reference_types`) is the key list of the language's own table** for
TypeScript and Kotlin, empty for the others -/
theorem ignored_own_keys (base : LangCfg) (t : Tables) :
    ignoredTypes (language base t) =
      match langOf base with
      | .typescript | .kotlin => (t.of (langOf base)).map (·.1)
      | _ => [] := by
  cases base <;> rfl

/-- Swift, Scala, Go and Python never look at the scoped imports of a job: no per-type import lines -/
theorem no_import_lines_elsewhere (E : Ext) (mf : Bool) (jobs : List Job) :
    (∀ cfg : Scala.Cfg, Scala.generateAll E cfg mf jobs = Scala.generateAll E cfg mf (jobs.map fun j => (j.1, j.2.1, none))) ∧
    (∀ cfg : Go.Cfg, Go.generateAll E cfg mf jobs = Go.generateAll E cfg mf (jobs.map fun j => (j.1, j.2.1, none))) ∧
    (∀ cfg : Python.Cfg, Python.generateAll E cfg mf jobs = Python.generateAll E cfg mf (jobs.map fun j => (j.1, j.2.1, none))) ∧
    (∀ cfg : Swift.Cfg, Swift.generateAll E cfg mf jobs = Swift.generateAll E cfg mf (jobs.map fun j => (j.1, j.2.1, none))) :=
  ⟨fun cfg => fold_blind (F := Scala.generateFrom cfg)
      (fun c d r => (Scala.generate cfg d).bind fun t => r.bind fun outs => .ok ((c, t) :: outs)) (fun _ _ => rfl) jobs,
    fun cfg => congrFun (fold_blind (F := Go.generateFrom E.U cfg)
      (fun c d r st => (Go.generate E.U cfg d st).bind fun p => (r p.2).bind fun outs => .ok ((c, p.1) :: outs))
      (fun _ _ => rfl) jobs) [],
    fun cfg => congrFun (fold_blind (F := Python.generateFrom E cfg)
      (fun c d r st => (Python.generate E cfg d st).bind fun p => (r p.2).bind fun outs => .ok ((c, p.1) :: outs))
      (fun _ _ => rfl) jobs) {},
    fun cfg => congrArg (Outcome.bind · _) (congrFun (fold_blind (F := Swift.generateFrom E.U cfg mf)
      (fun c d r st => (Swift.generate E.U cfg mf d st).bind fun p => (r p.2).bind fun q => .ok ((c, p.1) :: q.1, q.2))
      (fun _ _ => rfl) jobs) false)⟩

/-! ## 2. (a) the mapped name is written -/

/-- the text the printer of the language writes for a reference to the type named `T` -/
def simpleText (lc : LangCfg) (gens : List Str) (T : Str) : Outcome Str :=
  match lc with
  | .typescript c => (TypeScript.formatType c gens (.simple T) []).bind fun r => .ok r.1
  | .kotlin c => Kotlin.formatType c gens (.simple T)
  | .swift c => (Swift.formatType c gens (.simple T) false).bind fun r => .ok r.1
  | .scala c => Scala.formatType c gens (.simple T)
  | .go c => (Go.formatType c (.simple T) []).bind fun r => .ok r.1
  | .python c => (Python.formatType c gens (.simple T) {}).bind fun r => .ok r.1

/-- **a type the language's own table maps is written under the mapped name** (all six printers) -/
theorem mapped_name_written (base : LangCfg) (t : Tables) (gens : List Str) (T v : Str)
    (h : mapGet (t.of (langOf base)) T = some v) : simpleText (language base t) gens T = .ok v := by
  cases base <;> simp only [Tables.of, langOf] at h
  · simp [simpleText, language, TypeScript.formatType, h]
  · simp [simpleText, language, Kotlin.formatType, Kotlin.formatSimple, h]
  · simp [simpleText, language, Swift.formatType, Swift.formatSimple, h]
  · simp [simpleText, language, Scala.formatType, h]
  · simp [simpleText, language, Go.formatType, h]
  · simp [simpleText, language, Python.formatType, Python.formatSimple, h]

/-- … and a name only other tables map is written as if no table mapped it -/
theorem other_table_name (base : LangCfg) (t : Tables) (gens : List Str) (T : Str) :
    simpleText (language base t) gens T = simpleText (language base (t.only (langOf base))) gens T := by
  rw [← language_only]

/-! ## 3. (b) the import side -/

/-- the parse context of a folder run of the language -/
def folderCtx (lang : LangCfg) (targetOs : List Str) : ParseContext :=
  { ignoredTypes := ignoredTypes lang, multiFile := true, targetOs }

/-- **no import recorded for a mapped name, and an import entry for one only through a glob**: in a
folder run, (1) no arrival and no crate entry holds an import whose type name is in the ignore list;
(2) if the scoped imports of a job list an ignored name `T` under crate `b`, the crate has the import
`b::*` -/
theorem mapped_not_imported (E : Ext) (lang : LangCfg) (targetOs : List Str)
    (pick : List ImportedType → Option ImportedType) (hp : ValidPick pick) (files : List SourceFile)
    (arrivals : List ParsedData) (h : parseAll E (folderCtx lang targetOs) pick files = .ok arrivals) :
    (∀ a ∈ arrivals, Clean (folderCtx lang targetOs) a) ∧
    (∀ j ∈ jobsWith id (collect arrivals), Clean (folderCtx lang targetOs) j.2.1 ∧
      ∀ imps, j.2.2 = some imps → ∀ b tys, (b, tys) ∈ imps → ∀ T ∈ tys, T ∈ ignoredTypes lang →
        ∃ i ∈ j.2.1.importTypes, i.baseCrate = b ∧ i.typeName = s%"*") := by
  have hA := parseAll_clean E (folderCtx lang targetOs) rfl pick hp files arrivals h
  refine ⟨hA, ?_⟩
  intro j hj
  simp only [jobsWith, id] at hj
  obtain ⟨p, hpm, rfl⟩ := List.mem_map.1 hj
  obtain ⟨c, d⟩ := p
  have hc : Clean (folderCtx lang targetOs) d := crates_clean _ arrivals hA c d hpm
  refine ⟨hc, ?_⟩
  intro imps himps b tys hb T hT hig
  simp only [Option.some.injEq] at himps
  subst himps
  obtain ⟨i, hi, _, x, hx, hbx, hTx⟩ := (C14.usedImports_exact d _ d.importTypes _ b T).1 ⟨tys, hb, hT⟩
  have hnot : T ≠ i.typeName := by
    rintro rfl
    have : (folderCtx lang targetOs).ignoredTypes.contains i.typeName = true := by simpa [folderCtx] using hig
    rw [hc i hi] at this
    cases this
  -- an import that is not a glob contributes its own name only
  rcases contrib_inv _ _ i x hx T hTx with ⟨hxb, hstar | hT', _⟩ | ⟨_, hT'⟩
  · exact ⟨i, hi, (hbx.trans hxb).symm, hstar⟩
  · exact absurd hT' hnot
  · exact absurd hT' hnot

/-- **named imports only: a mapped type produces no import entry** -/
theorem mapped_not_imported_named (E : Ext) (lang : LangCfg) (targetOs : List Str)
    (pick : List ImportedType → Option ImportedType) (hp : ValidPick pick) (files : List SourceFile)
    (arrivals : List ParsedData) (h : parseAll E (folderCtx lang targetOs) pick files = .ok arrivals)
    (j : Job) (hj : j ∈ jobsWith id (collect arrivals)) (b : Str)
    (hng : ∀ i ∈ j.2.1.importTypes, i.baseCrate = b → i.typeName ≠ s%"*")
    (imps : ScopedCrateTypes) (hi : j.2.2 = some imps) (tys : List Str) (hb : (b, tys) ∈ imps) (T : Str)
    (hig : T ∈ ignoredTypes lang) : T ∉ tys := by
  intro hT
  obtain ⟨i, him, hbc, hst⟩ := ((mapped_not_imported E lang targetOs pick hp files arrivals h).2 j hj).2 imps hi b tys hb T hT hig
  exact hng i him hbc hst

/-! ## 4. what is false: a glob import brings the mapped names back -/

/-- "a mapped type never produces an import entry" -/
def NoImportOfMapped_full : Prop :=
  ∀ (E : Ext) (lang : LangCfg) (targetOs : List Str) (pick : List ImportedType → Option ImportedType), ValidPick pick →
    ∀ (files : List SourceFile) (arrivals : List ParsedData), parseAll E (folderCtx lang targetOs) pick files = .ok arrivals →
      ∀ j ∈ jobsWith id (collect arrivals), ∀ imps, j.2.2 = some imps → ∀ b tys, (b, tys) ∈ imps →
        ∀ T ∈ tys, T ∉ ignoredTypes lang

def wE : Ext := { U := UnicodeOps.ascii, parseType := fun _ => none }
def tsAttr : Attr := ⟨.path [s%"typeshare"]⟩
def fld (n t : Str) : Field := ⟨[], some n, .path [] t []⟩
def mkSrc (crate : Str) (items : List Item) : SourceFile :=
  { crateName := crate, fileName := crate, path := crate ++ s%"/src/lib.rs", file := { attrs := [], marker := true, items := items } }

/-- `[typescript.type_mappings] Stamp = "MappedStamp"`, `[kotlin.type_mappings] Token = "OtherKotlin"`, … -/
def wTables : Tables :=
  { typescript := [(s%"Stamp", s%"MappedStamp")], kotlin := [(s%"Token", s%"OtherKotlin")], swift := [(s%"Token", s%"OtherSwift")],
    scala := [(s%"Token", s%"OtherScala")], go := [(s%"Token", s%"OtherGo")], python := [(s%"Token", s%"OtherPython")] }
def wLang : LangCfg := language (.typescript {}) wTables

/-- crate `alpha`: `#[typeshare] struct Stamp { at: u32 }  #[typeshare] struct Token { t: String }` -/
def srcAlpha : SourceFile :=
  mkSrc s%"alpha" [.struct [tsAttr] s%"Stamp" [] (.named [fld s%"at" s%"u32"]),
    .struct [tsAttr] s%"Token" [] (.named [fld s%"t" s%"String"])]
/-- crate `beta`: `use alpha::{Stamp, Token}; #[typeshare] struct Api { s: Stamp, t: Token }` -/
def srcBetaNamed : SourceFile :=
  mkSrc s%"beta" [.use (.path s%"alpha" (.group [.name s%"Stamp", .name s%"Token"])),
    .struct [tsAttr] s%"Api" [] (.named [fld s%"s" s%"Stamp", fld s%"t" s%"Token"])]
/-- crate `beta`: `use alpha::*; #[typeshare] struct Api { s: Stamp, t: Token }` -/
def srcBetaGlob : SourceFile :=
  mkSrc s%"beta" [.use (.path s%"alpha" .glob),
    .struct [tsAttr] s%"Api" [] (.named [fld s%"s" s%"Stamp", fld s%"t" s%"Token"])]

def getOk {α} [Inhabited α] : Outcome α → α
  | .ok a => a
  | _ => default

theorem eq_ok_getOk {α} [Inhabited α] {o : Outcome α} (h : o.isOk = true) : o = .ok (getOk o) :=
  C06M.eq_ok_getOk h

def arrivalsOf (lang : LangCfg) (files : List SourceFile) : List ParsedData :=
  getOk (parseAll wE (folderCtx lang []) List.head? files)
def importsOf (arrivals : List ParsedData) : List (Str × Option ScopedCrateTypes) :=
  (jobsWith id (collect arrivals)).map fun j => (j.1, j.2.2)

/-- **named imports, TypeScript's table maps `Stamp`, the other five tables map `Token`**: `Token` is
imported as usual, `Stamp` is not; under Kotlin's table (maps `Token`) it is the other way round; under
Swift's the parser filters nothing -/
theorem named_example :
    importsOf (arrivalsOf wLang [srcAlpha, srcBetaNamed]) = [(s%"alpha", some []), (s%"beta", some [(s%"alpha", [s%"Token"])])] ∧
    importsOf (arrivalsOf (language (.kotlin {}) wTables) [srcAlpha, srcBetaNamed]) =
      [(s%"alpha", some []), (s%"beta", some [(s%"alpha", [s%"Stamp"])])] ∧
    importsOf (arrivalsOf (language (.swift {}) wTables) [srcAlpha, srcBetaNamed]) =
      [(s%"alpha", some []), (s%"beta", some [(s%"alpha", [s%"Stamp", s%"Token"])])] :=
  ⟨by decide +kernel, by decide +kernel, by decide +kernel⟩

theorem named_example_tables :
    ignoredTypes wLang = [s%"Stamp"] ∧ ignoredTypes (language (.kotlin {}) wTables) = [s%"Token"] ∧
    simpleText wLang [] s%"Stamp" = .ok s%"MappedStamp" ∧ simpleText wLang [] s%"Token" = .ok s%"Token" := by
  decide +kernel

/-- **glob import**: the mapped `Stamp` is back in the import entry -/
theorem glob_witness :
    (parseAll wE (folderCtx wLang []) List.head? [srcAlpha, srcBetaGlob]).isOk = true ∧
    importsOf (arrivalsOf wLang [srcAlpha, srcBetaGlob]) =
      [(s%"alpha", some []), (s%"beta", some [(s%"alpha", [s%"Stamp", s%"Token"])])] := by
  decide +kernel

/-- **false on the model.** -/
theorem NoImportOfMapped_not_full : ¬ NoImportOfMapped_full := by
  intro h
  have hp := eq_ok_getOk glob_witness.1
  have hmem : (s%"beta", some [(s%"alpha", [s%"Stamp", s%"Token"])]) ∈ importsOf (arrivalsOf wLang [srcAlpha, srcBetaGlob]) := by
    rw [glob_witness.2]; simp
  obtain ⟨j, hj, he⟩ := List.mem_map.1 hmem
  simp only [Prod.mk.injEq] at he
  have := h wE wLang [] List.head? validPick_head [srcAlpha, srcBetaGlob] _ hp j hj _ he.2 s%"alpha" [s%"Stamp", s%"Token"]
    (by simp) s%"Stamp" (by simp)
  exact this (by decide +kernel)

/-! ## the statement at full strength -/

def C20_FolderMappings_full : Prop :=
  (∀ (base : LangCfg) (t t' : Tables), t.of (langOf base) = t'.of (langOf base) →
    language base t = language base t' ∧
    (∀ (E : Ext) (mf : Bool) (os : List Str) (pick : List ImportedType → Option ImportedType) (files : List SourceFile),
      run E (language base t) mf os pick files = run E (language base t') mf os pick files)) ∧
  (∀ (base : LangCfg) (t : Tables),
    ignoredTypes (language base t) =
      (match langOf base with
       | .typescript | .kotlin => (t.of (langOf base)).map (·.1)
       | _ => []) ∧
    (∀ (gens : List Str) (T v : Str), mapGet (t.of (langOf base)) T = some v → simpleText (language base t) gens T = .ok v) ∧
    (∀ (gens : List Str) (T : Str),
      simpleText (language base t) gens T = simpleText (language base (t.only (langOf base))) gens T)) ∧
  (∀ (E : Ext) (lang : LangCfg) (targetOs : List Str) (pick : List ImportedType → Option ImportedType), ValidPick pick →
    ∀ (files : List SourceFile) (arrivals : List ParsedData), parseAll E (folderCtx lang targetOs) pick files = .ok arrivals →
      (∀ a ∈ arrivals, Clean (folderCtx lang targetOs) a) ∧
      (∀ j ∈ jobsWith id (collect arrivals), Clean (folderCtx lang targetOs) j.2.1 ∧
        ∀ imps, j.2.2 = some imps → ∀ b tys, (b, tys) ∈ imps → ∀ T ∈ tys, T ∈ ignoredTypes lang →
          ∃ i ∈ j.2.1.importTypes, i.baseCrate = b ∧ i.typeName = s%"*"))

theorem C20_FolderMappings : C20_FolderMappings_full :=
  ⟨fun base t t' h => ⟨language_reads_own_table base t t' h,
      fun E mf os pick files => run_other_tables_irrelevant E base t t' h mf os pick files⟩,
   fun base t => ⟨ignored_own_keys base t, fun gens T v h => mapped_name_written base t gens T v h,
      fun gens T => other_table_name base t gens T⟩,
   fun E lang os pick hp files arrivals h => mapped_not_imported E lang os pick hp files arrivals h⟩

/-- the hypotheses on the witness: the files parse, `head?` is a valid pick -/
example : (parseAll wE (folderCtx wLang []) List.head? [srcAlpha, srcBetaNamed]).isOk = true ∧ ValidPick List.head? :=
  ⟨by decide +kernel, validPick_head⟩

end TsV.C20_FolderMappings
