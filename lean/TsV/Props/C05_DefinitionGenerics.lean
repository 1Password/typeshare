import TsV.Lemmas.C05_DefinitionGenerics
import TsV.Props.C05_HelperGenerics
/-!
# C05_DefinitionGenerics — the parameter list at the *definition* is the declared list, in the declared order

C05: "generic arguments and generic parameters are preserved in order".  `Props/C05.lean` states it for
the arguments of a type expression, `Props/C05_HelperGenerics.lean` for the computed list of a helper
struct.  This module states it for the **header of the definition itself**: a struct / alias / enum
declared `<p₁, …, pₙ>` (any names, in particular not in alphabetical order) is written with exactly
`p₁, …, pₙ` in that order by every back end that writes a list — use sites pass arguments by position,
so a reordered header would silently re-bind them.

* record level (`*_record`): the `headerParams` extractors of `Lemmas/C05_DefinitionGenerics.lean`
  (trusted binding semantics, each a projection of the fact record) return `genericTypes` —
  Kotlin keeps the printed clause, so there it is `genericSuffix genericTypes`;
* text level (`ts_*`, and the second half of each `*_record`; `swift_alias`): the block written
  for the item contains the header `<keyword> <name><clause><opener>` with the clause of the declared
  list: TypeScript / Kotlin `<p1, p2>`, Swift `<p1: C & D, p2: C & D>` (names in order, each with its
  configured constraints; aliases `<p1, p2>`), Scala `[p1, p2]`, Go `[p1 any, p2 any]`, Python
  `Generic[p1, p2]`;
* `clause_determines_list`: each clause can be read back — equal clauses list equal names in equal
  order (names non-empty and comma-free), so "contains the clause of `[p₁, …, pₙ]`" pins the order;
* `python_typeVars_any_order`: the `X = TypeVar("X")` lines of the Python header come from a sorted set
  (declaration order plays no role there), the `Generic[...]` base is in declaration order;
* what writes no list (not a failure of the statement, recorded so the scope is visible): a Go alias
  and a Go / Python enum carry no parameter list at all; Scala and Kotlin write a field-less struct as
  `class N extends Serializable` / `object N` without a list (`no_list_written`).
* `C05_DefinitionGenerics : C05_DefinitionGenerics_full`.  Nothing is false on the model.

`tools/c05.py: definition_generics_part` checks the same on the implementation.
-/
namespace TsV.C05_DefinitionGenerics
open TsV TsV.Lang TsV.C09 TsV.C09_HelperParams TsV.C05_HelperGenerics

/-! ## 1. TypeScript (no fact record for declarations: text) -/

theorem ts_struct (c : TypeScript.Cfg) (rs : RustStruct) (st st' : TypeScript.CustomMap) (b : Str)
    (h : TypeScript.writeStruct c rs st = .ok (b, st')) :
    (s%"export interface " ++ rs.id.renamed ++ genericSuffix rs.genericTypes ++ s%" {\n") <:+: b := by
  obtain ⟨body, _, rfl⟩ := TypeScript.writeStruct_ok.1 h
  exact infix_append_right (infix_append_right (infix_head _ _ _ _ _) _) _

theorem ts_alias (c : TypeScript.Cfg) (a : RustTypeAlias) (st st' : TypeScript.CustomMap) (b : Str)
    (h : TypeScript.writeAlias c a st = .ok (b, st')) :
    (s%"export type " ++ a.id.renamed ++ genericSuffix a.genericTypes ++ s%" = ") <:+: b := by
  obtain ⟨ty, _, rfl⟩ := TypeScript.writeAlias_ok.1 h
  exact infix_append_right (infix_append_right (infix_append_right (infix_head _ _ _ _ _) _) _) _

theorem ts_enum (c : TypeScript.Cfg) (e : RustEnum) (st st' : TypeScript.CustomMap) (b : Str)
    (h : TypeScript.writeEnum c e st = .ok (b, st')) :
    ((if e.keys.isSome then s%"export type " else s%"export enum ") ++ e.id.renamed ++ genericSuffix e.genericTypes ++
      (if e.keys.isSome then s%" = " else s%" {")) <:+: b := by
  rcases TypeScript.writeEnum_ok h with ⟨hk, _, rfl⟩ | ⟨_, _, body, hk, _, rfl⟩ <;> rw [hk] <;>
    exact infix_append_right (infix_append_right (infix_head _ _ _ _ _) _) _

/-! ## 2. Kotlin -/

theorem kotlin_struct_record (c : Kotlin.Cfg) (rs : RustStruct) (d : Kotlin.KtDecl) (hf : rs.fields.isEmpty = false)
    (h : Kotlin.structFacts c rs = .ok d) :
    Kt.headerClause d = genericSuffix rs.genericTypes ∧
    (s%"data class " ++ (c.pfx ++ rs.id.renamed) ++ genericSuffix rs.genericTypes ++ s%" (\n") <:+: Kotlin.renderDecl d := by
  obtain ⟨he, -⟩ | ⟨-, ps, -, rfl⟩ := Kotlin.structFacts_inv h
  · rw [he] at hf; cases hf
  refine ⟨rfl, ?_⟩
  exact infix_append_right (infix_append_right (infix_append_right (infix_head _ _ _ _ _) _) _) _

theorem kotlin_alias_record (c : Kotlin.Cfg) (a : RustTypeAlias) (d : Kotlin.KtDecl) (hi : Kotlin.isInline a.decorators = false)
    (h : Kotlin.aliasFacts c a = .ok d) :
    Kt.headerClause d = genericSuffix a.genericTypes ∧
    (s%"typealias " ++ (c.pfx ++ a.id.renamed) ++ genericSuffix a.genericTypes ++ s%" = ") <:+: Kotlin.renderDecl d := by
  obtain ⟨hi', -⟩ | ⟨-, ty, -, rfl⟩ := Kotlin.aliasFacts_inv h
  · rw [hi] at hi'; cases hi'
  refine ⟨rfl, ?_⟩
  exact infix_append_right (infix_append_right (infix_head _ _ _ _ _) _) _

/-- the enum's own declaration is the last one of its block (after the helper classes) -/
theorem kotlin_enum_record (c : Kotlin.Cfg) (e : RustEnum) (ds : List Kotlin.KtDecl) (h : Kotlin.enumFacts c e = .ok ds) :
    ∃ inners d, ds = inners ++ [d] ∧ Kt.headerClause d = genericSuffix e.genericTypes ∧
      ((if e.keys.isSome then s%"sealed class " else s%"enum class ") ++ (c.pfx ++ e.id.renamed) ++
        genericSuffix e.genericTypes ++ (if e.keys.isSome then s%" {\n" else s%"(val string: String) {\n")) <:+: Kotlin.renderDecl d := by
  obtain ⟨inners, d, -, hd, rfl⟩ := Kotlin.enumFacts_inv h
  refine ⟨inners, d, rfl, ?_⟩
  cases hd with
  | unit hk =>
    refine ⟨rfl, ?_⟩
    have opener : s%"(val string: String) {\n" = s%"(val string: String) " ++ s%"{\n" := rfl
    simp only [hk, Option.isSome_none, Bool.false_eq_true, if_false]
    rw [opener, ← List.append_assoc (_ ++ _ ++ _)]
    exact infix_append_right (infix_append_right (suffix_snoc (suffix_head _ _ _ _ _) _).isInfix _) _
  | algebraic hk _ =>
    refine ⟨rfl, ?_⟩
    have opener : s%" {\n" = s%" " ++ s%"{\n" := rfl
    simp only [hk, Option.isSome_some, if_true]
    rw [opener, ← List.append_assoc (_ ++ _ ++ _)]
    exact infix_append_right (infix_append_right (suffix_snoc (suffix_head _ _ _ _ _) _).isInfix _) _

/-! ## 3. Swift -/

/-- the clause of a Swift declaration lists the declared names in order, each with its constraint set
(`Codable` plus the configured defaults, or what a `#[typeshare(swiftGenericConstraints = "T: …")]`
annotation gives for that name) -/
theorem swift_clause (U : UnicodeOps) (c : Swift.Cfg) (dm : DecoratorMap) (ps : List Str) :
    (Swift.genericParams U c dm ps).map (·.name) = ps ∧
    Swift.renderGenericClause (Swift.genericParams U c dm ps) =
      if ps.isEmpty then [] else
        s%"<" ++ Str.intercalate s%", " ((Swift.genericParams U c dm ps).map fun p =>
          p.name ++ s%": " ++ Str.intercalate s%" & " p.constraints) ++ s%">" := by
  refine ⟨swift_genericParams_names U c dm ps, ?_⟩
  cases ps <;> rfl

theorem swift_struct_record (U : UnicodeOps) (c : Swift.Cfg) (rs : RustStruct) (st st' : Swift.St) (d : Swift.SwiftStruct)
    (h : Swift.structFacts U c rs st = .ok (d, st')) :
    Sw.structParams d = rs.genericTypes ∧ d.generics = Swift.genericParams U c rs.decorators rs.genericTypes ∧
    (s%"public struct " ++ Swift.kw (c.pfx ++ rs.id.renamed) ++
      Swift.renderGenericClause (Swift.genericParams U c rs.decorators rs.genericTypes) ++ s%": ") <:+: Swift.renderStruct U d := by
  unfold Swift.structFacts at h
  obtain ⟨⟨props, st1⟩, _, h⟩ := Outcome.of_bind_ok h
  obtain ⟨⟨params, st2⟩, _, h⟩ := Outcome.of_bind_ok h
  cases h
  refine ⟨swift_genericParams_names U c _ _, rfl, ?_⟩
  iterate 12 apply infix_append_right
  exact infix_head _ _ _ _ _

theorem swift_enum_record (U : UnicodeOps) (c : Swift.Cfg) (e : RustEnum) (st st' : Swift.St) (ss : List Swift.SwiftStruct)
    (d : Swift.SwiftEnum) (h : Swift.enumFacts U c e st = .ok (ss, d, st')) :
    Sw.enumParams d = e.genericTypes ∧ d.generics = Swift.genericParams U c e.decorators e.genericTypes ∧
    (s%"enum " ++ Swift.kw (c.pfx ++ e.id.renamed) ++
      Swift.renderGenericClause (Swift.genericParams U c e.decorators e.genericTypes) ++ s%": ") <:+: Swift.renderEnum U d := by
  unfold Swift.enumFacts at h
  obtain ⟨⟨structs, st1⟩, _, h⟩ := Outcome.of_bind_ok h
  obtain ⟨⟨cases, st2⟩, _, h⟩ := Outcome.of_bind_ok h
  cases h
  refine ⟨swift_genericParams_names U c _ _, rfl, ?_⟩
  iterate 6 apply infix_append_right
  exact infix_head _ _ _ _ _

theorem swift_alias (U : UnicodeOps) (c : Swift.Cfg) (a : RustTypeAlias) (st st' : Swift.St) (b : Str)
    (h : Swift.writeAlias U c a st = .ok (b, st')) :
    (s%"public typealias " ++ Swift.kw (c.pfx ++ a.id.renamed) ++ genericSuffix a.genericTypes ++ s%" = ") <:+: b := by
  unfold Swift.writeAlias at h
  obtain ⟨⟨ty, st1⟩, _, h⟩ := Outcome.of_bind_ok h
  obtain ⟨rfl, rfl⟩ := Prod.mk.inj (Outcome.ok.inj h)
  exact infix_append_right (infix_append_right (infix_head _ _ _ _ _) _) _

/-! ## 4. Scala -/

theorem scala_struct_record (c : Scala.Cfg) (rs : RustStruct) (d : Scala.ScClass) (hf : rs.fields.isEmpty = false)
    (h : Scala.classFacts c rs = .ok d) :
    Sc.classParams d = rs.genericTypes ∧
    (s%"case class " ++ rs.id.renamed ++ Scala.genericSq rs.genericTypes ++ s%" (\n") <:+: Scala.renderClass d := by
  obtain ⟨params, hp, rfl⟩ := Outcome.of_bind_ret h
  refine ⟨rfl, ?_⟩
  simp only [Scala.renderClass, Outcome.mapM'_ok_isEmpty hp, hf, Bool.false_eq_true, if_false]
  exact (infix_append_right (infix_append_right (List.infix_refl _) _) _).trans (List.suffix_append _ _).isInfix

theorem scala_alias_record (c : Scala.Cfg) (a : RustTypeAlias) (d : Scala.ScAlias) (h : Scala.aliasFacts c a = .ok d) :
    Sc.aliasParams d = a.genericTypes ∧
    (s%"type " ++ a.id.renamed ++ Scala.genericSq a.genericTypes ++ s%" = ") <:+: Scala.renderAlias d := by
  obtain ⟨ty, -, rfl⟩ := Outcome.of_bind_ret h
  refine ⟨rfl, ?_⟩
  exact infix_append_right (infix_append_right (infix_head _ _ _ _ _) _) _

theorem scala_enum_record (c : Scala.Cfg) (e : RustEnum) (d : Scala.ScEnum) (h : Scala.enumFacts c e = .ok d) :
    Sc.enumParams d = e.genericTypes ∧
    (s%"sealed trait " ++ e.id.renamed ++ Scala.genericSq e.genericTypes ++ s%" {\n") <:+: Scala.renderEnum d := by
  obtain ⟨inner, cases, -, -, rfl⟩ := Scala.enumFacts_inv h
  refine ⟨rfl, ?_⟩
  iterate 7 apply infix_append_right
  exact infix_head _ _ _ _ _

/-! ## 5. Go (structs; aliases and enums carry no list) -/

theorem go_struct_record (U : UnicodeOps) (c : Go.Cfg) (rs : RustStruct) (st st' : Go.Imports) (d : Go.GoStruct)
    (h : Go.structFacts U c rs st = .ok (d, st')) :
    Go.structParams d = rs.genericTypes ∧ Go.acr U c rs.id.renamed = .ok d.name ∧
    (s%"type " ++ d.name ++ goClause rs.genericTypes ++ s%" struct {\n") <:+: Go.renderStruct d := by
  obtain ⟨name, _, hn, _, rfl⟩ := Go.structFacts_inv h
  refine ⟨rfl, hn, ?_⟩
  exact infix_append_right (infix_append_right (infix_head _ _ _ _ _) _) _

/-! ## 6. Python (classes; an alias is an assignment, an enum a `Union` — neither has a list) -/

theorem python_struct_record (E : Ext) (c : Python.Cfg) (rs : RustStruct) (st st' : Python.St) (d : Python.PyClass)
    (h : Python.structFacts E c rs st = .ok (d, st')) :
    Py.classParams d = rs.genericTypes ∧
    (s%"class " ++ rs.id.renamed ++ s%"(" ++ pyBases rs.genericTypes ++ s%"):\n") <:+: Python.renderClass d ∧
    (∀ x, x ∈ st'.typeVars ↔ x ∈ rs.genericTypes ∨ x ∈ st.typeVars) := by
  refine ⟨?_, ?_, python_typeVars E c rs st st' d h⟩ <;> obtain ⟨_, _, _, rfl⟩ := Python.structFacts_inv h
  · rfl
  · iterate 5 apply infix_append_right
    exact List.infix_refl _

/-! ## 7. a clause determines the list it was printed from -/

/-- **equal clauses, equal lists** (names non-empty and without a comma): the angle clause of
TypeScript / Kotlin / Swift aliases, Scala's and Go's bracket clauses, Python's base list.  For a Swift
struct or enum the record gives the names directly (`swift_clause`). -/
theorem clause_determines_list (ps qs : List Str) (hp : ∀ p ∈ ps, Clean p) (hq : ∀ q ∈ qs, Clean q) :
    (genericSuffix ps = genericSuffix qs → ps = qs) ∧ (Scala.genericSq ps = Scala.genericSq qs → ps = qs) ∧
    (goClause ps = goClause qs → ps = qs) ∧ (pyBases ps = pyBases qs → ps = qs) :=
  ⟨genericSuffix_inj ps qs hp hq, genericSq_inj ps qs hp hq, goClause_inj ps qs hp hq, pyBases_inj ps qs hp hq⟩

/-- in particular a header never lists a permutation of the declared list other than the declared
order: the clause of a reordered list is a different text -/
theorem reordered_clause_differs (ps qs : List Str) (hp : ∀ p ∈ ps, Clean p) (hq : ∀ q ∈ qs, Clean q) (hne : ps ≠ qs) :
    genericSuffix ps ≠ genericSuffix qs ∧ Scala.genericSq ps ≠ Scala.genericSq qs ∧ goClause ps ≠ goClause qs ∧
    pyBases ps ≠ pyBases qs :=
  ⟨fun h => hne (genericSuffix_inj ps qs hp hq h), fun h => hne (genericSq_inj ps qs hp hq h),
   fun h => hne (goClause_inj ps qs hp hq h), fun h => hne (pyBases_inj ps qs hp hq h)⟩

/-! ## the statement at full strength -/

/-- **C05_DefinitionGenerics**: for every struct, alias and enum — whatever the names of its generic
parameters and whatever their order — every back end that writes a parameter list at the definition
writes the declared list in the declared order. -/
def C05_DefinitionGenerics_full : Prop :=
  (∀ (rs : RustStruct),
    (∀ (c : TypeScript.Cfg) (st st' : TypeScript.CustomMap) (b : Str), TypeScript.writeStruct c rs st = .ok (b, st') →
      (s%"export interface " ++ rs.id.renamed ++ genericSuffix rs.genericTypes ++ s%" {\n") <:+: b) ∧
    (∀ (c : Kotlin.Cfg) (d : Kotlin.KtDecl), rs.fields.isEmpty = false → Kotlin.structFacts c rs = .ok d →
      Kt.headerClause d = genericSuffix rs.genericTypes ∧
      (s%"data class " ++ (c.pfx ++ rs.id.renamed) ++ genericSuffix rs.genericTypes ++ s%" (\n") <:+: Kotlin.renderDecl d) ∧
    (∀ (U : UnicodeOps) (c : Swift.Cfg) (st st' : Swift.St) (d : Swift.SwiftStruct), Swift.structFacts U c rs st = .ok (d, st') →
      Sw.structParams d = rs.genericTypes ∧ d.generics = Swift.genericParams U c rs.decorators rs.genericTypes ∧
      (s%"public struct " ++ Swift.kw (c.pfx ++ rs.id.renamed) ++
        Swift.renderGenericClause (Swift.genericParams U c rs.decorators rs.genericTypes) ++ s%": ") <:+: Swift.renderStruct U d) ∧
    (∀ (c : Scala.Cfg) (d : Scala.ScClass), rs.fields.isEmpty = false → Scala.classFacts c rs = .ok d →
      Sc.classParams d = rs.genericTypes ∧
      (s%"case class " ++ rs.id.renamed ++ Scala.genericSq rs.genericTypes ++ s%" (\n") <:+: Scala.renderClass d) ∧
    (∀ (U : UnicodeOps) (c : Go.Cfg) (st st' : Go.Imports) (d : Go.GoStruct), Go.structFacts U c rs st = .ok (d, st') →
      Go.structParams d = rs.genericTypes ∧ Go.acr U c rs.id.renamed = .ok d.name ∧
      (s%"type " ++ d.name ++ goClause rs.genericTypes ++ s%" struct {\n") <:+: Go.renderStruct d) ∧
    (∀ (E : Ext) (c : Python.Cfg) (st st' : Python.St) (d : Python.PyClass), Python.structFacts E c rs st = .ok (d, st') →
      Py.classParams d = rs.genericTypes ∧
      (s%"class " ++ rs.id.renamed ++ s%"(" ++ pyBases rs.genericTypes ++ s%"):\n") <:+: Python.renderClass d ∧
      (∀ x, x ∈ st'.typeVars ↔ x ∈ rs.genericTypes ∨ x ∈ st.typeVars))) ∧
  (∀ (a : RustTypeAlias),
    (∀ (c : TypeScript.Cfg) (st st' : TypeScript.CustomMap) (b : Str), TypeScript.writeAlias c a st = .ok (b, st') →
      (s%"export type " ++ a.id.renamed ++ genericSuffix a.genericTypes ++ s%" = ") <:+: b) ∧
    (∀ (c : Kotlin.Cfg) (d : Kotlin.KtDecl), Kotlin.isInline a.decorators = false → Kotlin.aliasFacts c a = .ok d →
      Kt.headerClause d = genericSuffix a.genericTypes ∧
      (s%"typealias " ++ (c.pfx ++ a.id.renamed) ++ genericSuffix a.genericTypes ++ s%" = ") <:+: Kotlin.renderDecl d) ∧
    (∀ (U : UnicodeOps) (c : Swift.Cfg) (st st' : Swift.St) (b : Str), Swift.writeAlias U c a st = .ok (b, st') →
      (s%"public typealias " ++ Swift.kw (c.pfx ++ a.id.renamed) ++ genericSuffix a.genericTypes ++ s%" = ") <:+: b) ∧
    (∀ (c : Scala.Cfg) (d : Scala.ScAlias), Scala.aliasFacts c a = .ok d →
      Sc.aliasParams d = a.genericTypes ∧
      (s%"type " ++ a.id.renamed ++ Scala.genericSq a.genericTypes ++ s%" = ") <:+: Scala.renderAlias d)) ∧
  (∀ (e : RustEnum),
    (∀ (c : TypeScript.Cfg) (st st' : TypeScript.CustomMap) (b : Str), TypeScript.writeEnum c e st = .ok (b, st') →
      ((if e.keys.isSome then s%"export type " else s%"export enum ") ++ e.id.renamed ++ genericSuffix e.genericTypes ++
        (if e.keys.isSome then s%" = " else s%" {")) <:+: b) ∧
    (∀ (c : Kotlin.Cfg) (ds : List Kotlin.KtDecl), Kotlin.enumFacts c e = .ok ds →
      ∃ inners d, ds = inners ++ [d] ∧ Kt.headerClause d = genericSuffix e.genericTypes ∧
        ((if e.keys.isSome then s%"sealed class " else s%"enum class ") ++ (c.pfx ++ e.id.renamed) ++
          genericSuffix e.genericTypes ++ (if e.keys.isSome then s%" {\n" else s%"(val string: String) {\n"))
          <:+: Kotlin.renderDecl d) ∧
    (∀ (U : UnicodeOps) (c : Swift.Cfg) (st st' : Swift.St) (ss : List Swift.SwiftStruct) (d : Swift.SwiftEnum),
      Swift.enumFacts U c e st = .ok (ss, d, st') →
      Sw.enumParams d = e.genericTypes ∧ d.generics = Swift.genericParams U c e.decorators e.genericTypes ∧
      (s%"enum " ++ Swift.kw (c.pfx ++ e.id.renamed) ++
        Swift.renderGenericClause (Swift.genericParams U c e.decorators e.genericTypes) ++ s%": ") <:+: Swift.renderEnum U d) ∧
    (∀ (c : Scala.Cfg) (d : Scala.ScEnum), Scala.enumFacts c e = .ok d →
      Sc.enumParams d = e.genericTypes ∧
      (s%"sealed trait " ++ e.id.renamed ++ Scala.genericSq e.genericTypes ++ s%" {\n") <:+: Scala.renderEnum d)) ∧
  (∀ (ps qs : List Str), (∀ p ∈ ps, Clean p) → (∀ q ∈ qs, Clean q) →
    (genericSuffix ps = genericSuffix qs → ps = qs) ∧ (Scala.genericSq ps = Scala.genericSq qs → ps = qs) ∧
    (goClause ps = goClause qs → ps = qs) ∧ (pyBases ps = pyBases qs → ps = qs)) ∧
  (∀ (U : UnicodeOps) (c : Swift.Cfg) (dm : DecoratorMap) (ps : List Str), (Swift.genericParams U c dm ps).map (·.name) = ps)

theorem C05_DefinitionGenerics : C05_DefinitionGenerics_full :=
  ⟨fun rs => ⟨fun c st st' b h => ts_struct c rs st st' b h, fun c d hf h => kotlin_struct_record c rs d hf h,
      fun U c st st' d h => swift_struct_record U c rs st st' d h, fun c d hf h => scala_struct_record c rs d hf h,
      fun U c st st' d h => go_struct_record U c rs st st' d h, fun E c st st' d h => python_struct_record E c rs st st' d h⟩,
   fun a => ⟨fun c st st' b h => ts_alias c a st st' b h, fun c d hi h => kotlin_alias_record c a d hi h,
      fun U c st st' b h => swift_alias U c a st st' b h, fun c d h => scala_alias_record c a d h⟩,
   fun e => ⟨fun c st st' b h => ts_enum c e st st' b h, fun c ds h => kotlin_enum_record c e ds h,
      fun U c st st' ss d h => swift_enum_record U c e st st' ss d h, fun c d h => scala_enum_record c e d h⟩,
   fun ps qs hp hq => clause_determines_list ps qs hp hq,
   fun U c dm ps => swift_genericParams_names U c dm ps⟩

/-! ## non-vacuity: `struct Pair<V, K> { a: V, b: Vec<K> }`, `type Al<V, K> = Pair<V, K>`,
`#[serde(tag = "t", content = "c")] enum En<V, K> { A(V), B(K) }` — declared order `V, K`, not alphabetical -/

/-- map over an outcome (used by the examples only) -/
def omap {α β} (f : α → β) : Outcome α → Outcome β
  | .ok a => .ok (f a)
  | .err e => .err e
  | .panic s => .panic s

def fV : Str := s%"V"
def fK : Str := s%"K"
def wPair : RustStruct := mkStruct s%"Pair" none [fV, fK] [fld s%"a" (.simple fV), fld s%"b" (.vec (.simple fK))]
def wAl : RustTypeAlias :=
  { id := mkId s%"Al" none, genericTypes := [fV, fK], ty := .generic s%"Pair" [.simple fV, .simple fK], comments := [],
    decorators := {}, isRedacted := false }
def wEn : RustEnum :=
  { keys := some (s%"t", s%"c"), id := mkId s%"En" none, genericTypes := [fV, fK], comments := [],
    variants := [.tuple (mkId s%"A" none) [] (.simple fV), .tuple (mkId s%"B" none) [] (.simple fK)],
    decorators := {}, isRecursive := false, isRedacted := false }

/-- the names are clean, and the declared order is not the sorted one -/
example : (∀ p ∈ [fV, fK], Clean p) ∧ [fV, fK] ≠ [fK, fV] := by
  refine ⟨?_, by decide⟩
  intro p hp
  simp only [List.mem_cons, List.not_mem_nil, or_false] at hp
  rcases hp with rfl | rfl <;> exact ⟨by decide, by decide⟩

/-- the six struct headers on the witness (every hypothesis of the struct part is met: the six
printers succeed, the struct has fields) -/
theorem struct_example :
    wPair.fields.isEmpty = false ∧
    omap (·.1) (TypeScript.writeStruct {} wPair []) =
      .ok s%"export interface Pair<V, K> {\n\ta: V;\n\tb: K[];\n}\n\n" ∧
    omap Kotlin.renderDecl (Kotlin.structFacts {} wPair) =
      .ok s%"@Serializable\ndata class Pair<V, K> (\n\tval a: V,\n\tval b: List<K>\n)\n\n" ∧
    omap (fun r => ((s%"\npublic struct Pair<V: Codable, K: Codable>: Codable {").isPrefixOf (Swift.renderStruct .ascii r.1),
        Sw.structParams r.1)) (Swift.structFacts .ascii {} wPair false) = .ok (true, [fV, fK]) ∧
    omap Scala.renderClass (Scala.classFacts {} wPair) =
      .ok s%"case class Pair[V, K] (\n\ta: V,\n\tb: Vector[K]\n)\n\n" ∧
    omap (fun r => (s%"type Pair[V any, K any] struct {\n\tA").isPrefixOf (Go.renderStruct r.1)) (Go.structFacts .ascii {} wPair []) =
      .ok true ∧
    omap (fun r => ((s%"class Pair(BaseModel, Generic[V, K]):\n    a").isPrefixOf (Python.renderClass r.1), r.2.typeVars))
      (Python.structFacts E0 {} wPair {}) = .ok (true, [fK, fV]) := by
  decide +kernel

/-- **Python: the header's `TypeVar` lines are in name order, the `Generic[...]` base in declaration
order** — on the witness the state holds `[K, V]`, the class says `Generic[V, K]` -/
theorem python_typeVars_any_order :
    omap (fun r => (r.2.typeVars, Py.classParams r.1)) (Python.structFacts E0 {} wPair {}) = .ok ([fK, fV], [fV, fK]) := by
  decide +kernel

/-- aliases and enums on the witness -/
theorem alias_enum_example :
    omap (·.1) (TypeScript.writeAlias {} wAl []) = .ok s%"export type Al<V, K> = Pair<V, K>;\n\n" ∧
    omap Kotlin.renderDecl (Kotlin.aliasFacts {} wAl) = .ok s%"typealias Al<V, K> = Pair<V, K>\n\n" ∧
    omap (·.1) (Swift.writeAlias .ascii {} wAl false) = .ok s%"\npublic typealias Al<V, K> = Pair<V, K>\n" ∧
    omap Scala.renderAlias (Scala.aliasFacts {} wAl) = .ok s%"type Al[V, K] = Pair[V, K]\n\n" ∧
    omap (fun r => (s%"export type En<V, K> = \n\t").isPrefixOf r.1) (TypeScript.writeEnum {} wEn []) = .ok true ∧
    omap (fun ds => ds.map Kt.headerClause) (Kotlin.enumFacts {} wEn) = .ok [s%"<V, K>"] ∧
    omap (fun r => ((s%"public enum En<V: Codable, K: Codable>: Codable {").isPrefixOf (Swift.renderEnum .ascii r.2.1),
        Sw.enumParams r.2.1)) (Swift.enumFacts .ascii {} wEn false) = .ok (true, [fV, fK]) ∧
    omap (fun d => (s%"sealed trait En[V, K] {\n\td").isPrefixOf (Scala.renderEnum d)) (Scala.enumFacts {} wEn) = .ok true := by
  decide +kernel

/-- **what writes no list**: a Go alias drops the alias's own parameters (`type Al Pair[V, K]`), a Go
or Python enum type has none; Kotlin / Scala write a struct without fields as `object` / plain
`class` without a list -/
theorem no_list_written :
    omap (fun r => Go.renderAlias r.1) (Go.aliasFacts .ascii {} wAl []) = .ok s%"type Al Pair[V, K]\n\n" ∧
    omap (fun r => Python.renderAlias r.1) (Python.aliasFacts {} wAl {}) = .ok s%"Al = Pair[V, K]\n\n" ∧
    omap Kotlin.renderDecl (Kotlin.structFacts {} { wPair with fields := [] }) = .ok s%"@Serializable\nobject Pair\n\n" ∧
    omap Scala.renderClass (Scala.classFacts {} { wPair with fields := [] }) = .ok s%"class Pair extends Serializable\n\n" := by
  decide +kernel

end TsV.C05_DefinitionGenerics
