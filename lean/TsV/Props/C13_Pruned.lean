import TsV.Lemmas.C13_Pruned
import TsV.Props.C13
/-!
# C13, metamorphic form — a member the target list excludes is treated as if it had not been written

`C13P.prune f T` (in `Lemmas/C13_Pruned.lean`, trusted as the *reading* of "not written") deletes
from the abstract file `f`

* an item that carries the `typeshare` annotation (struct, enum, type alias, const) when
  `accept_target_os` of its attributes rejects `T`,
* a variant of a kept annotated enum, a named field of a kept annotated struct or of a struct variant, when
  `accept_target_os` of the member's attributes rejects `T`

(payload fields of tuple structs / tuple variants are not filtered by typeshare and are left alone; modules
and the items nested in function bodies are descended into; an excluded file becomes the empty file).
Skip markers play no role: `prune` is about the target list only.

* `C13_Pruned_full`: `parser::parse` cannot tell `prune f T` from `f` — the same `Option<ParsedData>`, the same
  error entries, the same panic.  **False in folder mode** (`C13_Pruned_not_full`): the visitor walks the
  paths *inside* an excluded member although it does not parse it (`syn::visit::visit_item_struct` runs
  after the `if`), so a path like `other::Foo` in an excluded struct is still recorded as an import, and
  survives `reconcile_referenced_types` when a kept item mentions `Foo`.
* `C13_Pruned` (single-file mode, `-o`): outright equality.
* `C13_Pruned_folder` (every mode): equality of everything except `importTypes` — items, members, error
  entries, type names, crate / file name, the decision to return `None`, panics.
* `C13_Pruned_text`: the same when the pruned *text* no longer contains `#[typeshare` (the marker of the
  pruned file is then `false`): nothing annotated survived, and both answers are `None`.
* corollaries: `prune_idempotent`, `prune_no_targets`, `excluded_field_irrelevant`,
  `excluded_variant_field_irrelevant`, `excluded_variant_irrelevant` (an excluded member may carry
  `serde(flatten)`, an unsupported type, several payloads …: the enclosing item parses as without it).
-/
namespace TsV.C13_Pruned
open TsV TsV.Syn TsV.Parser TsV.Visitor TsV.C13P

/-- the answer of `parser::parse` with the raw import set blanked -/
def forgetR : Outcome (Option ParsedData) → Outcome (Option ParsedData)
  | .ok r => .ok (r.map forget)
  | .err e => .err e
  | .panic s => .panic s

/-- **the metamorphic rule at full strength**: in every mode `parser::parse` answers the same for the
program and for the program with the excluded members deleted -/
def C13_Pruned_full : Prop :=
  ∀ (E : Ext) (ctx : ParseContext) (pick : List ImportedType → Option ImportedType) (cn fn fp : Str) (f : File),
    parseFile E ctx pick cn fn fp (prune f ctx.targetOs) = parseFile E ctx pick cn fn fp f

theorem visitFile_prune (E : Ext) (ctx : ParseContext) (cn fn fp : Str) (f : File)
    (hk : keep ctx.targetOs f.attrs = true) :
    AgreeO ctx (visitFile E ctx cn fn fp f) (visitFile E ctx cn fn fp (prune f ctx.targetOs)) := by
  have hk' : (TargetOs.accept f.attrs ctx.targetOs).getD true = true := hk
  simp only [visitFile, prune, hk, if_true, hk']
  exact visitItems_prune E ctx fp f.items _ _ (Agree.refl ctx _)

theorem isEmpty_forget (d : ParsedData) : isEmpty (forget d) = isEmpty d := rfl

theorem isEmpty_agree {ctx : ParseContext} {a b : ParsedData} (h : Agree ctx a b) : isEmpty a = isEmpty b := by
  rw [← isEmpty_forget a, ← isEmpty_forget b, h.1]

theorem multiFile_agree {ctx : ParseContext} {a b : ParsedData} (h : Agree ctx a b) : a.multiFile = b.multiFile := by
  show (forget a).multiFile = (forget b).multiFile
  rw [h.1]

theorem forget_reconcile (U : UnicodeOps) (pick : List ImportedType → Option ImportedType) (d : ParsedData) :
    forget (reconcileReferencedTypes U pick d) = forget d := by
  unfold forget reconcileReferencedTypes; rfl

/-- the tail of `parser::parse` after the visitor -/
def finish (E : Ext) (pick : List ImportedType → Option ImportedType) (d : ParsedData) :
    Outcome (Option ParsedData) :=
  if isEmpty d then pure none
  else if d.multiFile then pure (some (reconcileReferencedTypes E.U pick d))
  else pure (some d)

theorem finish_agree (E : Ext) (ctx : ParseContext) (pick : List ImportedType → Option ImportedType)
    (x y : Outcome ParsedData) (h : AgreeO ctx x y) :
    forgetR (x.bind (finish E pick)) = forgetR (y.bind (finish E pick)) ∧
    (ctx.multiFile = false → x.bind (finish E pick) = y.bind (finish E pick)) := by
  cases x <;> cases y <;> simp only [AgreeO] at h <;> try exact h.elim
  · rename_i a b
    refine ⟨?_, fun hf => by rw [h.2 hf]⟩
    simp only [Outcome.bind_ok, finish, isEmpty_agree h, multiFile_agree h]
    split
    · rfl
    · split
      · simp only [forgetR, pure, Option.map_some, forget_reconcile, h.1]
      · simp only [forgetR, pure, Option.map_some, h.1]
  · subst h; exact ⟨rfl, fun _ => rfl⟩
  · subst h; exact ⟨rfl, fun _ => rfl⟩

theorem parseFile_eq (E : Ext) (ctx : ParseContext) (pick : List ImportedType → Option ImportedType)
    (cn fn fp : Str) (f : File) :
    parseFile E ctx pick cn fn fp f =
      if !f.marker then .ok none else (visitFile E ctx cn fn fp f).bind (finish E pick) := rfl

/-- two files with the same marker that the visitor cannot tell apart (up to the raw import set) get the
same answer, up to the raw import set -/
theorem parseFile_agree (E : Ext) (ctx : ParseContext) (pick : List ImportedType → Option ImportedType)
    (cn fn fp : Str) (f f' : File) (hm : f'.marker = f.marker)
    (h : AgreeO ctx (visitFile E ctx cn fn fp f) (visitFile E ctx cn fn fp f')) :
    forgetR (parseFile E ctx pick cn fn fp f') = forgetR (parseFile E ctx pick cn fn fp f) ∧
    (ctx.multiFile = false → parseFile E ctx pick cn fn fp f' = parseFile E ctx pick cn fn fp f) := by
  rw [parseFile_eq, parseFile_eq, hm]
  split
  · exact ⟨rfl, fun _ => rfl⟩
  · have := finish_agree E ctx pick _ _ h
    exact ⟨this.1.symm, fun hf => (this.2 hf).symm⟩

/-- a file the target list excludes yields nothing, like the empty file -/
theorem parseFile_excluded (E : Ext) (ctx : ParseContext) (pick : List ImportedType → Option ImportedType)
    (cn fn fp : Str) (f : File) (hk : keep ctx.targetOs f.attrs = false) :
    parseFile E ctx pick cn fn fp f = .ok none :=
  C13.file_level E ctx pick cn fn fp f ((TargetOs.accept_eq_some f.attrs ctx.targetOs false).2 hk)

theorem prune_marker (f : File) (T : List Str) (hk : keep T f.attrs = true) : (prune f T).marker = f.marker := by
  simp [prune, hk]

theorem parseFile_prune_both (E : Ext) (ctx : ParseContext) (pick : List ImportedType → Option ImportedType)
    (cn fn fp : Str) (f : File) :
    forgetR (parseFile E ctx pick cn fn fp (prune f ctx.targetOs)) = forgetR (parseFile E ctx pick cn fn fp f) ∧
    (ctx.multiFile = false →
      parseFile E ctx pick cn fn fp (prune f ctx.targetOs) = parseFile E ctx pick cn fn fp f) := by
  cases hk : keep ctx.targetOs f.attrs with
  | false =>
    rw [parseFile_excluded E ctx pick cn fn fp f hk]
    have : prune f ctx.targetOs = ⟨[], [], false⟩ := by simp [prune, hk]
    rw [this]
    exact ⟨rfl, fun _ => rfl⟩
  | true =>
    exact parseFile_agree E ctx pick cn fn fp f _ (prune_marker f _ hk) (visitFile_prune E ctx cn fn fp f hk)

/-- **C13_Pruned (single-file mode).**  With `-o` (one output file, `multi_file = false`) the program
and the program with every excluded member deleted parse to the *same* answer. -/
theorem C13_Pruned (E : Ext) (ctx : ParseContext) (pick : List ImportedType → Option ImportedType)
    (cn fn fp : Str) (f : File) (hsingle : ctx.multiFile = false) :
    parseFile E ctx pick cn fn fp (prune f ctx.targetOs) = parseFile E ctx pick cn fn fp f :=
  (parseFile_prune_both E ctx pick cn fn fp f).2 hsingle

/-- **C13_Pruned (every mode).**  The two answers agree in everything but the raw import set: the same
structs, enums, aliases, consts (with the same members), the same error entries, type names, crate and
file name; `None` for the one iff `None` for the other; the same panic. -/
theorem C13_Pruned_folder (E : Ext) (ctx : ParseContext) (pick : List ImportedType → Option ImportedType)
    (cn fn fp : Str) (f : File) :
    forgetR (parseFile E ctx pick cn fn fp (prune f ctx.targetOs)) = forgetR (parseFile E ctx pick cn fn fp f) :=
  (parseFile_prune_both E ctx pick cn fn fp f).1

/-- an answer that agrees, up to the raw import set, with an answer that is data is data with the same fields -/
theorem forgetR_some {x : Outcome (Option ParsedData)} {d : ParsedData}
    (hf : forgetR x = forgetR (.ok (some d))) :
    ∃ d', x = .ok (some d') ∧
      d'.structs = d.structs ∧ d'.enums = d.enums ∧ d'.aliases = d.aliases ∧ d'.consts = d.consts ∧
      d'.errors = d.errors ∧ d'.typeNames = d.typeNames ∧ d'.crateName = d.crateName ∧
      d'.fileName = d.fileName ∧ d'.multiFile = d.multiFile := by
  cases x with
  | ok r =>
    cases r with
    | none => simp [forgetR] at hf
    | some d' =>
      simp only [forgetR, Option.map_some, Outcome.ok.injEq, Option.some.injEq] at hf
      refine ⟨d', rfl, ?_⟩
      simp only [forget] at hf
      injection hf with h1 h2 h3 h4 h5 h6 h7 h8 h9 h10
      exact ⟨h1, h2, h3, h4, h7, h6, h8, h9, h10⟩
  | err e => simp [forgetR] at hf
  | panic s => simp [forgetR] at hf

/-- field by field, for a file that yields data -/
theorem C13_Pruned_fields (E : Ext) (ctx : ParseContext) (pick : List ImportedType → Option ImportedType)
    (cn fn fp : Str) (f : File) (d : ParsedData) (h : parseFile E ctx pick cn fn fp f = .ok (some d)) :
    ∃ d', parseFile E ctx pick cn fn fp (prune f ctx.targetOs) = .ok (some d') ∧
      d'.structs = d.structs ∧ d'.enums = d.enums ∧ d'.aliases = d.aliases ∧ d'.consts = d.consts ∧
      d'.errors = d.errors ∧ d'.typeNames = d.typeNames ∧ d'.crateName = d.crateName ∧
      d'.fileName = d.fileName ∧ d'.multiFile = d.multiFile := by
  have hf := C13_Pruned_folder E ctx pick cn fn fp f
  rw [h] at hf
  exact forgetR_some hf

/-- a file in which no item carries the annotation yields nothing, whatever its marker says -/
theorem parseFile_noAnnotated (E : Ext) (ctx : ParseContext) (pick : List ImportedType → Option ImportedType)
    (cn fn fp : Str) (g : File) (h : noAnnotatedList g.items = true) :
    parseFile E ctx pick cn fn fp g = .ok none := by
  rw [parseFile_eq]
  split
  · rfl
  · simp only [visitFile]
    split
    · have hb : Blank (addPaths E ctx { crateName := cn, fileName := fn, multiFile := ctx.multiFile }
          (attrPaths g.attrs)) := blank_addPaths E ctx _ _ rfl
      obtain ⟨d', hd, hb'⟩ := visitItems_blank E ctx fp g.items _ h hb
      rw [hd]
      have : isEmpty d' = true := hb'
      simp [finish, this]
    · simp [finish, isEmpty]

/-- **the pruned *text*.**  The marker of a file is a fact about its text ("contains `#[typeshare`").  When
the pruned text still contains it, `C13_Pruned_folder` applies as it stands; when it does not, no annotated
item survived, and then both programs yield nothing.  So for *either* value `m` of the pruned file's marker
that the text can have, the answers agree. -/
theorem C13_Pruned_text (E : Ext) (ctx : ParseContext) (pick : List ImportedType → Option ImportedType)
    (cn fn fp : Str) (f : File) (m : Bool)
    (hm : m = (prune f ctx.targetOs).marker ∨ noAnnotatedList (prune f ctx.targetOs).items = true) :
    forgetR (parseFile E ctx pick cn fn fp { prune f ctx.targetOs with marker := m }) =
      forgetR (parseFile E ctx pick cn fn fp f) := by
  rcases hm with rfl | hn
  · exact C13_Pruned_folder E ctx pick cn fn fp f
  · rw [← C13_Pruned_folder E ctx pick cn fn fp f,
      parseFile_noAnnotated E ctx pick cn fn fp _ hn,
      parseFile_noAnnotated E ctx pick cn fn fp { prune f ctx.targetOs with marker := m } hn]

/-- deleting twice deletes nothing more -/
theorem prune_idempotent (f : File) (T : List Str) : prune (prune f T) T = prune f T := by
  cases hk : keep T f.attrs with
  | false =>
    have : prune f T = ⟨[], [], false⟩ := by simp [prune, hk]
    rw [this]
    simp [prune, keep_nil_attrs, pruneItems]
  | true =>
    have : prune f T = { f with items := pruneItems T f.items } := by simp [prune, hk]
    rw [this]
    simp [prune, hk, pruneItems_idem]

/-- without `--target-os` nothing is deleted -/
theorem prune_no_targets (f : File) : prune f [] = f := by
  simp [prune, keep_nil, pruneItems_nil]

/-- what is deleted is exactly what `accept_target_os` rejects (the decision of `TsV.C13.C13`) -/
theorem keep_iff (T : List Str) (attrs : List Attr) :
    keep T attrs = false ↔ TargetOs.accept attrs T = some false := by
  exact (TargetOs.accept_eq_some attrs T false).symm

/-- **an excluded field can carry anything**: a struct parses as if the field were not there — whatever its
type, `serde(flatten)`, `serialized_as` … -/
theorem excluded_field_irrelevant (E : Ext) (T : List Str) (a : List Attr) (i : Str) (g : List GenericParam)
    (pre post : List Field) (x : Field) (hx : keep T x.attrs = false) :
    parseStruct E T a i g (.named (pre ++ x :: post)) = parseStruct E T a i g (.named (pre ++ post)) := by
  rw [← parseStruct_prune E T a i g (.named (pre ++ x :: post)), ← parseStruct_prune E T a i g (.named (pre ++ post))]
  simp [pruneFields, hx]

/-- the same for a field of a struct variant -/
theorem excluded_variant_field_irrelevant (E : Ext) (T : List Str) (ra : Option Str) (va : List Attr) (vi : Str)
    (pre post : List Field) (x : Field) (hx : keep T x.attrs = false) :
    parseEnumVariant E T ra ⟨va, vi, .named (pre ++ x :: post)⟩ =
      parseEnumVariant E T ra ⟨va, vi, .named (pre ++ post)⟩ := by
  rw [← parseEnumVariant_prune E T ra ⟨va, vi, .named (pre ++ x :: post)⟩,
    ← parseEnumVariant_prune E T ra ⟨va, vi, .named (pre ++ post)⟩]
  simp [pruneVariant, pruneFields, hx]

/-- **an excluded variant can carry anything** (several payloads, unsupported types, flattened fields): the
enum parses as if the variant were not there — including the unit / algebraic decision and the
`tag` / `content` requirements, which are taken on the variants that are left -/
theorem excluded_variant_irrelevant (E : Ext) (T : List Str) (a : List Attr) (i : Str) (g : List GenericParam)
    (pre post : List Variant) (x : Variant) (hx : keep T x.attrs = false) :
    parseEnum E T a i g (pre ++ x :: post) = parseEnum E T a i g (pre ++ post) := by
  rw [← parseEnum_prune E T a i g (pre ++ x :: post), ← parseEnum_prune E T a i g (pre ++ post)]
  simp [pruneVariants, hx]

/-! ## the witness against the full statement (folder mode), kernel-checked -/

def wE : Ext := { U := .ascii, parseType := fun _ => none }
def wCtx : ParseContext := { multiFile := true, targetOs := [s%"android"] }
def tsAttr : Attr := ⟨.path [s%"typeshare"]⟩
def iosAttr : Attr := ⟨.list [s%"cfg"] true [.nameValue [s%"target_os"] (some (.str s%"ios"))]⟩

/-- ```
#[typeshare] #[cfg(target_os = "ios")] pub struct OnlyIos { pub x: other::Foo }
#[typeshare] pub struct Kept { pub y: Foo }
``` -/
def wFile : File :=
  { attrs := [], marker := true,
    items := [.struct [tsAttr, iosAttr] s%"OnlyIos" [] (.named [⟨[], some s%"x", .path [s%"other"] s%"Foo" []⟩]),
              .struct [tsAttr] s%"Kept" [] (.named [⟨[], some s%"y", .path [] s%"Foo" []⟩])] }

/-- the same with `OnlyIos` deleted -/
theorem wFile_pruned : prune wFile wCtx.targetOs =
    { attrs := [], marker := true,
      items := [.struct [tsAttr] s%"Kept" [] (.named [⟨[], some s%"y", .path [] s%"Foo" []⟩])] } := by
  have h1 : keep wCtx.targetOs wFile.attrs = true := by decide +kernel
  have h2 : keep wCtx.targetOs [tsAttr, iosAttr] = false := by decide +kernel
  have h3 : keep wCtx.targetOs [tsAttr] = true := by decide +kernel
  have h4 : hasTypeshareAnnotation [tsAttr, iosAttr] = true := by decide +kernel
  have h5 : hasTypeshareAnnotation [tsAttr] = true := by decide +kernel
  have h6 : keep wCtx.targetOs ([] : List Attr) = true := by decide +kernel
  simp only [prune, h1, if_true]
  simp [wFile, pruneItems, pruneItem, h2, h3, h4, h5, pruneFields, h6]

def importsOf : Outcome (Option ParsedData) → List ImportedType
  | .ok (some d) => d.importTypes
  | _ => []

/-- in folder mode the excluded struct's path `other::Foo` is still an import of the module … -/
theorem witness_original :
    importsOf (parseFile wE wCtx List.head? s%"mine" s%"mine" s%"src/lib.rs" wFile) = [⟨s%"other", s%"Foo"⟩] := by
  decide +kernel

/-- … and it is not when the struct is deleted -/
theorem witness_pruned :
    importsOf (parseFile wE wCtx List.head? s%"mine" s%"mine" s%"src/lib.rs" (prune wFile wCtx.targetOs)) = [] := by
  rw [wFile_pruned]; decide +kernel

/-- **the full statement is false in folder mode.** -/
theorem C13_Pruned_not_full : ¬ C13_Pruned_full := by
  intro h
  have := congrArg importsOf (h wE wCtx List.head? s%"mine" s%"mine" s%"src/lib.rs" wFile)
  rw [witness_original, witness_pruned] at this
  exact absurd this (by decide +kernel)

def androidNot : Attr :=
  ⟨.list [s%"cfg"] true [.list [s%"not"] true [.nameValue [s%"target_os"] (some (.str s%"android"))]]⟩
def flattenAttr : Attr := ⟨.list [s%"serde"] true [.path [s%"flatten"]]⟩

/-- `#[cfg(not(target_os = "android"))] #[serde(flatten)] pub bad: (u64, usize)` -/
def badField : Field := ⟨[androidNot, flattenAttr], some s%"bad", .tuple [.path [] s%"u64" [], .path [] s%"usize" []]⟩
def goodField : Field := ⟨[], some s%"good", .path [] s%"u8" []⟩

/-- the hypothesis of `excluded_field_irrelevant` for a flattened field of unsupported type … -/
example : keep [s%"android"] badField.attrs = false := by decide +kernel
/-- … with which the struct is generated for android and is an error for ios -/
example : (parseStruct wE [s%"android"] [tsAttr] s%"S" [] (.named [goodField, badField])).isOk = true := by
  decide +kernel
example : (parseStruct wE [s%"ios"] [tsAttr] s%"S" [] (.named [goodField, badField])).isOk = false := by
  decide +kernel

/-- a variant with two payloads, excluded -/
def badVariant : Variant := ⟨[androidNot], s%"Two", .unnamed [⟨[], none, .path [] s%"u8" []⟩, ⟨[], none, .path [] s%"u8" []⟩]⟩
example : keep [s%"android"] badVariant.attrs = false := by decide +kernel
example : (parseEnum wE [s%"android"] [tsAttr] s%"En" [] [⟨[], s%"A", .unit⟩, badVariant]).isOk = true := by
  decide +kernel
example : (parseEnum wE [s%"ios"] [tsAttr] s%"En" [] [⟨[], s%"A", .unit⟩, badVariant]).isOk = false := by
  decide +kernel

/-- `C13_Pruned` on the witness file in single-file mode: both sides are the one struct `Kept`, and the
pruned file really is a different file -/
example : (match parseFile wE { wCtx with multiFile := false } List.head? s%"mine" s%"mine" s%"src/lib.rs" wFile with
    | .ok (some d) => d.structs.map (·.id.original) | _ => []) = [s%"Kept"] := by decide +kernel
example : (prune wFile wCtx.targetOs).items.length = 1 ∧ wFile.items.length = 2 := by
  rw [wFile_pruned]; decide +kernel

end TsV.C13_Pruned
