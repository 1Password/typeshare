import TsV.Lemmas.C03_EmptiedVariants
import TsV.Lemmas.Capstone_Run
import TsV.Props.C05_HelperGenerics
/-!
# C03_EmptiedVariants — a struct variant that keeps no field is still a variant, and its helper struct
is still written

C03: "one foreign type per annotated item … plus the helper types a backend derives from an enum's
struct variants"; "each generated type lists exactly the source … variants that are not marked skip".
A struct variant written `V {}`, or all of whose fields carry `serde(skip)` / `typeshare(skip)`, is
itself not skipped: it is a variant of the generated type, and — for the five back ends that write a
helper struct `<Enum><Variant>Inner` for every struct variant — the enum's text refers to that helper,
so the helper has to be written although it has nothing in it.

* `emptied_variant_parsed`, `emptied_variant_kept` — the parser keeps such a variant as
  `.anonymousStruct id comments []`, at its place among the non-skipped variants.
* `helper_always_built` — the model of `write_types_for_anonymous_structs` on a variant without
  fields: each of the five back ends builds the helper record unconditionally (no error path: Kotlin
  `object`, Swift `struct` with an empty `init`, Scala `class … extends Serializable`, Go
  `type … struct {}`, Python `class …(BaseModel): pass`), with the texts `helper_text`; TypeScript
  prints the member inline (`content: {}`), `typescript_member`; `case_always_built` — and the
  enum's case for the variant, which refers to the helper.
* `inner_names_defined_kotlin / swift / scala / go / python` — in the block written for a tagged enum,
  for **every** struct variant, kept fields or not: the case refers to `<Enum><Variant>Inner` and the
  same block contains, at the start of a line, the defining keyword followed by exactly that name
  (`DefinesHead`).
* `helpers_in_file` (with `C03_Emission`) — in the one output file of a run, every struct variant of
  every emitted enum has its helper definition; `emptied_helper_in_file_*` — from the *source*: an
  annotated enum with a non-skipped variant that keeps no field, in a file that is generated at all,
  has `object <prefix><Enum><Variant>Inner` (…) in the output.
* `C03_EmptiedVariants : C03_EmptiedVariants_full`.

Nothing is false on the model.
-/
namespace TsV.C03_EmptiedVariants
open TsV TsV.Syn TsV.Parser TsV.Pipeline TsV.Generate TsV.Lang TsV.C03E TsV.Outcome

/-! ## 1. the parser -/

/-- **a struct variant none of whose fields is kept parses to a struct variant without fields**
(as long as its name does: `getIdent`) — never to a unit variant, never to an error of its own -/
theorem emptied_variant_parsed (E : Ext) (T : List Str) (ra : Option Str) (v : Variant) (h : Emptied T v) :
    parseEnumVariant E T ra v =
      (getIdent E (some v.ident) v.attrs ra).bind fun id =>
        .ok (.anonymousStruct id (parseCommentAttrs E v.attrs) []) := by
  obtain ⟨fs, hv, hall⟩ := h
  have hf : (fs.filter fun f => !isSkipped f.attrs T) = [] := by
    rw [List.filter_eq_nil_iff]
    intro f hf
    simp [hall f hf]
  unfold parseEnumVariant
  simp only [hv, hf, Outcome.mapM']
  rfl

/-- **… and the parsed enum has it**: for an enum that parses, each non-skipped source variant that
keeps no field is a `.anonymousStruct _ _ []` of `e.variants` (at the position `C03.enum_variants_exact`
gives), hence one of its `structVariants` -/
theorem emptied_variant_kept (E : Ext) (T : List Str) (attrs : List Attr) (ident : Str) (gens : List GenericParam)
    (vs : List Variant) (e : RustEnum) (hsa : getSerializedAsType E attrs = none)
    (h : parseEnum E T attrs ident gens vs = .ok (.enum e)) (v : Variant) (hv : v ∈ vs)
    (hns : isSkipped v.attrs T = false) (hem : Emptied T v) :
    ∃ id : Id, id.original = C03.origOf (some v.ident) ∧
      RustEnumVariant.anonymousStruct id (parseCommentAttrs E v.attrs) [] ∈ e.variants ∧
      (id, ([] : List RustField)) ∈ structVariants e := by
  have hm := (Parser.parseEnum_enum_ok h).2
  have hvf : v ∈ vs.filter fun v => !isSkipped v.attrs T := List.mem_filter.2 ⟨hv, by simp [hns]⟩
  obtain ⟨k, hk⟩ := List.getElem?_of_mem hvf
  obtain ⟨hk1, hk2⟩ := List.getElem?_eq_some_iff.1 hk
  have hlen := mapM'_ok_length _ _ _ hm
  have hr := mapM'_ok_forall₂ _ _ _ hm k hk1 (by rw [hlen]; exact hk1)
  rw [hk2, emptied_variant_parsed E T _ v hem] at hr
  obtain ⟨id, hid, hr⟩ := Outcome.of_bind_ok hr
  simp only [Outcome.ok.injEq] at hr
  have hmem : RustEnumVariant.anonymousStruct id (parseCommentAttrs E v.attrs) [] ∈ e.variants := by
    rw [hr]; exact List.getElem_mem _
  refine ⟨id, C03.getIdent_original E _ _ _ _ hid, hmem, ?_⟩
  simp only [structVariants, List.mem_filterMap]
  exact ⟨_, hmem, rfl⟩

/-- reconciliation keeps it: the enum the back end receives has the same struct variant without fields -/
theorem emptied_variant_reconciled (c : Str) (r : Renames) (e : RustEnum) (id : Id)
    (h : (id, ([] : List RustField)) ∈ structVariants e) :
    (id, ([] : List RustField)) ∈ structVariants (Cap.recEnum c r e) := by
  simp only [structVariants, List.mem_filterMap] at h ⊢
  obtain ⟨v, hv, hve⟩ := h
  refine ⟨checkVariant c r [] v, List.mem_map.2 ⟨v, hv, rfl⟩, ?_⟩
  cases v with
  | unit i cs => simp at hve
  | tuple i cs t => simp at hve
  | anonymousStruct i cs fs =>
    simp only [Option.some.injEq, Prod.mk.injEq] at hve
    obtain ⟨rfl, rfl⟩ := hve
    rfl

/-! ## 2. `write_types_for_anonymous_structs` on a variant without fields -/

/-- **the helper struct of a variant without fields is always built** — each back end's
`write_struct` on `anonymousStruct e n v []` returns a record, whatever the enum, the configuration
and the printer state (Go: whenever its acronym pass does not panic on the name) -/
theorem helper_always_built (e : RustEnum) (n v : Str) :
    (∀ c : Kotlin.Cfg, Kotlin.structFacts c (anonymousStruct e n v []) =
      .ok (.object (anonymousStruct e n v []).comments (c.pfx ++ n))) ∧
    (∀ (U : UnicodeOps) (c : Swift.Cfg) (st : Swift.St), Swift.structFacts U c (anonymousStruct e n v []) st =
      .ok ({ comments := (anonymousStruct e n v []).comments, name := Swift.kw (c.pfx ++ n), generics := [],
             conformances := Swift.structConformances c e.decorators, props := [], codingKeys := [],
             explicitCodingKeys := false, initParams := [], initAssigns := [] }, st)) ∧
    (∀ c : Scala.Cfg, Scala.classFacts c (anonymousStruct e n v []) =
      .ok { comments := (anonymousStruct e n v []).comments, name := n, generics := [], params := [] }) ∧
    (∀ (U : UnicodeOps) (c : Go.Cfg) (st : Go.Imports), Go.structFacts U c (anonymousStruct e n v []) st =
      (Go.acr U c n).bind fun name =>
        .ok ({ comments := (anonymousStruct e n v []).comments, name, generics := [], fields := [] }, st)) ∧
    (∀ (E : Ext) (c : Python.Cfg) (st : Python.St), Python.structFacts E c (anonymousStruct e n v []) st =
      .ok ({ name := n, generics := [], comments := (anonymousStruct e n v []).comments, modelConfig := false,
             fields := [] }, Python.addImport st Python.kPydantic s%"BaseModel")) :=
  ⟨fun _ => rfl, fun _ _ _ => rfl, fun _ => rfl, fun _ _ _ => rfl, fun _ _ _ => rfl⟩

/-- the text of these records (`cs` = the one generated doc comment of the helper) -/
theorem helper_text (cs : List Str) (n : Str) :
    Kotlin.renderDecl (.object cs n) = Kotlin.comments 0 cs ++ s%"@Serializable\nobject " ++ n ++ s%"\n\n" ∧
    (∀ (U : UnicodeOps) (cf : List Str),
      Swift.renderStruct U { comments := cs, name := n, generics := [], conformances := cf, props := [], codingKeys := [],
                             explicitCodingKeys := false, initParams := [], initAssigns := [] } =
        s%"\n" ++ Swift.comments U 0 cs ++ s%"public struct " ++ n ++ s%": " ++ Str.intercalate s%", " cf ++
          s%" {\n\tpublic init() {}\n}\n") ∧
    Scala.renderClass { comments := cs, name := n, generics := [], params := [] } =
      Scala.comments 0 cs ++ s%"class " ++ n ++ s%" extends Serializable\n\n" ∧
    Go.renderStruct { comments := cs, name := n, generics := [], fields := [] } =
      Go.comments 0 cs ++ s%"type " ++ n ++ s%" struct {\n}\n" ∧
    Python.renderClass { name := n, generics := [], comments := cs, modelConfig := false, fields := [] } =
      s%"class " ++ n ++ s%"(BaseModel):\n" ++ Python.docstring 1 cs ++ s%"    pass\n" := by
  refine ⟨by simp [Kotlin.renderDecl, List.append_assoc], fun U cf => ?_, ?_, ?_, ?_⟩
  · simp [Swift.renderStruct, Swift.renderGenericClause, Str.intercalate, nl, List.append_assoc]
  · simp [Scala.renderClass, List.append_assoc]
  · simp [Go.renderStruct, List.append_assoc]
  · simp [Python.renderClass, nl, List.append_assoc]

/-- **… and so is the enum's case for the variant**, which refers to the helper by name: Kotlin
`data class V<…>(val c: <prefix>EVInner): E<…>()`, Swift `case v(<prefix>EVInner)`, Scala
`case class V[…](c: EVInner) extends E[…]`, Python `c: EVInner` -/
theorem case_always_built (e : RustEnum) (id : Id) (cs : List Str) :
    (∀ (c : Kotlin.Cfg) (key : Str), ∃ k, Kotlin.caseFacts c e key (.anonymousStruct id cs []) = .ok k ∧
      k.payload = .inner key (c.pfx ++ e.id.renamed ++ id.original ++ s%"Inner") [] ∧ k.serialName = id.renamed) ∧
    (∀ (U : UnicodeOps) (c : Swift.Cfg) (st : Swift.St), ∃ k, Swift.algebraicCase U c e (.anonymousStruct id cs []) st = .ok (k, st) ∧
      k.payload = some ⟨c.pfx ++ Swift.anonymousStructName e id.original, false⟩ ∧ k.wireName = id.renamed) ∧
    (∀ (c : Scala.Cfg) (kc : Str × Str), e.keys = some kc → ∃ k, Scala.caseFacts c e (.anonymousStruct id cs []) = .ok k ∧
      k.content = some (e.genericTypes, kc.2, e.id.renamed ++ id.original ++ s%"Inner") ∧ k.serialName = id.renamed) ∧
    (∀ (E : Ext) (c : Python.Cfg) (tag content : Str) (st : Python.St), ∃ k st',
      Python.variantFacts E c e tag content (.anonymousStruct id cs []) st = .ok (k, st') ∧
      k.contentType = some (Python.innerName e id.original) ∧ k.wire = id.renamed) := by
  refine ⟨fun c key => ⟨_, rfl, rfl, rfl⟩, fun U c st => ⟨_, rfl, ?_, rfl⟩, fun c kc hk => ?_, fun E c tag content st => ⟨_, _, rfl, rfl, rfl⟩⟩
  · simp [genericSuffix]
  · refine ⟨_, by simp only [Scala.caseFacts, hk]; rfl, ?_, rfl⟩
    simp [Scala.usedGenerics, Scala.genericSq]

/-- TypeScript writes no helper: the member of the union is printed inline, with an empty object type -/
theorem typescript_member (c : TypeScript.Cfg) (e : RustEnum) (tag content : Str) (id : Id) (cs : List Str)
    (st : TypeScript.CustomMap) :
    TypeScript.writeVariant c e tag content (.anonymousStruct id cs []) st =
      .ok (nl ++ TypeScript.comments 1 cs ++ s%"\t| { " ++ tag ++ s%": " ++ debugStr id.renamed ++ s%", " ++ content ++
            s%": {\n" ++ [] ++ s%"}}", st) := rfl

/-! ## 3. every `…Inner` name the enum's text mentions is defined in the same text -/

/-- **Kotlin**: for every struct variant of a tagged enum — with or without fields — the block of the
enum contains the reference `: <name><args>)` and a chunk that defines `<name>` -/
theorem inner_names_defined_kotlin (c : Kotlin.Cfg) (e : RustEnum) (kc : Str × Str) (hk : e.keys = some kc) (b : Str)
    (h : C03E.Kt.writeItem c (.enum e) = .ok b) (id : Id) (fs : List RustField) (hp : (id, fs) ∈ structVariants e) :
    (s%": " ++ (c.pfx ++ e.id.renamed ++ id.original ++ s%"Inner") ++
        genericSuffix (C09_HelperParams.helperGens e fs) ++ s%")") <:+: b ∧
    ∃ chunk, chunk <:+: b ∧
      DefinesHead (ktStructKw fs) (c.pfx ++ (e.id.renamed ++ id.original ++ s%"Inner")) chunk := by
  refine ⟨(C05_HelperGenerics.Kt.block_sites c e kc hk b h (id, fs) hp).2, ?_⟩
  exact splitsInto_mem (C03E.Kt.block_defines c _ b h) (ktStructKw fs, c.pfx ++ (e.id.renamed ++ id.original ++ s%"Inner"))
    (by simp only [ktDefs, List.mem_append, List.mem_map]; exact .inl ⟨(id, fs), hp, rfl⟩)

theorem inner_names_defined_swift (U : UnicodeOps) (c : Swift.Cfg) (e : RustEnum) (kc : Str × Str) (hk : e.keys = some kc)
    (st st' : Swift.St) (b : Str) (h : Swift.writeItem U c (.enum e) st = .ok (b, st')) (id : Id) (fs : List RustField)
    (hp : (id, fs) ∈ structVariants e) :
    (s%"(" ++ (c.pfx ++ Swift.anonymousStructName e id.original ++ genericSuffix (C09_HelperParams.helperGens e fs)) ++
        s%")\n") <:+: b ∧
    ∃ chunk, chunk <:+: b ∧
      DefinesHead s%"public struct " (c.pfx ++ (e.id.renamed ++ id.original ++ s%"Inner")) chunk := by
  refine ⟨(C05_HelperGenerics.Sw.block_sites U c e kc hk st st' b h (id, fs) hp).2, ?_⟩
  have := splitsInto_mem (C03E.Sw.block_defines U c _ st b st' h)
    (s%"public struct ", Swift.kw (c.pfx ++ (e.id.renamed ++ id.original ++ s%"Inner")))
    (by simp only [swDefs, List.mem_append, List.mem_map]; exact .inl ⟨(id, fs), hp, rfl⟩)
  have hkw : Swift.kw (c.pfx ++ (e.id.renamed ++ id.original ++ s%"Inner")) = c.pfx ++ (e.id.renamed ++ id.original ++ s%"Inner") := by
    have := C05_HelperGenerics.Sw.kw_inner (c.pfx ++ e.id.renamed ++ id.original)
    simpa [List.append_assoc] using this
  rwa [hkw] at this

theorem inner_names_defined_scala (c : Scala.Cfg) (e : RustEnum) (kc : Str × Str) (hk : e.keys = some kc) (b : Str)
    (h : C03E.Sc.writeItem c (.enum e) = .ok b) (id : Id) (fs : List RustField) (hp : (id, fs) ∈ structVariants e) :
    (s%": " ++ (e.id.renamed ++ id.original ++ s%"Inner" ++ Scala.genericSq (C09_HelperParams.helperGens e fs)) ++ s%")") <:+: b ∧
    ∃ chunk, chunk <:+: b ∧ DefinesHead (scStructKw fs) (e.id.renamed ++ id.original ++ s%"Inner") chunk := by
  refine ⟨(C05_HelperGenerics.Sc.block_sites c e kc hk b h (id, fs) hp).2, ?_⟩
  exact splitsInto_mem (C03E.Sc.block_defines c _ b h) (scStructKw fs, e.id.renamed ++ id.original ++ s%"Inner")
    (by simp only [scDefs, List.mem_append, List.mem_map]; exact .inl ⟨(id, fs), hp, rfl⟩)

/-- **Go** (no `uppercase_acronyms`): the variant's payload type is `<Enum><Variant>Inner` (Rust names)
and the block defines `type <Enum><Variant>Inner` -/
theorem inner_names_defined_go (U : UnicodeOps) (c : Go.Cfg) (hc : c.uppercaseAcronyms = []) (e : RustEnum)
    (cs : List Str) (st st' : Go.Imports) (b : Str) (h : Go.writeItem U c cs (.enum e) st = .ok (b, st'))
    (id : Id) (fs : List RustField) (hp : (id, fs) ∈ structVariants e) :
    (∀ (sn tag : Str) (cm : List Str) (s1 s2 : Go.Imports) (g : Go.GoAlgVariant),
      Go.algVariant U c e sn tag cs (.anonymousStruct id cm fs) s1 = .ok (g, s2) →
      g.payload = some ⟨e.id.original ++ id.original ++ s%"Inner", true⟩) ∧
    ∃ chunk, chunk <:+: b ∧ DefinesHead s%"type " (e.id.original ++ id.original ++ s%"Inner") chunk := by
  refine ⟨fun sn tag cm s1 s2 g hg => (C09_HelperParams.go_python_use_site_bare.1 U c hc e sn tag cs id cm fs s1 s2 g hg), ?_⟩
  obtain ⟨defs, hd, hs⟩ := C03E.Go.block_defines U c cs _ st b st' h
  refine splitsInto_mem hs (s%"type ", e.id.original ++ id.original ++ s%"Inner") ?_
  have hacr := Go.acr_nil U c hc
  have hfun : (fun (p : Id × List RustField) =>
      (Go.acr U c (e.id.original ++ p.1.original ++ s%"Inner")).bind (Go.acr U c)) =
      fun p => .ok (e.id.original ++ p.1.original ++ s%"Inner") := by
    funext p; simp only [hacr, Outcome.bind_ok]
  have hinner : Outcome.mapM' (fun (p : Id × List RustField) =>
      (Go.acr U c (e.id.original ++ p.1.original ++ s%"Inner")).bind (Go.acr U c)) (structVariantsOf e) =
      .ok ((structVariantsOf e).map fun p => e.id.original ++ p.1.original ++ s%"Inner") := by
    rw [hfun]; exact Outcome.mapM'_pure _ _
  simp only [goDefs] at hd
  rw [hinner] at hd
  simp only [hacr, Outcome.bind_ok] at hd
  have hm : (s%"type ", e.id.original ++ id.original ++ s%"Inner") ∈
      ((structVariantsOf e).map fun p => e.id.original ++ p.1.original ++ s%"Inner").map (fun i => (s%"type ", i)) :=
    List.mem_map.2 ⟨_, List.mem_map.2 ⟨(id, fs), hp, rfl⟩, rfl⟩
  cases hk : e.keys with
  | none => simp only [hk, Outcome.ok.injEq] at hd; subst hd; exact List.mem_append_left _ hm
  | some kc => simp only [hk, Outcome.ok.injEq] at hd; subst hd; exact List.mem_append_left _ hm

/-- **Python**: the variant class's content type is `<Enum><Variant>Inner` and the block defines
`class <Enum><Variant>Inner` -/
theorem inner_names_defined_python (E : Ext) (c : Python.Cfg) (e : RustEnum) (st st' : Python.St) (b : Str)
    (h : Python.writeItem E c (.enum e) st = .ok (b, st')) (id : Id) (fs : List RustField)
    (hp : (id, fs) ∈ structVariants e) :
    (∀ (tag content : Str) (cm : List Str) (s1 s2 : Python.St) (v : Python.PyVariant),
      Python.variantFacts E c e tag content (.anonymousStruct id cm fs) s1 = .ok (v, s2) →
      v.contentType = some (e.id.renamed ++ id.original ++ s%"Inner")) ∧
    ∃ chunk, chunk <:+: b ∧ DefinesHead s%"class " (e.id.renamed ++ id.original ++ s%"Inner") chunk := by
  refine ⟨fun tag content cm s1 s2 v hv => (C09_HelperParams.go_python_use_site_bare.2 E c e tag content id cm fs s1 s2 v hv), ?_⟩
  exact splitsInto_mem (C03E.Py.block_defines E c _ st b st' h) (s%"class ", e.id.renamed ++ id.original ++ s%"Inner")
    (by simp only [pyDefs, List.mem_append, List.mem_map]; exact .inl ⟨(id, fs), hp, rfl⟩)

/-! ## 4. lifted to the output file of a run (with `C03_Emission`) -/

/-- **in the output of a single-file run, every struct variant of every enum handed to the back end has
its helper definition.**  Go: the names go through the acronym pass (an `Outcome`); whatever it returns
for the helpers, those names are defined in the file. -/
theorem helpers_in_file : ∀ (E : Ext) (lang : LangCfg) (targetOs : List Str)
    (pick : List ImportedType → Option ImportedType) (f : SourceFile) (outs : List (Str × Str)),
    run E lang false targetOs pick [f] = .ok (.outputs outs) →
    ∀ e, RustItem.enum e ∈ C03_Emission.emitted E lang targetOs f →
    ∀ (id : Id) (fs : List RustField), (id, fs) ∈ structVariants e →
    match lang with
    | .typescript _ => True
    | .kotlin cfg => ∃ text chunk, outs = [(f.crateName, text)] ∧ chunk <:+: text ∧
        DefinesHead (ktStructKw fs) (cfg.pfx ++ (e.id.renamed ++ id.original ++ s%"Inner")) chunk
    | .swift cfg => ∃ text chunk, outs = [(f.crateName, text)] ∧ chunk <:+: text ∧
        DefinesHead s%"public struct " (Swift.kw (cfg.pfx ++ (e.id.renamed ++ id.original ++ s%"Inner"))) chunk
    | .scala _ => ∃ text chunk, outs = [(f.crateName, text)] ∧ chunk <:+: text ∧
        DefinesHead (scStructKw fs) (e.id.renamed ++ id.original ++ s%"Inner") chunk
    | .go cfg => ∃ text defs, outs = [(f.crateName, text)] ∧ goDefs E.U cfg (.enum e) = .ok defs ∧
        (structVariants e).length + 1 ≤ defs.length ∧ ∀ d ∈ defs, ∃ chunk, chunk <:+: text ∧ DefinesHead d.1 d.2 chunk
    | .python _ => ∃ text chunk, outs = [(f.crateName, text)] ∧ chunk <:+: text ∧
        DefinesHead s%"class " (e.id.renamed ++ id.original ++ s%"Inner") chunk := by
  intro E lang targetOs pick f outs h e he id fs hp
  obtain ⟨_, _, _, h4⟩ := C03_Emission.C03_Emission E lang targetOs pick f outs h
  obtain ⟨items, blocks, header, mid, footer, text, n, ho, hperm, _, htext, hpair⟩ := h4 (fun hn => by rw [hn] at he; cases he)
  obtain ⟨k, hk⟩ := List.getElem?_of_mem (hperm.symm.subset he)
  obtain ⟨b, hb, hs⟩ := (paired_iff.1 hpair).get? k _ hk
  have hbt : b <:+: text := htext ▸ block_infix_text (List.mem_of_getElem? hb) n header mid footer
  -- a definition of the enum's block is a definition of the file
  have defined : ∀ {defs : List (Str × Str)} (d : Str × Str), SplitsInto defs b → d ∈ defs →
      ∃ chunk, chunk <:+: text ∧ DefinesHead d.1 d.2 chunk :=
    fun d hs hd => let ⟨c, hc, hdh⟩ := splitsInto_mem hs d hd; ⟨c, hc.trans hbt, hdh⟩
  -- … in particular the helper of `(id, fs)`, where the block's definitions begin with those of the struct variants
  have helper : ∀ (g : Id × List RustField → Str × Str) (rest : List (Str × Str)),
      SplitsInto ((structVariantsOf e).map g ++ rest) b →
      ∃ text chunk, outs = [(f.crateName, text)] ∧ chunk <:+: text ∧ DefinesHead (g (id, fs)).1 (g (id, fs)).2 chunk :=
    fun g rest hs =>
      let ⟨c, hc, hdh⟩ := defined _ hs (List.mem_append_left _ (List.mem_map.2 ⟨(id, fs), hp, rfl⟩)); ⟨text, c, ho, hc, hdh⟩
  cases lang with
  | typescript c => trivial
  | kotlin c => exact helper _ _ hs
  | swift c => exact helper _ _ hs
  | scala c => exact helper _ _ hs
  | python c => exact helper _ _ hs
  | go c =>
    obtain ⟨defs, hd, hs⟩ := hs
    refine ⟨text, defs, ho, hd, ?_, fun d hdm => defined d hs hdm⟩
    simp only [goDefs] at hd
    obtain ⟨inner, hi, hd⟩ := Outcome.of_bind_ok hd
    obtain ⟨nm, _, hd⟩ := Outcome.of_bind_ok hd
    have hl : inner.length = (structVariants e).length := by
      have := Outcome.mapM'_ok_length _ _ _ hi
      simpa [structVariantsOf_eq] using this
    cases hke : e.keys with
    | none => simp only [hke, Outcome.ok.injEq] at hd; subst hd; simp [hl]
    | some kc =>
      simp only [hke] at hd
      obtain ⟨t, _, hd⟩ := Outcome.of_bind_ok hd
      simp only [Outcome.ok.injEq] at hd; subst hd; simp [hl]

/-- an annotated enum of the file that parses, a non-skipped variant of it that keeps no field: the back end
receives the enum, with the variant as a struct variant without fields -/
theorem emptied_variant_emitted (E : Ext) (lang : LangCfg) (targetOs : List Str) (f : SourceFile)
    (attrs : List Attr) (ident : Str) (gens : List GenericParam) (vs : List Variant) (e : RustEnum)
    (hsrc : Item.enum attrs ident gens vs ∈ sourceItems (ctxOf lang targetOs) f.file)
    (hsa : getSerializedAsType E attrs = none) (hparse : parseEnum E targetOs attrs ident gens vs = .ok (.enum e))
    (v : Variant) (hv : v ∈ vs) (hns : isSkipped v.attrs targetOs = false) (hem : Emptied targetOs v) :
    ∃ (id : Id) (e' : RustEnum), id.original = C03.origOf (some v.ident) ∧ e'.id = e.id ∧
      RustItem.enum e' ∈ C03_Emission.emitted E lang targetOs f ∧ (id, ([] : List RustField)) ∈ structVariants e' := by
  obtain ⟨id, hid, _, hsv⟩ := emptied_variant_kept E targetOs attrs ident gens vs e hsa hparse v hv hns hem
  exact ⟨id, Cap.recEnum f.crateName (renamesFor f.crateName (parsedItems E (ctxOf lang targetOs) f.file)) e, hid, rfl,
    Cap.mem_emitted E lang targetOs f hsrc hparse, emptied_variant_reconciled _ _ e id hsv⟩

/-- **from the source, Kotlin**: an annotated enum of the file that parses, a non-skipped variant of it
that keeps no field — the output of the run (there is one: the file has this item) contains
`object <prefix><Enum><Variant>Inner` at the start of a line -/
theorem emptied_helper_in_file_kotlin (E : Ext) (cfg : Kotlin.Cfg) (targetOs : List Str)
    (pick : List ImportedType → Option ImportedType) (f : SourceFile) (outs : List (Str × Str))
    (h : run E (.kotlin cfg) false targetOs pick [f] = .ok (.outputs outs))
    (attrs : List Attr) (ident : Str) (gens : List GenericParam) (vs : List Variant) (e : RustEnum)
    (hsrc : Item.enum attrs ident gens vs ∈ sourceItems (ctxOf (.kotlin cfg) targetOs) f.file)
    (hsa : getSerializedAsType E attrs = none) (hparse : parseEnum E targetOs attrs ident gens vs = .ok (.enum e))
    (v : Variant) (hv : v ∈ vs) (hns : isSkipped v.attrs targetOs = false) (hem : Emptied targetOs v) :
    ∃ text chunk, outs = [(f.crateName, text)] ∧ chunk <:+: text ∧
      DefinesHead s%"object " (cfg.pfx ++ (e.id.renamed ++ C03.origOf (some v.ident) ++ s%"Inner")) chunk := by
  obtain ⟨id, e', hid, he', hmem, hsv⟩ :=
    emptied_variant_emitted E (.kotlin cfg) targetOs f attrs ident gens vs e hsrc hsa hparse v hv hns hem
  rw [← hid, ← he']
  exact helpers_in_file E (.kotlin cfg) targetOs pick f outs h e' hmem id [] hsv

theorem emptied_helper_in_file_swift (E : Ext) (cfg : Swift.Cfg) (targetOs : List Str)
    (pick : List ImportedType → Option ImportedType) (f : SourceFile) (outs : List (Str × Str))
    (h : run E (.swift cfg) false targetOs pick [f] = .ok (.outputs outs))
    (attrs : List Attr) (ident : Str) (gens : List GenericParam) (vs : List Variant) (e : RustEnum)
    (hsrc : Item.enum attrs ident gens vs ∈ sourceItems (ctxOf (.swift cfg) targetOs) f.file)
    (hsa : getSerializedAsType E attrs = none) (hparse : parseEnum E targetOs attrs ident gens vs = .ok (.enum e))
    (v : Variant) (hv : v ∈ vs) (hns : isSkipped v.attrs targetOs = false) (hem : Emptied targetOs v) :
    ∃ text chunk, outs = [(f.crateName, text)] ∧ chunk <:+: text ∧
      DefinesHead s%"public struct " (Swift.kw (cfg.pfx ++ (e.id.renamed ++ C03.origOf (some v.ident) ++ s%"Inner"))) chunk := by
  obtain ⟨id, e', hid, he', hmem, hsv⟩ :=
    emptied_variant_emitted E (.swift cfg) targetOs f attrs ident gens vs e hsrc hsa hparse v hv hns hem
  rw [← hid, ← he']
  exact helpers_in_file E (.swift cfg) targetOs pick f outs h e' hmem id [] hsv

theorem emptied_helper_in_file_scala (E : Ext) (cfg : Scala.Cfg) (targetOs : List Str)
    (pick : List ImportedType → Option ImportedType) (f : SourceFile) (outs : List (Str × Str))
    (h : run E (.scala cfg) false targetOs pick [f] = .ok (.outputs outs))
    (attrs : List Attr) (ident : Str) (gens : List GenericParam) (vs : List Variant) (e : RustEnum)
    (hsrc : Item.enum attrs ident gens vs ∈ sourceItems (ctxOf (.scala cfg) targetOs) f.file)
    (hsa : getSerializedAsType E attrs = none) (hparse : parseEnum E targetOs attrs ident gens vs = .ok (.enum e))
    (v : Variant) (hv : v ∈ vs) (hns : isSkipped v.attrs targetOs = false) (hem : Emptied targetOs v) :
    ∃ text chunk, outs = [(f.crateName, text)] ∧ chunk <:+: text ∧
      DefinesHead s%"class " (e.id.renamed ++ C03.origOf (some v.ident) ++ s%"Inner") chunk := by
  obtain ⟨id, e', hid, he', hmem, hsv⟩ :=
    emptied_variant_emitted E (.scala cfg) targetOs f attrs ident gens vs e hsrc hsa hparse v hv hns hem
  rw [← hid, ← he']
  exact helpers_in_file E (.scala cfg) targetOs pick f outs h e' hmem id [] hsv

theorem emptied_helper_in_file_python (E : Ext) (cfg : Python.Cfg) (targetOs : List Str)
    (pick : List ImportedType → Option ImportedType) (f : SourceFile) (outs : List (Str × Str))
    (h : run E (.python cfg) false targetOs pick [f] = .ok (.outputs outs))
    (attrs : List Attr) (ident : Str) (gens : List GenericParam) (vs : List Variant) (e : RustEnum)
    (hsrc : Item.enum attrs ident gens vs ∈ sourceItems (ctxOf (.python cfg) targetOs) f.file)
    (hsa : getSerializedAsType E attrs = none) (hparse : parseEnum E targetOs attrs ident gens vs = .ok (.enum e))
    (v : Variant) (hv : v ∈ vs) (hns : isSkipped v.attrs targetOs = false) (hem : Emptied targetOs v) :
    ∃ text chunk, outs = [(f.crateName, text)] ∧ chunk <:+: text ∧
      DefinesHead s%"class " (e.id.renamed ++ C03.origOf (some v.ident) ++ s%"Inner") chunk := by
  obtain ⟨id, e', hid, he', hmem, hsv⟩ :=
    emptied_variant_emitted E (.python cfg) targetOs f attrs ident gens vs e hsrc hsa hparse v hv hns hem
  rw [← hid, ← he']
  exact helpers_in_file E (.python cfg) targetOs pick f outs h e' hmem id [] hsv

/-! ## the statement at full strength -/

/-- **C03_EmptiedVariants**: (1) a non-skipped struct variant that keeps no field is a struct variant
without fields of the parsed enum; (2) for such a variant every helper-writing back end builds the helper
record and the enum's case unconditionally; (3) in the block of a tagged enum every struct variant's
`…Inner` name is defined (Kotlin, Swift, Scala, Python; Go see `inner_names_defined_go`); (4) and so it
is in the output file of a run. -/
def C03_EmptiedVariants_full : Prop :=
  (∀ (E : Ext) (T : List Str) (attrs : List Attr) (ident : Str) (gens : List GenericParam) (vs : List Variant) (e : RustEnum),
    getSerializedAsType E attrs = none → parseEnum E T attrs ident gens vs = .ok (.enum e) →
    ∀ v ∈ vs, isSkipped v.attrs T = false → Emptied T v →
    ∃ id : Id, id.original = C03.origOf (some v.ident) ∧
      RustEnumVariant.anonymousStruct id (parseCommentAttrs E v.attrs) [] ∈ e.variants ∧
      (id, ([] : List RustField)) ∈ structVariants e) ∧
  (∀ (e : RustEnum) (n v : Str),
    (∀ c : Kotlin.Cfg, (Kotlin.structFacts c (anonymousStruct e n v [])).isOk = true) ∧
    (∀ (U : UnicodeOps) (c : Swift.Cfg) (st : Swift.St), (Swift.structFacts U c (anonymousStruct e n v []) st).isOk = true) ∧
    (∀ c : Scala.Cfg, (Scala.classFacts c (anonymousStruct e n v [])).isOk = true) ∧
    (∀ (U : UnicodeOps) (c : Go.Cfg) (st : Go.Imports),
      (Go.structFacts U c (anonymousStruct e n v []) st).isOk = (Go.acr U c n).isOk) ∧
    (∀ (E : Ext) (c : Python.Cfg) (st : Python.St), (Python.structFacts E c (anonymousStruct e n v []) st).isOk = true)) ∧
  (∀ (e : RustEnum) (kc : Str × Str), e.keys = some kc → ∀ (id : Id) (fs : List RustField), (id, fs) ∈ structVariants e →
    (∀ (c : Kotlin.Cfg) (b : Str), C03E.Kt.writeItem c (.enum e) = .ok b →
      ∃ chunk, chunk <:+: b ∧ DefinesHead (ktStructKw fs) (c.pfx ++ (e.id.renamed ++ id.original ++ s%"Inner")) chunk) ∧
    (∀ (U : UnicodeOps) (c : Swift.Cfg) (st st' : Swift.St) (b : Str), Swift.writeItem U c (.enum e) st = .ok (b, st') →
      ∃ chunk, chunk <:+: b ∧ DefinesHead s%"public struct " (c.pfx ++ (e.id.renamed ++ id.original ++ s%"Inner")) chunk) ∧
    (∀ (c : Scala.Cfg) (b : Str), C03E.Sc.writeItem c (.enum e) = .ok b →
      ∃ chunk, chunk <:+: b ∧ DefinesHead (scStructKw fs) (e.id.renamed ++ id.original ++ s%"Inner") chunk) ∧
    (∀ (E : Ext) (c : Python.Cfg) (st st' : Python.St) (b : Str), Python.writeItem E c (.enum e) st = .ok (b, st') →
      ∃ chunk, chunk <:+: b ∧ DefinesHead s%"class " (e.id.renamed ++ id.original ++ s%"Inner") chunk)) ∧
  (∀ (E : Ext) (lang : LangCfg) (targetOs : List Str) (pick : List ImportedType → Option ImportedType) (f : SourceFile)
    (outs : List (Str × Str)), run E lang false targetOs pick [f] = .ok (.outputs outs) →
    ∀ e, RustItem.enum e ∈ C03_Emission.emitted E lang targetOs f → ∀ (id : Id) (fs : List RustField), (id, fs) ∈ structVariants e →
    match lang with
    | .typescript _ => True
    | .kotlin cfg => ∃ text chunk, outs = [(f.crateName, text)] ∧ chunk <:+: text ∧
        DefinesHead (ktStructKw fs) (cfg.pfx ++ (e.id.renamed ++ id.original ++ s%"Inner")) chunk
    | .swift cfg => ∃ text chunk, outs = [(f.crateName, text)] ∧ chunk <:+: text ∧
        DefinesHead s%"public struct " (Swift.kw (cfg.pfx ++ (e.id.renamed ++ id.original ++ s%"Inner"))) chunk
    | .scala _ => ∃ text chunk, outs = [(f.crateName, text)] ∧ chunk <:+: text ∧
        DefinesHead (scStructKw fs) (e.id.renamed ++ id.original ++ s%"Inner") chunk
    | .go cfg => ∃ text defs, outs = [(f.crateName, text)] ∧ goDefs E.U cfg (.enum e) = .ok defs ∧
        (structVariants e).length + 1 ≤ defs.length ∧ ∀ d ∈ defs, ∃ chunk, chunk <:+: text ∧ DefinesHead d.1 d.2 chunk
    | .python _ => ∃ text chunk, outs = [(f.crateName, text)] ∧ chunk <:+: text ∧
        DefinesHead s%"class " (e.id.renamed ++ id.original ++ s%"Inner") chunk)

theorem C03_EmptiedVariants : C03_EmptiedVariants_full := by
  refine ⟨fun E T attrs ident gens vs e hsa hp v hv hns hem => emptied_variant_kept E T attrs ident gens vs e hsa hp v hv hns hem,
    fun e n v => ⟨fun c => by rw [(helper_always_built e n v).1]; rfl, fun U c st => by rw [(helper_always_built e n v).2.1]; rfl,
      fun c => by rw [(helper_always_built e n v).2.2.1]; rfl, fun U c st => ?_,
      fun E c st => by rw [(helper_always_built e n v).2.2.2.2]; rfl⟩,
    fun e kc hk id fs hp => ⟨fun c b h => (inner_names_defined_kotlin c e kc hk b h id fs hp).2,
      fun U c st st' b h => (inner_names_defined_swift U c e kc hk st st' b h id fs hp).2,
      fun c b h => (inner_names_defined_scala c e kc hk b h id fs hp).2,
      fun E c st st' b h => (inner_names_defined_python E c e st st' b h id fs hp).2⟩, helpers_in_file⟩
  rw [(helper_always_built e n v).2.2.2.1]
  cases Go.acr U c n <;> rfl

/-! ## non-vacuity, kernel-checked -/
open TsV.C03_Emission in
/-- `#[typeshare] #[serde(tag = "type", content = "content")] enum Ev { Gone {},
      Hidden { #[serde(skip)] a: u8, #[typeshare(skip)] b: String }, Kept { x: u8 } }` -/
def exVs : List Variant :=
  [⟨[], s%"Gone", .named []⟩,
   ⟨[], s%"Hidden", .named [⟨[⟨.list [s%"serde"] true [.path [s%"skip"]]⟩], some s%"a", .path [] s%"u8" []⟩,
                           ⟨[⟨.list [s%"typeshare"] true [.path [s%"skip"]]⟩], some s%"b", .path [] s%"String" []⟩]⟩,
   ⟨[], s%"Kept", .named [⟨[], some s%"x", .path [] s%"u8" []⟩]⟩]

def exEv : RustEnum :=
  match parseEnum C03_Emission.E0 [] [C03_Emission.tsAttr, C03_Emission.serdeTagged] s%"Ev" [] exVs with
  | .ok (.enum e) => e
  | _ => default

/-- the hypotheses of `emptied_variant_kept` are met by `Gone {}` and by `Hidden { … all skipped … }` -/
example : parseEnum C03_Emission.E0 [] [C03_Emission.tsAttr, C03_Emission.serdeTagged] s%"Ev" [] exVs = .ok (.enum exEv) ∧
    getSerializedAsType C03_Emission.E0 [C03_Emission.tsAttr, C03_Emission.serdeTagged] = none ∧
    (∀ v ∈ exVs.take 2, isSkipped v.attrs [] = false) := by
  refine ⟨by rfl, by decide +kernel, by decide +kernel⟩

example : Emptied [] ⟨[], s%"Gone", .named []⟩ := ⟨[], rfl, by simp⟩
example : Emptied [] (exVs[1]'(by decide)) := ⟨_, rfl, by decide +kernel⟩

/-- … and the parsed enum has the three struct variants, two of them without fields -/
theorem exEv_variants : (structVariants exEv).map (fun p => (p.1.original, p.2.length)) =
    [(s%"Gone", 0), (s%"Hidden", 0), (s%"Kept", 1)] ∧ exEv.keys = some (s%"type", s%"content") := by
  decide +kernel

/-- all six back ends write the block of `Ev` (hypotheses of `inner_names_defined_*`) -/
example : (C03E.Kt.writeItem {} (.enum exEv)).isOk = true ∧ (Swift.writeItem .ascii {} (.enum exEv) false).isOk = true ∧
    (C03E.Sc.writeItem {} (.enum exEv)).isOk = true ∧ (Go.writeItem .ascii {} [] (.enum exEv) []).isOk = true ∧
    (Python.writeItem C03_Emission.E0 {} (.enum exEv) {}).isOk = true ∧
    (TypeScript.writeItem .ascii {} (.enum exEv) []).isOk = true := by decide +kernel

/-- Kotlin: two `object`s, one `data class`, and the three cases that refer to them -/
theorem kotlin_example : C03E.Kt.writeItem {} (.enum exEv) = .ok
    s%"/// Generated type representing the anonymous struct variant `Gone` of the `Ev` Rust enum\n@Serializable\nobject EvGoneInner\n\n/// Generated type representing the anonymous struct variant `Hidden` of the `Ev` Rust enum\n@Serializable\nobject EvHiddenInner\n\n/// Generated type representing the anonymous struct variant `Kept` of the `Ev` Rust enum\n@Serializable\ndata class EvKeptInner (\n\tval x: UByte\n)\n\n@Serializable\nsealed class Ev {\n\t@Serializable\n\t@SerialName(\"Gone\")\n\tdata class Gone(val content: EvGoneInner): Ev()\n\t@Serializable\n\t@SerialName(\"Hidden\")\n\tdata class Hidden(val content: EvHiddenInner): Ev()\n\t@Serializable\n\t@SerialName(\"Kept\")\n\tdata class Kept(val content: EvKeptInner): Ev()\n}\n\n" := by
  decide +kernel

/-- Scala: two plain classes, one case class, three case classes in the companion object -/
theorem scala_example : C03E.Sc.writeItem {} (.enum exEv) = .ok
    s%"// Generated type representing the anonymous struct variant `Gone` of the `Ev` Rust enum\nclass EvGoneInner extends Serializable\n\n// Generated type representing the anonymous struct variant `Hidden` of the `Ev` Rust enum\nclass EvHiddenInner extends Serializable\n\n// Generated type representing the anonymous struct variant `Kept` of the `Ev` Rust enum\ncase class EvKeptInner (\n\tx: UByte\n)\n\nsealed trait Ev {\n\tdef serialName: String\n}\nobject Ev {\n\tcase class Gone(content: EvGoneInner) extends Ev {\n\t\tval serialName: String = \"Gone\"\n\t}\n\tcase class Hidden(content: EvHiddenInner) extends Ev {\n\t\tval serialName: String = \"Hidden\"\n\t}\n\tcase class Kept(content: EvKeptInner) extends Ev {\n\t\tval serialName: String = \"Kept\"\n\t}\n}\n\n" := by
  decide +kernel

/-- the definitions the block of `Ev` has to make, per back end -/
example : ktDefs {} (.enum exEv) = [(s%"object ", s%"EvGoneInner"), (s%"object ", s%"EvHiddenInner"),
      (s%"data class ", s%"EvKeptInner"), (s%"sealed class ", s%"Ev")] ∧
    swDefs {} (.enum exEv) = [(s%"public struct ", s%"EvGoneInner"), (s%"public struct ", s%"EvHiddenInner"),
      (s%"public struct ", s%"EvKeptInner"), (s%"public enum ", s%"Ev")] ∧
    goDefs .ascii {} (.enum exEv) = .ok [(s%"type ", s%"EvGoneInner"), (s%"type ", s%"EvHiddenInner"),
      (s%"type ", s%"EvKeptInner"), (s%"type ", s%"EvTypes"), (s%"type ", s%"Ev")] := by decide +kernel

end TsV.C03_EmptiedVariants
