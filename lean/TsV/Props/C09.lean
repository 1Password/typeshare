import TsV.Lemmas.C09
import TsV.Lemmas.C09_Tie
/-!
# C09 — every reference to a generated type uses the name the type is defined under

Within one generation run, each use of a typeshared type — as a field type, payload, generic
argument, alias target, enum-variant parent or helper struct of a struct variant — is spelled with
exactly the name under which that type's definition is emitted, after `serde(rename)` on the type
and after the configured Swift / Kotlin prefix.  Generic parameters are never prefixed or renamed.

The statement is about the model's fact records through the binding semantics of
`TsV/Lemmas/C09_Defs.lean` (`defName`, `innerDefName`, `refs`; the scope `InScope` and the relation
`Defines` are defined in `TsV/Lemmas/C09.lean`): `refs lc r it` lists
every use of a type name in the declarations generated for the source item `it` (spelled as the
back end spells the leaf `reconcile` left there) together with the Rust-level thing it refers to.

* `C09_reconcile_leaves`, `C09_reconcile_names` — what `reconcile` does to references.
* `C09_full` — the property at full strength; **false** (`C09_not_full`: Go defines a renamed
  enum under its Rust name).
* `Known_def_original` (per reference: a reference to a renamed *Go enum*) and `Known_shadow` (per
  program): the decidable classes in which it fails.  The classes `generic-head-not-renamed`,
  `parent-class-original-name`, `inner-struct-original-name` (`fix:` commits 944b749, 3d3e1e7) and the
  alias part of `definition-under-original-name` (Kotlin / Scala / Go aliases, 0c924cd) are repaired in
  the pinned tree; their witnesses are positive regression examples (`repaired_*`).
* `C09_partial` — outside them it holds, for all six back ends and every prefix;
  `C09_exact` / `C09_converse` — and inside the per-reference class it always fails.
* `C09_no_renames`, `C09_all_but_go`, `C09_go_without_renamed_enums`, `C09_generic_heads`,
  `C09_generic_parameters` — the corollaries.
* Not covered by `C09_full` (single-file programs): Kotlin multi-file import lines.  The finding
  `kotlin-import-without-prefix` is repaired (`fix:` commit 8dc01bf): `C09_kotlin_import_lines` —
  every import line names the type with the prefix, as its own module defines it — and the
  witness of the finding is the positive regression example `repaired_kotlin_import_prefix`.
-/
namespace TsV.C09
open TsV TsV.Pipeline TsV.Generate

/-! ## the property -/

/-- configurations in scope: no type mappings (a mapping replaces names on purpose); Go without
`uppercase_acronyms` (which re-spell names after the fact; only the `tie_go_*` lemmas use this) -/
def CfgOk (lc : LangCfg) : Prop :=
  typeMappingsOf lc = [] ∧
  match lc with
  | .go c => c.uppercaseAcronyms = []
  | _ => True

/-- every reference of every item is spelled with the name its target is defined under (for a
generic parameter: the parameter's own name) -/
def Consistent (lc : LangCfg) (P : ParsedData) : Prop :=
  ∀ it ∈ typeItems P, ∀ ref ∈ refs lc (renamesOf P) it, ∀ n, Defines lc P ref.target n → ref.spelling = n

/-- **C09 at full strength**: every program in scope, every back end, every prefix -/
def C09_full : Prop := ∀ P : ParsedData, InScope P → ∀ lc : LangCfg, CfgOk lc → Consistent lc P

/-! ## witness programs -/

def mkId (o : Str) (r : Option Str) : Id :=
  match r with
  | some n => ⟨o, n, true⟩
  | none => ⟨o, o, false⟩

def fld (n : Str) (ty : RustType) : RustField :=
  { id := ⟨n, n, false⟩, ty, comments := [], hasDefault := false, decorators := [] }

def mkStruct (o : Str) (r : Option Str) (gens : List Str) (fs : List RustField) : RustStruct :=
  { id := mkId o r, genericTypes := gens, fields := fs, comments := [], decorators := {}, isRedacted := false }

/-- `#[serde(rename = "AliasNew")] type Al = String;  struct User { a: Al }` -/
def wAlias : RustTypeAlias :=
  { id := mkId s%"Al" (some s%"AliasNew"), genericTypes := [], ty := .prim .string, comments := [],
    decorators := {}, isRedacted := false }
def wUserA : RustStruct := mkStruct s%"User" none [] [fld s%"a" (.simple s%"Al")]
def W_alias : ParsedData := { structs := [wUserA], aliases := [wAlias] }

/-- `#[serde(rename = "UnitNew")] enum Un { P, Q }  struct User { u: Un }` -/
def wUnit : RustEnum :=
  { keys := none, id := mkId s%"Un" (some s%"UnitNew"), genericTypes := [], comments := [],
    variants := [.unit (mkId s%"P" none) [], .unit (mkId s%"Q" none) []], decorators := {},
    isRecursive := false, isRedacted := false }
def wUserU : RustStruct := mkStruct s%"User" none [] [fld s%"u" (.simple s%"Un")]
def W_unit : ParsedData := { structs := [wUserU], enums := [wUnit] }

/-- `#[serde(rename = "EnumNew", tag = "t", content = "c")] enum En { A { x: u8 }, B(String), C }` -/
def wEnum : RustEnum :=
  { keys := some (s%"t", s%"c"), id := mkId s%"En" (some s%"EnumNew"), genericTypes := [], comments := [],
    variants := [.anonymousStruct (mkId s%"A" none) [] [fld s%"x" (.prim .u8)],
                 .tuple (mkId s%"B" none) [] (.prim .string), .unit (mkId s%"C" none) []],
    decorators := {}, isRecursive := false, isRedacted := false }
def W_enum : ParsedData := { enums := [wEnum] }

/-- `#[serde(rename = "GenNew")] struct Ge<T> { v: T }  struct User { g: Ge<String> }` -/
def wGe : RustStruct := mkStruct s%"Ge" (some s%"GenNew") [s%"T"] [fld s%"v" (.simple s%"T")]
def wUserG : RustStruct := mkStruct s%"User" none [] [fld s%"g" (.generic s%"Ge" [.prim .string])]
def W_generic : ParsedData := { structs := [wGe, wUserG] }

/-- `#[serde(rename = "GnNew", tag = "t", content = "c")] enum Gn<T> { A(T) }  struct User { g: Gn<String> }` -/
def wGn : RustEnum :=
  { keys := some (s%"t", s%"c"), id := mkId s%"Gn" (some s%"GnNew"), genericTypes := [s%"T"], comments := [],
    variants := [.tuple (mkId s%"A" none) [] (.simple s%"T")], decorators := {},
    isRecursive := false, isRedacted := false }
def wUserGn : RustStruct := mkStruct s%"User" none [] [fld s%"g" (.generic s%"Gn" [.prim .string])]
def W_genericEnum : ParsedData := { structs := [wUserGn], enums := [wGn] }

/-- `#[serde(rename = "TNew")] struct T { z: u8 }  struct Holder<T> { t: T }` -/
def wT : RustStruct := mkStruct s%"T" (some s%"TNew") [] [fld s%"z" (.prim .u8)]
def wHolder : RustStruct := mkStruct s%"Holder" none [s%"T"] [fld s%"t" (.simple s%"T")]
def W_shadow : ParsedData := { structs := [wT, wHolder] }

/-- a program with renamed items whose references are all consistent in every back end:
`#[serde(rename = "PointNew")] struct Point { x: u8 }  struct Line<T> { a: Point, b: Vec<Point>, t: T }` -/
def wPoint : RustStruct := mkStruct s%"Point" (some s%"PointNew") [] [fld s%"x" (.prim .u8)]
def wLine : RustStruct :=
  mkStruct s%"Line" none [s%"T"]
    [fld s%"a" (.simple s%"Point"), fld s%"b" (.vec (.simple s%"Point")), fld s%"t" (.simple s%"T")]
def W_good : ParsedData := { structs := [wPoint, wLine] }

theorem W_alias_inScope : InScope W_alias := inScope_of _ (by decide) (by decide) (by decide) (by decide) rfl rfl
theorem W_unit_inScope : InScope W_unit := inScope_of _ (by decide) (by decide) (by decide) (by decide) rfl rfl
theorem W_enum_inScope : InScope W_enum := inScope_of _ (by decide) (by decide) (by decide) (by decide) rfl rfl
theorem W_generic_inScope : InScope W_generic := inScope_of _ (by decide) (by decide) (by decide) (by decide) rfl rfl
theorem W_genericEnum_inScope : InScope W_genericEnum := inScope_of _ (by decide) (by decide) (by decide) (by decide) rfl rfl
theorem W_shadow_inScope : InScope W_shadow := inScope_of _ (by decide) (by decide) (by decide) (by decide) rfl rfl
theorem W_good_inScope : InScope W_good := inScope_of _ (by decide) (by decide) (by decide) (by decide) rfl rfl

def ts0 : LangCfg := .typescript {}
def kt0 : LangCfg := .kotlin {}
def ktOP : LangCfg := .kotlin { pfx := s%"OP" }
def sw0 : LangCfg := .swift {}
def swOP : LangCfg := .swift { pfx := s%"OP" }
def sc0 : LangCfg := .scala { package := s%"com.example" }
def go0 : LangCfg := .go { package := s%"proto" }
def py0 : LangCfg := .python {}
def allLangs : List LangCfg := [ts0, kt0, ktOP, sw0, swOP, sc0, go0, py0]

theorem cfgOk_all : ∀ lc ∈ allLangs, CfgOk lc := by
  intro lc h
  simp only [allLangs, List.mem_cons, List.not_mem_nil, or_false] at h
  rcases h with rfl | rfl | rfl | rfl | rfl | rfl | rfl | rfl <;> first | exact ⟨rfl, rfl⟩ | exact ⟨rfl, trivial⟩

/-! ## the pipeline part: what `reconcile` does to references -/

/-- **`reconcile` rewrites every name in a type**: in a single-file run the leaves of a reconciled
type are the leaves of the source type, each `id` — a plain leaf or (since the `fix:` commit 944b749)
the head of a generic application — replaced by `recName … id` -/
theorem C09_reconcile_leaves (P : ParsedData) (hs : InScope P) (ty : RustType) :
    leaves (checkType [] (renamesOf P) P.importTypes ty) =
      (leaves ty).map fun l => ⟨recName (renamesOf P) l.id, l.head⟩ := by
  rw [hs.single, leaves_checkType]
  rfl

/-- **… to the `serde(rename)` name of the item they name**: a leaf naming an item of the
program carries that item's (re)name afterwards; a leaf naming no renamed item is unchanged -/
theorem C09_reconcile_names (P : ParsedData) (hs : InScope P) :
    (∀ t ∈ typeItems P, recName (renamesOf P) (itemId t).original = (itemId t).renamed) ∧
    (∀ id, (∀ t ∈ typeItems P, (itemId t).serdeRename = true → (itemId t).original ≠ id) →
      recName (renamesOf P) id = id) :=
  ⟨fun _ ht => renamed_of_scope hs ht, fun _ h => recName_other h⟩

/-! ## the property is false -/

/-- **`C09_full` does not hold**: Go defines the renamed enum `Un` as `type Un string` and refers to it
as `UnitNew` -/
theorem C09_not_full : ¬ C09_full := by
  intro h
  have := h W_unit W_unit_inScope go0 (cfgOk_all _ (by simp [allLangs])) (.struct wUserU) (by simp [typeItems, W_unit])
    ⟨s%"UnitNew", .type s%"Un", false⟩ (by decide +kernel) s%"Un" ⟨.enum wUnit, by simp [typeItems, W_unit], rfl, rfl⟩
  exact absurd this (by decide)

/-! ## the exact characterisation -/

/-- **C09, partial**: in every program in scope in which no generic parameter shadows a renamed
item, every reference outside `Known_def_original` (= `KnownRef`: a reference to a renamed Go enum)
is spelled with the name its target is defined under — all six back ends, every prefix; generic parameters are spelled unchanged -/
theorem C09_partial : ∀ P : ParsedData, InScope P → ∀ lc : LangCfg, CfgOk lc → Known_shadow P = false →
    ∀ it ∈ typeItems P, ∀ ref ∈ refs lc (renamesOf P) it, KnownRef lc P ref = false →
    ∀ n, Defines lc P ref.target n → ref.spelling = n :=
  fun _ hs _ hc hsh _ hit _ href hk _ hd => (ref_exact hs hc.1 hsh hit href hd).2 hk

/-- **C09, exact**: … and a reference to something the program defines is consistent *only* outside
`KnownRef` -/
theorem C09_exact : ∀ P : ParsedData, InScope P → ∀ lc : LangCfg, CfgOk lc → Known_shadow P = false →
    ∀ it ∈ typeItems P, ∀ ref ∈ refs lc (renamesOf P) it, ∀ n, Defines lc P ref.target n →
    (ref.spelling = n ↔ KnownRef lc P ref = false) :=
  fun _ hs _ hc hsh _ hit _ href _ hd => ref_exact hs hc.1 hsh hit href hd

/-- **C09, converse**: a reference in the known class refers to something the program defines
(`defines_of_known`), under a different name than the one it is spelled with: the class really is a
class of failures -/
theorem C09_converse : ∀ P : ParsedData, InScope P → ∀ lc : LangCfg, CfgOk lc → Known_shadow P = false →
    ∀ it ∈ typeItems P, ∀ ref ∈ refs lc (renamesOf P) it, KnownRef lc P ref = true →
    (∃ n, Defines lc P ref.target n) ∧ ∀ n, Defines lc P ref.target n → ref.spelling ≠ n := by
  intro P hs lc hc hsh it hit ref href hk
  refine ⟨defines_of_known lc P ref hk, fun n hd heq => ?_⟩
  have := (ref_exact hs hc.1 hsh hit href hd).1 heq
  rw [hk] at this; cases this

/-- program level: without shadowing, a program is consistent exactly when none of its references is
in the known class -/
theorem C09_program_exact (P : ParsedData) (hs : InScope P) (lc : LangCfg) (hc : CfgOk lc)
    (hsh : Known_shadow P = false) :
    Consistent lc P ↔ ∀ it ∈ typeItems P, ∀ ref ∈ refs lc (renamesOf P) it, KnownRef lc P ref = false := by
  constructor
  · intro h it hit ref href
    refine Bool.eq_false_iff.2 fun hk => ?_
    obtain ⟨⟨n, hd⟩, hne⟩ := C09_converse P hs lc hc hsh it hit ref href hk
    exact hne n hd (h it hit ref href n hd)
  · intro h it hit ref href n hd
    exact C09_partial P hs lc hc hsh it hit ref href (h it hit ref href) n hd

/-! ## corollaries -/

/-- **(a) without `serde(rename)` on items the property holds in full**: all six back ends, every
prefix — references are spelled `prefix ++ name` exactly like the definitions, generic parameters
are left alone -/
theorem C09_no_renames (P : ParsedData) (hs : InScope P)
    (hr : ∀ it ∈ typeItems P, (itemId it).serdeRename = false) (lc : LangCfg) (hc : CfgOk lc) :
    Consistent lc P := by
  have hsh : Known_shadow P = false := by
    unfold Known_shadow
    apply List.any_eq_false.2
    intro it _
    simp only [List.any_eq_true, not_exists, not_and, Bool.and_eq_true]
    intro g _ t ht
    simp [hr t ht]
  have hren : ∀ t ∈ typeItems P, Renamed t = false := by
    intro t ht
    simp [Renamed, hs.ids t ht (hr t ht)]
  exact (C09_program_exact P hs lc hc hsh).2 fun _ _ ref _ => knownRef_false_of_not_renamed lc P hren ref

def isGo : LangCfg → Bool
  | .go _ => true
  | _ => false

/-- **(b) with renames, TypeScript, Swift, Python, Kotlin and Scala are consistent in full** — field
types, payloads, generic heads and arguments, alias targets, parent classes, helper structs, every
prefix — in every program without shadowing.  (Before the `fix:` commits 944b749 / 0c924cd / 3d3e1e7
this held for Swift, Python and TypeScript only, and only off generic heads.) -/
theorem C09_all_but_go (P : ParsedData) (hs : InScope P) (lc : LangCfg) (hc : CfgOk lc)
    (hl : isGo lc = false) (hsh : Known_shadow P = false) : Consistent lc P :=
  (C09_program_exact P hs lc hc hsh).2 fun _ _ ref _ =>
    knownRef_false_of_not_go lc (fun c h => by subst h; cases hl) P ref

/-- **(c) Go is consistent in full when no *enum* is renamed** (structs and aliases may be) -/
theorem C09_go_without_renamed_enums (P : ParsedData) (hs : InScope P) (lc : LangCfg) (hc : CfgOk lc)
    (he : ∀ e ∈ P.enums, e.id.renamed = e.id.original) (hsh : Known_shadow P = false) : Consistent lc P :=
  (C09_program_exact P hs lc hc hsh).2 fun _ _ ref _ => knownRef_false_of_no_renamed_enum lc P he ref

/-- **(d) what is left**: an inconsistent reference is printed by the Go back end and names a
`serde(rename)`d enum of the program -/
theorem C09_failures_are_go_enums (P : ParsedData) (hs : InScope P) (lc : LangCfg) (hc : CfgOk lc)
    (hsh : Known_shadow P = false) :
    ∀ it ∈ typeItems P, ∀ ref ∈ refs lc (renamesOf P) it, ∀ n, Defines lc P ref.target n → ref.spelling ≠ n →
      isGo lc = true ∧ ∃ o, ref.target = .type o ∧ ∃ e ∈ P.enums, e.id.original = o ∧ e.id.renamed ≠ e.id.original := by
  intro it hit ref href n hd hne
  have hk : KnownRef lc P ref = true := by
    cases hk : KnownRef lc P ref with
    | true => rfl
    | false => exact absurd (C09_partial P hs lc hc hsh it hit ref href hk n hd) hne
  obtain ⟨⟨c, rfl⟩, h⟩ := known_is_go_enum lc P ref hk
  exact ⟨rfl, h⟩

/-- **the head of a generic application is renamed like a plain reference** (the repaired class
`generic-head-not-renamed`): it is spelled with the name its target is defined under, in all six back
ends, unless it names a renamed Go enum -/
theorem C09_generic_heads (P : ParsedData) (hs : InScope P) (lc : LangCfg) (hc : CfgOk lc)
    (hsh : Known_shadow P = false) :
    ∀ it ∈ typeItems P, ∀ ref ∈ refs lc (renamesOf P) it, ref.head = true →
    Known_def_original lc P ref = false → ∀ n, Defines lc P ref.target n → ref.spelling = n :=
  fun it hit ref href _ hk n hd => C09_partial P hs lc hc hsh it hit ref href hk n hd

/-- **generic parameters are never prefixed or renamed** (unless one shadows a renamed item) -/
theorem C09_generic_parameters (P : ParsedData) (hs : InScope P) (lc : LangCfg) (hc : CfgOk lc)
    (hsh : Known_shadow P = false) :
    ∀ it ∈ typeItems P, ∀ ref ∈ refs lc (renamesOf P) it, ∀ g, ref.target = .param g → ref.spelling = g := by
  intro it hit ref href g hg
  apply C09_partial P hs lc hc hsh it hit ref href
  · obtain ⟨sp, tg, hd⟩ := ref
    simp only at hg
    subst hg
    exact knownRef_param lc P sp g hd
  · rw [hg]; rfl

/-! ## every known class is inhabited, in every language it is claimed for (kernel-checked) -/

/-- does the item have a reference with this spelling, target and class? -/
def hasRef (lc : LangCfg) (P : ParsedData) (it : RustItem) (sp : Str) (tg : Target) (hd : Bool)
    (cls : LangCfg → ParsedData → Ref → Bool) : Bool :=
  (refs lc (renamesOf P) it).any fun r => r.spelling == sp && r.target == tg && r.head == hd && cls lc P r

/-- Go refers to the renamed enum as `UnitNew` and defines `Un` -/
theorem known_def_original_go_enum :
    (hasRef go0 W_unit (.struct wUserU) s%"UnitNew" (.type s%"Un") false Known_def_original &&
      defName go0 (.enum wUnit) == s%"Un") = true := by decide +kernel

/-- … also at the head of a generic application: `Gn<String>` is printed `GnNew[string]`, Go defines `Gn` -/
theorem known_def_original_go_enum_head :
    (hasRef go0 W_genericEnum (.struct wUserGn) s%"GnNew" (.type s%"Gn") true Known_def_original &&
      defName go0 (.enum wGn) == s%"Gn") = true := by decide +kernel

/-! ## the repaired classes: their witnesses are consistent (kernel-checked regressions) -/

/-- is every reference of the program spelled with the name its target is defined under?  (`Defines`
evaluated: the first item / enum of that Rust name) -/
def consistentB (lc : LangCfg) (P : ParsedData) : Bool :=
  (typeItems P).all fun it => (refs lc (renamesOf P) it).all fun r =>
    match r.target with
    | .type o => (typeItems P).all fun t => (itemId t).original != o || r.spelling == defName lc t
    | .param g => r.spelling == g
    | .parent o => P.enums.all fun e => e.id.original != o || r.spelling == defName lc (.enum e)
    | .inner o v => P.enums.all fun e => e.id.original != o || innerDefName lc e v == some r.spelling

theorem consistentB_sound {lc : LangCfg} {P : ParsedData} (h : consistentB lc P = true) : Consistent lc P := by
  intro it hit ref href n hd
  have hr := List.all_eq_true.1 (List.all_eq_true.1 h it hit) ref href
  obtain ⟨sp, tg, hd'⟩ := ref
  cases tg with
  | type o =>
    obtain ⟨t, ht, ho, rfl⟩ := hd
    have := List.all_eq_true.1 hr t ht
    simpa [ho] using this
  | param g =>
    simp only [Defines] at hd
    subst hd
    simpa using hr
  | parent o =>
    obtain ⟨e, he, ho, rfl⟩ := hd
    have := List.all_eq_true.1 hr e he
    simpa [ho] using this
  | inner o v =>
    obtain ⟨e, he, ho, hn⟩ := hd
    have := List.all_eq_true.1 hr e he
    simp only [ho, bne_self_eq_false, Bool.false_or, hn, beq_iff_eq, Option.some.injEq] at this
    exact this.symm

/-- **repaired `definition-under-original-name` (aliases, 0c924cd)**: Kotlin, Scala and Go define the
renamed alias as `AliasNew`, the name they refer to it by; the whole program is consistent in all
eight configurations -/
theorem repaired_alias_definition :
    ([kt0, sc0, go0].all (fun lc =>
      hasRef lc W_alias (.struct wUserA) s%"AliasNew" (.type s%"Al") false (fun _ _ _ => true) &&
      defName lc (.alias wAlias) == s%"AliasNew") &&
     (hasRef ktOP W_alias (.struct wUserA) s%"OPAliasNew" (.type s%"Al") false (fun _ _ _ => true) &&
      defName ktOP (.alias wAlias) == s%"OPAliasNew") &&
     allLangs.all fun lc => consistentB lc W_alias) = true := by decide +kernel

/-- **repaired `parent-class-original-name` (3d3e1e7)**: the cases extend `EnumNew`, the name of the
sealed class / trait -/
theorem repaired_parent_class :
    ([kt0, sc0].all (fun lc =>
      hasRef lc W_enum (.enum wEnum) s%"EnumNew" (.parent s%"En") false (fun _ _ _ => true) &&
      defName lc (.enum wEnum) == s%"EnumNew") &&
     (hasRef ktOP W_enum (.enum wEnum) s%"OPEnumNew" (.parent s%"En") false (fun _ _ _ => true) &&
      defName ktOP (.enum wEnum) == s%"OPEnumNew")) = true := by decide +kernel

/-- **repaired `inner-struct-original-name` (3d3e1e7)**: the content of `A` is `EnumNewAInner`, the
name the helper is defined under; the whole program is consistent in all eight configurations -/
theorem repaired_inner_struct :
    ([kt0, sc0].all (fun lc =>
      hasRef lc W_enum (.enum wEnum) s%"EnumNewAInner" (.inner s%"En" s%"A") false (fun _ _ _ => true) &&
      innerDefName lc wEnum s%"A" == some s%"EnumNewAInner") &&
     allLangs.all fun lc => consistentB lc W_enum) = true := by decide +kernel

/-- **repaired `generic-head-not-renamed` (944b749)**: all six back ends print `GenNew<String>` and
define `GenNew`; the whole program is consistent in all eight configurations -/
theorem repaired_generic_head :
    ([ts0, kt0, sw0, sc0, go0, py0].all (fun lc =>
      hasRef lc W_generic (.struct wUserG) s%"GenNew" (.type s%"Ge") true (fun _ _ _ => true) &&
      defName lc (.struct wGe) == s%"GenNew") &&
     allLangs.all fun lc => consistentB lc W_generic) = true := by decide +kernel

theorem repaired_consistent :
    ∀ lc ∈ allLangs, Consistent lc W_alias ∧ Consistent lc W_enum ∧ Consistent lc W_generic := by
  intro lc hlc
  have h1 := repaired_alias_definition
  have h2 := repaired_inner_struct
  have h3 := repaired_generic_head
  simp only [Bool.and_eq_true, List.all_eq_true] at h1 h2 h3
  exact ⟨consistentB_sound (h1.2 lc hlc), consistentB_sound (h2.2 lc hlc), consistentB_sound (h3.2 lc hlc)⟩

/-- all six back ends print the generic parameter `T` of `Holder<T>` as `TNew` -/
theorem known_shadow_witness :
    (Known_shadow W_shadow && [ts0, kt0, sw0, sc0, go0, py0].all fun lc =>
      hasRef lc W_shadow (.struct wHolder) s%"TNew" (.param s%"T") false fun _ _ _ => true) = true := by
  decide +kernel

/-- hence `Known_shadow` cannot be dropped from `C09_partial` -/
theorem C09_shadow_fails : ¬ ∀ P : ParsedData, InScope P → ∀ lc : LangCfg, CfgOk lc →
    ∀ it ∈ typeItems P, ∀ ref ∈ refs lc (renamesOf P) it, KnownRef lc P ref = false →
    ∀ n, Defines lc P ref.target n → ref.spelling = n := by
  intro h
  have := h W_shadow W_shadow_inScope ts0 (cfgOk_all _ (by simp [allLangs])) (.struct wHolder) (by simp [typeItems, W_shadow])
    ⟨s%"TNew", .param s%"T", false⟩ (by decide +kernel) (knownRef_param _ _ _ _ _) s%"T" rfl
  exact absurd this (by decide)

/-! ## the witnesses in the generated text of the models (what is compared byte for byte) -/

def E0 : Ext := { U := .ascii, parseType := fun _ => none }

/-- the items in the order `generate_types` hands them to the topological sort (the sort itself is
not evaluated here: it does not change any text, only the order of the declarations) -/
def itemsOf (d : ParsedData) : List RustItem := d.aliases.map .alias ++ d.structs.map .struct ++ d.enums.map .enum

/-- the model's Kotlin output for `W_alias` after `reconcile`: `typealias AliasNew` next to
`val a: AliasNew` (was `typealias Al` before 0c924cd) -/
theorem kotlin_text_alias :
    (Lang.Kotlin.itemsFacts {} (itemsOf (reconcileOne (renamesOf W_alias) [] W_alias))).bind
        (fun ds => .ok (ds.flatMap Lang.Kotlin.renderDecl)) =
      .ok s%"typealias AliasNew = String\n\n@Serializable\ndata class User (\n\tval a: AliasNew\n)\n\n" := by
  decide +kernel

/-- the model's Kotlin output for `W_enum`: `sealed class EnumNew`, cases `: EnumNew()`, content
`EnumNewAInner`, helper `data class EnumNewAInner` (were `: En()` and `EnAInner` before 3d3e1e7) -/
theorem kotlin_text_enum :
    (Lang.Kotlin.itemsFacts {} (itemsOf (reconcileOne (renamesOf W_enum) [] W_enum))).bind
        (fun ds => .ok (ds.flatMap Lang.Kotlin.renderDecl)) =
      .ok s%"/// Generated type representing the anonymous struct variant `A` of the `En` Rust enum\n@Serializable\ndata class EnumNewAInner (\n\tval x: UByte\n)\n\n@Serializable\nsealed class EnumNew {\n\t@Serializable\n\t@SerialName(\"A\")\n\tdata class A(val c: EnumNewAInner): EnumNew()\n\t@Serializable\n\t@SerialName(\"B\")\n\tdata class B(val c: String): EnumNew()\n\t@Serializable\n\t@SerialName(\"C\")\n\tobject C: EnumNew()\n}\n\n" := by
  decide +kernel

/-- `#[serde(rename = "GenNew")] struct Ge<T> { v: T }  type User = Ge<String>;` (one item per list: the
kernel does not unfold `List.mergeSort` on longer lists) -/
def wUserAlias : RustTypeAlias :=
  { id := mkId s%"User" none, genericTypes := [], ty := .generic s%"Ge" [.prim .string], comments := [],
    decorators := {}, isRedacted := false }
def W_generic2 : ParsedData := { structs := [wGe], aliases := [wUserAlias] }

/-- the model's Kotlin output for `W_generic2`: `data class GenNew<T>` next to
`typealias User = GenNew<String>` (was `Ge<String>` before 944b749) -/
theorem kotlin_text_generic :
    (Lang.Kotlin.itemsFacts {} (itemsOf (reconcileOne (renamesOf W_generic2) [] W_generic2))).bind
        (fun ds => .ok (ds.flatMap Lang.Kotlin.renderDecl)) =
      .ok s%"typealias User = GenNew<String>\n\n@Serializable\ndata class GenNew<T> (\n\tval v: T\n)\n\n" := by
  decide +kernel

/-- `#[serde(rename = "EnumNew", tag = "t", content = "c")] enum En { A {}, C }` (no payload types: the
Scala type printer is defined by well-founded recursion, which the kernel does not unfold) -/
def wEnum2 : RustEnum :=
  { keys := some (s%"t", s%"c"), id := mkId s%"En" (some s%"EnumNew"), genericTypes := [], comments := [],
    variants := [.anonymousStruct (mkId s%"A" none) [] [], .unit (mkId s%"C" none) []],
    decorators := {}, isRecursive := false, isRedacted := false }
def W_enum2 : ParsedData := { enums := [wEnum2] }

/-- the model's Scala output (whole file) for `W_enum2`: `sealed trait EnumNew`, cases
`extends EnumNew`, content `EnumNewAInner`, helper `class EnumNewAInner` (were `extends En` and
`EnAInner` before 3d3e1e7) -/
theorem scala_text_enum :
    Lang.Scala.generate { package := s%"com.example" } (reconcileOne (renamesOf W_enum2) [] W_enum2) =
      .ok s%"package com\n\npackage example {\n\n// Generated type representing the anonymous struct variant `A` of the `En` Rust enum\nclass EnumNewAInner extends Serializable\n\nsealed trait EnumNew {\n\tdef serialName: String\n}\nobject EnumNew {\n\tcase class A(c: EnumNewAInner) extends EnumNew {\n\t\tval serialName: String = \"A\"\n\t}\n\tcase object C extends EnumNew {\n\t\tval serialName: String = \"C\"\n\t}\n}\n\n}\n" := by
  decide +kernel

/-- the open finding in the model's Go output for `W_unit` after `reconcile`: `type Un string` (go.rs
`write_enum`, `id.original`) next to the field `U UnitNew` -/
theorem go_text_unit :
    ((Lang.Go.writeEnum .ascii { package := s%"proto" } wUnit [] []).bind fun (t, _) => .ok t) =
      .ok s%"type Un string\nconst (\n\tUnP Un = \"P\"\n\tUnQ Un = \"Q\"\n)\n" ∧
    ((reconcileOne (renamesOf W_unit) [] W_unit).structs.map fun s =>
      (Lang.Go.writeStruct .ascii { package := s%"proto" } s []).bind fun (t, _) => .ok t) =
      [.ok s%"type User struct {\n\tU UnitNew `json:\"u\"`\n}\n"] := by
  decide +kernel

/-! ## Kotlin multi-file import lines (repaired by the `fix:` commit 8dc01bf)

Before the repair `write_imports` (kotlin.rs:288) named the imported type as in the Rust source
(`import com.example.alpha.Foo`) although the other module defines it behind the configured prefix
(`OPFoo`): the class `kotlin-import-without-prefix`. -/

/-- **Every Kotlin import line names the type exactly as its own module defines it**: for every
entry `t` of the scoped imports of crate `c` and every item whose (renamed) name is `t` — the names
`used_imports` collects are the other crate's `id.renamed` — the line
`import <package>.<c>.<defName>` is in what `write_imports` prints, for every prefix. -/
theorem C09_kotlin_import_lines (cfg : Lang.Kotlin.Cfg) (imps : ScopedCrateTypes) (c t : Str) (tys : List Str)
    (h : (c, tys) ∈ imps) (ht : t ∈ tys) (it : RustItem) (hit : (itemId it).renamed = t) :
    (s%"import " ++ cfg.package ++ s%"." ++ c ++ s%"." ++ defName (.kotlin cfg) it ++ Lang.nl) <:+:
      Lang.Kotlin.writeImports cfg imps := by
  subst hit
  unfold Lang.Kotlin.writeImports
  refine List.IsInfix.trans ?_ (List.prefix_append _ _).isInfix
  refine List.IsInfix.trans ?_ (infix_flatMap_of_mem _ imps (c, tys) h)
  rw [show defName (.kotlin cfg) it = cfg.pfx ++ (itemId it).renamed from rfl, ← List.append_assoc]
  exact infix_flatMap_of_mem
    (fun t => s%"import " ++ cfg.package ++ s%"." ++ c ++ s%"." ++ cfg.pfx ++ t ++ Lang.nl) tys _ ht

/-- the witness of the finding as a positive regression example: with prefix `OP` the import line of `Foo`
reads `import com.example.alpha.OPFoo`, the name the class is defined under (it read
`import com.example.alpha.Foo` before 8dc01bf) -/
theorem repaired_kotlin_import_prefix :
    Lang.Kotlin.writeImports { package := s%"com.example", pfx := s%"OP" } [(s%"alpha", [s%"Foo"])] =
      s%"import com.example.alpha.OPFoo\n\n" ∧
    defName (.kotlin { package := s%"com.example", pfx := s%"OP" }) (.struct (mkStruct s%"Foo" none [] [])) =
      s%"OPFoo" := by
  decide +kernel

/-- `C09_kotlin_import_lines`: hypotheses met by the witness (and by a serde-renamed type) -/
example : (s%"alpha", [s%"Foo", s%"BarNew"]) ∈ [(s%"alpha", [s%"Foo", s%"BarNew"])] ∧ s%"BarNew" ∈ [s%"Foo", s%"BarNew"] ∧
    (itemId (.struct (mkStruct s%"Bar" (some s%"BarNew") [] []))).renamed = s%"BarNew" := by decide

/-! ## the `ids` clause of `InScope` is an invariant of the parser -/

theorem getIdent_invariant (E : Ext) (ident : Option Str) (attrs : List Syn.Attr) (id : Id)
    (h : Parser.getIdent E ident attrs none = .ok id) : id.serdeRename = false → id.renamed = id.original := by
  unfold Parser.getIdent at h
  simp only [Rename.renameAllToCase, Outcome.ok_bind'] at h
  split at h
  · cases h; intro hh; cases hh
  · cases h; intro _; rfl

/-! ## non-vacuity -/

/-- `C09_partial` / `C09_exact`: a program with a renamed item, in scope, without shadowing, all of
whose references are outside the known class — in all eight configurations -/
example : InScope W_good ∧ Known_shadow W_good = false ∧
    (allLangs.all fun lc => (typeItems W_good).all fun it =>
      (refs lc (renamesOf W_good) it).all fun r => !KnownRef lc W_good r) = true ∧
    hasRef swOP W_good (.struct wLine) s%"OPPointNew" (.type s%"Point") false (fun _ _ _ => true) = true ∧
    hasRef swOP W_good (.struct wLine) s%"T" (.param s%"T") false (fun _ _ _ => true) = true ∧
    defName swOP (.struct wPoint) = s%"OPPointNew" :=
  ⟨W_good_inScope, by decide +kernel, by decide +kernel, by decide +kernel, by decide +kernel, by decide +kernel⟩

/-- `C09_converse` / `C09_failures_are_go_enums`: hypotheses met by the Go enum witness -/
example : InScope W_unit ∧ CfgOk go0 ∧ Known_shadow W_unit = false ∧
    KnownRef go0 W_unit ⟨s%"UnitNew", .type s%"Un", false⟩ = true :=
  ⟨W_unit_inScope, cfgOk_all _ (by simp [allLangs]), by decide +kernel, by decide +kernel⟩

/-- `C09_no_renames`: a program without `serde(rename)` that has references, a generic parameter and
a prefix -/
example : InScope ({ structs := [mkStruct s%"Point" none [] [fld s%"x" (.prim .u8)], wLine] } : ParsedData) ∧
    (∀ it ∈ typeItems ({ structs := [mkStruct s%"Point" none [] [fld s%"x" (.prim .u8)], wLine] } : ParsedData),
      (itemId it).serdeRename = false) :=
  ⟨inScope_of _ (by decide) (by decide) (by decide) (by decide) rfl rfl, by decide⟩

/-- `C09_all_but_go`: Kotlin with a prefix on the alias witness (inconsistent there before 0c924cd)
and on the tagged-enum witness (before 3d3e1e7) -/
example : isGo ktOP = false ∧ Known_shadow W_alias = false ∧ Known_shadow W_enum = false ∧
    hasRef ktOP W_alias (.struct wUserA) s%"OPAliasNew" (.type s%"Al") false (fun _ _ _ => true) = true ∧
    defName ktOP (.alias wAlias) = s%"OPAliasNew" :=
  ⟨rfl, by decide +kernel, by decide +kernel, by decide +kernel, by decide +kernel⟩

/-- `C09_go_without_renamed_enums`: Go on the alias witness and on the generic-head witness (renamed
alias / struct, no renamed enum) -/
example : (∀ e ∈ W_alias.enums, e.id.renamed = e.id.original) ∧ (∀ e ∈ W_generic.enums, e.id.renamed = e.id.original) ∧
    Known_shadow W_generic = false ∧
    hasRef go0 W_generic (.struct wUserG) s%"GenNew" (.type s%"Ge") true (fun _ _ _ => true) = true :=
  ⟨by simp [W_alias], by simp [W_generic], by decide +kernel, by decide +kernel⟩

/-- `C09_generic_heads`: a head reference outside the known class (TypeScript, `GenNew<String>`) -/
example : hasRef ts0 W_generic (.struct wUserG) s%"GenNew" (.type s%"Ge") true
    (fun lc P r => !Known_def_original lc P r) = true := by decide +kernel

/-- `getIdent_invariant`: `#[serde(rename = "X")]` and no attribute -/
example : Parser.getIdent E0 (some s%"Foo") [] none = .ok ⟨s%"Foo", s%"Foo", false⟩ := by decide +kernel

end TsV.C09
