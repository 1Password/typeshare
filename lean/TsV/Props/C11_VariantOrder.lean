import TsV.Lemmas.C11_VariantOrder
/-!
# C11_VariantOrder — the dependencies of a tagged enum do not depend on the order of its variants

C11: "definitions are emitted dependencies-first".  `Props/C11_Coverage.lean` ties the graph handed to `toposort_impl`
to the program's reference relation (`coverage`: every reference is an edge; `edge_sound`: every edge is a chain of
references).  This module is the corollary for the **variant list** of an algebraic enum: a walk that stopped at the
first unit variant, looked only at the first payload, or let a unit / struct variant between two payloads end the loop
would lose references depending on where a payload stands.

* `SamePayloads vs vs'`: the payload variants (tuple and struct variants) of the two lists are a permutation of each
  other; unit variants may be added, removed or moved freely (a `#[typeshare(skip)]`ped variant is not in the parsed
  list at all, so it is covered as "removed").
* `refs_same_set`: the names the enum refers to are the same *set*; `units_contribute_nothing`: dropping every unit
  variant leaves the very same list.
* for a program `items` whose item `i` is the enum and the program `items.set i (enum with variants vs')`
  (`permuted_similar`): `refers_same` — the reference relation is the same relation; `reference_is_edge` — every reference
  of the original order is an edge of the graph built for the permuted program (and vice versa, the statement is
  symmetric in `vs`, `vs'`); `edge_is_reference_chain` — every edge of the permuted program's graph is a chain of
  references of the original one.  So the two edge relations are squeezed between the same two relations.
* `behind_units`: a payload reference behind any number of unit variants (and in front of anything) is an edge.
* `order_same`: end to end, `C11_order` holds for the permuted program under the hypotheses on the original one.

* `edge_iff_refers`: the row of an item without generic parameters of its own (every struct, enum, const and plain alias) is
  *exactly* its direct references off the diagonal — `get_dependencies` records nothing transitive, because the nested call
  after a push finds the name in `seen`; `edges_same` / `enum_edges_same`: **`deps (rearranged variants) = deps variants` as
  sets** — in the graphs of the two programs these rows have the same edges `k → j`, `j ≠ k`.

Not covered: the diagonal (a self-edge `i → i` appears when the enum mentions itself at least twice — the trailing
`seen.remove` quirk; an evaluation of 1600 small programs incl. self-referential ones found no dependence on the order
there either) and the rows of generic aliases (their `generic_types` loop walks other items).  Nothing is false on the
model.  `tools/c11.py: variant_mix_part` checks the implementation.
-/
namespace TsV.C11_VariantOrder
open TsV TsV.Deps TsV.Topsort TsV.C11

/-- same payload variants up to order; unit variants anywhere -/
def SamePayloads (vs vs' : List RustEnumVariant) : Prop := (vs.filter isPayload).Perm (vs'.filter isPayload)

theorem samePayloads_of_perm {vs vs' : List RustEnumVariant} (h : vs.Perm vs') : SamePayloads vs vs' := h.filter _

/-- unit variants in front, between and behind change nothing -/
theorem samePayloads_units (us ws : List RustEnumVariant) (hu : ∀ u ∈ us, isPayload u = false)
    (hw : ∀ w ∈ ws, isPayload w = false) (a b : List RustEnumVariant) :
    SamePayloads (a ++ b) (us ++ a ++ ws ++ b) := by
  unfold SamePayloads
  have e1 : us.filter isPayload = [] := List.filter_eq_nil_iff.2 (fun u h => by simp [hu u h])
  have e2 : ws.filter isPayload = [] := List.filter_eq_nil_iff.2 (fun u h => by simp [hw u h])
  simp [List.filter_append, e1, e2]

/-- the types an enum mentions are the same up to order -/
theorem itemTypes_same (e : RustEnum) (vs' : List RustEnumVariant) (h : SamePayloads e.variants vs') :
    (itemTypes (.enum { e with variants := vs' })).Perm (itemTypes (.enum e)) := by
  obtain hk | ⟨k, hk⟩ : e.keys = none ∨ ∃ k, e.keys = some k := by cases e.keys <;> simp
  · rw [itemTypes_enum_unit e hk, itemTypes_enum_unit { e with variants := vs' } hk]
  · rw [itemTypes_enum e k hk, itemTypes_enum { e with variants := vs' } k hk]
    show (vs'.flatMap variantTypes).Perm (e.variants.flatMap variantTypes)
    rw [← flatMap_filter_payload vs', ← flatMap_filter_payload e.variants]
    exact (h.symm).flatMap_right _

/-- **the names an enum refers to do not depend on the order of its variants** (as a set) -/
theorem refs_same_set (e : RustEnum) (vs' : List RustEnumVariant) (h : SamePayloads e.variants vs') (x : Str) :
    x ∈ refsItem (.enum { e with variants := vs' }) ↔ x ∈ refsItem (.enum e) :=
  SameShape.refs (a := .enum e) (a' := .enum { e with variants := vs' }) ⟨rfl, itemTypes_same e vs' h, rfl⟩ x

/-- dropping every unit variant leaves the same reference list -/
theorem units_contribute_nothing (e : RustEnum) :
    refsItem (.enum { e with variants := e.variants.filter isPayload }) = refsItem (.enum e) := by
  unfold refsItem
  obtain hk | ⟨k, hk⟩ : e.keys = none ∨ ∃ k, e.keys = some k := by cases e.keys <;> simp
  · rw [itemTypes_enum_unit e hk, itemTypes_enum_unit { e with variants := e.variants.filter isPayload } hk]
  · rw [itemTypes_enum e k hk, itemTypes_enum { e with variants := e.variants.filter isPayload } k hk]
    show ((e.variants.filter isPayload).flatMap variantTypes).flatMap refsType = _
    rw [flatMap_filter_payload]

/-! ## the program with the variants of one enum rearranged -/

theorem permuted_similar {items : List RustItem} {i : Nat} {e : RustEnum} (hi : items[i]? = some (.enum e))
    (vs' : List RustEnumVariant) (h : SamePayloads e.variants vs') :
    Similar items (items.set i (.enum { e with variants := vs' })) :=
  similar_set hi ⟨rfl, itemTypes_same e vs' h, rfl⟩

/-- the reference relation of the whole program is the same relation -/
theorem refers_same {items : List RustItem} {i : Nat} {e : RustEnum} (hi : items[i]? = some (.enum e))
    (vs' : List RustEnumVariant) (h : SamePayloads e.variants vs') (a b : Nat) :
    Refers (items.set i (.enum { e with variants := vs' })) a b ↔ Refers items a b :=
  (permuted_similar hi vs' h).refers a b

/-- **every reference of the enum (and of every other item) is an edge of the graph of the rearranged program** -/
theorem reference_is_edge {items : List RustItem} {i : Nat} {e : RustEnum} (hi : items[i]? = some (.enum e))
    (vs' : List RustEnumVariant) (h : SamePayloads e.variants vs') (g' : List (List Nat))
    (hd : NamesDistinct items) (hdepth : DepthOk items)
    (hg : Deps.graph (items.set i (.enum { e with variants := vs' })) = some g')
    (a b : Nat) (hr : Refers items a b) (hab : a ≠ b) : Edge g' a b :=
  have S := permuted_similar hi vs' h
  coverage _ g' (S.namesDistinct hd) (S.depthOk hdepth) hg a b ((S.refers a b).2 hr) hab

/-- every edge of the graph of the rearranged program is a chain of references of the original one -/
theorem edge_is_reference_chain {items : List RustItem} {i : Nat} {e : RustEnum} (hi : items[i]? = some (.enum e))
    (vs' : List RustEnumVariant) (h : SamePayloads e.variants vs') (g' : List (List Nat)) (hgu : GenericsUsed items)
    (hg : Deps.graph (items.set i (.enum { e with variants := vs' })) = some g')
    (a b : Nat) (he : Edge g' a b) : RefReach items a b :=
  have S := permuted_similar hi vs' h
  S.reach (edge_sound _ g' (S.genericsUsed hgu) hg a b he)

/-- **a payload reference behind any number of unit variants is an edge**: the enum's variants are `pre ++ [V(ty)] ++ post`
(`pre`, `post` arbitrary — all unit variants, say), `ty` mentions item `j` at any depth -/
theorem behind_units {items : List RustItem} {i j : Nat} {e : RustEnum} {b : RustItem} (k : Str × Str)
    (hi : items[i]? = some (.enum e)) (hk : e.keys = some k) (hj : items[j]? = some b)
    (pre post : List RustEnumVariant) (vid : Id) (cs : List Str) (ty : RustType)
    (hv : e.variants = pre ++ [.tuple vid cs ty] ++ post) (hx : b.originalName ∈ refsType ty)
    (g : List (List Nat)) (hd : NamesDistinct items) (hdepth : DepthOk items) (hg : Deps.graph items = some g)
    (hij : i ≠ j) : Edge g i j := by
  refine coverage items g hd hdepth hg i j (refers_iff.2 ⟨_, b, hi, hj, ?_⟩) hij
  refine mem_refsItem.2 ⟨ty, ?_, hx⟩
  rw [itemTypes_enum e k hk, hv]
  simp [variantTypes]

/-- the same for a field of a struct variant -/
theorem behind_units_struct {items : List RustItem} {i j : Nat} {e : RustEnum} {b : RustItem} (k : Str × Str)
    (hi : items[i]? = some (.enum e)) (hk : e.keys = some k) (hj : items[j]? = some b)
    (pre post : List RustEnumVariant) (vid : Id) (cs : List Str) (fs : List RustField) (f : RustField) (hf : f ∈ fs)
    (hv : e.variants = pre ++ [.anonymousStruct vid cs fs] ++ post) (hx : b.originalName ∈ refsType f.ty)
    (g : List (List Nat)) (hd : NamesDistinct items) (hdepth : DepthOk items) (hg : Deps.graph items = some g)
    (hij : i ≠ j) : Edge g i j := by
  refine coverage items g hd hdepth hg i j (refers_iff.2 ⟨_, b, hi, hj, ?_⟩) hij
  refine mem_refsItem.2 ⟨f.ty, ?_, hx⟩
  rw [itemTypes_enum e k hk, hv]
  simp only [List.flatMap_append, List.flatMap_cons, List.flatMap_nil, List.append_nil, variantTypes, List.mem_append,
    List.mem_map]
  exact Or.inl (Or.inr ⟨f, hf, rfl⟩)

/-- end to end: the rearranged program is ordered dependencies-first under the hypotheses on the original program -/
theorem order_same {items : List RustItem} {i : Nat} {e : RustEnum} (hi : items[i]? = some (.enum e))
    (vs' : List RustEnumVariant) (h : SamePayloads e.variants vs')
    (hd : NamesDistinct items) (hdepth : DepthOk items) (hgu : GenericsUsed items) (hac : AcyclicRefs items) :
    Ordered (items.set i (.enum { e with variants := vs' })) :=
  have S := permuted_similar hi vs' h
  C11_order _ (S.namesDistinct hd) (S.depthOk hdepth) (S.genericsUsed hgu) (fun a r => hac a (S.reach r))

/-! ## the rows of the graph, exactly -/

/-- **the row of an item without generic parameters of its own is its direct references**: for `j ≠ i`, `i → j` is an
edge iff item `i` mentions the name of item `j` (the edge relation of such a row is not transitive: the nested
`get_dependencies` call after a push finds the name in `seen` and returns) -/
theorem edge_iff_refers (items : List RustItem) (g : List (List Nat)) (hd : NamesDistinct items) (hdepth : DepthOk items)
    (hg : Deps.graph items = some g) (i : Nat) (it : RustItem) (hi : items[i]? = some it)
    (hgen : itemGenerics it = []) (j : Nat) (hij : i ≠ j) : Edge g i j ↔ Refers items i j := by
  constructor
  · intro he
    obtain ⟨it', dep, c, hi', hdep, hc, hcn⟩ := edge_pushed hg he
    rw [hi] at hi'; cases hi'
    exact refers_iff.2 ⟨it, c, hi, hc, by rw [hcn]; exact depsItem_direct items _ it hgen dep hdep⟩
  · intro hr
    exact coverage items g hd hdepth hg i j hr hij

/-- **`deps (rearranged variants) = deps variants` as sets** (off the diagonal): in the graphs built for the two programs,
the row of the enum — and the row of every other item without generic parameters of its own — has the same edges -/
theorem edges_same {items : List RustItem} {i : Nat} {e : RustEnum} (hi : items[i]? = some (.enum e))
    (vs' : List RustEnumVariant) (h : SamePayloads e.variants vs') (g g' : List (List Nat))
    (hd : NamesDistinct items) (hdepth : DepthOk items) (hg : Deps.graph items = some g)
    (hg' : Deps.graph (items.set i (.enum { e with variants := vs' })) = some g')
    (k : Nat) (it : RustItem) (hk : items[k]? = some it) (hgen : itemGenerics it = []) (j : Nat) (hkj : k ≠ j) :
    Edge g' k j ↔ Edge g k j := by
  have S := permuted_similar hi vs' h
  obtain ⟨it', hk', hs⟩ := S.get hk
  rw [edge_iff_refers _ g' (S.namesDistinct hd) (S.depthOk hdepth) hg' k it' hk' (by rw [hs.gens]; exact hgen) j hkj,
    edge_iff_refers items g hd hdepth hg k it hk hgen j hkj]
  exact S.refers k j

/-- in particular the row of the enum itself -/
theorem enum_edges_same {items : List RustItem} {i : Nat} {e : RustEnum} (hi : items[i]? = some (.enum e))
    (vs' : List RustEnumVariant) (h : SamePayloads e.variants vs') (g g' : List (List Nat))
    (hd : NamesDistinct items) (hdepth : DepthOk items) (hg : Deps.graph items = some g)
    (hg' : Deps.graph (items.set i (.enum { e with variants := vs' })) = some g') (j : Nat) (hij : i ≠ j) :
    Edge g' i j ↔ Edge g i j :=
  edges_same hi vs' h g g' hd hdepth hg hg' i _ hi rfl j hij

/-! ## example: `enum B { U1, V(C), U2, S { x: [C; 2] }, U3, W(D) }` against `enum B { W(D), S { .. }, V(C) }` -/
open Ex

def vsLong : List RustEnumVariant :=
  [.unit (mkId s%"U1") [], .tuple (mkId s%"V") [] (.simple s%"C"), .unit (mkId s%"U2") [],
   .anonymousStruct (mkId s%"S") [] [fld s%"x" (.array (.simple s%"C") 2)], .unit (mkId s%"U3") [],
   .tuple (mkId s%"W") [] (.simple s%"D")]
def vsShort : List RustEnumVariant :=
  [.tuple (mkId s%"W") [] (.simple s%"D"),
   .anonymousStruct (mkId s%"S") [] [fld s%"x" (.array (.simple s%"C") 2)], .tuple (mkId s%"V") [] (.simple s%"C")]

def progLong : List RustItem := [enm s%"B" vsLong, strct s%"C" [], strct s%"D" []]
def progShort : List RustItem := [enm s%"B" vsShort, strct s%"C" [], strct s%"D" []]

/-- the two variant lists have the same payloads: `[V, S, W]` and `[W, S, V]`, three swaps of neighbours apart -/
theorem example_samePayloads : SamePayloads vsLong vsShort :=
  ((List.Perm.swap _ _ _).trans ((List.Perm.swap _ _ _).cons _)).trans (List.Perm.swap _ _ _)

/-- both orders: the enum depends on `C` and on `D` (the rows of the graph list the same indices) -/
example : Deps.graph progLong = some [[1, 1, 2], [], []] ∧ Deps.graph progShort = some [[2, 1, 1], [], []] := by
  decide +kernel

example : progShort = progLong.set 0 (enm s%"B" vsShort) := rfl

/-- the hypotheses of `order_same` on a concrete program, and its conclusion for the rearranged one -/
example : Ordered progShort :=
  order_same (items := progLong) (i := 0) rfl vsShort example_samePayloads (by decide +kernel) (by decide +kernel) (by decide +kernel)
    (acyclic_of_rank progLong (fun i => 3 - i) (by decide +kernel))

end TsV.C11_VariantOrder
