import TsV.Lemmas.C06_Multi_Collect
/-!
# C06 — output is a deterministic function of the inputs, not of scheduling or hashing

A schedule is abstracted to (i) the *arrival order* of the per-file results at the collector and
(ii) the iteration orders of hash containers.  `C06_arrival_order` is the statement for arrival
orders within one crate (in particular the whole of single-file mode, where every file belongs to
the crate `""`): the reconciled, sorted item lists — everything `generate_types` reads — are the
same for every permutation of the arrivals.  Hash iteration order enters the model only through
the explicit parameters `imports` / `firstOther` / `pick` of `Pipeline.resolveRenamed`,
`Pipeline.usedImports` and `Visitor.reconcileReferencedTypes`; in single-file mode
`import_types` is empty, so they are never consulted (`resolve_no_imports`).  In multi-file mode
they are consulted, and `Props/C06_Multi.lean` shows that the result does not depend on them
(each look-up takes the candidate with the smallest crate name since the `fix:` commit "resolve a
type name imported from several crates the same way in every run").
-/
namespace TsV.C06
open TsV TsV.Pipeline TsV.Collect

/-- within the crate no two types share an original name, no two consts do, and (single-file
mode) no imports were recorded -/
structure WF (a : List ParsedData) : Prop where
  types : ((a.flatMap (·.structs)).map (·.id.original) ++ (a.flatMap (·.enums)).map (·.id.original) ++
           (a.flatMap (·.aliases)).map (·.id.original)).Nodup
  consts : ((a.flatMap (·.consts)).map (·.id.original)).Nodup
  noImports : ∀ d ∈ a, d.importTypes = []

/-- with no imports, a reference is resolved in the current crate only: no hash order involved -/
theorem resolve_no_imports (c : Str) (r : Renames) (id : Str) :
    resolveRenamed c r [] id = (if hasRename r id then renameOf r id c else none) := by
  unfold resolveRenamed
  by_cases h : hasRename r id = true <;> simp [h, minByKey]

/-- what `generate_types` reads of one crate -/
def view (p : Str × ParsedData) :
    Str × List RustStruct × List RustEnum × List RustTypeAlias × List RustConst × Str × Bool :=
  (p.1, p.2.structs, p.2.enums, p.2.aliases, p.2.consts, p.2.fileName, p.2.multiFile)

theorem view_congr {p q : Str × ParsedData} (h : C06M.RecEq p q) : view p = view q := by
  simp only [view]
  rw [h.key, h.structs, h.enums, h.aliases, h.consts, h.fileName, h.multiFile]

/-- `reconcileOne` does not change names -/
theorem checkField_id (c : Str) (r : Renames) (i : List ImportedType) (f : RustField) :
    (checkField c r i f).id = f.id := rfl

/-- **C06, arrival order.** For arrivals of one crate (all of single-file mode) in which type
names and const names are unique, every permutation of the arrival order yields the same reconciled,
sorted structs, enums, aliases and consts, the same crate key, file name and mode. -/
theorem C06_arrival_order (a b : List ParsedData) (hp : a.Perm b) (c fn : Str) (mf : Bool)
    (hu : Uniform c fn mf a) (hwf : WF a) :
    (reconcile (collect a)).map view = (reconcile (collect b)).map view := by
  have hcr : ∀ d ∈ a, C06M.arr a d.crateName = a := fun d hd =>
    List.filter_eq_self.2 fun x hx => by rw [(hu x hx).1, (hu d hd).1]; exact beq_self_eq_true c
  have hun : C06M.UniformPerCrate a := fun d hd d' hd' _ =>
    ⟨(hu d hd).2.1.trans (hu d' hd').2.1.symm, (hu d hd).2.2.trans (hu d' hd').2.2.symm⟩
  have wf : C06M.MapWF (collect a) :=
    C06M.mapWF_collect_of a (fun d hd => by rw [hcr d hd]; exact hwf.types)
      (fun d hd => by rw [hcr d hd]; exact hwf.consts)
  exact (C06M.reconcile_mapEq (C06M.collect_mapEq_of a b (C06M.partRel_of_perm a b hp hun)) wf).map_eq
    fun _ _ _ _ hr => view_congr hr

/-- **corollary: the emission order is the same** (it is a function of the four lists) -/
theorem generateOrder_congr (d d' : ParsedData) (h1 : d.structs = d'.structs) (h2 : d.enums = d'.enums)
    (h3 : d.aliases = d'.aliases) (h4 : d.consts = d'.consts) : generateOrder d = generateOrder d' := by
  simp [generateOrder, h1, h2, h3, h4]

/-! The same theorem read for a fixed multiset of items: how the items are split across (visible)
files and directories only changes the list `a` up to regrouping; two splits whose per-kind
concatenations are permutations of each other are related by `C06_arrival_order`'s proof, which
only uses `Perm` of the concatenated lists. -/

/-! ### the converse witnesses: where uniqueness fails the arrival order shows -/

def mkStruct (n : Str) (f : Str) : RustStruct :=
  { id := ⟨n, n, false⟩, genericTypes := [], fields := [⟨⟨f, f, false⟩, .prim .u8, [], false, []⟩],
    comments := [], decorators := {}, isRedacted := false }
def fileWith (s : RustStruct) : ParsedData := { structs := [s] }

/-- two same-named structs (e.g. `mod a { struct X }`, `mod b { struct X }`) keep arrival order -/
example : ((reconcile (collect [fileWith (mkStruct s%"X" s%"a"), fileWith (mkStruct s%"X" s%"b")])).map
      fun p => p.2.structs.map fun s => s.fields.map (·.id.original)) = [[[s%"a"], [s%"b"]]] ∧
    ((reconcile (collect [fileWith (mkStruct s%"X" s%"b"), fileWith (mkStruct s%"X" s%"a")])).map
      fun p => p.2.structs.map fun s => s.fields.map (·.id.original)) = [[[s%"b"], [s%"a"]]] := by
  simp only [reconcile, reconcileOne, Order.sortBy_eq_sortByI]
  decide +kernel

/-- non-vacuity: two files, distinct names, both orders give [A, B] -/
example : ((reconcile (collect [fileWith (mkStruct s%"B" s%"x"), fileWith (mkStruct s%"A" s%"y")])).map
      fun p => p.2.structs.map (·.id.original)) = [[s%"A", s%"B"]] := by
  simp only [reconcile, reconcileOne, Order.sortBy_eq_sortByI]
  decide +kernel

end TsV.C06
