import TsV.Lemmas.NoPanic
import TsV.Lemmas.TargetOs
import TsV.Lemmas.ParserOk
import TsV.Lemmas.Visit
/-!
# C03 — exactly the annotated, non-skipped items, fields and variants (parse level)

(i) collection: the visitor yields, per annotated and accepted item in visit order (pre-order,
descending into modules and function bodies), exactly one entry — the parsed item, or one error —
and nothing for other items.  (ii) members: the fields / variants / variant fields of a parsed item
are the source members that are not skipped, in source order.  The emission clause (every back
end prints each parsed item and member once) is stated with the back-end models.
-/
namespace TsV.C03
open TsV TsV.Syn TsV.Parser TsV.Visitor TsV.Outcome

theorem bind_pure_id (x : Outcome ParsedData) : (x.bind fun d => pure d) = x := by cases x <;> rfl

/-- **(i) collection, single-file mode**: visiting = folding `collect_result` over the annotated
accepted items in visit order; un-annotated items contribute nothing -/
theorem visitItem_collects (E : Ext) (ctx : ParseContext) (h : ctx.multiFile = false) (path : Str) :
    ∀ (it : Item) (d : ParsedData),
      visitItem E ctx path d it = collectAll path d ((annotated ctx it).map (parseItem E ctx)) :=
  fun it d => (Visit.view_id _).symm.trans (Visit.visit_view (Visit.blind_id h) E path it d)

theorem visitItems_collects (E : Ext) (ctx : ParseContext) (h : ctx.multiFile = false) (path : Str) :
    ∀ (items : List Item) (d : ParsedData),
      visitItems E ctx path d items = collectAll path d ((annotatedList ctx items).map (parseItem E ctx)) :=
  fun items d => (Visit.view_id _).symm.trans (Visit.visitItems_view (Visit.blind_id h) E path items d)

/-- number of entries (items of the four kinds plus errors) -/
def entries (d : ParsedData) : Nat :=
  d.structs.length + d.enums.length + d.aliases.length + d.consts.length + d.errors.length

theorem collectAll_entries (path : Str) (outs : List (Outcome RustItem)) (d : ParsedData) (h : ∀ o ∈ outs, NP o) :
    ∃ d', collectAll path d outs = .ok d' ∧ entries d' = entries d + outs.length := by
  obtain ⟨d', hd'⟩ := Visit.collectAll_ok_of_np path outs d h
  refine ⟨d', hd', Visit.collectAll_ok_rec (P := fun d outs d' => entries d' = entries d + outs.length)
    (fun _ => rfl) ?_ ?_ hd'⟩
  · intro d ri os d' ih
    rw [ih]
    cases ri <;> simp [push, entries] <;> omega
  · intro d e os d' ih
    rw [ih]
    simp [entries]
    omega

/-- **one entry per annotated item, none dropped, none invented**: the visitor always succeeds and
the number of parsed items plus recorded errors grows by exactly the number of annotated accepted
items — an item that cannot be generated is an error entry, never silently omitted. -/
theorem one_entry_per_annotated_item (E : Ext) (ctx : ParseContext) (h : ctx.multiFile = false)
    (path : Str) (items : List Item) (d : ParsedData) :
    ∃ d', visitItems E ctx path d items = .ok d' ∧
      entries d' = entries d + (annotatedList ctx items).length := by
  rw [visitItems_collects E ctx h path items d]
  have := collectAll_entries path ((annotatedList ctx items).map (parseItem E ctx)) d
    (by intro o ho; simp only [List.mem_map] at ho; obtain ⟨it, _, rfl⟩ := ho; exact NoPanic.parseItem_np E ctx it)
  simpa using this

/-! ### (ii) members -/

theorem getIdent_original (E : Ext) (i : Option Str) (a : List Attr) (ra : Option Str) (id : Id)
    (h : getIdent E i a ra = .ok id) : id.original = origOf i := by
  obtain ⟨_, _, rfl⟩ := getIdent_ok h
  rfl

theorem parseField_original (E : Ext) (cf : Bool) (ra : Option Str) (f : Field) (rf : RustField)
    (h : parseField E cf ra f = .ok rf) : rf.id.original = origOf f.ident :=
  getIdent_original E _ _ _ _ (parseField_ok h).id

/-- **struct fields**: exactly the non-skipped source fields, in source order -/
theorem struct_fields_exact (E : Ext) (T : List Str) (attrs : List Attr) (ident : Str)
    (gens : List GenericParam) (fs : List Field) (s : RustStruct)
    (h : parseStruct E T attrs ident gens (.named fs) = .ok (.struct s)) :
    s.fields.map (·.id.original) = (fs.filter fun f => !isSkipped f.attrs T).map (origOf ·.ident) :=
  mapM'_map _ _ _ (parseField_original E true _) _ _ (parseStruct_struct_ok h).2

theorem parseVariant_original (E : Ext) (T : List Str) (ra : Option Str) (v : Variant) (rv : RustEnumVariant)
    (h : parseEnumVariant E T ra v = .ok rv) : rv.id.original = origOf (some v.ident) :=
  getIdent_original E _ _ _ _ (parseEnumVariant_ok h).1

/-- **enum variants**: exactly the non-skipped source variants, in source order — one case each -/
theorem enum_variants_exact (E : Ext) (T : List Str) (attrs : List Attr) (ident : Str)
    (gens : List GenericParam) (vs : List Variant) (e : RustEnum)
    (hsa : getSerializedAsType E attrs = none)
    (h : parseEnum E T attrs ident gens vs = .ok (.enum e)) :
    e.variants.map (·.id.original) =
      (vs.filter fun v => !isSkipped v.attrs T).map (origOf <| some ·.ident) := by
  cases parseEnum_ok h with
  | serializedAs hs => cases hs.symm.trans hsa
  | «enum» _ hm => exact mapM'_map _ _ _ (parseVariant_original E T _) _ _ hm

/-- **struct-variant fields**: exactly the non-skipped source fields of the variant, in order -/
theorem variant_fields_exact (E : Ext) (T : List Str) (ra : Option Str) (v : Variant) (fs : List Field)
    (hv : v.fields = .named fs) (id : Id) (c : List Str) (rfs : List RustField)
    (h : parseEnumVariant E T ra v = .ok (.anonymousStruct id c rfs)) :
    rfs.map (·.id.original) = (fs.filter fun f => !isSkipped f.attrs T).map (origOf ·.ident) := by
  cases (parseEnumVariant_ok h).2 with
  | named hf hm =>
    cases hf.symm.trans hv
    exact mapM'_map _ _ _ (parseField_original E true _) _ _ hm

/-- a member is skipped exactly when some attribute carries the bare path `skip` inside
`serde(…)` or `typeshare(…)` — in any attribute position and argument order — or its cfg is
rejected by `--target-os` (C13) -/
theorem isSkipped_iff (attrs : List Attr) (T : List Str) :
    isSkipped attrs T = true ↔
      (∃ a ∈ attrs, ∃ m ∈ getMetaItems a kSerde ++ getMetaItems a kTypeshare, m.isIdent s%"skip" = true ∧
          (match m with | .path _ => True | _ => False)) ∨
      TargetOs.accept attrs T = some false := by
  unfold isSkipped skipMarked hasPathArg
  simp only [TargetOs.accept_eq_some, Bool.or_eq_true, List.any_eq_true, Bool.not_eq_true']
  constructor
  · rintro (⟨a, ha, h⟩ | h)
    · left
      refine ⟨a, ha, ?_⟩
      rcases h with ⟨m, hm, hp⟩ | ⟨m, hm, hp⟩
      · cases m with
        | path segs => exact ⟨_, List.mem_append_left _ hm, by simpa [Meta.isIdent, Meta.segs] using hp, trivial⟩
        | nameValue _ _ => simp at hp
        | list _ _ _ => simp at hp
      · cases m with
        | path segs => exact ⟨_, List.mem_append_right _ hm, by simpa [Meta.isIdent, Meta.segs] using hp, trivial⟩
        | nameValue _ _ => simp at hp
        | list _ _ _ => simp at hp
    · right; exact h
  · rintro (⟨a, ha, m, hm, hid, hp⟩ | h)
    · left
      refine ⟨a, ha, ?_⟩
      cases m with
      | path segs =>
        have hs : (segs == [s%"skip"]) = true := by simpa [Meta.isIdent, Meta.segs] using hid
        rcases List.mem_append.1 hm with hm | hm
        · exact Or.inl ⟨_, hm, hs⟩
        · exact Or.inr ⟨_, hm, hs⟩
      | nameValue _ _ => exact absurd hp (by simp)
      | list _ _ _ => exact absurd hp (by simp)
    · right; exact h

/-! ### non-vacuity: a file mixing annotated and un-annotated items at two module depths -/
def exFile : List Item :=
  [.struct [] s%"Plain" [] .unit,
   .mod [] s%"m" [.struct [⟨.path [s%"typeshare"]⟩] s%"Inner" []
      (.named [⟨[], some s%"a", .path [] s%"u8" []⟩,
               ⟨[⟨.list [s%"serde"] true [.path [s%"skip"]]⟩], some s%"b", .path [] s%"u64" []⟩])],
   .enum [⟨.path [s%"typeshare"]⟩] s%"E" [] [⟨[], s%"A", .unit⟩]]

example : (annotatedList {} exFile).length = 2 := by decide +kernel

end TsV.C03
