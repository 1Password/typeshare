import TsV.Model.Visitor
import TsV.Lemmas.RustTypes
import TsV.Lemmas.ParserOk
/-!
# C08 — unsupported constructs are rejected with an error, never silently mis-generated

Parse-level statements.  "Rejected" = the item parser does not return `ok` (it returns an error,
or — for the C07 panic classes — panics); by `Visitor.collectResult` an error becomes an entry of
`ParsedData.errors`, and the CLI aborts before writing when that list is non-empty.
-/
namespace TsV.C08
open TsV TsV.Syn TsV.Parser TsV.RustTypes

mutual
  /-- a type expression containing something typeshare documents as unsupported: a 64-bit integer
  type or a non-empty tuple, at any depth under references, arrays, slices and the type arguments
  of the last path segment -/
  inductive Unsupported : SynType → Prop
    | int64 (quals last args) : unsupported64.contains last = true → Unsupported (.path quals last args)
    | tuple (e es) : Unsupported (.tuple (e :: es))
    | ref (e) : Unsupported e → Unsupported (.reference e)
    | array (e n) : Unsupported e → Unsupported (.array e n)
    | slice (e) : Unsupported e → Unsupported (.slice e)
    | arg (quals last args) : UnsupportedIn args → Unsupported (.path quals last args)
  inductive UnsupportedIn : List SynType → Prop
    | head (t ts) : Unsupported t → UnsupportedIn (t :: ts)
    | tail (t ts) : UnsupportedIn ts → UnsupportedIn (t :: ts)
end

/-- **the recursive type parser rejects unsupported types at any nesting depth** -/
theorem tryFrom_rejects : ∀ (t : SynType), Unsupported t → (tryFrom t).isOk = false := by
  intro t h
  induction h using Unsupported.rec (motive_2 := fun ts _ => (tryFromList ts).isOk = false) with
  | int64 quals last args h =>
    rw [tryFrom_path_eq]
    exact Outcome.bind_isOk_false_right _ _ fun ps => by rw [fromPath_unsupported64 h]; rfl
  | tuple e es => rfl
  | ref e _ ih => exact ih
  | array e n _ ih =>
    cases n with
    | none => rw [tryFrom_array_none]; rfl
    | some n => rw [tryFrom_array_some]; exact Outcome.bind_isOk_false _ _ ih
  | slice e _ ih => rw [tryFrom_slice_eq]; exact Outcome.bind_isOk_false _ _ ih
  | arg quals last args _ ih => rw [tryFrom_path_eq]; exact Outcome.bind_isOk_false _ _ ih
  | head t ts _ ih => rw [tryFromList_cons_eq]; exact Outcome.bind_isOk_false _ _ ih
  | tail t ts _ ih =>
    rw [tryFromList_cons_eq]
    exact Outcome.bind_isOk_false_right _ _ fun _ => Outcome.bind_isOk_false _ _ ih

theorem tryFromList_rejects : ∀ (ts : List SynType), UnsupportedIn ts → (tryFromList ts).isOk = false := by
  intro ts
  induction ts with
  | nil => intro h; cases h
  | cons t ts ih =>
    intro h
    rw [tryFromList_cons_eq]
    cases h with
    | head _ _ h => exact Outcome.bind_isOk_false _ _ (tryFrom_rejects t h)
    | tail _ _ h => exact Outcome.bind_isOk_false_right _ _ fun _ => Outcome.bind_isOk_false _ _ (ih h)

/-- the type a field / payload / alias / const is generated from: the `serialized_as` string if
present (as `syn` parses it), else the written type -/
def effectiveType (E : Ext) (attrs : List Attr) (ty : SynType) : Option SynType :=
  match getSerializedAsType E attrs with
  | some s => E.parseType s
  | none => some ty

/-- unsupported in the effective type — written directly or via `serialized_as` — or a
`serialized_as` string that is not a type at all -/
def BadType (E : Ext) (attrs : List Attr) (ty : SynType) : Prop :=
  match effectiveType E attrs ty with
  | some t => Unsupported t
  | none => True

theorem fieldType_rejects (E : Ext) (attrs : List Attr) (ty : SynType) (h : BadType E attrs ty) :
    (fieldType E attrs ty).isOk = false :=
  Outcome.isOk_false_iff.2 fun r hr => by
    unfold BadType effectiveType at h
    rcases fieldType_ok hr with ⟨hs, ht⟩ | ⟨s, t, hs, hp, ht⟩
    · rw [hs] at h; exact Outcome.isOk_false_iff.1 (tryFrom_rejects _ h) _ ht
    · simp only [hs, hp] at h; exact Outcome.isOk_false_iff.1 (tryFrom_rejects _ h) _ ht

theorem parseField_rejects (E : Ext) (cf : Bool) (ra : Option Str) (f : Field)
    (h : BadType E f.attrs f.ty ∨ (cf = true ∧ serdeFlatten f.attrs = true)) :
    (parseField E cf ra f).isOk = false :=
  Outcome.isOk_false_iff.2 fun rf hr => by
    have ok := parseField_ok hr
    rcases h with h | ⟨h1, h2⟩
    · exact Outcome.isOk_false_iff.1 (fieldType_rejects E f.attrs f.ty h) _ ok.ty
    · have := ok.noFlatten
      rw [h1, h2] at this
      cases this

theorem not_ok_of_mapM' {α β} (f : α → Outcome β) (l : List α) (x : α) (hx : x ∈ l)
    (h : (f x).isOk = false) : (Outcome.mapM' f l).isOk = false := by
  cases hm : Outcome.mapM' f l with
  | ok r =>
    have := Outcome.mapM'_ok_all f l r hm x hx
    rw [h] at this; simp at this
  | err e => simp [Outcome.isOk]
  | panic s => simp [Outcome.isOk]

/-- **structs**: a non-skipped field with an unsupported type (written or via `serialized_as`) or
with `serde(flatten)`, or more than one unnamed field, makes `parse_struct` fail -/
theorem parseStruct_rejects_field (E : Ext) (T : List Str) (attrs : List Attr) (ident : Str)
    (gens : List GenericParam) (fs : List Field) (hsa : getSerializedAsType E attrs = none)
    (f : Field) (hf : f ∈ fs) (hskip : isSkipped f.attrs T = false)
    (hbad : BadType E f.attrs f.ty ∨ serdeFlatten f.attrs = true) :
    (parseStruct E T attrs ident gens (.named fs)).isOk = false :=
  Outcome.isOk_false_iff.2 fun it hr => by
    cases parseStruct_ok hr with
    | serializedAs hs => cases hs.symm.trans hsa
    | named _ hm =>
      exact Outcome.isOk_false_iff.1 (not_ok_of_mapM' _ _ f (by simp [hf, hskip])
        (parseField_rejects E true _ f (hbad.imp id fun h => ⟨rfl, h⟩))) _ hm

theorem parseStruct_rejects_tuple (E : Ext) (T : List Str) (attrs : List Attr) (ident : Str)
    (gens : List GenericParam) (fs : List Field) (hsa : getSerializedAsType E attrs = none)
    (h : fs.length > 1 ∨ ∃ f rest, fs = f :: rest ∧ BadType E f.attrs f.ty) :
    (parseStruct E T attrs ident gens (.unnamed fs)).isOk = false :=
  Outcome.isOk_false_iff.2 fun it hr => by
    cases parseStruct_ok hr with
    | serializedAs hs => cases hs.symm.trans hsa
    | newtype _ hty =>
      rcases h with h | ⟨f', rest, e, hb⟩
      · exact absurd h (by simp)
      · cases e
        exact Outcome.isOk_false_iff.1 (fieldType_rejects _ _ _ hb) _ hty

/-- moving the construct under `serde(skip)` / `typeshare(skip)`: a skipped field is never looked at -/
theorem parseStruct_skipped_irrelevant (E : Ext) (T : List Str) (attrs : List Attr) (ident : Str)
    (gens : List GenericParam) (fs : List Field) :
    parseStruct E T attrs ident gens (.named fs) =
      parseStruct E T attrs ident gens (.named (fs.filter fun f => !isSkipped f.attrs T)) := by
  unfold parseStruct
  simp [List.filter_filter]

theorem parseVariant_rejects (E : Ext) (T : List Str) (ra : Option Str) (v : Variant)
    (h : (∃ fs, v.fields = .unnamed fs ∧ (fs.length > 1 ∨ ∃ f rest, fs = f :: rest ∧ BadType E f.attrs f.ty)) ∨
         (∃ fs f, v.fields = .named fs ∧ f ∈ fs ∧ isSkipped f.attrs T = false ∧
            (BadType E f.attrs f.ty ∨ serdeFlatten f.attrs = true))) :
    (parseEnumVariant E T ra v).isOk = false :=
  Outcome.isOk_false_iff.2 fun rv hr => by
    rcases h with ⟨fs, hfs, h⟩ | ⟨fs, f, hfs, hf, hskip, hbad⟩
    · cases (parseEnumVariant_ok hr).2 with
      | unit hv | named hv => cases hfs.symm.trans hv
      | tuple hv hty =>
        cases hfs.symm.trans hv
        rcases h with h | ⟨f', rest, e, hb⟩
        · exact absurd h (by simp)
        · cases e
          exact Outcome.isOk_false_iff.1 (fieldType_rejects _ _ _ hb) _ hty
    · cases (parseEnumVariant_ok hr).2 with
      | unit hv | tuple hv => cases hfs.symm.trans hv
      | named hv hm =>
        cases hfs.symm.trans hv
        exact Outcome.isOk_false_iff.1 (not_ok_of_mapM' _ _ f (by simp [hf, hskip])
          (parseField_rejects E true _ f (hbad.imp id fun h => ⟨rfl, h⟩))) _ hm

/-- **enums**: an unsupported payload, an unsupported or flattened struct-variant field, or several
payloads in a non-skipped variant make `parse_enum` fail -/
theorem parseEnum_rejects_variant (E : Ext) (T : List Str) (attrs : List Attr) (ident : Str)
    (gens : List GenericParam) (vs : List Variant) (hsa : getSerializedAsType E attrs = none)
    (v : Variant) (hv : v ∈ vs) (hskip : isSkipped v.attrs T = false)
    (h : (∃ fs, v.fields = .unnamed fs ∧ (fs.length > 1 ∨ ∃ f rest, fs = f :: rest ∧ BadType E f.attrs f.ty)) ∨
         (∃ fs f, v.fields = .named fs ∧ f ∈ fs ∧ isSkipped f.attrs T = false ∧
            (BadType E f.attrs f.ty ∨ serdeFlatten f.attrs = true))) :
    (parseEnum E T attrs ident gens vs).isOk = false :=
  Outcome.isOk_false_iff.2 fun it hr => by
    cases parseEnum_ok hr with
    | serializedAs hs => cases hs.symm.trans hsa
    | «enum» _ hm =>
      exact Outcome.isOk_false_iff.1 (not_ok_of_mapM' _ _ v (by simp [hv, hskip])
        (parseVariant_rejects E T (serdeRenameAll E attrs) v h)) _ hm

/-- **enum shape**: whenever the shape check succeeds, a unit enum carries neither `tag` nor
`content`, and a data-carrying enum carries both -/
theorem enumShape_keys (E : Ext) (attrs : List Attr) (sh e : RustEnum)
    (h : enumShape E attrs sh = .ok (.enum e)) :
    e.variants = sh.variants ∧
    (sh.variants.all variantIsUnit = true → getTagKey E attrs = none ∧ getContentKey E attrs = none ∧ e.keys = sh.keys) ∧
    (sh.variants.all variantIsUnit = false →
      ∃ t c, getTagKey E attrs = some t ∧ getContentKey E attrs = some c ∧ e.keys = some (t, c)) := by
  rcases enumShape_ok h with ⟨hall, ht, hc, he⟩ | ⟨hall, t, c, ht, hc, he⟩ <;> cases he
  · exact ⟨rfl, fun _ => ⟨ht, hc, rfl⟩, fun hf => Bool.noConfusion (hall.symm.trans hf)⟩
  · exact ⟨rfl, fun hf => Bool.noConfusion (hf.symm.trans hall), fun _ => ⟨t, c, ht, hc, rfl⟩⟩

/-- lifted to `parse_enum`: a data-carrying enum is generated only with both keys, a unit enum
only with neither -/
theorem parseEnum_keys (E : Ext) (T : List Str) (attrs : List Attr) (ident : Str)
    (gens : List GenericParam) (vs : List Variant) (hsa : getSerializedAsType E attrs = none)
    (e : RustEnum) (h : parseEnum E T attrs ident gens vs = .ok (.enum e)) :
    (e.variants.all variantIsUnit = true → getTagKey E attrs = none ∧ getContentKey E attrs = none ∧ e.keys = none) ∧
    (e.variants.all variantIsUnit = false →
      ∃ t c, getTagKey E attrs = some t ∧ getContentKey E attrs = some c ∧ e.keys = some (t, c)) := by
  cases parseEnum_ok h with
  | serializedAs hs => cases hs.symm.trans hsa
  | «enum» _ _ _ _ _ _ _ _ hk =>
    rcases hk with ⟨hall, ht, hc, hk⟩ | ⟨hall, t, c, ht, hc, hk⟩
    · exact ⟨fun _ => ⟨ht, hc, hk⟩, fun hf => Bool.noConfusion (hall.symm.trans hf)⟩
    · exact ⟨fun hf => Bool.noConfusion (hf.symm.trans hall), fun _ => ⟨t, c, ht, hc, hk⟩⟩

/-- **consts**: only an initialiser that is exactly an integer literal is accepted — negations,
arithmetic, calls and paths are rejected, not reduced to a literal found inside them -/
theorem parseConst_needs_int (E : Ext) (attrs : List Attr) (ident : Str) (ty : SynType) (init : Option Lit)
    (h : (parseConst E attrs ident ty init).isOk = true) : ∃ v suf, init = some (.int v suf) := by
  obtain ⟨it, hit⟩ := (Outcome.isOk_iff _).1 h
  obtain ⟨c, _, he, _⟩ := parseConst_ok hit
  exact ⟨_, (parseConstExpr_ok he).2⟩

/-- and the value generated is the value written -/
theorem parseConst_value (E : Ext) (attrs : List Attr) (ident : Str) (ty : SynType) (v : Nat) (suf : Str)
    (c : RustConst) (h : parseConst E attrs ident ty (some (.int v suf)) = .ok (.const c)) : c.expr = v := by
  obtain ⟨c', hc, he, _⟩ := parseConst_ok h
  cases hc
  obtain ⟨_, suf', hi⟩ := parseConstExpr_ok he
  cases hi
  rfl

/-- **aliases and consts** with an unsupported (effective) type are rejected -/
theorem parseTypeAlias_rejects (E : Ext) (attrs : List Attr) (ident : Str) (gens : List GenericParam)
    (ty : SynType) (h : BadType E attrs ty) : (parseTypeAlias E attrs ident gens ty).isOk = false :=
  Outcome.isOk_false_iff.2 fun _ hr =>
    let ⟨t, ht, _⟩ := parseTypeAlias_ok hr
    Outcome.isOk_false_iff.1 (fieldType_rejects E attrs ty h) t ht

theorem parseConst_rejects (E : Ext) (attrs : List Attr) (ident : Str) (ty : SynType) (init : Option Lit)
    (h : BadType E attrs ty) : (parseConst E attrs ident ty init).isOk = false :=
  Outcome.isOk_false_iff.2 fun _ hr =>
    let ⟨c, _, _, ht, _⟩ := parseConst_ok hr
    Outcome.isOk_false_iff.1 (fieldType_rejects E attrs ty h) c.ty ht

/-- **an item that is not `ok` is never silently dropped**: the visitor records exactly one error
for it (or the whole parse panics, see C07) and never adds it to the item lists -/
theorem collectResult_keeps_error (d : ParsedData) (path : Str) (e : ErrKind) :
    Visitor.collectResult d path (.err e) = .ok { d with errors := d.errors ++ [(e, path)] } := rfl

/-! ### the two former exceptions (repaired by `fix:` commits) as kernel-checked regressions -/

def exE : Ext := { U := .ascii, parseType := fun _ => none }

/-- `const X: i32 = -5;` (initialiser is not a literal) is rejected -/
theorem const_negative_rejected :
    (parseConst exE [] s%"X" (.path [] s%"i32" []) none).errKind? = some .rustConstExprInvalid := by decide +kernel

/-- `serde(flatten)` on a struct-variant field is rejected -/
theorem flatten_on_variant_field_rejected :
    (parseEnumVariant exE [] none
      ⟨[], s%"V", .named [⟨[⟨.list [s%"serde"] true [.path [s%"flatten"]]⟩], some s%"f", .path [] s%"u8" []⟩]⟩).isOk = false := by
  decide +kernel

example : Unsupported (.path [] s%"Vec" [.path [] s%"Option" [.reference (.path [s%"std"] s%"u64" [])]]) :=
  .arg _ _ _ (.head _ _ (.arg _ _ _ (.head _ _ (.ref _ (.int64 _ _ _ (by decide))))))
example : (tryFrom (.path [] s%"Vec" [.path [] s%"Option" [.reference (.path [s%"std"] s%"u64" [])]])).isErr =
    true := by decide +kernel

end TsV.C08
