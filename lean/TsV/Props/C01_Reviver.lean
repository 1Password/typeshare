import TsV.Lemmas.C01_Reviver_Tie
import TsV.Lemmas.C12_TypeScript
import TsV.Lemmas.RunEval
/-!
# C01, second binding — the keys of TypeScript's `ReviverFunc`

TypeScript binds JSON keys a second time: `end_file` writes a `ReviverFunc` whose `Date` clause
lists `key === "k"` for the keys recorded in `types_for_custom_json_translation` (model:
`CustomMap`; `Lang.TypeScript.reviverDate (keysOf st "Date")` is the clause, `reviver_clause`).

* `C01_Reviver` (**soundness**, full strength): every key recorded for a custom-translated type at
  the end of a file was recorded when the file began (the same `TypeScript` value is reused for the
  crates of a run) or is the wire name `id.renamed` of a field of this file whose property line —
  printed in the file, carrying that key (`tf.name = propertyName k`, so `boundKey tf = k` on the key
  alphabet, cf. `C01.C01_typescript`) — has exactly that printed type.
* `C01_Reviver_listed_iff` (**exact content**): a key is listed iff some field added it and no
  *reset* of that type happened afterwards (or it was there before the file and no reset happened at
  all).  Resets are computed by `resetsOf`: a special Rust type whose display the configuration maps
  to a custom-translated type re-inserts an empty set in `format_special_type`.
* `C01_Reviver_complete`: without resets (decidable on the steps of the file; in particular when no
  mapping targets `Date` / `Uint8Array`, `NoCustomTarget`) every field printed with a
  custom-translated type is listed.  `C01_Reviver_not_complete`: with `"Vec<u8>" ↦ "Date"` the list
  loses the `Date` field printed before the mapped one.
* run level: `C01_Reviver_run` — in a multi-file run the keys listed in the module of a crate come
  from the fields of that module *or of a module generated before it*;
  `C01_Reviver_not_file_local` — they need not come from the module itself.
-/
namespace TsV.C01_Reviver
open TsV TsV.Lang TsV.Lang.TypeScript TsV.C01R TsV.C01

/-! ## trusted reading of the reviver -/

/-- the keys the `Date` clause of the reviver names (`key === "k"`) -/
def reviverKeys (st : CustomMap) : List Str := keysOf st s%"Date"

/-- which values the `Date` clause `reviverDate ids` converts: with an empty list there is no
`&& (key === …)` condition at all, every date-shaped string is converted -/
def Revives (ids : List Str) (k : Str) : Prop := ids = [] ∨ k ∈ ids

instance (ids : List Str) (k : Str) : Decidable (Revives ids k) := by unfold Revives; infer_instance

/-- the `Date` clause of the footer is `reviverDate` of the recorded keys (and the footer is
written), whenever `Date` has an entry -/
theorem reviver_clause (st : CustomMap) (h : s%"Date" ∈ C12L.TypeScript.keys st) :
    (reviverDate (reviverKeys st), replacerDate) ∈ C12L.TypeScript.clauses st ∧
    ∃ pre, endFile st = pre ++
      s%"export const ReviverFunc = (key: string, value: unknown): unknown => {\n    " ++
      Str.intercalate s%"\n    " ((C12L.TypeScript.clauses st).map (·.1)) ++
      s%"\n    return value;\n};\n\nexport const ReplacerFunc = (key: string, value: unknown): unknown => {\n    " ++
      Str.intercalate s%"\n    " ((C12L.TypeScript.clauses st).map (·.2)) ++ s%"\n    return value;\n};\n" :=
  C12L.TypeScript.endFile_provides st s%"Date" h (by decide)

/-! ## the steps of a file -/

/-- `steps` is the printer's walk over the file generated for `d` from state `st0`, ending in `st` -/
def FileSteps (cfg : Cfg) (d : ParsedData) (st0 : CustomMap) (steps : List Step) (st : CustomMap) : Prop :=
  ∃ items, Pipeline.generateOrder d = some items ∧ itemsSteps cfg items st0 = .ok (steps, st)

/-- a successful `generate` has its steps: same final state, every property line printed, every
field step made by `fieldFacts` (so it carries the field's wire name), the state is the trace of the
steps' events, and the footer written for that state ends the text -/
theorem generate_steps (U : UnicodeOps) (cfg : Cfg) (d : ParsedData) (imports : Option Pipeline.ScopedCrateTypes)
    (st0 : CustomMap) (text : Str) (st : CustomMap) (h : generate U cfg d imports st0 = .ok (text, st)) :
    ∃ steps, FileSteps cfg d st0 steps st ∧ Printed steps text ∧ (∀ s ∈ steps, StepOk cfg s) ∧
      st = run st0 (eventsOf cfg steps) ∧ ∃ pre, text = pre ++ endFile st := by
  obtain ⟨items, body, ho, hb, rfl⟩ := generate_ok h
  obtain ⟨steps, hs, hp⟩ := writeItems_steps U cfg items st0 st body hb
  exact ⟨steps, ⟨items, ho, hs⟩, fun f tf hm => C12L.infix_mid _ _ (hp f tf hm),
    itemsSteps_stepOk cfg items st0 st steps hs, itemsSteps_state cfg items st0 st steps hs, ⟨_, rfl⟩⟩

/-- the steps are a function of the input -/
theorem fileSteps_unique {cfg : Cfg} {d : ParsedData} {st0 : CustomMap} {s1 s2 : List Step} {a b : CustomMap}
    (h1 : FileSteps cfg d st0 s1 a) (h2 : FileSteps cfg d st0 s2 b) : s1 = s2 ∧ a = b := by
  obtain ⟨i1, ho1, hs1⟩ := h1
  obtain ⟨i2, ho2, hs2⟩ := h2
  rw [ho1] at ho2
  cases ho2
  rw [hs1] at hs2
  simp only [Outcome.ok.injEq, Prod.mk.injEq] at hs2
  exact hs2

/-! ## soundness -/

/-- "`k` is the key of a field of the file whose printed type is `t`": a field step with that wire
name and printed type, whose property line is in the text and carries the key -/
def DeclaredIn (steps : List Step) (text : Str) (t k : Str) : Prop :=
  ∃ f tf, Step.field f tf ∈ steps ∧ tf.ty = t ∧ f.id.renamed = k ∧ tf.name = propertyName k ∧
    renderField tf <:+: text

/-- **C01_Reviver at full strength**: for every configuration, input, import list and initial
printer state, every key recorded for a translated type `t` (for `t = "Date"`: every key the reviver
lists) was recorded before the file or is declared in the file by a property of printed type `t` -/
def C01_Reviver_full : Prop :=
  ∀ (U : UnicodeOps) (cfg : Cfg) (d : ParsedData) (imports : Option Pipeline.ScopedCrateTypes)
    (st0 : CustomMap) (text : Str) (st : CustomMap),
    generate U cfg d imports st0 = .ok (text, st) →
    ∃ steps, FileSteps cfg d st0 steps st ∧
      ∀ t k, k ∈ keysOf st t → k ∈ keysOf st0 t ∨ DeclaredIn steps text t k

theorem C01_Reviver : C01_Reviver_full := by
  intro U cfg d imports st0 text st h
  obtain ⟨steps, hfs, hp, hok, hst, _⟩ := generate_steps U cfg d imports st0 text st h
  refine ⟨steps, hfs, ?_⟩
  intro t k hk
  rw [hst] at hk
  rcases mem_run_sound t k _ _ hk with hk | hk
  · exact Or.inl hk
  · obtain ⟨f, tf, hm, hty, hren, _⟩ := add_mem_eventsOf hk
    refine Or.inr ⟨f, tf, hm, hty, hren, ?_, hp f tf hm⟩
    rw [← hren]
    exact (hok _ hm).1

/-- single-file mode / the first module of a run (`st0 = []`): every key the reviver lists is
declared in this file by a `Date` property -/
theorem C01_Reviver_first (U : UnicodeOps) (cfg : Cfg) (d : ParsedData) (imports : Option Pipeline.ScopedCrateTypes)
    (text : Str) (st : CustomMap) (h : generate U cfg d imports [] = .ok (text, st)) :
    ∃ steps, FileSteps cfg d [] steps st ∧ ∀ k ∈ reviverKeys st, DeclaredIn steps text s%"Date" k := by
  obtain ⟨steps, hfs, hs⟩ := C01_Reviver U cfg d imports [] text st h
  refine ⟨steps, hfs, fun k hk => ?_⟩
  rcases hs _ k hk with h0 | h0
  · simp [keysOf, cmGet] at h0
  · exact h0

/-- on the key alphabet the declaring property binds exactly the listed key (C01's binding semantics) -/
theorem declared_binds {steps : List Step} {text t k : Str} (h : DeclaredIn steps text t k) (hk : KeyStr k) :
    ∃ f tf, Step.field f tf ∈ steps ∧ tf.ty = t ∧ TypeScript.boundKey tf = k ∧ f.id.renamed = k ∧
      renderField tf <:+: text := by
  obtain ⟨f, tf, hm, hty, hren, hname, hinf⟩ := h
  exact ⟨f, tf, hm, hty, TypeScript.boundKey_of_name tf k hname hk, hren, hinf⟩

/-! ## exact content, completeness -/

/-- **exact content of the list**: with `evs` the events of the file's steps, `k` is recorded for `t`
at the end iff it was recorded before and `t` was never reset, or a field added it and `t` was not
reset afterwards -/
theorem C01_Reviver_listed_iff (U : UnicodeOps) (cfg : Cfg) (d : ParsedData) (imports : Option Pipeline.ScopedCrateTypes)
    (st0 : CustomMap) (text : Str) (st : CustomMap) (h : generate U cfg d imports st0 = .ok (text, st)) :
    ∃ steps, FileSteps cfg d st0 steps st ∧ ∀ t k,
      (k ∈ keysOf st t ↔
        (k ∈ keysOf st0 t ∧ Ev.reset t ∉ eventsOf cfg steps) ∨
        ∃ pre post, eventsOf cfg steps = pre ++ Ev.add t k :: post ∧ Ev.reset t ∉ post) := by
  obtain ⟨steps, hfs, _, _, hst, _⟩ := generate_steps U cfg d imports st0 text st h
  refine ⟨steps, hfs, fun t k => ?_⟩
  rw [hst]
  exact mem_run_iff t k _ _

/-- where the events come from: an `add` is a field printed with a custom-translated type, under its
wire name; a `reset` is a special Rust type (of a field without a type override, of a tuple payload,
an alias target or a const) that the configuration maps to the custom-translated type -/
theorem events_origin (cfg : Cfg) (steps : List Step) :
    (∀ t k, Ev.add t k ∈ eventsOf cfg steps ↔
      ∃ f tf, Step.field f tf ∈ steps ∧ tf.ty = t ∧ f.id.renamed = k ∧ hasCustom t = true) ∧
    (∀ t, Ev.reset t ∈ eventsOf cfg steps →
      ∃ r, (Step.ty r ∈ steps ∨ ∃ f tf, Step.field f tf ∈ steps ∧ f.ty = r ∧ typeOverride f .typescript = none) ∧
        t ∈ resetsOf cfg r) := by
  refine ⟨fun t k => ⟨add_mem_eventsOf, ?_⟩, fun t => reset_mem_eventsOf⟩
  rintro ⟨f, tf, hm, rfl, rfl, hc⟩
  exact add_of_field hm hc

/-- a reset of the top-level type itself needs a type mapping from the display of a special type to
a custom-translated type -/
theorem reset_needs_mapping {cfg : Cfg} {t : RustType} {inner : List Str} {m : Str} (h : m ∈ spResets cfg t inner) :
    (mapGet cfg.typeMappings t.display = some m ∧ hasCustom m = true) ∨ m ∈ inner := by
  unfold spResets at h
  split at h
  · rename_i m' hm
    split at h
    · simp only [List.mem_singleton] at h; subst h; exact Or.inl ⟨hm, by assumption⟩
    · simp at h
  · exact Or.inr h

/-- "no type of the file is reset": decidable on the steps -/
def NoResets (cfg : Cfg) (steps : List Step) : Prop :=
  ∀ e ∈ eventsOf cfg steps, (match e with | .reset _ => false | .add _ _ => true) = true

instance (cfg : Cfg) (steps : List Step) : Decidable (NoResets cfg steps) := by unfold NoResets; infer_instance

theorem NoResets.not_mem {cfg : Cfg} {steps : List Step} (h : NoResets cfg steps) (t : Str) :
    Ev.reset t ∉ eventsOf cfg steps := fun hm => by simpa using h _ hm

/-- **completeness without resets**: every field of the file printed with a custom-translated type
has its wire name recorded (for `Date`: listed by the reviver), and what was recorded before stays -/
theorem C01_Reviver_complete (U : UnicodeOps) (cfg : Cfg) (d : ParsedData) (imports : Option Pipeline.ScopedCrateTypes)
    (st0 : CustomMap) (text : Str) (st : CustomMap) (h : generate U cfg d imports st0 = .ok (text, st)) :
    ∃ steps, FileSteps cfg d st0 steps st ∧ (NoResets cfg steps →
      (∀ f tf, Step.field f tf ∈ steps → hasCustom tf.ty = true → f.id.renamed ∈ keysOf st tf.ty) ∧
      ∀ t k, k ∈ keysOf st0 t → k ∈ keysOf st t) := by
  obtain ⟨steps, hfs, _, _, hst, _⟩ := generate_steps U cfg d imports st0 text st h
  refine ⟨steps, hfs, fun hn => ⟨?_, ?_⟩⟩
  · intro f tf hm hc
    rw [hst]
    exact mem_run_complete _ _ _ _ (hn.not_mem _) (Or.inr (add_of_field hm hc))
  · intro t k hk
    rw [hst]
    exact mem_run_complete _ _ _ _ (hn.not_mem _) (Or.inl hk)

/-- a configuration-level sufficient condition: no type mapping targets `Date` / `Uint8Array` -/
theorem noResets_of_cfg {cfg : Cfg} (H : NoCustomTarget cfg) (steps : List Step) : NoResets cfg steps := by
  intro e he
  cases e with
  | reset t => exact absurd he (eventsOf_noReset H steps t)
  | add t k => rfl

/-! ## the run -/

/-- the modules of a run: per crate the text, the steps and the state the module ends in -/
inductive RunSteps (U : UnicodeOps) (cfg : Cfg) :
    List (Str × ParsedData × Option Pipeline.ScopedCrateTypes) → CustomMap →
    List (Str × Str × List Step × CustomMap) → Prop
  | nil (st : CustomMap) : RunSteps U cfg [] st []
  | cons {c d imps rest st text steps st1 r} :
      generate U cfg d imps st = .ok (text, st1) → FileSteps cfg d st steps st1 →
      RunSteps U cfg rest st1 r → RunSteps U cfg ((c, d, imps) :: rest) st ((c, text, steps, st1) :: r)

theorem generateFrom_runSteps (U : UnicodeOps) (cfg : Cfg) :
    ∀ (jobs : List (Str × ParsedData × Option Pipeline.ScopedCrateTypes)) (st : CustomMap) (outs : List (Str × Str)),
      generateFrom U cfg jobs st = .ok outs →
      ∃ r, RunSteps U cfg jobs st r ∧ outs = r.map fun x => (x.1, x.2.1) := by
  intro jobs
  induction jobs with
  | nil =>
    intro st outs h
    simp only [generateFrom, Outcome.ok.injEq] at h
    subst h
    exact ⟨[], .nil st, rfl⟩
  | cons job rest ih =>
    obtain ⟨c, d, imps⟩ := job
    intro st outs h
    simp only [generateFrom] at h
    obtain ⟨text, st1, h1, h⟩ := Outcome.of_bind_pair_ok h
    obtain ⟨os, h2, h⟩ := Outcome.of_bind_ok h
    simp only [Outcome.ok.injEq] at h
    subst h
    obtain ⟨steps, hfs, _⟩ := generate_steps U cfg d imps st text st1 h1
    obtain ⟨r, hr, rfl⟩ := ih st1 os h2
    exact ⟨(c, text, steps, st1) :: r, .cons h1 hfs hr, rfl⟩

/-- **the run**: the keys recorded at the end of a module were recorded before the run or are
declared — by a property of that printed type — in this module or in a module generated before it -/
theorem C01_Reviver_run (U : UnicodeOps) (cfg : Cfg)
    {jobs : List (Str × ParsedData × Option Pipeline.ScopedCrateTypes)} {st0 : CustomMap}
    {r : List (Str × Str × List Step × CustomMap)} (h : RunSteps U cfg jobs st0 r) :
    ∀ pre x post, r = pre ++ x :: post → ∀ t k, k ∈ keysOf x.2.2.2 t →
      k ∈ keysOf st0 t ∨ ∃ y ∈ pre ++ [x], DeclaredIn y.2.2.1 y.2.1 t k := by
  induction h with
  | nil st => intro pre x post he; simp at he
  | @cons c d imps rest st text steps st1 r hg hfs _ ih =>
    intro pre x post he t k hk
    obtain ⟨steps', hfs', hs⟩ := C01_Reviver U cfg d imps st text st1 hg
    obtain ⟨rfl, _⟩ := fileSteps_unique hfs hfs'
    cases pre with
    | nil =>
      simp only [List.nil_append, List.cons.injEq] at he
      obtain ⟨rfl, _⟩ := he
      rcases hs t k hk with h0 | h0
      · exact Or.inl h0
      · exact Or.inr ⟨(c, text, steps, st1), by simp, h0⟩
    | cons y pre' =>
      simp only [List.cons_append, List.cons.injEq] at he
      obtain ⟨rfl, he⟩ := he
      rcases ih pre' x post he t k hk with h1 | ⟨z, hz, hd⟩
      · rcases hs t k h1 with h0 | h0
        · exact Or.inl h0
        · exact Or.inr ⟨(c, text, steps, st1), by simp, h0⟩
      · exact Or.inr ⟨z, by simp only [List.cons_append, List.mem_cons]; exact Or.inr hz, hd⟩

/-- the whole run as `generateAll` performs it (initial state empty) -/
theorem C01_Reviver_generateAll (E : Ext) (cfg : Cfg) (mf : Bool)
    (jobs : List (Str × ParsedData × Option Pipeline.ScopedCrateTypes)) (outs : List (Str × Str))
    (h : generateAll E cfg mf jobs = .ok outs) :
    ∃ r, RunSteps E.U cfg jobs [] r ∧ outs = (r.map fun x => (x.1, x.2.1)) ∧
      ∀ pre x post, r = pre ++ x :: post → ∀ k ∈ reviverKeys x.2.2.2,
        ∃ y ∈ pre ++ [x], DeclaredIn y.2.2.1 y.2.1 s%"Date" k := by
  obtain ⟨r, hr, ho⟩ := generateFrom_runSteps E.U cfg jobs [] outs h
  refine ⟨r, hr, ho, ?_⟩
  intro pre x post he k hk
  rcases C01_Reviver_run E.U cfg hr pre x post he _ k hk with h0 | h0
  · simp [keysOf, cmGet] at h0
  · exact h0

/-! ## non-vacuity and the negative results, kernel-checked

The kernel evaluates `generate` in the form `RunEval.TypeScript.generateE`.  The statements below also name the
order itself, and items have no decidable equality: the example files hold one item, for which
`C12L.topsort_single` gives it. -/

def mkField (name : Str) (ty : RustType) : RustField :=
  { id := ⟨name, name, false⟩, ty, comments := [], hasDefault := false, decorators := [] }

def mkStruct (name : Str) (fields : List RustField) : RustStruct :=
  { id := ⟨name, name, false⟩, genericTypes := [], fields, comments := [], decorators := {}, isRedacted := false }

def stOf (o : Outcome (Str × CustomMap)) : Option CustomMap :=
  match o with
  | .ok (_, st) => some st
  | _ => none

/-- a file with one item: the order, and the state `generate` ends in -/
theorem generate_single (cfg : Cfg) (d : ParsedData) (it : RustItem) (imports : Option Pipeline.ScopedCrateTypes)
    (st0 st : CustomMap) (hi : C12L.itemsOf d = [it]) (hg : Deps.graph [it] = some [[]])
    (hst : stOf (RunEval.TypeScript.generateE .ascii cfg d imports st0) = some st) :
    ∃ text, Pipeline.generateOrder d = some [it] ∧ generate .ascii cfg d imports st0 = .ok (text, st) := by
  have ho : Pipeline.generateOrder d = some [it] := by
    have : Pipeline.generateOrder d = Deps.topsort (C12L.itemsOf d) := rfl
    rw [this, hi]
    exact C12L.topsort_single it hg
  rw [RunEval.TypeScript.generate_eq]
  cases hw : RunEval.TypeScript.generateE .ascii cfg d imports st0 with
  | ok p =>
    rw [hw] at hst
    cases hst
    exact ⟨p.1, ho, rfl⟩
  | err e => rw [hw] at hst; cases hst
  | panic e => rw [hw] at hst; cases hst

/-- what a step list declares: (wire name, printed type) per property line -/
def declared (steps : List Step) : List (Str × Str) :=
  steps.filterMap fun s => match s with
    | .field f tf => some (f.id.renamed, tf.ty)
    | .ty _ => none

theorem mem_declared {steps : List Step} {k t : Str} (h : (k, t) ∈ declared steps) :
    ∃ f tf, Step.field f tf ∈ steps ∧ f.id.renamed = k ∧ tf.ty = t := by
  obtain ⟨s, hs, he⟩ := List.mem_filterMap.1 h
  cases s with
  | ty r => simp at he
  | field f tf =>
    simp only [Option.some.injEq, Prod.mk.injEq] at he
    exact ⟨f, tf, hs, he.1, he.2⟩

theorem declared_mem {steps : List Step} {f : RustField} {tf : TsField} (h : Step.field f tf ∈ steps) :
    (f.id.renamed, tf.ty) ∈ declared steps :=
  List.mem_filterMap.2 ⟨_, h, rfl⟩

def stepsOf (cfg : Cfg) (items : List RustItem) (st0 : CustomMap) : Option (List (Str × Str)) :=
  match itemsSteps cfg items st0 with
  | .ok (steps, _) => some (declared steps)
  | _ => none

theorem stepsOf_eq {cfg : Cfg} {items : List RustItem} {st0 st : CustomMap} {steps : List Step} {l : List (Str × Str)}
    (hs : itemsSteps cfg items st0 = .ok (steps, st)) (h : stepsOf cfg items st0 = some l) : declared steps = l := by
  simp only [stepsOf, hs, Option.some.injEq] at h
  exact h

/-- `struct Ev { created_at: OffsetDateTime, #[serde(rename = "due-by")] due: Option<OffsetDateTime>, n: u8 }` -/
def exStruct : RustStruct :=
  mkStruct s%"Ev" [mkField s%"created_at" (.prim .dateTime),
    { mkField s%"due" (.option (.prim .dateTime)) with id := ⟨s%"due", s%"due-by", true⟩ },
    mkField s%"n" (.prim .u8)]
def exData : ParsedData := { structs := [exStruct] }

/-- the hypothesis of `C01_Reviver` is met; the reviver lists both keys, the dashed one as serde spells
it, each declared by a `Date` property; nothing is reset -/
theorem ex_generate : ∃ text st, generate .ascii {} exData none [] = .ok (text, st) ∧
    reviverKeys st = [s%"created_at", s%"due-by"] := by
  obtain ⟨text, _, hg⟩ := generate_single {} exData (.struct exStruct) none []
    [(s%"Date", [s%"created_at", s%"due-by"])] rfl (by decide +kernel) (by decide +kernel)
  exact ⟨text, _, hg, by decide⟩

example : stepsOf {} [.struct exStruct] [] =
    some [(s%"created_at", s%"Date"), (s%"due-by", s%"Date"), (s%"n", s%"number")] := by decide +kernel
example : NoCustomTarget ({} : Cfg) := by decide +kernel
example : Revives [s%"created_at", s%"due-by"] s%"due-by" ∧ ¬ Revives [s%"created_at", s%"due-by"] s%"n" := by
  decide +kernel
example : KeyStr s%"due-by" := by decide +kernel

/-- the configuration `"Vec<u8>" ↦ "Date"` (a special type mapped to a custom-translated type) -/
def cfgVec : Cfg := { typeMappings := [(s%"Vec<u8>", s%"Date")] }

/-- `struct Ev { created_at: OffsetDateTime, blob: Vec<u8> }` -/
def lossyStruct : RustStruct :=
  mkStruct s%"Ev" [mkField s%"created_at" (.prim .dateTime), mkField s%"blob" (.vec (.prim .u8))]
def lossy : ParsedData := { structs := [lossyStruct] }

example : resetsOf cfgVec (.vec (.prim .u8)) = [s%"Date"] := by decide +kernel
example : ¬ NoCustomTarget cfgVec := by decide +kernel

/-- completeness at full strength: every field printed with a custom-translated type is recorded -/
def C01_Reviver_complete_full : Prop :=
  ∀ (U : UnicodeOps) (cfg : Cfg) (d : ParsedData) (imports : Option Pipeline.ScopedCrateTypes)
    (st0 : CustomMap) (text : Str) (st : CustomMap),
    generate U cfg d imports st0 = .ok (text, st) →
    ∀ steps, FileSteps cfg d st0 steps st →
      ∀ f tf, Step.field f tf ∈ steps → hasCustom tf.ty = true → f.id.renamed ∈ keysOf st tf.ty

/-- **the list can be incomplete**: with `"Vec<u8>" ↦ "Date"` and
`struct Ev { created_at: OffsetDateTime, blob: Vec<u8> }` both properties are printed as `Date`, only
`blob` is listed: `created_at` is never revived (`¬ Revives ["blob"] "created_at"`) -/
theorem C01_Reviver_not_complete : ¬ C01_Reviver_complete_full := by
  intro H
  obtain ⟨text, ho, hg⟩ := generate_single cfgVec lossy (.struct lossyStruct) none [] [(s%"Date", [s%"blob"])] rfl
    (by decide +kernel) (by decide +kernel)
  obtain ⟨steps, hfs, _⟩ := generate_steps .ascii cfgVec lossy none [] _ _ hg
  obtain ⟨items, ho', hs⟩ := hfs
  rw [ho] at ho'
  cases ho'
  have hd := stepsOf_eq hs (l := [(s%"created_at", s%"Date"), (s%"blob", s%"Date")]) (by decide +kernel)
  obtain ⟨f, tf, hm, hren, hty⟩ := mem_declared (steps := steps) (k := s%"created_at") (t := s%"Date")
    (by rw [hd]; simp)
  have := H .ascii cfgVec lossy none [] _ _ hg steps ⟨_, ho, hs⟩ f tf hm (by rw [hty]; decide)
  rw [hty, hren] at this
  revert this
  decide

example : ¬ Revives [s%"blob"] s%"created_at" := by decide +kernel

/-- two crates: `a` has a `Date` field, `b` has no field that prints `Date` -/
def structA : RustStruct := mkStruct s%"A" [mkField s%"when" (.prim .dateTime)]
def structB : RustStruct := mkStruct s%"B" [mkField s%"n" (.prim .u8)]
def crateA : ParsedData := { structs := [structA], crateName := s%"a" }
def crateB : ParsedData := { structs := [structB], crateName := s%"b" }

/-- **the list is not local to the module**: in the run over the crates `a`, `b` the module of crate
`b` ends with a `ReviverFunc` whose `Date` clause lists `when`, the key of a `Date` field of crate `a`;
`b` itself declares no `Date` property -/
theorem C01_Reviver_not_file_local : ∃ text1 text2 st2 steps2,
    generateFrom .ascii {} [(s%"a", crateA, some []), (s%"b", crateB, some [])] [] =
      .ok [(s%"a", text1), (s%"b", text2)] ∧
    (∃ st1, FileSteps {} crateB st1 steps2 st2) ∧
    reviverKeys st2 = [s%"when"] ∧
    (∃ pre, text2 = pre ++ endFile st2) ∧
    (reviverDate [s%"when"], replacerDate) ∈ C12L.TypeScript.clauses st2 ∧
    ∀ f tf, Step.field f tf ∈ steps2 → tf.ty ≠ s%"Date" := by
  obtain ⟨text1, _, hgA⟩ := generate_single {} crateA (.struct structA) (some []) [] [(s%"Date", [s%"when"])] rfl
    (by decide +kernel) (by decide +kernel)
  obtain ⟨text2, hoB, hgB⟩ := generate_single {} crateB (.struct structB) (some []) [(s%"Date", [s%"when"])]
    [(s%"Date", [s%"when"])] rfl (by decide +kernel) (by decide +kernel)
  obtain ⟨steps, hfs, _, _, _, hend⟩ := generate_steps .ascii {} crateB (some []) _ _ _ hgB
  refine ⟨text1, text2, _, steps, ?_, ⟨_, hfs⟩, by decide, hend, by decide +kernel, ?_⟩
  · simp only [generateFrom, hgA, hgB, Outcome.bind]
  · obtain ⟨items, ho', hs⟩ := hfs
    rw [hoB] at ho'
    cases ho'
    have hd := stepsOf_eq hs (l := [(s%"n", s%"number")]) (by decide +kernel)
    intro f tf hm hty
    have := declared_mem hm
    rw [hd, hty] at this
    simp only [List.mem_singleton, Prod.mk.injEq] at this
    exact absurd this.2 (by decide)

end TsV.C01_Reviver
