import TsV.Lemmas.C10_Kotlin
import TsV.Lemmas.C10_TypeScript
import TsV.Lemmas.C10_Scala
import TsV.Lemmas.C10_Swift
import TsV.Lemmas.C10_Go
import TsV.Lemmas.C10_Keywords
import TsV.Lemmas.C10_Spec
import TsV.Lemmas.C10_PyDoc
import TsV.Model.Generate
/-!
# C10 — generated files are syntactically well-formed in their target language  (PARTIAL)

What is a theorem here, and what is only checked (tools/c10.py):

* **proved** (this file, on the model that is compared byte for byte with the real generators):
  - *lexical well-formedness*: for TypeScript, Kotlin, Swift and Scala (and Go structs, aliases,
    constants), every declaration the model renders for a
    struct, a unit enum, an algebraic enum, a type alias (and a constant, TypeScript) is
    `wellBracketed`: every comment, string literal, `( [ { <` opened in it is closed in it, in the
    right order — under explicit scope hypotheses (`ItemScope`, `CfgOk`); for Kotlin also the whole
    file (header, package line, imports, declarations).  `format!("{:?}")` output is a closed
    string literal for *every* string (`debugStr_closed`).
  - *declared names are identifiers* (Kotlin, through the binding semantics `declName`), and the
    converse for the dashed-name class.
  - *keyword escaping where the back end promises it*: `swift_keyword_aware_rename` and the printed
    Swift member name are never a bare keyword; `python_property_aware_rename` never returns a
    Python keyword.
  - *Python docstrings have no malformed escapes*: every written doc line contains backslashes only as
    `\\` and `\"` (`python_docstring_escapes_repaired`; the finding `python-docstring-escape` is repaired).
  - *leading digits*: Kotlin / Scala / Swift algebraic variant names never start with a digit.
  - the property at full strength is **false** (`C10_not_full`), with kernel-checked witnesses on
    the model for every known class.
* **only checked**: that each declaration matches the target's *declaration grammar* — by
  recursive-descent recognisers (CPython's parser for Python) on the implementation's output, for
  all six languages.
* In this file Go enums are covered only from their fact records and only without
  `uppercase_acronyms`, and Python not at all; `TsV.Props.C10_Files` covers Go enums from the parsed
  enum, Go with acronyms, Python, and the whole files of a run for all six languages.
-/
namespace TsV.C10
open TsV TsV.Lang TsV.C10Lex TsV.Generate TsV.C10Spec

/-! ## the specification -/

def langOf : LangCfg → TsV.Lang
  | .typescript _ => .typescript | .kotlin _ => .kotlin | .swift _ => .swift
  | .scala _ => .scala | .go _ => .go | .python _ => .python

/-- all output files of one run -/
def generateAll (E : Ext) (multi : Bool) (jobs : List (Str × ParsedData × Option Pipeline.ScopedCrateTypes)) :
    LangCfg → Outcome (List (Str × Str))
  | .typescript cfg => TypeScript.generateAll E cfg multi jobs
  | .kotlin cfg => Kotlin.generateAll E cfg multi jobs
  | .swift cfg => Swift.generateAll E cfg multi jobs
  | .scala cfg => Scala.generateAll E cfg multi jobs
  | .go cfg => Go.generateAll E cfg multi jobs
  | .python cfg => Python.generateAll E cfg multi jobs

/-- **The property at full strength, lexical layer**: whatever the parsed program, the settings and
the language, every file that is written is lexically closed.  (The declaration grammar itself is
not formalised in Lean; see the header.) -/
def C10_full : Prop :=
  ∀ (E : Ext) (lang : LangCfg) (multi : Bool)
    (jobs : List (Str × ParsedData × Option Pipeline.ScopedCrateTypes)) (outs : List (Str × Str)),
    generateAll E multi jobs lang = .ok outs → ∀ o ∈ outs, lexOk (langOf lang) o.2 = true

/-! ## it does not hold: the `serde(rename)` of an item is printed raw, whatever it contains

None of the open classes below breaks the *lexical* layer on its own — they break the declaration
grammar — but the mechanism of `dashed-type-name` does: the new name of an item is copied into the
declaration unchecked, so a name with a dash *and a bracket* leaves the file unclosed. -/

def witnessStruct : RustStruct :=
  { id := ⟨s%"S", s%"S", false⟩, genericTypes := [], fields := [], comments := [], decorators := {}, isRedacted := false }

def asciiExt : Ext := { U := UnicodeOps.ascii, parseType := fun _ => none }

/-- `#[typeshare] #[serde(rename = "New-Name{")] struct Foo;` -/
def bracedStruct : RustStruct := { witnessStruct with id := ⟨s%"Foo", s%"New-Name{", true⟩ }

/-- `typeshare --lang scala --scala-package com.example` on it writes `class New-Name{ extends Serializable` -/
theorem renamed_name_printed_raw :
    Scala.generate { package := s%"com.example" } { structs := [bracedStruct] } =
      .ok s%"package com\n\npackage example {\n\nclass New-Name{ extends Serializable\n\n}\n" := by decide +kernel

theorem C10_not_full : ¬ C10_full := by
  intro h
  have := h asciiExt (.scala { package := s%"com.example" }) false [(s%"", { structs := [bracedStruct] }, none)]
    [(s%"", s%"package com\n\npackage example {\n\nclass New-Name{ extends Serializable\n\n}\n")] (by decide +kernel)
    (s%"", s%"package com\n\npackage example {\n\nclass New-Name{ extends Serializable\n\n}\n")
    (List.Mem.head _)
  revert this
  decide +kernel

/-- the repaired finding **scala-package-without-dot**: `typeshare --lang scala --scala-package pkg`
on `#[typeshare] struct S;` opens the package block it closes (before the `fix:` commit 653aee1 the
whole output was `class S extends Serializable\n\n}\n`, with an unmatched `}`) -/
theorem scala_package_without_dot_repaired :
    Scala.generate { package := s%"pkg" } { structs := [witnessStruct] } =
      .ok s%"package pkg {\n\nclass S extends Serializable\n\n}\n" ∧
    lexOk .scala s%"package pkg {\n\nclass S extends Serializable\n\n}\n" = true := by decide +kernel

/-! ## known classes (decidable), each with a kernel-checked witness on the model -/

def hasDash (s : Str) : Bool := s.contains '-'

/-- every name an item prints in type-name position: what it declares and what it refers to -/
def printedTypeNames : RustItem → List Str
  | .struct s => s.id.original :: s.id.renamed :: s.fields.flatMap fun f => typeNames f.ty
  | .alias a => a.id.original :: a.id.renamed :: typeNames a.ty
  | .const c => typeNames c.ty
  | .enum e => e.id.original :: e.id.renamed :: e.variants.flatMap fun v =>
      match v with
      | .unit _ _ => []
      | .tuple _ _ ty => typeNames ty
      | .anonymousStruct _ _ fs => fs.flatMap fun f => typeNames f.ty

/-- **dashed-type-name** (all six back ends): `#[serde(rename = "New-Name")]` on an item; the name is
printed raw wherever the type is declared or (after `reconcile`) referred to -/
def Known_DashedTypeName (it : RustItem) : Bool := (printedTypeNames it).any hasDash

/-- C15's class for `///` and `//` comments (Kotlin, Swift, Scala, Go): a doc line with a line break -/
def Known_DocLineBreak (cs : List Str) : Bool := cs.any fun c => c.contains '\n'
/-- C15's class for TypeScript: a doc line with `*/` -/
def Known_DocTerminator (cs : List Str) : Bool := cs.any fun c => Str.containsSub c s%"*/"

/-- **typescript-generic-unit-enum**: `export enum E<T> {` -/
def Known_TsGenericUnitEnum : RustItem → Bool
  | .enum e => e.keys.isNone && !e.genericTypes.isEmpty
  | _ => false

def fieldsOf : RustItem → List RustField
  | .struct s => s.fields
  | .enum e => e.variants.flatMap fun v => match v with
    | .anonymousStruct _ _ fs => fs
    | _ => []
  | _ => []

/-- **scala-default-underscore**: `#[serde(default)]` on a non-`Option` field prints ` = _` -/
def Known_ScalaDefaultUnderscore (it : RustItem) : Bool :=
  (fieldsOf it).any fun f => f.hasDefault && !f.ty.isOptional

/-- **swift-keyword-not-escaped**: a tag / content key that is a Swift keyword (printed raw in
`ContainerCodingKeys`), a field called `var`, `let` or `inout` (the `init` label is not escaped) -/
def Known_SwiftKeywordNotEscaped (it : RustItem) : Bool :=
  (match it with
   | .enum e => (match e.keys with
     | some (t, c) => Swift.keywords.contains t || Swift.keywords.contains c
     | none => false)
   | _ => false) ||
  (fieldsOf it).any fun f => [s%"var", s%"let", s%"inout"].contains (Swift.removeDash f.id.renamed)

/-- **swift-case-name-not-identifier**: a variant whose camel-cased name is empty, or (unit enums,
where no `_` is put in front) starts with a digit (neither depends on the Unicode tables `U` that
`to_camel_case` consults since the `fix:` commit 8290303: they only decide the case of later letters) -/
def Known_SwiftCaseName (U : UnicodeOps) : RustItem → Bool
  | .enum e => e.variants.any fun v =>
      match Rename.toCamel U v.id.original with
      | [] => true
      | c :: _ => e.keys.isNone && Str.isAsciiDigit c
  | _ => false

/-- **python-tag-key-keyword**: tag / content keys are written raw as attribute names -/
def Known_PyTagKeyKeyword : RustItem → Bool
  | .enum e => (match e.keys with
    | some (t, c) => Python.keywords.contains t || Python.keywords.contains c
    | none => false)
  | _ => false

/-- **python-tag-member-not-identifier**: the member of the `…Types` enumeration is
`SNAKE_UPPER(renamed)`; snake-casing strips leading underscores -/
def Known_PyTagMember (E : Ext) : RustItem → Bool
  | .enum e => e.keys.isSome && e.variants.any fun v =>
      match Python.tagMemberName E v.id.renamed with
      | [] => true
      | c :: _ => Str.isAsciiDigit c
  | _ => false

/-- **kotlin-import-empty-package**: `import .crate.Type` -/
def Known_KotlinImportEmptyPackage (cfg : Kotlin.Cfg) (d : ParsedData) : Bool :=
  d.multiFile && cfg.package.isEmpty

/-! ### witnesses -/

def dashedStruct : RustStruct := { witnessStruct with id := ⟨s%"Foo", s%"New-Name", true⟩ }
def genericAlias : RustTypeAlias :=
  { id := ⟨s%"G", s%"G", false⟩, genericTypes := [s%"T"], ty := .vec (.simple s%"T"), comments := [],
    decorators := {}, isRedacted := false }
def keywordTagEnum : RustEnum :=
  { keys := some (s%"case", s%"content"), id := ⟨s%"E", s%"E", false⟩, genericTypes := [], comments := [],
    variants := [.tuple ⟨s%"A", s%"A", false⟩ [] (.prim .u8)], decorators := {}, isRecursive := false,
    isRedacted := false }
def digitUnitEnum : RustEnum :=
  { keys := none, id := ⟨s%"E", s%"E", false⟩, genericTypes := [s%"T"], comments := [],
    variants := [.unit ⟨s%"_1", s%"_1", false⟩ []], decorators := {}, isRecursive := false, isRedacted := false }
def defaultField : RustField :=
  { id := ⟨s%"a", s%"a", false⟩, ty := .prim .u8, comments := [], hasDefault := true, decorators := [] }

theorem dashed_typescript :
    (TypeScript.writeStruct {} dashedStruct []).bind (fun r => .ok r.1) = .ok s%"export interface New-Name {\n}\n\n" := by
  decide +kernel
theorem dashed_kotlin : (Kotlin.structFacts {} dashedStruct).bind (fun d => .ok (C10Kotlin.declName d)) = .ok s%"New-Name" := by
  decide +kernel
example : Known_DashedTypeName (.struct dashedStruct) = true := by decide +kernel
/-- the witness of `C10_not_full` is inside this class -/
example : Known_DashedTypeName (.struct bracedStruct) = true := by decide +kernel

/-- the repaired finding **python-generic-alias** (`G[T] = List[T]`: a subscripted assignment target,
`T` undeclared): since the `fix:` commit f8d1040 the alias is an ordinary assignment and `T` is
registered as a `TypeVar` (written, with its import, in the file header) -/
theorem python_generic_alias_repaired :
    (Python.aliasFacts {} genericAlias {}).bind (fun r => .ok (Python.renderAlias r.1, r.2.typeVars, r.2.imports)) =
      .ok (s%"G = List[T]\n\n", [s%"T"], [(s%"typing", [s%"List", s%"TypeVar"])]) := by
  decide +kernel

/-- the repaired class **python-docstring-escape** (`\x`, `\u`, `\U`, `\N` in doc text were malformed
escapes of the non-raw docstring): since the `fix:` commit af54d85 backslashes are doubled: reading a
written doc line left to right, every backslash is followed by a backslash or a `"`
(`C10PyDoc.pyEscapesOk`) — for every string -/
theorem python_docstring_escapes_repaired (c : Str) : C10PyDoc.pyEscapesOk (Python.escapeDoc c) = true :=
  C10PyDoc.escapesOk_quotes _ _ (Nat.le_refl _) (C10PyDoc.pairedBs_escapeBackslashes c)
/-- the input of the finding, `/// see C:\Users\x` -/
example : Python.docstring 0 [s%"see C:\\Users\\x"] = s%"\"\"\"\nsee C:\\\\Users\\\\x\n\"\"\"\n" := by decide +kernel
example : C10PyDoc.pyEscapesOk s%"see C:\\Users\\x" = false := by decide +kernel

theorem typescript_generic_unit_enum :
    (TypeScript.writeEnum {} digitUnitEnum []).bind (fun r => .ok r.1) = .ok s%"export enum E<T> {\n\t_1 = \"_1\",\n}\n\n" := by
  decide +kernel
example : Known_TsGenericUnitEnum (.enum digitUnitEnum) = true := by decide +kernel

theorem scala_default_underscore :
    (Scala.paramFacts {} [] defaultField).bind (fun p => .ok (Scala.renderParam p)) = .ok s%"\ta: UByte = _" := by decide +kernel
example : Known_ScalaDefaultUnderscore (.struct { witnessStruct with fields := [defaultField] }) = true := by decide +kernel

/-- the container keys are printed raw -/
theorem swift_container_keys_raw (a : Swift.AlgebraicCodable) :
    Str.startsWith (Swift.renderCodable a)
      (s%"\n\tprivate enum ContainerCodingKeys: String, CodingKey {\n\t\tcase " ++ a.tagKey ++ s%", " ++ a.contentKey ++ s%"\n") = true := by
  -- a prefix of a prefix, and the prefix that ends with the first character of a piece
  have mono : ∀ (y z p : Str), Str.startsWith y p = true → Str.startsWith (y ++ z) p = true := by
    intro y z p
    induction y generalizing p with
    | nil =>
      cases p with
      | nil => intro _; cases z <;> rfl
      | cons _ _ => intro h; cases h
    | cons c y ih =>
      cases p with
      | nil => intro _; rfl
      | cons d p =>
        simp only [List.cons_append, Str.startsWith, Bool.and_eq_true]
        exact fun h => ⟨h.1, ih p h.2⟩
  have pre : ∀ (x t : Str) (c : Char), Str.startsWith (x ++ c :: t) (x ++ [c]) = true := by
    intro x t c
    induction x with
    | nil => simp [Str.startsWith]
    | cons d x ih => simp [Str.startsWith, ih]
  unfold Swift.renderCodable
  -- seventeen pieces follow the one that begins with the line break
  iterate 17 apply mono
  exact pre _ _ _
example : Known_SwiftKeywordNotEscaped (.enum keywordTagEnum) = true := by decide +kernel
/-- the memberwise `init` labels are not escaped: field `var` -/
theorem swift_init_label_raw :
    (Swift.initParams {} [] [{ defaultField with id := ⟨s%"var", s%"var", false⟩ }] false).bind
      (fun r => .ok (r.1.map Swift.renderInitParam)) = .ok [s%"var: UInt8?"] := by decide +kernel

/-- a unit enum's variant `_1` is declared as `case 1 = "_1"` -/
theorem swift_unit_case_digit :
    Swift.renderUnitCase UnicodeOps.ascii (Swift.unitCase .ascii (.unit ⟨s%"_1", s%"_1", false⟩ [])) = s%"\tcase 1 = \"_1\"\n" := by
  decide +kernel
example : Known_SwiftCaseName .ascii (.enum digitUnitEnum) = true := by decide +kernel

def keywordTagVariant : Python.PyVariant :=
  { className := s%"EA"
    comments := []
    tagKey := s%"class"
    tagLiteral := s%"ETypes.A"
    wire := s%"A"
    contentKey := s%"content"
    contentType := none }
theorem python_tag_key_raw :
    Python.renderVariant keywordTagVariant = s%"class EA(BaseModel):\n    class: Literal[ETypes.A] = ETypes.A\n\n" := by
  decide +kernel
example : Known_PyTagKeyKeyword (.enum keywordTagEnum) = false := by decide +kernel
example : Known_PyTagKeyKeyword (.enum { keywordTagEnum with keys := some (s%"class", s%"c") }) = true := by decide +kernel

theorem kotlin_import_empty_package :
    Kotlin.writeImports { package := [] } [(s%"alpha", [s%"A"])] = s%"import .alpha.A\n\n" := by decide +kernel

/-- a doc line with a line break leaves the `///` comment: the rest of it is code (C15) -/
theorem kotlin_doc_line_break :
    wellBracketed C10Kotlin.K (Kotlin.comments 0 [s%" a\n)"]) = false := by decide +kernel
example : Known_DocLineBreak [s%" a\n)"] = true := by decide +kernel
/-- `*/` in doc text would end the TypeScript block comment; `write_comments` escapes it (C15 repair),
so the block is closed although the text is in `Known_DocTerminator` -/
theorem typescript_doc_terminator_repaired :
    wellBracketed C10TypeScript.T (TypeScript.comments 0 [s%" a */ }"]) = true := by decide +kernel
example : Known_DocTerminator [s%" a */ }"] = true := by decide +kernel

/-! ## the partial theorems -/

/-- the doc-text hypothesis of the statements below is the `DocsOk` of the Kotlin, Scala, Swift, Go
and Python lemma files (one predicate, defined in each namespace: no line break inside a doc line) -/
theorem docs_lineBreak (D : List Str → Prop) (hD : ∀ cs, D cs ↔ ∀ c ∈ cs, '\n' ∉ c) :
    (fun cs => Known_DocLineBreak cs = false) = D := by
  funext cs
  exact propext (by rw [hD]; simp [Known_DocLineBreak])

theorem docsOk_typescript (cs : List Str) : C10TypeScript.DocsOk cs ↔ Known_DocTerminator cs = false := by
  simp [C10TypeScript.DocsOk, Known_DocTerminator]

/-- **`format!("{:?}", s)` is a closed string literal for every `s`** (serde keys, wire names,
redaction names — wherever a back end uses `{:?}`) -/
theorem debugStr_closed (cfg : LexCfg) (s : Str) : wellBracketed cfg (debugStr s) = true := (NB.debugStr s).wb

/-- **Kotlin, every item kind**: if the item is in scope — names over `[A-Za-z0-9_-]`, type trees over
such names, balanced type overrides and type mappings, identifier prefix — and its doc comments are
outside C15's class, every declaration generated for it (`typealias`, `value class`, `object`,
`data class`, `enum class`, `sealed class`, and the `…Inner` helper classes) is lexically closed. -/
theorem C10_kotlin_item (cfg : Kotlin.Cfg) (H : C10Kotlin.CfgOk cfg) (it : RustItem)
    (hs : ItemScope .kotlin C10Kotlin.K (fun cs => Known_DocLineBreak cs = false) it)
    (ds : List Kotlin.KtDecl) (h : Kotlin.itemFacts cfg it = .ok ds) :
    ∀ d ∈ ds, wellBracketed C10Kotlin.K (Kotlin.renderDecl d) = true := by
  have hs' : C10Kotlin.ItemOk it := by
    rw [docs_lineBreak C10Kotlin.DocsOk (fun _ => Iff.rfl)] at hs; exact hs
  intro d hd
  exact (C10Kotlin.renderDecl_nb d (C10Kotlin.itemFacts_ok H it hs' ds h d hd)).wb

/-- **Kotlin, the whole file**: header comment, package line, import lines and all declarations. -/
theorem C10_kotlin_file (cfg : Kotlin.Cfg) (H : C10Kotlin.CfgOk cfg) (d : ParsedData)
    (imports : Option Pipeline.ScopedCrateTypes) (hf : C10Kotlin.FileOk cfg d imports)
    (hitems : ∀ items, Pipeline.generateOrder d = some items → ∀ it ∈ items, C10Kotlin.ItemOk it)
    (text : Str) (h : Kotlin.generate cfg d imports = .ok text) :
    wellBracketed C10Kotlin.K text = true := by
  obtain ⟨items, decls, hitems', hd, rfl⟩ := Kotlin.generate_inv h
  have hdecls := C10Kotlin.itemsFacts_ok H items decls (hitems items hitems') hd
  refine (NB.append (NB.append (C10Kotlin.beginFile_nb cfg d imports hf) ?_)
    (NB.flatMap _ _ fun x hx => C10Kotlin.renderDecl_nb x (hdecls x hx))).wb
  split
  · cases imports with
    | none => simpa [C10Kotlin.K] using C10Kotlin.writeImports_nb cfg [] hf.package H.pfx (by simp)
    | some i => exact C10Kotlin.writeImports_nb cfg i hf.package H.pfx (hf.imports i rfl)
  · exact NB.nil

/-- **Kotlin, declared names**: with an identifier (or empty) prefix and identifier item names, every
name a declaration introduces is an identifier -/
theorem C10_kotlin_names (cfg : Kotlin.Cfg) (hp : IdentPrefix cfg.pfx) (it : RustItem) (hn : C10Kotlin.NamesIdent it)
    (ds : List Kotlin.KtDecl) (h : Kotlin.itemFacts cfg it = .ok ds) :
    ∀ d ∈ ds, isIdentifier (C10Kotlin.declName d) = true :=
  C10Kotlin.declName_identifier hp it hn ds h

/-- … and conversely: a dashed struct name is printed raw, so the declared name is not an identifier -/
theorem C10_kotlin_dashed (cfg : Kotlin.Cfg) (s : RustStruct) (hd : '-' ∈ s.id.renamed) (d : Kotlin.KtDecl)
    (h : Kotlin.structFacts cfg s = .ok d) : isIdentifier (C10Kotlin.declName d) = false := by
  rw [C10Kotlin.structFacts_name s d h]
  exact isIdentifier_dash (by simp [hd])

/-- **TypeScript, every item kind** (`export interface`, `export enum`, the tagged union
`export type … = | {…}`, `export type` aliases, `export const`): lexically closed under the same kind
of scope; doc comments may contain anything but `*/`.  The Unicode parameter is only assumed to be
ASCII-correct (it upper-cases the name of a constant). -/
theorem C10_typescript_item (U : UnicodeOps) (cfg : TypeScript.Cfg) (H : C10TypeScript.CfgOk cfg) (it : RustItem)
    (hs : ItemScope .typescript C10TypeScript.T (fun cs => Known_DocTerminator cs = false) it)
    (hU : U.AsciiCorrect)
    (st : TypeScript.CustomMap) (text : Str) (st' : TypeScript.CustomMap)
    (h : TypeScript.writeItem U cfg it st = .ok (text, st')) : wellBracketed C10TypeScript.T text = true := by
  have e : (fun cs => Known_DocTerminator cs = false) = C10TypeScript.DocsOk := by
    funext cs; exact propext (docsOk_typescript cs).symm
  rw [e] at hs
  cases it with
  | struct s => exact (C10TypeScript.writeStruct_nb H s st text st' hs h).wb
  | «enum» en => exact (C10TypeScript.writeEnum_nb H en st text st' hs h).wb
  | alias a => exact (C10TypeScript.writeAlias_nb H a st text st' hs h).wb
  | const c =>
    exact (C10TypeScript.writeConst_nb U H c st text st' hs.ty
      (IdentStr.key (upperStr_ident U hU (toSnake_ident U hs.name))) h).wb

/-- **Scala, every item kind** (`case class` / `class`, `type`, `sealed trait` with its companion
object and the `…Inner` helper classes): each declaration is lexically closed -/
theorem C10_scala_struct (cfg : Scala.Cfg) (H : C10Scala.CfgOk cfg) (rs : RustStruct)
    (hs : StructScope .scala C10Scala.S (fun cs => Known_DocLineBreak cs = false) rs) (text : Str)
    (h : Scala.writeStruct cfg rs = .ok text) : wellBracketed C10Scala.S text = true := by
  rw [docs_lineBreak C10Scala.DocsOk (fun _ => Iff.rfl)] at hs
  obtain ⟨c, hc, rfl⟩ := Outcome.of_bind_ret h
  exact (C10Scala.renderClass_nb c (C10Scala.classFacts_ok H rs c hs hc)).wb

theorem C10_scala_alias (cfg : Scala.Cfg) (H : C10Scala.CfgOk cfg) (a : RustTypeAlias)
    (hs : AliasScope (fun cs => Known_DocLineBreak cs = false) a) (text : Str)
    (h : Scala.writeAlias cfg a = .ok text) : wellBracketed C10Scala.S text = true := by
  rw [docs_lineBreak C10Scala.DocsOk (fun _ => Iff.rfl)] at hs
  obtain ⟨f, hf, rfl⟩ := Outcome.of_bind_ret h
  exact (C10Scala.aliasFacts_nb H a f hs hf).wb

theorem C10_scala_enum (cfg : Scala.Cfg) (H : C10Scala.CfgOk cfg) (e : RustEnum)
    (hs : EnumScope .scala C10Scala.S (fun cs => Known_DocLineBreak cs = false) e) (text : Str)
    (h : Scala.writeEnum cfg e = .ok text) : wellBracketed C10Scala.S text = true := by
  rw [docs_lineBreak C10Scala.DocsOk (fun _ => Iff.rfl)] at hs
  obtain ⟨f, hf, rfl⟩ := Outcome.of_bind_ret h
  exact (C10Scala.enumFacts_nb H e hs f hf).wb

/-- **Scala, the whole file** — for every package name that is a dotted identifier fragment, with
or without a dot (since the `fix:` commit 653aee1 a name without a dot is its own innermost package) -/
theorem C10_scala_file (cfg : Scala.Cfg) (H : C10Scala.CfgOk cfg) (d : ParsedData) (hd : C10Scala.DataOk d)
    (hv : ∀ v, cfg.versionHeader = some v → Dotted v)
    (hpkg : Dotted cfg.package)
    (text : Str) (h : Scala.generate cfg d = .ok text) : wellBracketed C10Scala.S text = true := by
  obtain ⟨f, hf, rfl⟩ := Outcome.of_bind_ret h
  exact (C10Scala.renderFile_nb f (C10Scala.fileFacts_ok H d hd f hv hpkg hf)).wb

/-- **Swift, every item kind** (`public struct` with `CodingKeys` and the memberwise `init`,
`public typealias`, raw-value and algebraic `public enum` with the helper structs, `CodingKeys`,
`ContainerCodingKeys`, `init(from:)` and `encode(to:)`).  Decorators and generic constraints are
user strings: that the lists computed from them consist of balanced strings is part of the scope
(`DecorOk`, `EnumDecorOk`). -/
theorem C10_swift_struct (U : UnicodeOps) (cfg : Swift.Cfg) (H : C10Swift.CfgOk cfg) (rs : RustStruct)
    (hs : StructScope .swift C10Swift.W (fun cs => Known_DocLineBreak cs = false) rs)
    (hd : C10Swift.DecorOk U cfg rs.decorators rs.genericTypes) (st : Swift.St) (text : Str) (st' : Swift.St)
    (h : Swift.writeStruct U cfg rs st = .ok (text, st')) : wellBracketed C10Swift.W text = true := by
  rw [docs_lineBreak C10Swift.DocsOk (fun _ => Iff.rfl)] at hs
  exact (C10Swift.writeStruct_nb U H rs hs hd st text st' h).wb

theorem C10_swift_alias (U : UnicodeOps) (cfg : Swift.Cfg) (H : C10Swift.CfgOk cfg) (a : RustTypeAlias)
    (hs : AliasScope (fun cs => Known_DocLineBreak cs = false) a) (st : Swift.St) (text : Str) (st' : Swift.St)
    (h : Swift.writeAlias U cfg a st = .ok (text, st')) : wellBracketed C10Swift.W text = true := by
  rw [docs_lineBreak C10Swift.DocsOk (fun _ => Iff.rfl)] at hs
  exact (C10Swift.writeAlias_nb U H a hs st text st' h).wb

theorem C10_swift_enum (U : UnicodeOps) (cfg : Swift.Cfg) (H : C10Swift.CfgOk cfg) (e : RustEnum)
    (hs : EnumScope .swift C10Swift.W (fun cs => Known_DocLineBreak cs = false) e)
    (hd : C10Swift.EnumDecorOk U cfg e) (st : Swift.St) (text : Str) (st' : Swift.St)
    (h : Swift.writeEnum U cfg e st = .ok (text, st')) : wellBracketed C10Swift.W text = true := by
  rw [docs_lineBreak C10Swift.DocsOk (fun _ => Iff.rfl)] at hs
  exact (C10Swift.writeEnum_nb U H e hs hd st text st' h).wb

/-- **Go** (with `uppercase_acronyms = []`): `type … struct`, type aliases and constants are lexically
closed, struct tags (raw strings) included.  For enums the theorem is at the level of the fact
records (`C10_go_alg_enum_facts`, `C10_go_unit_enum_facts`); the step from the parsed enum to its
facts is `C10_go_enum` in `TsV.Props.C10_Files`. -/
theorem C10_go_struct (U : UnicodeOps) (cfg : Go.Cfg) (H : C10Go.CfgOk cfg) (rs : RustStruct)
    (hs : StructScope .go C10Go.G (fun cs => Known_DocLineBreak cs = false) rs) (st : Go.Imports) (text : Str)
    (st' : Go.Imports) (h : Go.writeStruct U cfg rs st = .ok (text, st')) : wellBracketed C10Go.G text = true := by
  rw [docs_lineBreak C10Go.DocsOk (fun _ => Iff.rfl)] at hs
  exact (C10Go.writeStruct_nb (H.conf U) rs hs st text st' h).wb

theorem C10_go_alias (U : UnicodeOps) (cfg : Go.Cfg) (H : C10Go.CfgOk cfg) (a : RustTypeAlias)
    (hs : AliasScope (fun cs => Known_DocLineBreak cs = false) a) (st : Go.Imports) (text : Str)
    (st' : Go.Imports) (h : Go.writeAlias U cfg a st = .ok (text, st')) : wellBracketed C10Go.G text = true := by
  rw [docs_lineBreak C10Go.DocsOk (fun _ => Iff.rfl)] at hs
  exact (C10Go.writeAlias_nb (H.conf U) a hs st text st' h).wb

theorem C10_go_const (U : UnicodeOps) (cfg : Go.Cfg) (H : C10Go.CfgOk cfg) (c : RustConst) (hc : ConstScope c) (st : Go.Imports)
    (text : Str) (st' : Go.Imports) (h : Go.writeConst U cfg c st = .ok (text, st')) : wellBracketed C10Go.G text = true :=
  (C10Go.writeConst_nb H.maps c hc st text st' h).wb

theorem C10_go_alg_enum_facts (e : Go.GoAlgEnum) (he : C10Go.AlgEnumOk e) :
    wellBracketed C10Go.G (Go.renderAlgEnum e) = true := (C10Go.renderAlgEnum_nb e he).wb

theorem C10_go_unit_enum_facts (e : Go.GoUnitEnum) (hd : Known_DocLineBreak e.comments = false) (hn : IdentStr e.name)
    (hc : ∀ c ∈ e.consts, Known_DocLineBreak c.comments = false ∧ IdentStr c.name ∧ IdentStr c.ty) :
    wellBracketed C10Go.G (Go.renderUnitEnum e) = true := by
  have d : ∀ cs, Known_DocLineBreak cs = false → C10Go.DocsOk cs := by
    intro cs h; simpa [C10Go.DocsOk, Known_DocLineBreak] using h
  exact (C10Go.renderUnitEnum_nb e (d _ hd) (IdentStr.nb hn)
    fun c hcm => ⟨d _ (hc c hcm).1, IdentStr.nb (hc c hcm).2.1, IdentStr.nb (hc c hcm).2.2⟩).wb

/-- **Swift**: `swift_keyword_aware_rename` never yields a bare keyword … -/
theorem C10_swift_kw (name : Str) : Swift.keywords.contains (Swift.kw name) = false := by
  unfold Swift.kw
  split
  · exact C10Kw.contains_false_of fun hm => C10Kw.swift_no_keyword_starts_with_backtick _ hm (by simp)
  · rename_i h; simpa using h
/-- … and neither does the printed member name of a struct field
(`remove_dash_from_identifier(swift_keyword_aware_rename(renamed))`) -/
theorem C10_swift_member (f : RustField) : Swift.keywords.contains (Swift.memberName f) = false := by
  unfold Swift.memberName Swift.removeDash Swift.kw
  split
  · -- escaped: the name starts with a back-tick
    refine C10Kw.contains_false_of fun hm => C10Kw.swift_no_keyword_starts_with_backtick _ hm ?_
    exact C10Kw.replaceChar_head _ '-' '_' '`' (f.id.renamed ++ s%"`") (by simp) (by decide +kernel)
  · rename_i hk
    by_cases hd : '-' ∈ f.id.renamed
    · -- a dash became an underscore, and no keyword has one
      exact C10Kw.contains_false_of fun hm =>
        C10Kw.swift_no_keyword_has_underscore _ hm (C10Kw.replaceChar_mem _ '-' '_' hd)
    · rw [RenameLemmas.replaceChar_absent _ _ _ hd]; simpa using hk
/-- **Python**: `python_property_aware_rename` never yields a keyword, whatever `convert_case` does -/
theorem C10_python_rename (E : Ext) (name : Str) : Python.keywords.contains (Python.propertyAwareRename E name) = false := by
  simp only [Python.propertyAwareRename]
  split
  · exact C10Kw.contains_false_of fun hm => C10Kw.python_no_keyword_ends_with_underscore _ hm (by simp)
  · rename_i h; simpa using h

/-- **leading digits**: the variant names of algebraic enums in Kotlin, Scala and Swift -/
theorem C10_kotlin_digit (U : UnicodeOps) (s : Str) (c : Char) (r : Str) (h : Kotlin.variantName U s = c :: r) : Str.isAsciiDigit c = false :=
  C10Kw.head_not_digit h
theorem C10_scala_digit (s : Str) (c : Char) (r : Str) (h : Scala.variantName s = c :: r) : Str.isAsciiDigit c = false :=
  C10Kw.head_not_digit h
theorem C10_swift_digit (U : UnicodeOps) (v : RustEnumVariant) (c : Char) (r : Str) (h : Swift.algebraicCaseName U v = c :: r) :
    Str.isAsciiDigit c = false := C10Kw.head_not_digit h

/-! ## non-vacuity: concrete inputs that meet the hypotheses -/

def exField : RustField :=
  { id := ⟨s%"user_id", s%"user-id", true⟩, ty := .option (.hashMap (.prim .string) (.vec (.generic s%"Foo" [.simple s%"T"]))),
    comments := [s%" the \"id\" (raw) */ {"], hasDefault := false, decorators := [] }
def exStruct : RustStruct :=
  { id := ⟨s%"Item", s%"Item", false⟩, genericTypes := [s%"T"], fields := [exField], comments := [s%" an item /* ("],
    decorators := {}, isRedacted := true }
def exEnum : RustEnum :=
  { keys := some (s%"type", s%"content"), id := ⟨s%"Shape", s%"Shape", false⟩, genericTypes := [s%"T"],
    comments := [s%" shapes"],
    variants := [.unit ⟨s%"Empty", s%"empty", false⟩ [s%" nothing"],
                 .tuple ⟨s%"_1", s%"one", true⟩ [] (.array (.simple s%"T") 2),
                 .anonymousStruct ⟨s%"Full", s%"full-shape", true⟩ [] [{ exField with comments := [] }]],
    decorators := {}, isRecursive := false, isRedacted := false }
def exCfg : Kotlin.Cfg := { pfx := s%"OP", typeMappings := [(s%"Foo", s%"Map<String, List<Int>>")] }

example : C10Kotlin.CfgOk exCfg := ⟨by decide +kernel, by decide +kernel⟩
example : ItemScope .kotlin C10Kotlin.K (fun cs => Known_DocLineBreak cs = false) (.struct exStruct) :=
  ⟨by decide +kernel, by decide +kernel, by decide +kernel, fun f hf => by
    simp only [exStruct, List.mem_singleton] at hf; subst hf
    exact ⟨by decide +kernel, by decide +kernel, by decide +kernel, by decide +kernel, by decide +kernel⟩⟩
example : (Kotlin.itemFacts exCfg (.struct exStruct)).isOk = true := by decide +kernel
example : C10Kotlin.NamesIdent (.struct exStruct) := (by decide +kernel : isIdentifier exStruct.id.renamed = true)
example : IdentPrefix exCfg.pfx := .inr (by decide +kernel)

theorem exEnumScope (L : TsV.Lang) (lx : LexCfg) (D : List Str → Prop) (hD : ∀ cs ∈ [[s%" shapes"], [s%" nothing"], []], D cs) :
    ItemScope L lx D (.enum exEnum) :=
  ⟨hD _ (by decide +kernel), by decide +kernel, by decide +kernel, by decide +kernel, fun v hv => by
    simp only [exEnum, List.mem_cons, List.not_mem_nil, or_false] at hv
    rcases hv with rfl | rfl | rfl
    · exact ⟨hD _ (by decide +kernel), by decide +kernel, by decide +kernel⟩
    · exact ⟨hD _ (by decide +kernel), by decide +kernel, by decide +kernel, by decide +kernel⟩
    · refine ⟨hD _ (by decide +kernel), by decide +kernel, by decide +kernel, fun f hf => ?_⟩
      simp only [List.mem_singleton] at hf; subst hf
      exact ⟨hD _ (by decide +kernel), by decide +kernel, by decide +kernel, by decide +kernel, by intro t ht; cases L <;> simp [typeOverride, exField] at ht⟩,
   by intro k hk; cases hk; decide +kernel, by intro k hk; cases hk; decide +kernel⟩

example : ItemScope .kotlin C10Kotlin.K (fun cs => Known_DocLineBreak cs = false) (.enum exEnum) :=
  exEnumScope _ _ _ (by decide +kernel)
example : (Kotlin.itemFacts exCfg (.enum exEnum)).isOk = true := by decide +kernel

example : C10TypeScript.CfgOk { typeMappings := [(s%"Foo", s%"Record<string, [number, string]>")] } := by
  intro p hp; simp only [List.mem_singleton] at hp; subst hp; decide
example : ItemScope .typescript C10TypeScript.T (fun cs => Known_DocTerminator cs = false) (.enum exEnum) :=
  exEnumScope _ _ _ (by decide +kernel)
example : (TypeScript.writeItem UnicodeOps.ascii {} (.enum exEnum) []).isOk = true := by decide +kernel
example : ItemScope .typescript C10TypeScript.T (fun cs => Known_DocTerminator cs = false)
    (.const { id := ⟨s%"MAX_ITEMS", s%"MAX_ITEMS", false⟩, ty := .prim .u32, expr := 42 }) := ⟨by decide +kernel, by decide +kernel⟩
example : UnicodeOps.ascii.AsciiCorrect := UnicodeOps.ascii_correct


example : C10Scala.CfgOk { package := s%"com.example", typeMappings := [(s%"Foo", s%"Map[String, Vector[Int]]")] } := by
  intro p hp; simp only [List.mem_singleton] at hp; subst hp; decide
example : EnumScope .scala C10Scala.S (fun cs => Known_DocLineBreak cs = false) exEnum := exEnumScope _ _ _ (by decide +kernel)
example : (Scala.writeEnum { package := s%"com.example" } exEnum).isOk = true := by decide +kernel
example : Dotted (Scala.Cfg.package { package := s%"com.example" }) ∧ Dotted (Scala.Cfg.package { package := s%"pkg" }) := by
  decide +kernel

example : C10Swift.CfgOk { pfx := s%"OP" } := ⟨by decide +kernel, by simp⟩
example : EnumScope .swift C10Swift.W (fun cs => Known_DocLineBreak cs = false) exEnum := exEnumScope _ _ _ (by decide +kernel)
example : (Swift.writeEnum UnicodeOps.ascii { pfx := s%"OP" } exEnum false).isOk = true := by decide +kernel
example : C10Swift.EnumDecorOk UnicodeOps.ascii { pfx := s%"OP" } exEnum :=
  ⟨by
    intro p hp
    have : p = ⟨s%"T", [s%"Codable"]⟩ :=
      (by decide +kernel : ∀ p ∈ Swift.genericParams UnicodeOps.ascii { pfx := s%"OP" } exEnum.decorators exEnum.genericTypes,
        p = ⟨s%"T", [s%"Codable"]⟩) p hp
    subst this
    exact ⟨IdentStr.nb (by decide +kernel), fun c hc => by simp only [List.mem_singleton] at hc; subst hc; exact IdentStr.nb (by decide +kernel)⟩,
   by
    intro c hc
    have : c = s%"Codable" :=
      (by decide +kernel : ∀ c ∈ Swift.structConformances { pfx := s%"OP" } exEnum.decorators, c = s%"Codable") c hc
    subst this; exact IdentStr.nb (by decide +kernel),
   by
    intro c hc
    have : c = s%"Codable" :=
      (by decide +kernel : ∀ c ∈ Swift.enumConformances { pfx := s%"OP" } exEnum, c = s%"Codable") c hc
    subst this; exact IdentStr.nb (by decide +kernel)⟩


example : C10Go.CfgOk { package := s%"proto", typeMappings := [(s%"Foo", s%"map[string][]int")] } :=
  ⟨rfl, by intro p hp; simp only [List.mem_singleton] at hp; subst hp; decide +kernel⟩
example : StructScope .go C10Go.G (fun cs => Known_DocLineBreak cs = false) exStruct :=
  ⟨by decide +kernel, by decide +kernel, by decide +kernel, fun f hf => by
    simp only [exStruct, List.mem_singleton] at hf; subst hf
    exact ⟨by decide +kernel, by decide +kernel, by decide +kernel, by decide +kernel, by decide +kernel⟩⟩
example : (Go.writeStruct UnicodeOps.ascii { package := s%"proto" } exStruct []).isOk = true := by decide +kernel

end TsV.C10
