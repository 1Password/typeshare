import TsV.Props.C08_Lookalikes
import TsV.Lemmas.C02_Parse
/-!
# C02, skip look-alikes at variant level — only a `skip` *path* takes a variant out of an enum

Corollary of `C08_Lookalikes` (what `is_skipped` is) and of C02's parse half (`parseEnum_names`).  A variant
whose `serde(..)` / `typeshare(..)` lists contain no bare path `skip` among their direct arguments — whatever
else they contain: `skip_serializing`, `skip_deserializing`, `skip_serializing_if = ".."`, `other`,
`alias = ".."`, `skip = ".."`, `rename(skip)` — and which `--target-os` does not exclude, is **kept** by
`parse_enum`.

* `Kept T v` (reading of "not skipped"): no attribute of `v` is a skip marker (`C08_Lookalikes.IsSkipMarker`)
  and `accept_target_os` does not reject `v` for the target list `T`; `keptB` is the decidable form,
  `keptB_iff`, and `keptB_eq : keptB T v = !isSkipped v.attrs T`.
* `C02_VariantLookalikes : C02_VariantLookalikes_full` — for every parsed enum (UpperCamelCase variant
  identifiers, the scope of C02): the wire names of the parsed variants are, in source order, serde's names
  (`variantName?`, C02's trusted specification) of the kept source variants; the same for the Rust
  identifiers; `variants.length` is the number of kept source variants; and every kept source variant's wire
  name occurs in the list (`kept_variant_present`).
* `no_targets`: without `--target-os`, `Kept` is "no skip path" alone.
* `noSkipArg`: a decidable sufficient test on one attribute — no direct argument is the bare path `skip` —
  `noSkipArg_not_marker`; `lookalike_variants_all_kept` is the kernel-checked list of look-alike variants.
* `lookalike_insert`: inserting an attribute that is not a marker (and not a `cfg` under `--target-os`) anywhere
  in a variant's attribute list does not change whether the variant is kept.
-/
namespace TsV.C02_VariantLookalikes
open TsV TsV.Syn TsV.Parser TsV.C08_Lookalikes

/-- no `serde(..)` / `typeshare(..)` list of the member has the bare path `skip` as a direct argument -/
def NoSkipPath (attrs : List Attr) : Prop := ∀ a ∈ attrs, ¬ IsSkipMarker a

/-- the variant is not skipped: no skip path, and the target list does not exclude it -/
def Kept (T : List Str) (v : Variant) : Prop :=
  NoSkipPath v.attrs ∧ TargetOs.accept v.attrs T ≠ some false

def keptB (T : List Str) (v : Variant) : Bool :=
  !skipMarked v.attrs && (TargetOs.accept v.attrs T).getD true

theorem keptB_eq (T : List Str) (v : Variant) : keptB T v = !isSkipped v.attrs T := by
  unfold keptB isSkipped
  cases skipMarked v.attrs <;> cases (TargetOs.accept v.attrs T).getD true <;> rfl

theorem keptB_iff (T : List Str) (v : Variant) : keptB T v = true ↔ Kept T v := by
  rw [keptB_eq, Bool.not_eq_true', ← Bool.not_eq_true, isSkipped_iff]
  unfold Kept NoSkipPath
  constructor
  · intro h
    exact ⟨fun a ha hm => h (.inl ⟨a, ha, hm⟩), fun hx => h (.inr hx)⟩
  · rintro ⟨h1, h2⟩ (⟨a, ha, hm⟩ | hx)
    · exact h1 a ha hm
    · exact h2 hx

theorem filter_kept (T : List Str) (vs : List Variant) :
    (vs.filter fun v => !isSkipped v.attrs T) = vs.filter (keptB T) := by
  congr 1; funext v; exact (keptB_eq T v).symm

/-- without `--target-os`: kept iff no skip path -/
theorem no_targets (v : Variant) : Kept [] v ↔ NoSkipPath v.attrs := by
  unfold Kept
  simp [TargetOs.accept]

/-- **the statement**: the parsed variant list is, name by name and in order, the list of kept source
variants -/
def C02_VariantLookalikes_full : Prop :=
  ∀ (E : Ext), E.U.AsciiCorrect →
  ∀ (T : List Str) (attrs : List Attr) (ident : Str) (gens : List GenericParam) (vs : List Variant) (e : RustEnum),
    (∀ v ∈ vs, C16.UpperCamel v.ident) →
    parseEnum E T attrs ident gens vs = .ok (.enum e) →
    (e.variants.map fun v => some v.id.renamed) =
        (vs.filter (keptB T)).map (C02.variantName? E (serdeRenameAll E attrs)) ∧
    e.variants.map (·.id.original) = (vs.filter (keptB T)).map (·.ident) ∧
    e.variants.length = (vs.filter (keptB T)).length ∧
    (∀ v ∈ vs, Kept T v →
      C02.variantName? E (serdeRenameAll E attrs) v ∈ e.variants.map fun rv => some rv.id.renamed)

/-- **C02_VariantLookalikes.** -/
theorem C02_VariantLookalikes : C02_VariantLookalikes_full := by
  intro E hU T attrs ident gens vs e hs h
  have hn := C02.parseEnum_names E hU T attrs ident gens vs e hs h
  have ho := C02.parseEnum_originals E hU T attrs ident gens vs e hs h
  rw [filter_kept] at hn ho
  refine ⟨hn, ho, ?_, ?_⟩
  · have := congrArg List.length ho
    simpa using this
  · intro v hv hk
    rw [hn]
    exact List.mem_map.2 ⟨v, List.mem_filter.2 ⟨hv, (keptB_iff T v).2 hk⟩, rfl⟩

/-- a kept variant is in the parsed list with serde's name -/
theorem kept_variant_present (E : Ext) (hU : E.U.AsciiCorrect) (T : List Str) (attrs : List Attr) (ident : Str)
    (gens : List GenericParam) (vs : List Variant) (e : RustEnum) (hs : ∀ v ∈ vs, C16.UpperCamel v.ident)
    (h : parseEnum E T attrs ident gens vs = .ok (.enum e)) (v : Variant) (hv : v ∈ vs) (hk : Kept T v) :
    ∃ rv ∈ e.variants, some rv.id.renamed = C02.variantName? E (serdeRenameAll E attrs) v := by
  have := (C02_VariantLookalikes E hU T attrs ident gens vs e hs h).2.2.2 v hv hk
  obtain ⟨rv, hrv, heq⟩ := List.mem_map.1 this
  exact ⟨rv, hrv, heq⟩

/-- when every variant is free of skip paths and no target list is given, no variant is lost -/
theorem all_kept (E : Ext) (hU : E.U.AsciiCorrect) (attrs : List Attr) (ident : Str)
    (gens : List GenericParam) (vs : List Variant) (e : RustEnum) (hs : ∀ v ∈ vs, C16.UpperCamel v.ident)
    (h : parseEnum E [] attrs ident gens vs = .ok (.enum e)) (hk : ∀ v ∈ vs, NoSkipPath v.attrs) :
    e.variants.length = vs.length ∧
    (e.variants.map fun v => some v.id.renamed) = vs.map (C02.variantName? E (serdeRenameAll E attrs)) := by
  have hf : vs.filter (keptB []) = vs :=
    List.filter_eq_self.2 fun v hv => (keptB_iff [] v).2 ((no_targets v).2 (hk v hv))
  have := C02_VariantLookalikes E hU [] attrs ident gens vs e hs h
  rw [hf] at this
  exact ⟨this.2.2.1, this.1⟩

/-! ## a decidable sufficient test, and the look-alikes -/

/-- no direct argument of the attribute is the bare path `skip` (attributes that are not lists pass) -/
def noSkipArg (a : Attr) : Bool :=
  match a.val with
  | .list _ _ args => args.all fun m => match m with
    | .path segs => segs != [kSkip]
    | _ => true
  | _ => true

theorem noSkipArg_not_marker (a : Attr) (h : noSkipArg a = true) : ¬ IsSkipMarker a := by
  rintro ⟨segs, args, he, _, hm⟩
  unfold noSkipArg at h
  rw [he] at h
  simp only [List.all_eq_true] at h
  have := h _ hm
  simp at this

theorem noSkipArg_noSkipPath (attrs : List Attr) (h : attrs.all noSkipArg = true) : NoSkipPath attrs := by
  intro a ha
  exact noSkipArg_not_marker a (List.all_eq_true.1 h a ha)

/-- inserting a neutral attribute anywhere in the variant's list does not change whether it is kept -/
theorem lookalike_insert (T : List Str) (va pre post : List Attr) (vi : Str) (fs : Fields) (a : Attr)
    (hva : va = pre ++ a :: post) (h : Neutral T a) :
    keptB T ⟨va, vi, fs⟩ = keptB T ⟨pre ++ post, vi, fs⟩ := by
  subst hva
  rw [keptB_eq, keptB_eq]
  simp only [isSkipped_insert pre post a T h]

def unitV (name : Str) (attrs : List Attr) : Variant := ⟨attrs, name, .unit⟩

/-- ```
#[serde(skip_serializing)] A, #[serde(skip_deserializing)] B, #[serde(skip_serializing_if = "f")] C,
#[serde(other)] D, #[serde(alias = "x")] E, #[serde(skip_serializing, skip_deserializing)] F,
#[typeshare(skipped)] G, #[serde(rename(skip))] H, #[serde(skip = "x")] I, #[other(skip)] J, #[skip] K
``` -/
def lookalikeVariants : List Variant :=
  [unitV s%"A" [serdeList [.path [s%"skip_serializing"]]],
   unitV s%"B" [serdeList [.path [s%"skip_deserializing"]]],
   unitV s%"C" [serdeList [.nameValue [s%"skip_serializing_if"] (some (.str s%"f"))]],
   unitV s%"D" [serdeList [.path [s%"other"]]],
   unitV s%"E" [serdeList [.nameValue [s%"alias"] (some (.str s%"x"))]],
   unitV s%"F" [serdeList [.path [s%"skip_serializing"], .path [s%"skip_deserializing"]]],
   unitV s%"G" [⟨.list [kTypeshare] true [.path [s%"skipped"]]⟩],
   unitV s%"H" [serdeList [.list [s%"rename"] true [.path [kSkip]]]],
   unitV s%"I" [serdeList [.nameValue [kSkip] (some (.str s%"x"))]],
   unitV s%"J" [⟨.list [s%"other"] true [.path [kSkip]]⟩],
   unitV s%"K" [⟨.path [kSkip]⟩]]

theorem lookalike_variants_all_kept : ∀ v ∈ lookalikeVariants, keptB [] v = true := by decide +kernel

/-- ten of them pass the syntactic test; `other(skip)` does not and does not need to: the marker must sit in
`serde(..)` / `typeshare(..)` itself -/
example : (lookalikeVariants.filter fun v => v.attrs.all noSkipArg).length = 10 := by decide +kernel

/-! ## non-vacuity -/

def wE : Ext := { U := .ascii, parseType := fun _ => none }
def tsAttr : Attr := ⟨.path [kTypeshare]⟩
def skippedV : Variant := unitV s%"Gone" [serdeList [.path [s%"default"], .path [kSkip]]]

/-- the look-alikes and one really skipped variant in the middle: eleven of twelve are parsed, in order -/
example : (match parseEnum wE [] [tsAttr] s%"En" [] (lookalikeVariants.take 5 ++ skippedV :: lookalikeVariants.drop 5) with
    | .ok (.enum e) => e.variants.map (·.id.renamed) | _ => []) =
    [s%"A", s%"B", s%"C", s%"D", s%"E", s%"F", s%"G", s%"H", s%"I", s%"J", s%"K"] := by decide +kernel
example : keptB [] skippedV = false := by decide +kernel
example : ∀ v ∈ lookalikeVariants, C16.UpperCamel v.ident := by decide +kernel

end TsV.C02_VariantLookalikes
