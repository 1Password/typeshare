import TsV.Lemmas.C01_Main
/-!
# C01 — field wire names in generated types equal serde's JSON keys

Specification side (trusted, `TsV/Lemmas/C01_Spec.lean`): `fieldKey` — serde's key of a field,
built from the port of serde_derive's `case.rs` (`TsV.Serde.applyField`) — and, per language, the
binding semantics `boundKey` on the back-end model's fact record.

* parse half: the parser model computes exactly serde's key (`C01_parse_*`), for all eight rules on
  conventional identifiers (via `C16.C16_field`) and unconditionally with an explicit
  `serde(rename)`; struct-variant fields follow the *variant's* `rename_all`.
* back-end half: for each of the six languages the key bound to a field is `id.renamed`, for
  every field of every struct and of every helper struct of a struct variant (TypeScript: inline),
  for every configuration and printer state (`C01_typescript` … `C01_scala`, `C01_backend_*`).
* `C01`: the composition, from the `syn` AST of a struct / enum to the keys the generated
  declarations bind.

serde_derive itself panics on an empty Pascal form under `camelCase`; agreement is therefore "whenever
serde has a key, the generated declaration binds that key" (`C16.Agree`).
-/
namespace TsV.C01
open TsV TsV.Str TsV.Syn TsV.Parser TsV.Serde TsV.Lang TsV.Outcome

/-! ## parse half -/

/-- **one field**: the parser model's wire name is serde's key — for every rule string on
conventional identifiers, and unconditionally with an explicit `serde(rename)` -/
theorem C01_parse_field (E : Ext) (hU : E.U.AsciiCorrect) (cf : Bool) (ra : Option Str) (f : Field)
    (rf : RustField) (i : Str) (hi : f.ident = some i)
    (hs : IdentConv i ∨ (serdeRename E f.attrs).isSome = true)
    (h : parseField E cf ra f = .ok rf) : SerdeKey E ra f rf.id.renamed :=
  (parseField_key E hU cf ra f rf h).2 (by
    rcases hs with hs | hs
    · exact Or.inl ⟨i, hi, hs⟩
    · exact Or.inr ⟨⟨i, hi⟩, hs⟩)

/-- explicit rename, no hypothesis at all -/
theorem C01_parse_field_renamed (E : Ext) (cf : Bool) (ra : Option Str) (f : Field) (rf : RustField) (k : Str)
    (hk : serdeRename E f.attrs = some k) (h : parseField E cf ra f = .ok rf) : rf.id.renamed = k :=
  getIdent_explicit E _ _ _ _ k (parseField_ok h).id hk

theorem parsedKey_serdeKey (E : Ext) (ra : Option Str) (f : Field) (id : Id)
    (hs : ∃ i, f.ident = some i ∧ IdentConv i) (h : ParsedKey E ra f id) : SerdeKey E ra f id.renamed :=
  h.2 (Or.inl hs)

/-- **structs**: the kept fields, in order, each with serde's key under the struct's `rename_all` -/
theorem C01_parse_struct (E : Ext) (hU : E.U.AsciiCorrect) (targetOs : List Str) (attrs : List Attr)
    (ident : Str) (gens : List GenericParam) (fs : List Field) (rs : RustStruct)
    (h : parseStruct E targetOs attrs ident gens (.named fs) = .ok (.struct rs))
    (hs : ∀ f ∈ kept targetOs fs, ∃ i, f.ident = some i ∧ IdentConv i) :
    Forall₂ (fun f rf => SerdeKey E (serdeRenameAll E attrs) f rf.id.renamed) (kept targetOs fs) rs.fields :=
  Forall₂.imp (fun f rf ⟨hf, hp⟩ => parsedKey_serdeKey E _ f rf.id hf hp)
    (forall₂_mem_left (parseStruct_keys E hU targetOs attrs ident gens fs rs h) hs)

/-- **struct variants**: the variant's own `rename_all`, not the enum's (`enumRa` does not occur in
the conclusion) -/
theorem C01_parse_variant (E : Ext) (hU : E.U.AsciiCorrect) (targetOs : List Str) (enumRa : Option Str)
    (v : Variant) (id : Id) (cs : List Str) (rfs : List RustField)
    (h : parseEnumVariant E targetOs enumRa v = .ok (.anonymousStruct id cs rfs))
    (hs : ∀ fs, v.fields = .named fs → ∀ f ∈ kept targetOs fs, ∃ i, f.ident = some i ∧ IdentConv i) :
    ∃ fs, v.fields = .named fs ∧
      Forall₂ (fun f rf => SerdeKey E (serdeRenameAll E v.attrs) f rf.id.renamed) (kept targetOs fs) rfs := by
  obtain ⟨fs, hfs, hk⟩ := parseEnumVariant_keys E hU targetOs enumRa v id cs rfs h
  exact ⟨fs, hfs, Forall₂.imp (fun f rf ⟨hf, hp⟩ => parsedKey_serdeKey E _ f rf.id hf hp)
    (forall₂_mem_left hk (hs fs hfs))⟩

/-- in-scope fields get keys over the key alphabet, so the back-end halves apply -/
theorem C01_key_alphabet (E : Ext) (ra : Option Str) (f : Field) (k : Str) (hf : FieldInScope E f)
    (h : fieldKeyOf E ra f = .ok k) : KeyStr k := fieldKeyOf_keyStr E ra f k hf h

/-! ## back-end half, one theorem per language -/

/-- **TypeScript**: the property name, un-quoted if it is a string literal -/
theorem C01_typescript (cfg : Lang.TypeScript.Cfg) (gens : List Str) (fs : List RustField)
    (st st' : Lang.TypeScript.CustomMap) (tfs : List Lang.TypeScript.TsField)
    (h : TypeScript.fieldsFacts cfg gens fs st = .ok (tfs, st')) :
    Forall₂ (Binds .typescript) fs (tfs.map TypeScript.boundKey) :=
  Forall₂.map_right_iff.2 (TypeScript.fieldsFacts_keys cfg gens fs st st' tfs h)

/-- the quoted spelling is inverted by the binding semantics on the key alphabet -/
theorem C01_typescript_unquote (k : Str) (hk : KeyStr k) (tf : Lang.TypeScript.TsField)
    (hn : tf.name = Lang.TypeScript.propertyName k) : TypeScript.boundKey tf = k :=
  TypeScript.boundKey_of_name tf k hn hk

/-- **Kotlin**: `@SerialName` is struct-wide; without it no key has a dash and `remove_dash` is the identity -/
theorem C01_kotlin (cfg : Lang.Kotlin.Cfg) (rs : RustStruct) (d : Lang.Kotlin.KtDecl)
    (h : Lang.Kotlin.structFacts cfg rs = .ok d) :
    (Kotlin.declParams d).map Kotlin.boundKey = rs.fields.map (·.id.renamed) :=
  forall₂_eq_map (fun f : RustField => f.id.renamed)
    (Forall₂.map_right_iff.2 (Kotlin.structFacts_keys cfg rs d h))

/-- **Swift**: `CodingKeys` raw value of the property's case, or the property name without back-ticks -/
theorem C01_swift (U : UnicodeOps) (cfg : Lang.Swift.Cfg) (rs : RustStruct) (st st' : Lang.Swift.St)
    (s : Lang.Swift.SwiftStruct) (h : Lang.Swift.structFacts U cfg rs st = .ok (s, st'))
    (hd : Distinct .swift rs.fields) : Forall₂ (Binds .swift) rs.fields (Swift.structKeys s) :=
  Swift.structFacts_keys U cfg rs st st' s h hd

/-- **Go**: the name part of the json tag -/
theorem C01_go (U : UnicodeOps) (cfg : Lang.Go.Cfg) (rs : RustStruct) (st st' : Lang.Go.Imports)
    (d : Lang.Go.GoStruct) (h : Lang.Go.structFacts U cfg rs st = .ok (d, st')) :
    Forall₂ (Binds .go) rs.fields (d.fields.map Go.boundKey) :=
  Forall₂.map_right_iff.2 (Go.structFacts_keys U cfg rs st st' d h)

/-- **Python**: alias if present, else the attribute name — for *every* `E.snakeCase` -/
theorem C01_python (E : Ext) (cfg : Lang.Python.Cfg) (rs : RustStruct) (st st' : Lang.Python.St)
    (c : Lang.Python.PyClass) (h : Lang.Python.structFacts E cfg rs st = .ok (c, st')) :
    c.fields.map Python.boundKey = rs.fields.map (·.id.renamed) :=
  forall₂_eq_map (fun f : RustField => f.id.renamed)
    (Forall₂.map_right_iff.2
      (Python.structFacts_keys E cfg rs st st' c h))

/-- **Scala**: the parameter name; dash-free keys only -/
theorem C01_scala (cfg : Lang.Scala.Cfg) (rs : RustStruct) (c : Lang.Scala.ScClass)
    (h : Lang.Scala.classFacts cfg rs = .ok c) :
    Forall₂ (Binds .scala) rs.fields (c.params.map Scala.boundKey) :=
  Forall₂.map_right_iff.2 (Scala.classFacts_keys cfg rs c h)

/-! ### the facts the theorems speak about are the ones the models render -/

theorem C01_typescript_struct_text (cfg : Lang.TypeScript.Cfg) (rs : RustStruct)
    (st st' : Lang.TypeScript.CustomMap) (txt : Str) (h : Lang.TypeScript.writeStruct cfg rs st = .ok (txt, st')) :
    ∃ tfs, TypeScript.fieldsFacts cfg rs.genericTypes rs.fields st = .ok (tfs, st') ∧
      txt = Lang.TypeScript.comments 0 rs.comments ++ s%"export interface " ++ rs.id.renamed ++
        genericSuffix rs.genericTypes ++ s%" {\n" ++ tfs.flatMap Lang.TypeScript.renderField ++ s%"}\n\n" :=
  TypeScript.writeStruct_fields cfg rs st st' txt h

theorem C01_typescript_variants_text (cfg : Lang.TypeScript.Cfg) (e : RustEnum) (tag content : Str)
    (st st' : Lang.TypeScript.CustomMap) (txt : Str)
    (h : Lang.TypeScript.writeVariants cfg e tag content e.variants st = .ok (txt, st')) :
    ∃ tfss, TypeScript.variantsFacts cfg e e.variants st = .ok (tfss, st') :=
  TypeScript.writeVariants_facts cfg e tag content e.variants st st' txt h

theorem C01_kotlin_enum_decls (cfg : Lang.Kotlin.Cfg) (e : RustEnum) (ds : List Lang.Kotlin.KtDecl)
    (h : Lang.Kotlin.enumFacts cfg e = .ok ds) :
    ∃ inners rest, Lang.Kotlin.structsFacts cfg (Lang.Kotlin.innerStructs e) = .ok inners ∧ ds = inners ++ rest :=
  Kotlin.enumFacts_inners cfg e ds h

theorem C01_swift_enum_structs (U : UnicodeOps) (cfg : Lang.Swift.Cfg) (e : RustEnum) (st st' : Lang.Swift.St)
    (ss : List Lang.Swift.SwiftStruct) (se : Lang.Swift.SwiftEnum)
    (h : Lang.Swift.enumFacts U cfg e st = .ok (ss, se, st')) :
    ∃ st1, Lang.Swift.anonymousStructs U cfg e (structVariants e) st = .ok (ss, st1) := by
  unfold Lang.Swift.enumFacts at h
  obtain ⟨⟨structs, st1⟩, h1, h2⟩ := of_bind_ok h
  obtain ⟨⟨cases', st2⟩, _, h4⟩ := of_bind_ok h2
  cases h4
  exact ⟨st1, h1⟩

theorem C01_go_enum_structs (U : UnicodeOps) (cfg : Lang.Go.Cfg) (e : RustEnum) (tagKey contentKey : Str)
    (cs : List Str) (st st' : Lang.Go.Imports) (d : Lang.Go.GoAlgEnum)
    (h : Lang.Go.algEnumFacts U cfg e tagKey contentKey cs st = .ok (d, st')) :
    ∃ st1, Lang.Go.anonStructs U cfg e (structVariants e) st = .ok (d.anonymous, st1) := by
  obtain ⟨_, st1, _, _, _, _, _, h1, _, _, _, _, _, rfl⟩ := Lang.Go.algEnumFacts_inv h
  exact ⟨st1, h1⟩

theorem C01_python_enum_classes (E : Ext) (cfg : Lang.Python.Cfg) (e : RustEnum) (tag content : Str)
    (st st' : Lang.Python.St) (u : Lang.Python.PyUnion)
    (h : Lang.Python.unionFacts E cfg e tag content st = .ok (u, st')) :
    ∃ st1, Lang.Python.innerFacts E cfg e (structVariants e) st = .ok (u.inner, st1) := by
  obtain ⟨_, st1, _, _, _, h1, _, rfl⟩ := Lang.Python.unionFacts_inv h
  exact ⟨st1, h1⟩

theorem C01_scala_enum_classes (cfg : Lang.Scala.Cfg) (e : RustEnum) (se : Lang.Scala.ScEnum)
    (h : Lang.Scala.enumFacts cfg e = .ok se) : Lang.Scala.innerClasses cfg e = .ok se.inner := by
  obtain ⟨inner, h1, h2⟩ := of_bind_ok h
  obtain ⟨cases', -, rfl⟩ := of_bind_ret h2
  exact h1

/-! ### combined over the languages -/

/-- **every struct, every language, every configuration and printer state**: each field is bound to
its wire name -/
theorem C01_backend_struct (E : Ext) (L : TsV.Lang) (ctx : Ctx L) (rs : RustStruct) (ks : List Str)
    (h : structKeys E L ctx rs = .ok ks) (hd : Distinct L rs.fields) : Forall₂ (Binds L) rs.fields ks := by
  cases L with
  | typescript =>
    obtain ⟨cfg, st⟩ := ctx
    obtain ⟨⟨tfs, st'⟩, h1, h2⟩ := of_bind_ok h
    cases h2
    exact C01_typescript cfg _ _ st st' tfs h1
  | kotlin =>
    obtain ⟨d, h1, h2⟩ := of_bind_ok h
    cases h2
    rw [C01_kotlin ctx rs d h1]
    exact forall₂_map_self _ _ fun f _ _ => rfl
  | swift =>
    obtain ⟨cfg, st⟩ := ctx
    obtain ⟨⟨s, st'⟩, h1, h2⟩ := of_bind_ok h
    cases h2
    exact C01_swift E.U cfg rs st st' s h1 hd
  | scala =>
    obtain ⟨c, h1, h2⟩ := of_bind_ok h
    cases h2
    exact C01_scala ctx rs c h1
  | go =>
    obtain ⟨cfg, st⟩ := ctx
    obtain ⟨⟨d, st'⟩, h1, h2⟩ := of_bind_ok h
    cases h2
    exact C01_go E.U cfg rs st st' d h1
  | python =>
    obtain ⟨cfg, st⟩ := ctx
    obtain ⟨⟨c, st'⟩, h1, h2⟩ := of_bind_ok h
    cases h2
    rw [C01_python E cfg rs st st' c h1]
    exact forall₂_map_self _ _ fun f _ _ => rfl

/-- **every struct variant of every enum**: the helper struct (TypeScript: the inline object type)
binds each field to its wire name -/
theorem C01_backend_enum (E : Ext) (L : TsV.Lang) (ctx : Ctx L) (e : RustEnum) (kss : List (List Str))
    (h : enumKeys E L ctx e = .ok kss) (hd : ∀ p ∈ structVariants e, Distinct L p.2) :
    Forall₂ (fun (p : Id × List RustField) ks => Forall₂ (Binds L) p.2 ks) (structVariants e) kss := by
  cases L with
  | typescript =>
    obtain ⟨cfg, st⟩ := ctx
    obtain ⟨⟨tfss, st'⟩, h1, h2⟩ := of_bind_ok h
    cases h2
    exact forall₂_map_nested (S := Binds .typescript) (sel := Prod.snd) id TypeScript.boundKey
      (TypeScript.variantsFacts_keys cfg e e.variants st st' tfss h1)
  | kotlin =>
    obtain ⟨ds, h1, h2⟩ := of_bind_ok h
    cases h2
    exact forall₂_map_nested (S := Binds .kotlin) (sel := Prod.snd) Kotlin.declParams Kotlin.boundKey
      (Forall₂.imp (fun _ _ hp => Forall₂.imp (fun _ _ hq _ => hq) hp) (Kotlin.innerStructs_keys ctx e ds h1))
  | swift =>
    obtain ⟨cfg, st⟩ := ctx
    obtain ⟨⟨ss, st'⟩, h1, h2⟩ := of_bind_ok h
    cases h2
    exact Forall₂.map_right_iff.2
      (Swift.anonymousStructs_keys E.U cfg e _ st st' ss h1 hd)
  | scala =>
    obtain ⟨cs, h1, h2⟩ := of_bind_ok h
    cases h2
    exact forall₂_map_nested (S := Binds .scala) (sel := Prod.snd) Scala.ScClass.params Scala.boundKey
      (Scala.innerClasses_keys ctx e cs h1)
  | go =>
    obtain ⟨cfg, st⟩ := ctx
    obtain ⟨⟨ds, st'⟩, h1, h2⟩ := of_bind_ok h
    cases h2
    exact forall₂_map_nested (S := Binds .go) (sel := Prod.snd) Go.GoStruct.fields Go.boundKey
      (Go.anonStructs_keys E.U cfg e _ st st' ds h1)
  | python =>
    obtain ⟨cfg, st⟩ := ctx
    obtain ⟨⟨cs, st'⟩, h1, h2⟩ := of_bind_ok h
    cases h2
    exact forall₂_map_nested (S := Binds .python) (sel := Prod.snd) Python.PyClass.fields Python.boundKey
      (Forall₂.imp (fun _ _ hp => Forall₂.imp (fun _ _ hq _ => hq) hp) (Python.innerFacts_keys E cfg e _ st st' cs h1))

/-! ## the property at full strength -/

/-- the struct clause: from the `syn` AST of an annotated struct with named fields to the keys the
generated declaration binds.  `rs'` is the struct the back end receives: the parsed one up to the
type rewriting of `reconcile_aliases`. -/
def StructClause (E : Ext) (L : TsV.Lang) (ctx : Ctx L) (targetOs : List Str) : Prop :=
  ∀ (attrs : List Attr) (ident : Str) (gens : List GenericParam) (fs : List Field) (rs rs' : RustStruct)
    (ks : List Str),
    parseStruct E targetOs attrs ident gens (.named fs) = .ok (.struct rs) →
    fieldIds rs'.fields = fieldIds rs.fields →
    (∀ f ∈ kept targetOs fs, InScope E L (serdeRenameAll E attrs) f) →
    Distinct L rs'.fields →
    structKeys E L ctx rs' = .ok ks →
    Forall₂ (SerdeKey E (serdeRenameAll E attrs)) (kept targetOs fs) ks

/-- the struct-variant clause: the kept struct variants of an annotated enum, in order, each with
the keys its helper declaration binds; the rule is the *variant's* `rename_all` -/
def EnumClause (E : Ext) (L : TsV.Lang) (ctx : Ctx L) (targetOs : List Str) : Prop :=
  ∀ (attrs : List Attr) (ident : Str) (gens : List GenericParam) (variants : List Variant) (e e' : RustEnum)
    (kss : List (List Str)),
    parseEnum E targetOs attrs ident gens variants = .ok (.enum e) →
    (structVariants e').map (fun p => fieldIds p.2) = (structVariants e).map (fun p => fieldIds p.2) →
    (∀ v ∈ variants.filter (fun v => !isSkipped v.attrs targetOs), ∀ fs, v.fields = .named fs →
      ∀ f ∈ kept targetOs fs, InScope E L (serdeRenameAll E v.attrs) f) →
    (∀ p ∈ structVariants e', Distinct L p.2) →
    enumKeys E L ctx e' = .ok kss →
    Forall₂ (fun v ks => ∃ fs, v.fields = .named fs ∧
        Forall₂ (SerdeKey E (serdeRenameAll E v.attrs)) (kept targetOs fs) ks)
      ((variants.filter fun v => !isSkipped v.attrs targetOs).filter namedFields) kss

/-- **C01 at full strength**: all six languages, every configuration / printer state, every
`target_os` list, every struct and every struct variant inside the quantifier -/
def C01_full : Prop :=
  ∀ (E : Ext), E.U.AsciiCorrect → ∀ (L : TsV.Lang) (ctx : Ctx L) (targetOs : List Str),
    StructClause E L ctx targetOs ∧ EnumClause E L ctx targetOs

theorem struct_clause (E : Ext) (hU : E.U.AsciiCorrect) (L : TsV.Lang) (ctx : Ctx L) (targetOs : List Str) :
    StructClause E L ctx targetOs := by
  intro attrs ident gens fs rs rs' ks hparse hids hscope hd hkeys
  have hp := parseStruct_keys E hU targetOs attrs ident gens fs rs hparse
  have hb := C01_backend_struct E L ctx rs' ks hkeys hd
  exact compose_fields E L _ _ (fieldIds rs.fields) rs'.fields ks
    (Forall₂.map_right_iff.2 hp) hids hscope hb

theorem enum_clause (E : Ext) (hU : E.U.AsciiCorrect) (L : TsV.Lang) (ctx : Ctx L) (targetOs : List Str) :
    EnumClause E L ctx targetOs := by
  intro attrs ident gens variants e e' kss hparse hids hscope hd hkeys
  have hrel := parseEnum_rel E hU targetOs attrs ident gens variants e hparse
  have hal := struct_variants_aligned E targetOs hrel
  have hb := C01_backend_enum E L ctx e' kss hkeys hd
  -- transport along the identifier lists
  have hal' : Forall₂ (fun v ids => ∃ fs, v.fields = .named fs ∧
      Forall₂ (fun f id => ParsedKey E (serdeRenameAll E v.attrs) f id) (kept targetOs fs) ids)
      ((variants.filter fun v => !isSkipped v.attrs targetOs).filter namedFields)
      ((structVariants e).map fun p => fieldIds p.2) :=
    Forall₂.map_right_iff.2
      (Forall₂.imp (fun (v : Variant) (p : Id × List RustField) ⟨fs, hfs, hk⟩ => ⟨fs, hfs,
        Forall₂.map_right_iff.2 hk⟩) hal)
  rw [← hids] at hal'
  have hal'' := Forall₂.map_right_iff.1 hal'
  have hmem : ∀ v ∈ (variants.filter fun v => !isSkipped v.attrs targetOs).filter namedFields,
      v ∈ variants.filter (fun v => !isSkipped v.attrs targetOs) := by
    intro v hv
    exact (List.mem_filter.1 hv).1
  refine Forall₂.imp ?_ (Forall₂.comp (forall₂_mem_left hal'' hmem) hb)
  rintro v ks ⟨p, ⟨hv, fs, hfs, hk⟩, hbk⟩
  exact ⟨fs, hfs, compose_fields E L _ _ (fieldIds p.2) p.2 ks hk rfl (hscope v hv fs hfs) hbk⟩

/-- **C01.**  The model satisfies the property at full strength. -/
theorem C01 : C01_full :=
  fun E hU L ctx targetOs => ⟨struct_clause E hU L ctx targetOs, enum_clause E hU L ctx targetOs⟩

/-- `reconcile_aliases` keeps the field identifiers, so `C01` applies to what the back ends receive -/
theorem reconcile_keeps_ids (crate : Str) (r : Pipeline.Renames) (imports : List ImportedType)
    (fs : List RustField) : fieldIds (fs.map (Pipeline.checkField crate r imports)) = fieldIds fs := by
  simp [fieldIds, Pipeline.checkField]

theorem reconcile_keeps_variant_ids (crate : Str) (r : Pipeline.Renames) (imports : List ImportedType)
    (e : RustEnum) :
    (structVariants { e with variants := e.variants.map (Pipeline.checkVariant crate r imports) }).map
        (fun p => fieldIds p.2) = (structVariants e).map (fun p => fieldIds p.2) := by
  unfold structVariants
  simp only
  induction e.variants with
  | nil => rfl
  | cons v vs ih =>
    simp only [List.map_cons, List.filterMap_cons]
    cases v with
    | unit id cs => exact ih
    | tuple id cs ty => exact ih
    | anonymousStruct id cs fs =>
      simp only [Pipeline.checkVariant, List.map_cons, ih, reconcile_keeps_ids]

/-- list form of the conclusion: where serde has a key for every field, the bound keys are exactly serde's -/
theorem serdeKeys_eq (E : Ext) (ra : Option Str) : ∀ {fs : List Field} {ks : List Str},
    Forall₂ (SerdeKey E ra) fs ks → (∀ f ∈ fs, ∃ k, fieldKeyOf E ra f = .ok k) →
    ks.map Outcome.ok = fs.map (fieldKeyOf E ra) := by
  intro fs ks hks h
  induction hks with
  | nil => rfl
  | @cons f k fs ks hk _ ih =>
    obtain ⟨v, hv⟩ := h f List.mem_cons_self
    have := hk v hv
    simp only [List.map_cons, ih (fun x hx => h x (List.mem_cons_of_mem _ hx)), hv, this]

/-- typeshare reads `serde(rename = "…")` like serde does, except that it trims the value … -/
theorem serdeRename_eq_raw (E : Ext) (attrs : List Attr) :
    serdeRename E attrs = (serdeRenameRaw attrs).map E.U.trim := by
  unfold serdeRename getNameValueMetaItems serdeRenameRaw
  rw [← List.head?_map, List.map_flatMap]
  congr 1
  congr 1
  funext a
  rw [List.map_filterMap]
  congr 1
  funext m
  cases m with
  | path segs => rfl
  | list segs p args => rfl
  | nameValue segs v =>
    cases v with
    | none => simp [exprToString]
    | some l =>
      cases l with
      | str v => by_cases hs : (segs == [s%"rename"]) = true <;> simp [exprToString, hs]
      | int v sfx => simp [exprToString]
      | other => simp [exprToString]

/-- … which is invisible on keys without white space (all keys of the property's alphabet) -/
theorem serdeRename_raw (E : Ext) (attrs : List Attr) (k : Str) (h : serdeRenameRaw attrs = some k)
    (hw : ∀ c ∈ k, E.U.isWhite c = false) : serdeRename E attrs = some k := by
  rw [serdeRename_eq_raw, h, Option.map_some, RenameLemmas.trim_id E.U k hw]

/-! ## non-vacuity: concrete inputs that meet the hypotheses, kernel-checked -/

def E0 : Ext := { U := .ascii, parseType := fun _ => none }

/-- `#[typeshare] #[serde(rename_all = "camelCase")] struct Foo { r#type, #[serde(default, rename = "with-dash")] user_id,
#[serde(skip)] hidden, created_at }` -/
def exAttrs : List Attr :=
  [⟨.path [s%"typeshare"]⟩, ⟨.list [s%"serde"] true [.nameValue [s%"rename_all"] (some (.str s%"camelCase"))]⟩]
def exFields : List Field :=
  [ ⟨[], some s%"r#type", .path [] s%"String" []⟩,
    ⟨[⟨.list [s%"serde"] true [.path [s%"default"], .nameValue [s%"rename"] (some (.str s%"with-dash"))]⟩],
      some s%"user_id", .path [] s%"u32" []⟩,
    ⟨[⟨.list [s%"serde"] true [.path [s%"skip"]]⟩], some s%"hidden", .path [] s%"u32" []⟩,
    ⟨[], some s%"created_at", .path [] s%"bool" []⟩ ]
def exStruct : RustStruct :=
  match parseStruct E0 [] exAttrs s%"Foo" [] (.named exFields) with
  | .ok (.struct rs) => rs
  | _ => default

example : parseStruct E0 [] exAttrs s%"Foo" [] (.named exFields) = .ok (.struct exStruct) := by rfl
example : (kept [] exFields).map (fieldKeyOf E0 (serdeRenameAll E0 exAttrs)) =
    [.ok s%"type", .ok s%"with-dash", .ok s%"createdAt"] := by decide +kernel
example : exStruct.fields.map (·.id.renamed) = [s%"type", s%"with-dash", s%"createdAt"] := by decide +kernel
example : IdentConv s%"r#address_line1" := by decide +kernel
example : KeyStr s%"kebab-case-Name_1" := by decide +kernel
example : FieldInScope E0 exFields[1] := (inScopeB_sound E0 .swift none _ (by decide +kernel)).1
/-- the hypotheses of `C01_parse_field`, both disjuncts -/
example : ∃ rf, parseField E0 true (some s%"camelCase") exFields[0] = .ok rf ∧ rf.id.renamed = s%"type" :=
  ⟨_, rfl, by decide +kernel⟩
example : ∃ rf, parseField E0 true (some s%"camelCase") exFields[1] = .ok rf ∧ rf.id.renamed = s%"with-dash" :=
  ⟨_, rfl, by decide +kernel⟩
/-- the default configuration of each back end with its initial printer state -/
def ctx0 : (L : TsV.Lang) → Ctx L
  | .typescript => ({}, [])
  | .kotlin => {}
  | .swift => ({}, false)
  | .scala => { package := s%"p" }
  | .go => ({}, [])
  | .python => ({}, {})
def exKeys : List Str := [s%"type", s%"with-dash", s%"createdAt"]
/-- what the back ends bind for it (one evaluation: `exStruct` is parsed once for the five) -/
theorem exStruct_keys : ∀ L ∈ [TsV.Lang.typescript, .kotlin, .swift, .go, .python],
    structKeys E0 L (ctx0 L) exStruct = .ok exKeys := by decide +kernel
example : structKeys E0 .typescript ({}, []) exStruct = .ok [s%"type", s%"with-dash", s%"createdAt"] :=
  exStruct_keys .typescript (by decide)
example : structKeys E0 .kotlin {} exStruct = .ok [s%"type", s%"with-dash", s%"createdAt"] := exStruct_keys .kotlin (by decide)
example : structKeys E0 .swift ({}, false) exStruct = .ok [s%"type", s%"with-dash", s%"createdAt"] :=
  exStruct_keys .swift (by decide)
example : structKeys E0 .go ({}, []) exStruct = .ok [s%"type", s%"with-dash", s%"createdAt"] := exStruct_keys .go (by decide)
example : structKeys E0 .python ({}, {}) exStruct = .ok [s%"type", s%"with-dash", s%"createdAt"] :=
  exStruct_keys .python (by decide)
/-- Scala: the dashed key is outside the scope (and indeed lost: `with_dash`) -/
example : structKeys E0 .scala { package := s%"p" } exStruct = .ok [s%"type", s%"with_dash", s%"createdAt"] := by
  decide +kernel
example : ¬ InScope E0 .scala (serdeRenameAll E0 exAttrs) exFields[1] := by
  intro h; exact absurd (h.2 s%"with-dash" (by decide +kernel)) (by decide +kernel)

/-- every hypothesis of the struct clause of `C01` is met by the example, for Swift with a prefix -/
example : Forall₂ (SerdeKey E0 (serdeRenameAll E0 exAttrs)) (kept [] exFields)
    [s%"type", s%"with-dash", s%"createdAt"] := by
  obtain ⟨hscope, hdistinct, hkeys⟩ : (kept [] exFields).all (inScopeB E0 .swift (serdeRenameAll E0 exAttrs)) = true ∧
      Distinct .swift exStruct.fields ∧ structKeys E0 .swift ({ pfx := s%"OP" }, false) exStruct = .ok exKeys := by
    decide +kernel
  exact (C01 E0 UnicodeOps.ascii_correct .swift ({ pfx := s%"OP" }, false) []).1 exAttrs s%"Foo" [] exFields exStruct
    exStruct _ (by rfl) rfl (inScopeB_all _ _ _ _ hscope) hdistinct hkeys

/-- `#[serde(tag = "t", content = "c", rename_all = "snake_case")] enum Ev { #[serde(rename_all = "SCREAMING-KEBAB-CASE")]
AddressLine { foo_bar, #[serde(rename = "x_y")] r#type }, Empty, Plain { user_id } }`: the variant's rule, not the enum's -/
def exEnumAttrs : List Attr :=
  [⟨.path [s%"typeshare"]⟩,
   ⟨.list [s%"serde"] true [.nameValue [s%"tag"] (some (.str s%"t")), .nameValue [s%"content"] (some (.str s%"c")),
     .nameValue [s%"rename_all"] (some (.str s%"snake_case"))]⟩]
def exVariants : List Variant :=
  [ ⟨[⟨.list [s%"serde"] true [.nameValue [s%"rename_all"] (some (.str s%"SCREAMING-KEBAB-CASE"))]⟩], s%"AddressLine",
      .named [⟨[], some s%"foo_bar", .path [] s%"u8" []⟩,
              ⟨[⟨.list [s%"serde"] true [.nameValue [s%"rename"] (some (.str s%"x_y"))]⟩], some s%"r#type", .path [] s%"String" []⟩]⟩,
    ⟨[], s%"Empty", .unit⟩,
    ⟨[], s%"Plain", .named [⟨[], some s%"user_id", .path [] s%"u8" []⟩]⟩ ]
def exEnum : RustEnum :=
  match parseEnum E0 [] exEnumAttrs s%"Ev" [] exVariants with
  | .ok (.enum e) => e
  | _ => default

example : parseEnum E0 [] exEnumAttrs s%"Ev" [] exVariants = .ok (.enum exEnum) := by rfl
def exEnumKeys : List (List Str) := [[s%"FOO-BAR", s%"x_y"], [s%"user_id"]]
/-- the hypotheses of the enum clause of `C01` for Kotlin with a prefix: scope, distinct members, the keys bound -/
theorem exEnum_kotlin : variantsInScopeB E0 .kotlin [] (exVariants.filter fun v => !isSkipped v.attrs []) = true ∧
    (∀ p ∈ structVariants exEnum, Distinct .kotlin p.2) ∧
    enumKeys E0 .kotlin { pfx := s%"P" } exEnum = .ok exEnumKeys := by decide +kernel
theorem exEnum_keys : ∀ L ∈ [TsV.Lang.typescript, .swift, .go, .python], enumKeys E0 L (ctx0 L) exEnum = .ok exEnumKeys := by
  decide +kernel
example : enumKeys E0 .kotlin { pfx := s%"P" } exEnum = .ok [[s%"FOO-BAR", s%"x_y"], [s%"user_id"]] :=
  have ⟨_, _, hkeys⟩ := exEnum_kotlin
  hkeys
example : enumKeys E0 .typescript ({}, []) exEnum = .ok [[s%"FOO-BAR", s%"x_y"], [s%"user_id"]] :=
  exEnum_keys .typescript (by decide)
example : enumKeys E0 .swift ({}, false) exEnum = .ok [[s%"FOO-BAR", s%"x_y"], [s%"user_id"]] := exEnum_keys .swift (by decide)
example : enumKeys E0 .go ({}, []) exEnum = .ok [[s%"FOO-BAR", s%"x_y"], [s%"user_id"]] := exEnum_keys .go (by decide)
example : enumKeys E0 .python ({}, {}) exEnum = .ok [[s%"FOO-BAR", s%"x_y"], [s%"user_id"]] := exEnum_keys .python (by decide)
example : (structVariants exEnum).map (fun p => p.2.map (·.id.renamed)) = [[s%"FOO-BAR", s%"x_y"], [s%"user_id"]] := by
  decide +kernel

/-- every hypothesis of the enum clause of `C01` is met by the example, for Kotlin with a prefix: the first
variant's keys follow *its* `SCREAMING-KEBAB-CASE`, the second's are untouched by the enum's `snake_case` -/
example : Forall₂ (fun v ks => ∃ fs, v.fields = .named fs ∧
      Forall₂ (SerdeKey E0 (serdeRenameAll E0 v.attrs)) (kept [] fs) ks)
    ((exVariants.filter fun v => !isSkipped v.attrs []).filter namedFields)
    [[s%"FOO-BAR", s%"x_y"], [s%"user_id"]] :=
  have ⟨hscope, hdistinct, hkeys⟩ := exEnum_kotlin
  (C01 E0 UnicodeOps.ascii_correct .kotlin { pfx := s%"P" } []).2 exEnumAttrs s%"Ev" [] exVariants exEnum exEnum _
    (by rfl) rfl (variantsInScopeB_sound _ _ _ _ hscope) hdistinct hkeys

/-- why `Distinct` is a hypothesis for Swift: `a-b` and `a_b` collide after `-` ↦ `_`; the second
property is then looked up under the first one's `CodingKeys` case (the generated Swift does not
compile — C10's business) -/
def collide : RustStruct :=
  { id := ⟨s%"S", s%"S", false⟩, genericTypes := [], comments := [], decorators := {}, isRedacted := false,
    fields := [ { id := ⟨s%"x", s%"a-b", true⟩, ty := .prim .u8, comments := [], hasDefault := false, decorators := [] },
                { id := ⟨s%"a_b", s%"a_b", false⟩, ty := .prim .u8, comments := [], hasDefault := false, decorators := [] } ] }
example : ¬ Distinct .swift collide.fields := by decide +kernel
example : structKeys E0 .swift ({}, false) collide = .ok [s%"a-b", s%"a-b"] := by decide +kernel

end TsV.C01
