import TsV.Lemmas.C04_Decorators
/-!
# C04, decorators — the optional marker does not depend on a field's decorators

A field carries per-language decorators (`#[typeshare(typescript(readonly))]`,
`#[typeshare(kotlin(JvmField))]`, `#[typeshare(swift(…))]`, `#[typeshare(go(type = "…"))]` …).  Of
these the back ends read only the per-language `type = "…"` override (`C04.overrideOf`; Python reads
none) and TypeScript's `readonly`.

* `C04_Decorators` (`C04_Decorators_full`): for every back end, configuration and pair of fields
  that differ at most in their decorators and have the same type override for that back end, the
  generated declarations have exactly the same readings `(optional?, type without the marker)` under
  C04's binding semantics `C04.Declares`.  Hence `C04.FieldSpec` transfers (`fieldSpec_transfer`).
* per language the whole fact record is the same (`kotlin_same`, `swift_same`, `scala_same`,
  `go_same`, `python_same`); for TypeScript it is the same up to the `readonly` flag
  (`typescript_same`), and `readonly` changes only the prefix of the property line:
  `typescript_readonly_prefix`.
-/
namespace TsV.C04_Decorators
open TsV TsV.Lang TsV.Generate TsV.C04 TsV.C04D

/-- **C04_Decorators at full strength**: all six back ends, every configuration, every pair of
fields equal up to decorators with the same `type` override for the back end -/
def C04_Decorators_full : Prop :=
  ∀ (E : Ext) (gens : List Str) (f g : RustField) (B : LangCfg), SameBut f g → overrideOf g B = overrideOf f B →
    ∀ o core, Declares E gens f B o core ↔ Declares E gens g B o core

theorem declares_of (E : Ext) (gens : List Str) (f g : RustField) (B : LangCfg) (h : SameBut f g)
    (ho : overrideOf g B = overrideOf f B) (o : Bool) (core : Str) (hd : Declares E gens f B o core) :
    Declares E gens g B o core := by
  cases B with
  | typescript cfg =>
    obtain ⟨st, st', tf, h1, h2, h3⟩ := hd
    refine ⟨st, st', { tf with readonly := hasDecoratorNamed g .typescript s%"readonly" }, ?_, h2, h3⟩
    rw [Ts.fieldFacts_congr cfg gens h ho st, h1]
    rfl
  | kotlin cfg =>
    obtain ⟨rsn, priv, p, h1, h2, h3⟩ := hd
    exact ⟨rsn, priv, p, by rw [kotlin_paramFacts_congr cfg gens rsn priv h ho]; exact h1, h2, h3⟩
  | swift cfg =>
    obtain ⟨st, st', ty, h1, h2, h3⟩ := hd
    obtain ⟨e1, e2, _, _⟩ := swift_fieldType_congr cfg gens h ho st
    exact ⟨st, st', ty, by rw [e1]; exact h1, by rw [e2]; exact h2, by rw [e2]; exact h3⟩
  | scala cfg =>
    obtain ⟨p, h1, h2, h3⟩ := hd
    exact ⟨p, by rw [scala_paramFacts_congr cfg gens h ho]; exact h1, h2, h3⟩
  | go cfg =>
    obtain ⟨st, st', p, h1, h2, h3⟩ := hd
    exact ⟨st, st', p, by rw [go_fieldFacts_congr E.U cfg h ho st]; exact h1, h2, h3⟩
  | python cfg =>
    obtain ⟨st, st', p, h1, h2⟩ := hd
    exact ⟨st, st', p, by rw [python_fieldFacts_congr E cfg gens h st]; exact h1, h2⟩

/-- **C04_Decorators.**  The model satisfies the statement at full strength. -/
theorem C04_Decorators : C04_Decorators_full :=
  fun E gens f g B h ho o core =>
    ⟨declares_of E gens f g B h ho o core, declares_of E gens g f B h.symm ho.symm o core⟩

/-- C04's per-field demand transfers between fields that differ in decorators only -/
theorem fieldSpec_transfer (E : Ext) (gens : List Str) (f g : RustField) (B : LangCfg) (h : SameBut f g)
    (ho : overrideOf g B = overrideOf f B) (hs : FieldSpec E B gens f) : FieldSpec E B gens g := by
  intro o core hd
  have hd' := (C04_Decorators E gens f g B h ho o core).2 hd
  obtain ⟨ho', core', hc, ht⟩ := hs o core hd'
  have hopt : opt g = opt f := by simp [opt, h.2.1, h.2.2.2]
  refine ⟨by rw [hopt]; exact ho', core', (C04_Decorators E gens f g B h ho o core').1 hc, ?_⟩
  rw [h.2.1]
  exact ht

/-- decorators never put a field out of C04's scope unless they add a `type` override -/
theorem inScope_transfer (gens : List Str) (f g : RustField) (B : LangCfg) (h : SameBut f g)
    (ho : overrideOf g B = overrideOf f B) (hs : InScope gens f B) : InScope gens g B := by
  obtain ⟨h1, h2, h3⟩ := hs
  refine ⟨by rw [ho]; exact h1, by rw [h.2.1]; exact h2, ?_⟩
  cases B <;> simp only [h.2.1] at * <;> exact h3

/-! ## the whole fact record, per language -/

/-- **TypeScript**: same state, same record up to the `readonly` flag -/
theorem typescript_same (cfg : TypeScript.Cfg) (gens : List Str) (f g : RustField) (h : SameBut f g)
    (ho : typeOverride g .typescript = typeOverride f .typescript) (st st' : TypeScript.CustomMap)
    (tf : TypeScript.TsField) (hf : TypeScript.fieldFacts cfg gens f st = .ok (tf, st')) :
    TypeScript.fieldFacts cfg gens g st =
      .ok ({ tf with readonly := hasDecoratorNamed g .typescript s%"readonly" }, st') := by
  rw [Ts.fieldFacts_congr cfg gens h ho st, hf]
  rfl

/-- **TypeScript**: `readonly` changes only the prefix of the property line — the line is the
comments, a tab, `readonly ` or nothing, and `lineCore`, which is the same for both fields (name,
`?`, type, ` | null`) -/
theorem typescript_readonly_prefix (cfg : TypeScript.Cfg) (gens : List Str) (f g : RustField) (h : SameBut f g)
    (ho : typeOverride g .typescript = typeOverride f .typescript) (st st' : TypeScript.CustomMap)
    (tf : TypeScript.TsField) (hf : TypeScript.fieldFacts cfg gens f st = .ok (tf, st')) :
    ∃ tg, TypeScript.fieldFacts cfg gens g st = .ok (tg, st') ∧
      tg.readonly = hasDecoratorNamed g .typescript s%"readonly" ∧
      tf.readonly = hasDecoratorNamed f .typescript s%"readonly" ∧
      Ts.lineCore tg = Ts.lineCore tf ∧
      TypeScript.renderField tf = TypeScript.comments 1 f.comments ++ s%"\t" ++
        (if tf.readonly then s%"readonly " else []) ++ Ts.lineCore tf ∧
      TypeScript.renderField tg = TypeScript.comments 1 f.comments ++ s%"\t" ++
        (if tg.readonly then s%"readonly " else []) ++ Ts.lineCore tf := by
  obtain ⟨hr, hc⟩ := Ts.fieldFacts_readonly_comments hf
  refine ⟨_, typescript_same cfg gens f g h ho st st' tf hf, rfl, hr, rfl, ?_, ?_⟩
  · rw [Ts.renderField_split, hc]
  · rw [Ts.renderField_split]
    simp only [hc]
    rfl

theorem kotlin_same (cfg : Kotlin.Cfg) (gens : List Str) (rsn priv : Bool) (f g : RustField) (h : SameBut f g)
    (ho : typeOverride g .kotlin = typeOverride f .kotlin) :
    Kotlin.paramFacts cfg gens rsn priv g = Kotlin.paramFacts cfg gens rsn priv f :=
  kotlin_paramFacts_congr cfg gens rsn priv h ho

theorem swift_same (cfg : Swift.Cfg) (gens : List Str) (f g : RustField) (h : SameBut f g)
    (ho : typeOverride g .swift = typeOverride f .swift) (st : Swift.St) :
    Swift.fieldType cfg gens g st = Swift.fieldType cfg gens f st ∧ Swift.fieldOptional g = Swift.fieldOptional f ∧
      Swift.memberName g = Swift.memberName f ∧ Swift.fieldCodingKey g = Swift.fieldCodingKey f :=
  swift_fieldType_congr cfg gens h ho st

theorem scala_same (cfg : Scala.Cfg) (gens : List Str) (f g : RustField) (h : SameBut f g)
    (ho : typeOverride g .scala = typeOverride f .scala) : Scala.paramFacts cfg gens g = Scala.paramFacts cfg gens f :=
  scala_paramFacts_congr cfg gens h ho

theorem go_same (U : UnicodeOps) (cfg : Go.Cfg) (f g : RustField) (h : SameBut f g)
    (ho : typeOverride g .go = typeOverride f .go) (st : Go.Imports) :
    Go.fieldFacts U cfg g st = Go.fieldFacts U cfg f st := go_fieldFacts_congr U cfg h ho st

/-- **Python** reads no field decorator: no hypothesis on overrides -/
theorem python_same (E : Ext) (cfg : Python.Cfg) (gens : List Str) (f g : RustField) (h : SameBut f g)
    (st : Python.St) : Python.fieldFacts E cfg gens g st = Python.fieldFacts E cfg gens f st :=
  python_fieldFacts_congr E cfg gens h st

/-! ## non-vacuity -/

/-- `#[serde(default)] pub n: u32` -/
def plain : RustField :=
  { id := ⟨s%"n", s%"n", false⟩, ty := .prim .u32, comments := [s%"a number"], hasDefault := true, decorators := [] }

/-- the same field with `#[typeshare(typescript(readonly), kotlin(JvmField), swift(frozen), go(type = "uint"))]` -/
def decorated : RustField :=
  withDecorators plain [(.typescript, [.word s%"readonly"]), (.kotlin, [.word s%"JvmField"]),
    (.swift, [.word s%"frozen"]), (.go, [.nameValue s%"type" s%"uint"])]

example : SameBut plain decorated := sameBut_with _ _
example : overrideOf decorated (.typescript {}) = overrideOf plain (.typescript {}) := by decide +kernel
example : overrideOf decorated (.kotlin {}) = overrideOf plain (.kotlin {}) := by decide +kernel
example : overrideOf decorated (.swift {}) = overrideOf plain (.swift {}) := by decide +kernel
/-- the hypothesis is not vacuous the other way either: the Go override differs -/
example : overrideOf decorated (.go {}) ≠ overrideOf plain (.go {}) := by decide +kernel

def E0 : Ext := { U := .ascii, parseType := fun _ => none }

def tsLine (f : RustField) : Option Str :=
  match TypeScript.fieldFacts {} [] f [] with
  | .ok (tf, _) => some (TypeScript.renderField tf)
  | _ => none

example : tsLine plain = some s%"\t/** a number */\n\tn?: number;\n" := by decide +kernel
example : tsLine decorated = some s%"\t/** a number */\n\treadonly n?: number;\n" := by decide +kernel

/-- the conclusion of `C04_Decorators` on the example: both are declared optional with core `number` -/
example : Declares E0 [] plain (.typescript {}) true s%"number" ∧
    Declares E0 [] decorated (.typescript {}) true s%"number" := by
  have hp : Declares E0 [] plain (.typescript {}) true s%"number" :=
    ⟨[], [], _, rfl, by decide, by decide⟩
  exact ⟨hp, (C04_Decorators _ [] plain decorated (.typescript {}) (sameBut_with _ _) (by decide) true _).1 hp⟩

end TsV.C04_Decorators
