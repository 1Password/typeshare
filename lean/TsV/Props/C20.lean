import TsV.Model.Config
/-!
# C20 — CLI options override typeshare.toml; generated config files round-trip
-/
namespace TsV.C20
open TsV TsV.Config

variable {R : Type}

/-- **precedence** for every setting that exists in both places: command line, else file, else default -/
theorem precedence (dflt : R) (file : Option (Shared × R)) (o : Cli) (c : Config R)
    (h : overrideConfiguration (loadConfig dflt file) o = some c) :
    c.shared.swiftPrefix = o.swiftPrefix.getD ((file.map (·.1.swiftPrefix)).getD []) ∧
    c.shared.kotlinPrefix = o.kotlinPrefix.getD ((file.map (·.1.kotlinPrefix)).getD []) ∧
    c.shared.kotlinPackage = o.javaPackage.getD ((file.map (·.1.kotlinPackage)).getD []) ∧
    c.shared.kotlinModule = o.kotlinModule.getD ((file.map (·.1.kotlinModule)).getD []) ∧
    c.shared.scalaPackage = o.scalaPackage.getD ((file.map (·.1.scalaPackage)).getD []) ∧
    c.shared.scalaModule = o.scalaModule.getD ((file.map (·.1.scalaModule)).getD []) ∧
    c.shared.goPackage = o.goPackage.getD ((file.map (·.1.goPackage)).getD []) := by
  simp only [overrideConfiguration] at h
  split at h
  · simp at h
  · simp only [Option.some.injEq] at h
    subst h
    cases file with
    | none => simp [loadConfig]
    | some f => obtain ⟨s, r⟩ := f; simp [loadConfig]

/-- **file-only settings are applied unchanged** -/
theorem file_only_unchanged (dflt : R) (file : Option (Shared × R)) (o : Cli) (c : Config R)
    (h : overrideConfiguration (loadConfig dflt file) o = some c) :
    c.rest = (file.map (·.2)).getD dflt := by
  simp only [overrideConfiguration] at h
  split at h
  · simp at h
  · simp only [Option.some.injEq] at h
    subst h
    cases file with
    | none => simp [loadConfig]
    | some f => obtain ⟨s, r⟩ := f; simp [loadConfig]

/-- `--target-os` comes from the command line only -/
theorem target_os_cli_only (c0 : Config R) (o : Cli) (c : Config R)
    (h : overrideConfiguration c0 o = some c) : c.targetOs = o.targetOs.getD [] := by
  simp only [overrideConfiguration] at h
  split at h
  · simp at h
  · simp only [Option.some.injEq] at h; subst h; rfl

/-- the only failure: generating Go without any package name -/
theorem override_fails_iff (c0 : Config R) (o : Cli) :
    overrideConfiguration c0 o = none ↔
      (o.langIsGo = true ∧ (o.goPackage.getD c0.shared.goPackage) = []) := by
  simp only [overrideConfiguration]
  split
  · rename_i h
    simp only [Bool.and_eq_true, List.isEmpty_iff] at h
    simpa using h
  · rename_i h
    simp only [Bool.and_eq_true, List.isEmpty_iff, not_and] at h
    simp
    exact h

/-- **`-g` never overwrites** an existing file -/
theorem store_never_overwrites (c : Config R) : storeConfig true c = none := rfl

/-- **round trip** of `-g`: what is stored reloads to the same effective settings, for every
later command line (given that TOML (de)serialisation round-trips — the `toml` crate, external) -/
theorem generated_config_round_trips (dflt : R) (c : Config R) (stored : Shared × R)
    (h : storeConfig false c = some stored) (o : Cli) :
    overrideConfiguration (loadConfig dflt (some stored)) o =
      overrideConfiguration { c with targetOs := [] } o := by
  simp [storeConfig] at h
  subst h
  simp [loadConfig, overrideConfiguration]

/-! ### non-vacuity: the 2x2 matrix for one option -/
def fileK : Shared × Unit := ({ kotlinPrefix := s%"F" }, ())
example : (overrideConfiguration (loadConfig () none) {}).map (·.shared.kotlinPrefix) = some [] := by decide +kernel
example : (overrideConfiguration (loadConfig () (some fileK)) {}).map (·.shared.kotlinPrefix) = some s%"F" := by decide +kernel
example : (overrideConfiguration (loadConfig () none) { kotlinPrefix := some s%"C" }).map (·.shared.kotlinPrefix) = some s%"C" := by decide +kernel
example : (overrideConfiguration (loadConfig () (some fileK)) { kotlinPrefix := some s%"C" }).map (·.shared.kotlinPrefix) = some s%"C" := by decide +kernel
example : (overrideConfiguration (loadConfig () none) { langIsGo := true } : Option (Config Unit)).isNone = true := by decide +kernel

end TsV.C20
