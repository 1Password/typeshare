import TsV.Lemmas.C09_HelperParams
import TsV.Lemmas.C09_HelperParams_Tie
import TsV.Props.C09
/-!
# C09_HelperParams — the helper struct of a struct variant declares the generic parameters its fields mention

For a struct variant `V { f₁: t₁, … }` of a tagged enum `E<A, B, …>` every back end but TypeScript
writes a helper struct `EVInner` (`write_types_for_anonymous_structs`, language/mod.rs:366; model
`Lang.anonymousStruct`) whose generic parameter list is computed from the enum's list by the mention
test `RustType::contains_type`.  A parameter the helper does not declare would be printed inside it as
a *user type* (`format_simple_type`: "mapping, else generic parameter, else prefixed") — C09's
`Target.type` instead of `Target.param`.

* `mention_test_exact` — `contains_type` is the inductive "is written in" predicate `Mentions` over
  every constructor position; `mention_test_misses_no_position`, `mention_test_names` — relative to
  the name positions (`leaves`: plain leaves and generic heads at any depth) of C09's reference
  semantics it misses nothing, and it sees nothing else for a name that is not a primitive's.
* `helper_params_exact`, `helper_params_nodup`, `helper_params_order` — the helper declares exactly the
  enum's parameters some field mentions, each once, in first-mention order.
* `helper_scope_param`, `helper_scope_agrees`, `helper_refs`, `variant_refs_helper`,
  `helper_never_type`, `helper_param_refs`, `helper_param_spelling`, `undeclared_would_be_prefixed` —
  over the C09 reference semantics: read as a struct of its own (scope = its own declared list) the
  helper has exactly the references `variantRefs` gives the variant's fields in the enum's scope; no
  reference to a parameter of the enum is a `Target.type`; every occurrence of a parameter is a
  `Target.param` reference, spelled bare.
* `C09_HelperParams : C09_HelperParams_full` — the above for every enum, every field list, all back ends.
* `C09_HelperParams_program` — in a program in scope without shadowing: every occurrence of a
  parameter of the enum in a field of a struct variant is the reference `⟨g, .param g, _⟩` of
  `refs … (.enum e)`, and the helper (built from the reconciled fields, as the back ends see them)
  declares `g`.
* `helper_declares_kotlin / swift / scala / go / python` — tie: the generic parameter list in each
  back end's fact record of the helper declaration is that list; `helper_applied_*` — Kotlin, Swift
  and Scala apply the helper to the same list where the enum's case refers to it (Go and Python refer
  to it by its bare name: `go_python_use_site_bare`).

Nothing is false on the model here: the mention test looks into every position (`Vec`, array, slice,
`Option`, map key, map value, generic head, generic argument at any depth).  One over-approximation:
a parameter *named like a primitive* (`enum E<u8> { V { x: u8 } }`) counts as mentioned where the
primitive stands (`prim_name_counts_as_mention`); the field is printed as the primitive in the enum as
in the helper, so no reference is affected.
-/
namespace TsV.C09_HelperParams
open TsV TsV.Pipeline TsV.Generate TsV.Lang TsV.C09

/-! ## 1. the mention test -/

/-- **`RustType::contains_type` is exactly "the name is written in the type"** (`Mentions`: the type
itself, a generic head, inside a generic argument, `Vec`, array, slice, `Option`, map key, map value —
recursively; a primitive mentions its own Rust name) -/
theorem mention_test_exact (t : RustType) (g : Str) : t.containsType g = true ↔ Mentions t g :=
  ⟨mentions_of_contains g t, contains_of_mentions⟩

/-- **no position is missed**: every name position of the C09 reference semantics — a plain leaf or
the head of a generic application, at any depth, in any container, map keys included — passes the test -/
theorem mention_test_misses_no_position (t : RustType) (l : Leaf) (h : l ∈ leaves t) :
    t.containsType l.id = true :=
  contains_of_leaf t l h

/-- **and nothing else is seen**: a name that is not the Rust name of a primitive passes the test
exactly when it stands at a name position -/
theorem mention_test_names (t : RustType) (g : Str) (hg : ∀ p : Prim, p.id ≠ g) :
    t.containsType g = true ↔ ∃ hd, (⟨g, hd⟩ : Leaf) ∈ leaves t :=
  ⟨fun h => leaf_of_mentions (mentions_of_contains g t h) hg, fun ⟨_, h⟩ => contains_of_leaf t _ h⟩

/-! ## 2. the parameters of the helper struct -/

/-- **the helper declares exactly the parameters of the enum that some field mentions** -/
theorem helper_params_exact (e : RustEnum) (n v : Str) (fs : List RustField) (g : Str) :
    g ∈ (anonymousStruct e n v fs).genericTypes ↔ g ∈ e.genericTypes ∧ ∃ f ∈ fs, Mentions f.ty g := by
  rw [anonymousStruct_generics, mem_helperGens]
  simp only [mention_test_exact]

/-- the same, read per parameter of the enum -/
theorem helper_params_iff_mentioned (e : RustEnum) (n v : Str) (fs : List RustField) :
    ∀ g ∈ e.genericTypes, (∃ f ∈ fs, Mentions f.ty g) ↔ g ∈ (anonymousStruct e n v fs).genericTypes :=
  fun g hg => ⟨fun h => (helper_params_exact e n v fs g).2 ⟨hg, h⟩, fun h => ((helper_params_exact e n v fs g).1 h).2⟩

/-- **each once** -/
theorem helper_params_nodup (e : RustEnum) (n v : Str) (fs : List RustField) :
    (anonymousStruct e n v fs).genericTypes.Nodup :=
  nodup_eraseDups _

/-- **in first-mention order**: none for no field; for `f :: fs` the parameters `f` mentions, in the
order of the enum's own list, then the parameters of the helper for `fs` that `f` does not mention.
(So the list need not be a sublist of the enum's: `enum E<A, B> { V { x: B, y: A } }` gives `[B, A]`,
see `order_example`.) -/
theorem helper_params_order (e : RustEnum) (n v : Str) :
    (anonymousStruct e n v []).genericTypes = [] ∧
    ∀ (f : RustField) (fs : List RustField),
      (anonymousStruct e n v (f :: fs)).genericTypes =
        (e.genericTypes.filter fun g => f.ty.containsType g).eraseDups ++
          (anonymousStruct e n v fs).genericTypes.filter fun g => !f.ty.containsType g :=
  ⟨rfl, fun f fs => helperGens_cons e f fs⟩

/-- one field, enum parameters pairwise different (Rust demands it): the enum's list, filtered -/
theorem helper_params_single (e : RustEnum) (n v : Str) (f : RustField) (hn : e.genericTypes.Nodup) :
    (anonymousStruct e n v [f]).genericTypes = e.genericTypes.filter fun g => f.ty.containsType g := by
  rw [(helper_params_order e n v).2 f [], (helper_params_order e n v).1]
  simp [eraseDups_of_nodup _ (hn.sublist List.filter_sublist)]

/-- the name and the variant do not matter, the five back ends and the C09 semantics compute one list -/
theorem helper_params_same (lc : LangCfg) (hw : writesHelper lc = true) (e : RustEnum) (n v : Str) (fs : List RustField) :
    innerGens lc e fs = (anonymousStruct e n v fs).genericTypes ∧
    Kotlin.usedGenerics e fs = (anonymousStruct e n v fs).genericTypes ∧
    Scala.usedGenerics e fs = (anonymousStruct e n v fs).genericTypes :=
  ⟨innerGens_eq hw e fs, rfl, rfl⟩

/-! ## 3. over the C09 reference semantics -/

/-- **with the helper's declared list as scope, a mentioned parameter of the enum is a parameter** -/
theorem helper_scope_param (e : RustEnum) (n v : Str) (fs : List RustField) (f : RustField) (hf : f ∈ fs)
    (g : Str) (hg : g ∈ e.genericTypes) (hm : Mentions f.ty g) :
    tgt (anonymousStruct e n v fs).genericTypes g = .param g := by
  have : g ∈ (anonymousStruct e n v fs).genericTypes := (helper_params_exact e n v fs g).2 ⟨hg, f, hf, hm⟩
  simp [tgt_eq, this]

/-- **the helper's scope and the enum's scope agree on every name a field mentions** -/
theorem helper_scope_agrees (e : RustEnum) (n v : Str) (fs : List RustField) (f : RustField) (hf : f ∈ fs)
    (id : Str) (hm : Mentions f.ty id) :
    tgt (anonymousStruct e n v fs).genericTypes id = tgt e.genericTypes id := by
  have : id ∈ (anonymousStruct e n v fs).genericTypes ↔ id ∈ e.genericTypes := by
    rw [helper_params_exact]
    exact ⟨fun h => h.1, fun h => ⟨h, f, hf, hm⟩⟩
  simp [tgt_eq, this]

/-- **the references of the helper, read as a struct of its own** (scope and `generic_types` = its own
declared list), **are the references `variantRefs` gives the fields of the variant** (scope = the
enum's list, `generic_types` = `innerGens`): same targets, same spellings, same order -/
theorem helper_refs (lc : LangCfg) (hw : writesHelper lc = true) (r : Renames) (e : RustEnum) (n v : Str)
    (fs : List RustField) :
    refs lc r (.struct (anonymousStruct e n v fs)) =
      fs.flatMap fun f => typeRefs lc r e.genericTypes (innerGens lc e fs) f.ty := by
  simp only [helper_refs_eq, innerGens_eq hw, typeRefs_eq_map]

/-- hence the references of a struct variant of a tagged enum are: the parent, the helper, and the
helper's own references -/
theorem variant_refs_helper (lc : LangCfg) (hw : writesHelper lc = true) (r : Renames) (e : RustEnum)
    (kc : Str × Str) (hk : e.keys = some kc) (id : Id) (cs : List Str) (fs : List RustField) (n v : Str) :
    variantRefs lc r e (.anonymousStruct id cs fs) =
      parentRefs lc e ++ (innerRefs lc e id.original ++ refs lc r (.struct (anonymousStruct e n v fs))) := by
  rw [helper_refs lc hw]
  simp [variantRefs, hk]

/-- **no reference inside the helper treats a parameter of the enum as a type** (any back end, any
rename map) -/
theorem helper_never_type (lc : LangCfg) (r : Renames) (e : RustEnum) (n v : Str) (fs : List RustField) :
    ∀ ref ∈ refs lc r (.struct (anonymousStruct e n v fs)), ∀ g ∈ e.genericTypes, ref.target ≠ .type g := by
  intro ref href g hg htg
  rw [helper_refs_eq] at href
  obtain ⟨f, _, hfr⟩ := List.mem_flatMap.1 href
  obtain ⟨l, _, rfl⟩ := List.mem_map.1 hfr
  have htg' : tgt e.genericTypes l.id = .type g := htg
  rw [tgt_eq] at htg'
  split at htg'
  · cases htg'
  · rename_i hni
    cases htg'
    exact hni hg

/-- **every occurrence of a parameter of the enum in a field is a `Target.param` reference of the
helper** (plain leaf or generic head, in whatever container) -/
theorem helper_param_refs (lc : LangCfg) (r : Renames) (e : RustEnum) (n v : Str) (fs : List RustField)
    (f : RustField) (hf : f ∈ fs) (l : Leaf) (hl : l ∈ leaves f.ty) (hg : l.id ∈ e.genericTypes) :
    (⟨spell lc (anonymousStruct e n v fs).genericTypes (recName r l.id), .param l.id, l.head⟩ : Ref) ∈
      refs lc r (.struct (anonymousStruct e n v fs)) := by
  rw [helper_refs_eq]
  refine List.mem_flatMap.2 ⟨f, hf, List.mem_map.2 ⟨l, hl, ?_⟩⟩
  rw [tgt_eq, if_pos hg]
  rfl

/-- **and it is spelled bare**: with the helper's declared list as `generic_types` every back end
prints a mentioned parameter of the enum as its own name — not `prefix ++ name` — unless the
configuration maps that very name to something else -/
theorem helper_param_spelling (lc : LangCfg) (e : RustEnum) (n v : Str) (fs : List RustField) (f : RustField)
    (hf : f ∈ fs) (g : Str) (hg : g ∈ e.genericTypes) (hm : Mentions f.ty g)
    (hmap : mapGet (typeMappingsOf lc) g = none) :
    spell lc (anonymousStruct e n v fs).genericTypes g = g ∧
    (pfxOf lc ≠ [] → spell lc (anonymousStruct e n v fs).genericTypes g ≠ pfxOf lc ++ g) := by
  have h := spell_param hmap ((helper_params_exact e n v fs g).2 ⟨hg, f, hf, hm⟩)
  exact ⟨h, fun hp => by rw [h]; exact ne_append_self hp⟩

/-- why the declaration matters: a name the back end is *not* told about is printed behind the prefix
(Swift, Kotlin) — an undeclared parameter would come out as a user type -/
theorem undeclared_would_be_prefixed (lc : LangCfg) (hc : typeMappingsOf lc = []) (gens : List Str) (g : Str)
    (hg : g ∉ gens) : spell lc gens g = pfxOf lc ++ g := by
  rw [spell_eq hc]; simp [hg]

/-! ## the statement at full strength -/

/-- **C09_HelperParams**: for every enum, every name and every field list of a struct variant, the
synthesised helper struct `H` declares each parameter of the enum that some field mentions — at a name
position of whatever depth — exactly once and nothing else; under `H`'s own scope no reference inside
`H` takes a parameter of the enum for a type, every occurrence of one is a `param` reference, `H`'s
references are those of the variant's fields in the enum's scope (the five helper-writing back ends),
and a mentioned parameter is spelled bare by all back-end leaf printers. -/
def C09_HelperParams_full : Prop :=
  ∀ (e : RustEnum) (n v : Str) (fs : List RustField),
    (anonymousStruct e n v fs).genericTypes.Nodup ∧
    (∀ g, g ∈ (anonymousStruct e n v fs).genericTypes ↔ g ∈ e.genericTypes ∧ ∃ f ∈ fs, Mentions f.ty g) ∧
    (∀ f ∈ fs, ∀ l ∈ leaves f.ty, l.id ∈ e.genericTypes → l.id ∈ (anonymousStruct e n v fs).genericTypes) ∧
    (∀ (lc : LangCfg) (r : Renames),
      (∀ ref ∈ refs lc r (.struct (anonymousStruct e n v fs)), ∀ g ∈ e.genericTypes, ref.target ≠ .type g) ∧
      (∀ f ∈ fs, ∀ l ∈ leaves f.ty, l.id ∈ e.genericTypes →
        (⟨spell lc (anonymousStruct e n v fs).genericTypes (recName r l.id), .param l.id, l.head⟩ : Ref) ∈
          refs lc r (.struct (anonymousStruct e n v fs))) ∧
      (writesHelper lc = true → refs lc r (.struct (anonymousStruct e n v fs)) =
        fs.flatMap fun f => typeRefs lc r e.genericTypes (innerGens lc e fs) f.ty) ∧
      (∀ g ∈ e.genericTypes, (∃ f ∈ fs, Mentions f.ty g) → mapGet (typeMappingsOf lc) g = none →
        spell lc (anonymousStruct e n v fs).genericTypes g = g))

theorem C09_HelperParams : C09_HelperParams_full := by
  intro e n v fs
  refine ⟨helper_params_nodup e n v fs, helper_params_exact e n v fs, ?_, fun lc r => ⟨helper_never_type lc r e n v fs,
    fun f hf l hl hg => helper_param_refs lc r e n v fs f hf l hl hg, fun hw => helper_refs lc hw r e n v fs, ?_⟩⟩
  · intro f hf l hl hg
    exact (helper_params_exact e n v fs l.id).2 ⟨hg, f, hf, mentions_of_contains _ _ (contains_of_leaf _ _ hl)⟩
  · rintro g hg ⟨f, hf, hm⟩ hmap
    exact (helper_param_spelling lc e n v fs f hf g hg hm hmap).1

/-! ## in a program -/

/-- **In a program in scope, without shadowing**: every occurrence `l` of a generic parameter of a
tagged enum in a field of one of its struct variants is, in `refs … (.enum e)`, a reference to the
*parameter*, spelled with the bare name — in all six back ends, every prefix; and the helper struct the
five helper-writing back ends build *from the reconciled fields* declares it (it declares what the
helper of the source fields would). -/
theorem C09_HelperParams_program (P : ParsedData) (hs : InScope P) (lc : LangCfg) (hc : CfgOk lc)
    (hsh : Known_shadow P = false) (e : RustEnum) (he : e ∈ P.enums) (kc : Str × Str) (hk : e.keys = some kc)
    (id : Id) (cs : List Str) (fs : List RustField) (hv : RustEnumVariant.anonymousStruct id cs fs ∈ e.variants)
    (f : RustField) (hf : f ∈ fs) (l : Leaf) (hl : l ∈ leaves f.ty) (hg : l.id ∈ e.genericTypes) :
    (⟨l.id, .param l.id, l.head⟩ : Ref) ∈ refs lc (renamesOf P) (.enum e) ∧
    ∀ (e' : RustEnum) (n v : Str), e'.genericTypes = e.genericTypes →
      (anonymousStruct e' n v (fs.map (checkField [] (renamesOf P) []))).genericTypes =
        (anonymousStruct e n v fs).genericTypes ∧
      l.id ∈ (anonymousStruct e' n v (fs.map (checkField [] (renamesOf P) []))).genericTypes := by
  have hit : RustItem.enum e ∈ typeItems P := enum_mem_typeItems.2 he
  have hcont : f.ty.containsType l.id = true := contains_of_leaf _ _ hl
  constructor
  · have h := ref_of_leaf lc (renamesOf P) e.genericTypes (innerGens lc e fs) f.ty l hl
    have hsp := leaf_param (it := .enum e) (gens := innerGens lc e fs) hs hc.1 hsh hit
      (fun hx => innerGens_complete lc e fs f hf l.id hcont hx) hg
    have htg : tgt e.genericTypes l.id = .param l.id := by simp [tgt_eq, hg]
    rw [hsp, htg] at h
    simp only [refs, List.mem_flatMap]
    refine ⟨_, hv, ?_⟩
    simp only [variantRefs, hk, List.mem_append, List.mem_flatMap]
    exact .inr (.inr ⟨f, hf, h⟩)
  · intro e' n v hge
    have heq := helperGens_checkField (r := renamesOf P) hge
      (fun g hgm id' => recName_param hs hsh hit (g := g) hgm id') fs
    refine ⟨heq, ?_⟩
    rw [anonymousStruct_generics, heq]
    exact mem_helperGens.2 ⟨hg, f, hf, hcont⟩

/-! ## 4. tie: the generic parameter list in each back end's record of the helper declaration -/

/-- **Kotlin**: `enumFacts` returns one declaration per struct variant, then the enum's class; the
helper of `V { fs }` declares `genericSuffix` of exactly the helper list (`""` for the `object` of a
variant without fields, which mentions nothing), the enum its own full list -/
theorem helper_declares_kotlin (c : Kotlin.Cfg) (e : RustEnum) (ds : List Kotlin.KtDecl)
    (h : Kotlin.enumFacts c e = .ok ds) :
    ds.map ktGenerics =
      ((structVariants e).map fun p =>
        genericSuffix (anonymousStruct e (e.id.renamed ++ p.1.original ++ s%"Inner") p.1.original p.2).genericTypes) ++
      [genericSuffix e.genericTypes] :=
  tie_kotlin_enum_generics c e ds h

/-- … and the case of the sealed class applies the helper to the same list -/
theorem helper_applied_kotlin (c : Kotlin.Cfg) (e : RustEnum) (key : Str) (id : Id) (cs : List Str)
    (fs : List RustField) (k : Kotlin.KtCase) (h : Kotlin.caseFacts c e key (.anonymousStruct id cs fs) = .ok k) :
    k.payload = .inner key (c.pfx ++ e.id.renamed ++ id.original ++ s%"Inner")
      (genericSuffix (anonymousStruct e (e.id.renamed ++ id.original ++ s%"Inner") id.original fs).genericTypes) :=
  tie_kotlin_case_generics c e key id cs fs k h

/-- **Swift**: the names of the `GenericParam`s of the helper structs are the helper lists (each with
its constraint set, cf. C20), those of the enum its own list -/
theorem helper_declares_swift (U : UnicodeOps) (c : Swift.Cfg) (e : RustEnum) (st st' : Swift.St)
    (ss : List Swift.SwiftStruct) (d : Swift.SwiftEnum) (h : Swift.enumFacts U c e st = .ok (ss, d, st')) :
    ss.map (fun s => s.generics.map (·.name)) =
      (structVariants e).map (fun p =>
        (anonymousStruct e (Swift.anonymousStructName e p.1.original) p.1.original p.2).genericTypes) ∧
    d.generics.map (·.name) = e.genericTypes :=
  tie_swift_enum_generics U c e st st' ss d h

theorem helper_applied_swift {U : UnicodeOps} (c : Swift.Cfg) (e : RustEnum) (id : Id) (cs : List Str) (fs : List RustField)
    (st st' : Swift.St) (k : Swift.EnumCase)
    (h : Swift.algebraicCase U c e (.anonymousStruct id cs fs) st = .ok (k, st')) :
    k.payload = some ⟨c.pfx ++ Swift.anonymousStructName e id.original ++
      genericSuffix (anonymousStruct e (Swift.anonymousStructName e id.original) id.original fs).genericTypes, false⟩ :=
  tie_swift_case_generics c e id cs fs st st' k h

/-- **Scala**: `ScClass.generics` of the helper classes (a class without parameters is printed without
the list; it mentions nothing) -/
theorem helper_declares_scala (c : Scala.Cfg) (e : RustEnum) (d : Scala.ScEnum) (h : Scala.enumFacts c e = .ok d) :
    d.inner.map (·.generics) =
      (structVariants e).map (fun p =>
        (anonymousStruct e (e.id.renamed ++ p.1.original ++ s%"Inner") p.1.original p.2).genericTypes) ∧
    d.generics = e.genericTypes :=
  tie_scala_enum_generics c e d h

theorem helper_applied_scala (c : Scala.Cfg) (e : RustEnum) (kc : Str × Str) (hk : e.keys = some kc) (id : Id)
    (cs : List Str) (fs : List RustField) (k : Scala.ScCase)
    (h : Scala.caseFacts c e (.anonymousStruct id cs fs) = .ok k) :
    k.content = some (e.genericTypes, kc.2, e.id.renamed ++ id.original ++ s%"Inner" ++
      Scala.genericSq (anonymousStruct e (e.id.renamed ++ id.original ++ s%"Inner") id.original fs).genericTypes) :=
  tie_scala_case_generics c e kc hk id cs fs k h

/-- **Go**: `GoStruct.generics` of the helper structs (printed `[T any, …]`; Go's `format_type` ignores
`generic_types`, it never prefixes anything) -/
theorem helper_declares_go (U : UnicodeOps) (c : Go.Cfg) (e : RustEnum) (tag content : Str) (cs : List Str)
    (st st' : Go.Imports) (d : Go.GoAlgEnum) (h : Go.algEnumFacts U c e tag content cs st = .ok (d, st')) :
    d.anonymous.map (·.generics) = (structVariants e).map fun p => helperGens e p.2 :=
  tie_go_enum_generics U c e tag content cs st st' d h

/-- **Python**: `PyClass.generics` of the helper classes (the `Generic[…]` base) -/
theorem helper_declares_python (E : Ext) (c : Python.Cfg) (e : RustEnum) (tag content : Str) (st st' : Python.St)
    (d : Python.PyUnion) (h : Python.unionFacts E c e tag content st = .ok (d, st')) :
    d.inner.map (·.generics) = (structVariants e).map fun p => helperGens e p.2 :=
  tie_python_enum_generics E c e tag content st st' d h

/-- one helper declaration, any name: the five `write_struct`s record the helper list -/
theorem helper_declares_one (e : RustEnum) (n v : Str) (fs : List RustField) :
    (∀ c d, Kotlin.structFacts c (anonymousStruct e n v fs) = .ok d →
      ktGenerics d = genericSuffix (anonymousStruct e n v fs).genericTypes) ∧
    (∀ U c st st' d, Swift.structFacts U c (anonymousStruct e n v fs) st = .ok (d, st') →
      d.generics.map (·.name) = (anonymousStruct e n v fs).genericTypes) ∧
    (∀ c d, Scala.classFacts c (anonymousStruct e n v fs) = .ok d → d.generics = (anonymousStruct e n v fs).genericTypes) ∧
    (∀ U c st st' d, Go.structFacts U c (anonymousStruct e n v fs) st = .ok (d, st') →
      d.generics = (anonymousStruct e n v fs).genericTypes) ∧
    (∀ E c st st' d, Python.structFacts E c (anonymousStruct e n v fs) st = .ok (d, st') →
      d.generics = (anonymousStruct e n v fs).genericTypes) :=
  ⟨fun c d h => tie_kotlin_helper c e n v fs d h, fun U c st st' d h => tie_swift_helper U c e n v fs st st' d h,
   fun c d h => tie_scala_helper c e n v fs d h, fun U c st st' d h => tie_go_helper U c e n v fs st st' d h,
   fun E c st st' d h => tie_python_helper E c e n v fs st st' d h⟩

/-- **Go and Python refer to the helper by its bare name** (no type arguments at the use site, whatever
the helper declares): `GoAlgVariant.payload`, `PyVariant.contentType` -/
theorem go_python_use_site_bare :
    (∀ (U : UnicodeOps) (c : Go.Cfg), c.uppercaseAcronyms = [] → ∀ (e : RustEnum) (sn tag : Str) (cs : List Str) (id : Id)
      (cm : List Str) (fs : List RustField) (st st' : Go.Imports) (g : Go.GoAlgVariant),
      Go.algVariant U c e sn tag cs (.anonymousStruct id cm fs) st = .ok (g, st') →
      g.payload = some ⟨e.id.original ++ id.original ++ innerSuffix, true⟩) ∧
    (∀ (E : Ext) (c : Python.Cfg) (e : RustEnum) (tag content : Str) (id : Id) (cm : List Str) (fs : List RustField)
      (st st' : Python.St) (v : Python.PyVariant),
      Python.variantFacts E c e tag content (.anonymousStruct id cm fs) st = .ok (v, st') →
      v.contentType = some (Python.innerName e id.original)) :=
  ⟨fun U c hc e sn tag cs id cm fs st st' g h => (tie_go_variant U c hc e sn tag cs id cm fs st st' g h).1,
   fun E c e tag content id cm fs st st' v h => (tie_python_variant E c e tag content id cm fs st st' v h).1⟩

/-! ## non-vacuity: a generic tagged enum whose struct variants mention parameters in every position -/

def fT : Str := s%"T"
def fU : Str := s%"U"
def fW : Str := s%"W"

/-- `#[serde(tag = "t", content = "c")] enum Gn<T, U, W> {
      Va { g: T, m: HashMap<String, Vec<U>>, k: Wrap<Option<[T; 3]>>, s: &[U], p: u8 },
      Vb { w: HashMap<W, u8> },  Vc { p: u8 },  Vd { x: U, y: T },  Ve { h: T<u8> },  Vf(T) }` -/
def wVa : List RustField :=
  [fld s%"g" (.simple fT), fld s%"m" (.hashMap (.prim .string) (.vec (.simple fU))),
   fld s%"k" (.generic s%"Wrap" [.option (.array (.simple fT) 3)]), fld s%"s" (.slice (.simple fU)),
   fld s%"p" (.prim .u8)]
def wVb : List RustField := [fld s%"w" (.hashMap (.simple fW) (.prim .u8))]
def wVc : List RustField := [fld s%"p" (.prim .u8)]
def wVd : List RustField := [fld s%"x" (.simple fU), fld s%"y" (.simple fT)]
def wVe : List RustField := [fld s%"h" (.generic fT [.prim .u8])]

def wGn3 : RustEnum :=
  { keys := some (s%"t", s%"c"), id := mkId s%"Gn" none, genericTypes := [fT, fU, fW], comments := [],
    variants := [.anonymousStruct (mkId s%"Va" none) [] wVa, .anonymousStruct (mkId s%"Vb" none) [] wVb,
                 .anonymousStruct (mkId s%"Vc" none) [] wVc, .anonymousStruct (mkId s%"Vd" none) [] wVd,
                 .anonymousStruct (mkId s%"Ve" none) [] wVe, .tuple (mkId s%"Vf" none) [] (.simple fT)],
    decorators := {}, isRecursive := false, isRedacted := false }

def W_gn3 : ParsedData := { enums := [wGn3] }

theorem W_gn3_inScope : InScope W_gn3 := inScope_of _ (by decide) (by decide) (by decide) (by decide) rfl rfl

/-- the helper lists of the five struct variants: bare / map value inside `Vec` / generic argument
inside `Option` inside an array / slice → `[T, U]`; map key → `[W]`; none → `[]`; first-mention order
→ `[U, T]`; a generic *head* that is a parameter → `[T]` -/
theorem helper_lists_example :
    (structVariants wGn3).map (fun p => (anonymousStruct wGn3 [] p.1.original p.2).genericTypes) =
      [[fT, fU], [fW], [], [fU, fT], [fT]] := by decide +kernel

/-- `helper_params_order`: the helper's list is not a sublist of the enum's -/
theorem order_example : (anonymousStruct wGn3 [] [] wVd).genericTypes = [fU, fT] ∧ wGn3.genericTypes = [fT, fU, fW] := by
  decide +kernel

/-- `Mentions` at depth: `T` inside `Wrap<Option<[T; 3]>>`, `U` as a map value inside a `Vec`, `W` as a map key -/
example : Mentions (.generic s%"Wrap" [.option (.array (.simple fT) 3)]) fT ∧
    Mentions (.hashMap (.prim .string) (.vec (.simple fU))) fU ∧ Mentions (.hashMap (.simple fW) (.prim .u8)) fW :=
  ⟨.arg (List.mem_singleton.2 rfl) (.option (.array (.simple _))), .value (.vec (.simple _)), .key (.simple _)⟩

/-- `mention_test_misses_no_position` / `mention_test_names`: the name positions of a nested type -/
example : leaves (.generic s%"Wrap" [.option (.array (.simple fT) 3), .hashMap (.simple fW) (.generic fU [])]) =
    [⟨s%"Wrap", true⟩, ⟨fT, false⟩, ⟨fW, false⟩, ⟨fU, true⟩] ∧ (∀ p : Prim, p.id ≠ fT) := by
  refine ⟨by decide +kernel, fun p => ?_⟩
  cases p <;> decide

/-- the over-approximation of the mention test: a parameter named like a primitive counts as mentioned
where the primitive stands — `enum E<u8> { V { x: u8 } }` gives the helper `<u8>` although no name
position carries it (`x` is printed as the primitive, in the helper as anywhere else) -/
theorem prim_name_counts_as_mention :
    (anonymousStruct { wGn3 with genericTypes := [s%"u8"] } [] [] wVc).genericTypes = [s%"u8"] ∧
    leaves (RustType.prim .u8) = [] ∧ Mentions (.prim .u8) s%"u8" :=
  ⟨by decide +kernel, rfl, .prim .u8⟩

/-- `helper_scope_param` / `helper_param_spelling` / `helper_param_refs`: hypotheses met (`U` inside
the map value of `m`, Swift with a prefix) -/
example : fld s%"m" (.hashMap (.prim .string) (.vec (.simple fU))) ∈ wVa ∧ fU ∈ wGn3.genericTypes ∧
    Mentions (.hashMap (.prim .string) (.vec (.simple fU))) fU ∧ mapGet (typeMappingsOf swOP) fU = none ∧
    pfxOf swOP ≠ [] ∧ (⟨fU, false⟩ : Leaf) ∈ leaves (.hashMap (.prim .string) (.vec (.simple fU))) :=
  ⟨by simp [wVa], by decide, .value (.vec (.simple _)), rfl, by decide, by decide +kernel⟩

/-- … and the reference semantics evaluated on the witness, all eight configurations: each helper's
references are `T`/`U`/`W` as parameters, spelled bare, next to `Wrap` as a (prefixed) type -/
theorem helper_refs_example :
    (allLangs.all fun lc =>
      (refs lc [] (.struct (anonymousStruct wGn3 [] [] wVa))).map (fun r => (r.spelling, r.target)) ==
        [(fT, .param fT), (fU, .param fU), (pfxOf lc ++ s%"Wrap", .type s%"Wrap"), (fT, .param fT), (fU, .param fU)] &&
      (refs lc [] (.struct (anonymousStruct wGn3 [] [] wVe))).map (fun r => (r.spelling, r.target, r.head)) ==
        [(fT, .param fT, true)]) = true := by
  decide +kernel

/-- `C09_HelperParams_program`: hypotheses met by `W_gn3`, all eight configurations -/
example : InScope W_gn3 ∧ (∀ lc ∈ allLangs, CfgOk lc) ∧ Known_shadow W_gn3 = false ∧ wGn3 ∈ W_gn3.enums ∧
    wGn3.keys = some (s%"t", s%"c") ∧ RustEnumVariant.anonymousStruct (mkId s%"Va" none) [] wVa ∈ wGn3.variants ∧
    fld s%"k" (.generic s%"Wrap" [.option (.array (.simple fT) 3)]) ∈ wVa ∧
    (⟨fT, false⟩ : Leaf) ∈ leaves (.generic s%"Wrap" [.option (.array (.simple fT) 3)]) ∧ fT ∈ wGn3.genericTypes :=
  ⟨W_gn3_inScope, cfgOk_all, by decide +kernel, by simp [W_gn3], rfl, by simp [wGn3], by simp [wVa], by decide +kernel,
   by decide⟩

/-! ### the fact records of the models on the witness -/

/-- **Kotlin** (`helper_declares_kotlin`, `helper_applied_kotlin`): the five helpers declare `<T, U>`,
`<W>`, nothing, `<U, T>`, `<T>`; the sealed class `<T, U, W>`; inside the helper `T` is printed bare
also with the prefix `OP` (`Wrap` gets it) -/
theorem kotlin_example :
    ((Kotlin.enumFacts { pfx := s%"OP" } wGn3).bind fun ds => .ok (ds.map ktGenerics)) =
      .ok [s%"<T, U>", s%"<W>", s%"", s%"<U, T>", s%"<T>", s%"<T, U, W>"] ∧
    ((Kotlin.structFacts { pfx := s%"OP" } (anonymousStruct wGn3 s%"GnVaInner" s%"Va" wVa)).bind fun d =>
        .ok (Kotlin.renderDecl d)) =
      .ok s%"/// Generated type representing the anonymous struct variant `Va` of the `Gn` Rust enum\n@Serializable\ndata class OPGnVaInner<T, U> (\n\tval g: T,\n\tval m: HashMap<String, List<U>>,\n\tval k: OPWrap<List<T>?>,\n\tval s: List<U>,\n\tval p: UByte\n)\n\n" ∧
    ((Kotlin.caseFacts { pfx := s%"OP" } wGn3 s%"c" (.anonymousStruct (mkId s%"Vd" none) [] wVd)).bind fun k =>
        .ok (Kotlin.renderCase k)) =
      .ok s%"\t@Serializable\n\t@SerialName(\"Vd\")\n\tdata class Vd<T, U, W>(val c: OPGnVdInner<U, T>): OPGn<T, U, W>()\n" := by
  decide +kernel

/-- **Swift** (`helper_declares_swift`, `helper_applied_swift`) -/
theorem swift_example :
    ((Swift.enumFacts .ascii { pfx := s%"OP" } wGn3 false).bind fun (ss, d, _) =>
        .ok (ss.map (fun s => s.generics.map (·.name)), d.generics.map (·.name))) =
      .ok ([[fT, fU], [fW], [], [fU, fT], [fT]], [fT, fU, fW]) ∧
    ((Swift.algebraicCase .ascii { pfx := s%"OP" } wGn3 (.anonymousStruct (mkId s%"Vd" none) [] wVd) false).bind fun (k, _) =>
        .ok k.payload) = .ok (some ⟨s%"OPGnVdInner<U, T>", false⟩) := by
  decide +kernel

/-- **Go** (`helper_declares_go`): `type GnVaInner[T any, U any] struct`, fields `G T`, `M map[string][]U` -/
theorem go_example :
    ((Go.algEnumFacts .ascii { package := s%"proto" } wGn3 s%"t" s%"c" [] []).bind fun (d, _) =>
        .ok (d.anonymous.map (·.generics))) = .ok [[fT, fU], [fW], [], [fU, fT], [fT]] ∧
    ((Go.structFacts .ascii { package := s%"proto" } (anonymousStruct wGn3 s%"GnVdInner" s%"Vd" wVd) []).bind fun (d, _) =>
        .ok (Go.renderStruct d)) =
      .ok s%"// Generated type representing the anonymous struct variant `Vd` of the `Gn` Rust enum\ntype GnVdInner[U any, T any] struct {\n\tX U `json:\"x\"`\n\tY T `json:\"y\"`\n}\n" := by
  decide +kernel

/-- **Scala** (`helper_declares_scala`, `helper_applied_scala`) -/
theorem scala_example :
    ((Scala.enumFacts { package := s%"com.example" } wGn3).bind fun d => .ok (d.inner.map (·.generics), d.generics)) =
      .ok ([[fT, fU], [fW], [], [fU, fT], [fT]], [fT, fU, fW]) ∧
    ((Scala.caseFacts { package := s%"com.example" } wGn3 (.anonymousStruct (mkId s%"Vd" none) [] wVd)).bind fun k =>
        .ok k.content) = .ok (some ([fT, fU, fW], s%"c", s%"GnVdInner[U, T]")) := by
  decide +kernel

/-- the same enum without the variant whose map key is a parameter (Python refuses such a key:
`GenericKeyForbiddenInTS`) -/
def wGn2 : RustEnum :=
  { wGn3 with variants := [.anonymousStruct (mkId s%"Va" none) [] wVa, .anonymousStruct (mkId s%"Vc" none) [] wVc,
                           .anonymousStruct (mkId s%"Vd" none) [] wVd, .anonymousStruct (mkId s%"Ve" none) [] wVe,
                           .tuple (mkId s%"Vf" none) [] (.simple fT)] }

/-- **Python** (`helper_declares_python`): `class GnVdInner(BaseModel, Generic[U, T])` -/
theorem python_example :
    ((Python.unionFacts E0 {} wGn2 s%"t" s%"c" {}).bind fun (d, _) => .ok (d.inner.map (·.generics))) =
      .ok [[fT, fU], [], [fU, fT], [fT]] ∧
    ((Python.structFacts E0 {} (anonymousStruct wGn2 s%"GnVdInner" s%"Vd" wVd) {}).bind fun (d, _) =>
        .ok ((Python.renderClass d).take 43)) = .ok s%"class GnVdInner(BaseModel, Generic[U, T]):\n" := by
  decide +kernel

end TsV.C09_HelperParams
