import TsV.Basic
import TsV.Props.C01
import TsV.Props.C02
import TsV.Props.C03
import TsV.Props.C04
import TsV.Props.C05
import TsV.Props.C06
import TsV.Props.C07
import TsV.Props.C08
import TsV.Props.C09
import TsV.Props.C10
import TsV.Props.C11
import TsV.Props.C12
import TsV.Props.C13
import TsV.Props.C14
import TsV.Props.C15
import TsV.Props.C16
import TsV.Props.C17
import TsV.Props.C18
import TsV.Props.C19
import TsV.Props.C20
import TsV.Props.C01_Reviver
import TsV.Props.C02_VariantLookalikes
import TsV.Props.C03_Capstone
import TsV.Props.C03_Emission
import TsV.Props.C03_EmptiedVariants
import TsV.Props.C03_FolderErrors
import TsV.Props.C04_Decorators
import TsV.Props.C05_DefinitionGenerics
import TsV.Props.C05_HelperGenerics
import TsV.Props.C05_StateIndependence
import TsV.Props.C06_Multi
import TsV.Props.C06_RepeatedNames
import TsV.Props.C07_Backends
import TsV.Props.C07_SortOrder
import TsV.Props.C08_Lookalikes
import TsV.Props.C09_HelperParams
import TsV.Props.C09_Spelling
import TsV.Props.C10_Files
import TsV.Props.C11_Coverage
import TsV.Props.C11_Modules
import TsV.Props.C11_VariantOrder
import TsV.Props.C12_Modules
import TsV.Props.C12_ScalaMapped
import TsV.Props.C13_ModuleAttrs
import TsV.Props.C13_Pruned
import TsV.Props.C14_FileNames
import TsV.Props.C14_Helpers
import TsV.Props.C14_Imports
import TsV.Props.C14_ParamNames
import TsV.Props.C14_Paths
import TsV.Props.C15_Textless
import TsV.Props.C16_Backends
import TsV.Props.C16_RuleSpelling
import TsV.Props.C20_Folder
import TsV.Props.C20_FolderMappings
import TsV.Props.C20_SwiftConstraints
